import Rtsp.Model.B64Std
import Rtsp.Generated.Facts.Auth
/-
Model of RTSP authentication in /repo:

  pkg/headers/keyval.go          readKey, readValue, keyValParse
  pkg/headers/authenticate.go    Authenticate.Unmarshal / Marshal, parseAuthAlgorithm
  pkg/headers/authorization.go   Authorization.Unmarshal / Marshal
  pkg/auth/www_authenticate.go   GenerateWWWAuthenticate
  pkg/auth/sender.go             Sender.Initialize, Sender.AddAuthorization
  pkg/auth/verify.go             urlMatches (incl. the SETUP base-URL rule), Verify
  server_conn.go                 credentialsProvided, VerifyCredentials, handleAuthError and the
                                 part of handleRequestOuter / the reader loop that decides whether the
                                 connection survives a request
  client.go                      the retry-once-with-Authorization rule of Client.do

Go strings are byte strings: everything is `List UInt8` (`Bytes`).  The two digest functions
(`md5Hex`, `sha256Hex`: byte string ↦ lower-case hex text) are a parameter `Hashes`; the driver
instantiates it with `Md5.hex` / `Sha256.hex`.  A `*base.URL` appears only through three of its
renderings, which the correspondence harness takes from the real `base.URL`:
`String()`, `RequestURI()` and `CloneWithoutCredentials().String()`.

Core Lean only (linked into `oracle_auth`).
-/
namespace Rtsp.Auth

abbrev Bytes := List UInt8

open Lean in
/-- `b!"text"`: the UTF-8 bytes of a string literal as an explicit list literal (so that the
kernel can compute with it). -/
macro:max "b!" s:str : term => do
  let bytes := s.getString.toUTF8.toList
  let elems ← bytes.toArray.mapM fun b => `(($(quote b.toNat) : UInt8))
  `(([$elems,*] : List UInt8))

def cQuote : UInt8 := 34   -- '"'
def cColon : UInt8 := 58   -- ':'
def cComma : UInt8 := 44   -- ','
def cEq    : UInt8 := 61   -- '='
def cSpace : UInt8 := 32   -- ' '
def cSlash : UInt8 := 47   -- '/'
def cLF    : UInt8 := 10   -- '\n'

/-- the two digest functions of verify.go / sender.go (`md5Hex`, `sha256Hex`) -/
structure Hashes where
  md5    : Bytes → Bytes
  sha256 : Bytes → Bytes

/-! ## pkg/headers/keyval.go -/

/-- `readKey`: up to the first `=` or separator -/
def readKey (s : Bytes) (sep : UInt8) : Bytes × Bytes :=
  (s.takeWhile (fun c => c != cEq && c != sep), s.dropWhile (fun c => c != cEq && c != sep))

/-- `readValue` (`none` = "apexes not closed") -/
def readValue (s : Bytes) (sep : UInt8) : Option (Bytes × Bytes) :=
  match s with
  | c :: t =>
    if c = cQuote then
      match t.dropWhile (· != cQuote) with
      | _ :: rest => some (t.takeWhile (· != cQuote), rest)
      | [] => none
    else some (s.takeWhile (· != sep), s.dropWhile (· != sep))
  | [] => some ([], [])

/-- one iteration of the `for len(str) > 0` loop of `keyValParse`: a key, its value (`""` when
there is no `=`), then one separator and any spaces are skipped -/
def kvStep (s : Bytes) (sep : UInt8) : Option ((Bytes × Bytes) × Bytes) :=
  let (k, r) := readKey s sep
  let val : Option (Bytes × Bytes) :=
    match r with
    | c :: r' => if c = cEq then readValue r' sep else some ([], r)
    | [] => some ([], r)
  match val with
  | none => none
  | some (v, r2) =>
    let r3 := match r2 with
      | c :: t => if c = sep then t else r2
      | [] => []
    some ((k, v), r3.dropWhile (· == cSpace))

/-- the loop of `keyValParse` with explicit fuel (every iteration consumes at least one byte, so
`fuel = len(str)` is enough; `Proofs/Auth/Kv` proves that more fuel changes nothing) -/
def kvParseF : Nat → Bytes → UInt8 → Option (List (Bytes × Bytes))
  | _, [], _ => some []
  | 0, _ :: _, _ => none
  | fuel + 1, s, sep =>
    match kvStep s sep with
    | none => none
    | some (kv, r) =>
      match kvParseF fuel r sep with
      | none => none
      | some kvs => some (kv :: kvs)

/-- `keyValParse`: the key/value pairs in order of appearance; the Go map is recovered by
`kvGet` (a later occurrence of a key overwrites an earlier one) -/
def keyValParse (s : Bytes) (sep : UInt8) : Option (List (Bytes × Bytes)) :=
  kvParseF s.length s sep

/-- map lookup: the last pair with that key -/
def kvGet (kvs : List (Bytes × Bytes)) (k : Bytes) : Option Bytes :=
  match kvs.reverse.find? (fun p => p.1 == k) with
  | some p => some p.2
  | none => none

/-! ## pkg/headers/authenticate.go, authorization.go -/

inductive AuthMethod | basic | digest
deriving DecidableEq, Repr, Inhabited

inductive Alg | md5 | sha256
deriving DecidableEq, Repr, Inhabited

/-- ASCII lower-casing.  Go uses `strings.ToLower`, which agrees with this on the question asked
(`== "md5"`, `== "sha-256"`): the only non-ASCII runes whose lower case is ASCII are U+0130 (`i`)
and U+212A (`k`), and neither letter occurs in the two names. -/
def lowerAscii (s : Bytes) : Bytes := s.map fun c => if 65 ≤ c ∧ c ≤ 90 then c + 32 else c

/-- `parseAuthAlgorithm` (`none` = error) -/
def parseAuthAlgorithm (v : Bytes) : Option Alg :=
  if lowerAscii v = b!"md5" then some .md5
  else if lowerAscii v = b!"sha-256" then some .sha256
  else none

/-- the `algorithm` key of a Digest header: `none` = error, `some none` = key absent -/
def algOf (kvs : List (Bytes × Bytes)) : Option (Option Alg) :=
  match kvGet kvs b!"algorithm" with
  | none => some none
  | some v =>
    match parseAuthAlgorithm v with
    | none => none
    | some a => some (some a)

/-- `strings.Cut(v0, " ")` -/
def cutSpace (s : Bytes) : Option (Bytes × Bytes) :=
  match s.dropWhile (· != cSpace) with
  | _ :: b => some (s.takeWhile (· != cSpace), b)
  | [] => none

/-- `headers.Authenticate` (the `Opaque` and `Stale` fields are parsed by the Go code but are
used neither by `auth.Sender` nor by `GenerateWWWAuthenticate`; they are not modelled) -/
structure Authenticate where
  method    : AuthMethod
  realm     : Bytes
  nonce     : Bytes := []
  algorithm : Option Alg := none
deriving DecidableEq, Repr, Inhabited

/-- `Authenticate.Unmarshal` on a header value (a list of strings) -/
def Authenticate.unmarshal (v : List Bytes) : Option Authenticate :=
  match v with
  | [v0] =>
    match cutSpace v0 with
    | none => none
    | some (m, rest) =>
      if m = b!"Basic" then
        match keyValParse rest cComma with
        | none => none
        | some kvs =>
          match kvGet kvs b!"realm" with
          | none => none
          | some r => some { method := .basic, realm := r }
      else if m = b!"Digest" then
        match keyValParse rest cComma with
        | none => none
        | some kvs =>
          match algOf kvs with
          | none => none
          | some alg =>
            match kvGet kvs b!"realm", kvGet kvs b!"nonce" with
            | some r, some n => some { method := .digest, realm := r, nonce := n, algorithm := alg }
            | _, _ => none
      else none
  | _ => none

/-- `key="value"` -/
def kvQ (kv : Bytes × Bytes) : Bytes := kv.1 ++ cEq :: cQuote :: (kv.2 ++ [cQuote])

/-- `k1="v1", k2="v2", …`: the text the two `Marshal` functions build by string concatenation -/
def joinKv : List (Bytes × Bytes) → Bytes
  | [] => []
  | [kv] => kvQ kv
  | kv :: rest => kvQ kv ++ cComma :: cSpace :: joinKv rest

/-- `, algorithm="MD5"` / `, algorithm="SHA-256"` / nothing -/
def algKv : Option Alg → List (Bytes × Bytes)
  | none => []
  | some .md5 => [(b!"algorithm", b!"MD5")]
  | some .sha256 => [(b!"algorithm", b!"SHA-256")]

/-- `Authenticate.Marshal` (one header value) -/
def Authenticate.marshal (h : Authenticate) : Bytes :=
  match h.method with
  | .basic => b!"Basic " ++ joinKv [(b!"realm", h.realm)]
  | .digest => b!"Digest " ++ joinKv ([(b!"realm", h.realm), (b!"nonce", h.nonce)] ++ algKv h.algorithm)

/-- `headers.Authorization` (`Opaque` is never set by `auth.Sender` and never read by
`auth.Verify`; not modelled) -/
structure Authorization where
  method    : AuthMethod
  username  : Bytes := []
  basicPass : Bytes := []
  realm     : Bytes := []
  nonce     : Bytes := []
  uri       : Bytes := []
  response  : Bytes := []
  algorithm : Option Alg := none
deriving DecidableEq, Repr, Inhabited

/-- Basic credentials: split of the decoded text at the first `:` (error when there is none) -/
def splitUserPass (t : Bytes) : Option (Bytes × Bytes) :=
  match t.dropWhile (· != cColon) with
  | _ :: p => some (t.takeWhile (· != cColon), p)
  | [] => none

/-- `Authorization.Unmarshal` -/
def Authorization.unmarshal (v : List Bytes) : Option Authorization :=
  match v with
  | [v0] =>
    match cutSpace v0 with
    | none => none
    | some (m, rest) =>
      if m = b!"Basic" then
        match B64Std.decode rest with
        | none => none
        | some t =>
          match splitUserPass t with
          | none => none
          | some (u, p) => some { method := .basic, username := u, basicPass := p }
      else if m = b!"Digest" then
        match keyValParse rest cComma with
        | none => none
        | some kvs =>
          match algOf kvs with
          | none => none
          | some alg =>
            match kvGet kvs b!"realm", kvGet kvs b!"username", kvGet kvs b!"nonce",
                  kvGet kvs b!"uri", kvGet kvs b!"response" with
            | some r, some u, some n, some uri, some resp =>
              some { method := .digest, username := u, realm := r, nonce := n, uri := uri,
                     response := resp, algorithm := alg }
            | _, _, _, _, _ => none
      else none
  | _ => none

/-- `Authorization.Marshal` (one header value) -/
def Authorization.marshal (h : Authorization) : Bytes :=
  match h.method with
  | .basic => b!"Basic " ++ B64Std.encode (h.username ++ [cColon] ++ h.basicPass)
  | .digest =>
    b!"Digest " ++ joinKv ([(b!"username", h.username), (b!"realm", h.realm), (b!"nonce", h.nonce),
      (b!"uri", h.uri), (b!"response", h.response)] ++ algKv h.algorithm)

/-! ## pkg/auth/www_authenticate.go -/

/-- `VerifyMethod` is a Go `int`; the three named values come from the regenerated facts -/
abbrev VerifyMethod := Nat
def vmBasic : VerifyMethod := Facts.Auth.verifyMethodBasic
def vmMD5 : VerifyMethod := Facts.Auth.verifyMethodDigestMD5
def vmSHA256 : VerifyMethod := Facts.Auth.verifyMethodDigestSHA256

/-- `if methods == nil { methods = {Basic, DigestMD5} }` -/
def defaultMethods (methods : Option (List VerifyMethod)) : List VerifyMethod :=
  match methods with
  | none => [vmBasic, vmMD5]
  | some ms => ms

/-- the challenge issued for one enabled method (`default:` of the Go switch is SHA-256) -/
def challengeFor (realm nonce : Bytes) (m : VerifyMethod) : Authenticate :=
  if m = vmBasic then { method := .basic, realm := realm }
  else if m = vmMD5 then { method := .digest, realm := realm, nonce := nonce, algorithm := some .md5 }
  else { method := .digest, realm := realm, nonce := nonce, algorithm := some .sha256 }

/-- `GenerateWWWAuthenticate` -/
def generateWWW (methods : Option (List VerifyMethod)) (realm nonce : Bytes) : List Bytes :=
  (defaultMethods methods).map fun m => (challengeFor realm nonce m).marshal

/-! ## pkg/auth/sender.go -/

/-- the replacement rule inside the loop of `Sender.Initialize` -/
def prefer (cur : Option Authenticate) (a : Authenticate) : Option Authenticate :=
  match cur with
  | none => some a
  | some c => if a.algorithm = some .sha256 ∨ c.method = .basic then some a else some c

/-- `Sender.Initialize`: the selected challenge (`none` = "no authentication methods available") -/
def senderInit (www : List Bytes) : Option Authenticate :=
  www.foldl (fun cur v =>
    match Authenticate.unmarshal [v] with
    | none => cur
    | some a => prefer cur a) none

/-- the digest response of sender.go and verify.go -/
def digestResponse (H : Hashes) (alg : Option Alg) (user realm pass nonce method uri : Bytes) : Bytes :=
  match alg with
  | some .sha256 =>
    H.sha256 (H.sha256 (user ++ [cColon] ++ realm ++ [cColon] ++ pass) ++ [cColon] ++ nonce ++ [cColon] ++
      H.sha256 (method ++ [cColon] ++ uri))
  | _ =>
    H.md5 (H.md5 (user ++ [cColon] ++ realm ++ [cColon] ++ pass) ++ [cColon] ++ nonce ++ [cColon] ++
      H.md5 (method ++ [cColon] ++ uri))

/-- the `headers.Authorization` built by `Sender.AddAuthorization`; `url` is
`req.URL.CloneWithoutCredentials().String()` -/
def senderAuthorization (H : Hashes) (ch : Authenticate) (user pass method url : Bytes) : Authorization :=
  match ch.method with
  | .basic => { method := .basic, username := user, basicPass := pass }
  | .digest =>
    { method := .digest, username := user, realm := ch.realm, nonce := ch.nonce, uri := url,
      algorithm := ch.algorithm,
      response := digestResponse H ch.algorithm user ch.realm pass ch.nonce method url }

/-- `Sender.AddAuthorization`: the value of the `Authorization` header -/
def addAuthorization (H : Hashes) (ch : Authenticate) (user pass method url : Bytes) : List Bytes :=
  [(senderAuthorization H ch user pass method url).marshal]

/-! ## pkg/auth/verify.go -/

/-- what `auth.Verify` / `urlMatches` read of a request -/
structure Req where
  method  : Bytes          -- string(req.Method)
  urlStr  : Bytes          -- req.URL.String()
  urlReq  : Bytes          -- req.URL.RequestURI()
  authz   : List Bytes     -- req.Header["Authorization"]
deriving DecidableEq, Repr, Inhabited

def isDigit (c : UInt8) : Bool := 48 ≤ c && c ≤ 57

/-- capture group 1 of `^(.+/)trackID=[0-9]+$` on `s` (`none` = no match).  Scanning from the end:
a non-empty run of digits, `trackID=`, then a prefix that ends in `/`, has at least one more
character before that `/`, and contains no line feed (`.` does not match `\n`). -/
def trackBase (s : Bytes) : Option Bytes :=
  let r := s.reverse
  let ds := r.takeWhile isDigit
  let r1 := r.dropWhile isDigit
  if ds.isEmpty then none
  else if b!"=DIkcart".isPrefixOf r1 then
    let p := r1.drop 8
    match p with
    | c :: q => if c = cSlash ∧ !q.isEmpty ∧ !p.contains cLF then some p.reverse else none
    | [] => none
  else none

/-- `urlMatches(expected, received, isSetup)` -/
def urlMatches (urlStr urlReq received : Bytes) (isSetup : Bool) : Bool :=
  if (b!"/".isPrefixOf received && received == urlReq) || received == urlStr then true
  else if isSetup then
    match trackBase urlStr with
    | some m1 => received == m1 || received ++ [cSlash] == m1
    | none => false
  else false

inductive VerifyErr
  | header        -- Authorization header missing / not parsable
  | noMethod      -- "no supported authentication methods found"
  | nonce | realm | user | url | response | pass
deriving DecidableEq, Repr, Inhabited

inductive VerifyRes
  | ok
  | error (e : VerifyErr)
deriving DecidableEq, Repr, Inhabited

/-- the guard of the Digest case of the `switch` in `Verify` -/
def digestEnabled (ms : List VerifyMethod) (alg : Option Alg) : Bool :=
  (ms.contains vmMD5 && (alg == none || alg == some .md5)) ||
  (ms.contains vmSHA256 && alg == some .sha256)

/-- `auth.Verify` -/
def verify (H : Hashes) (req : Req) (user pass : Bytes) (methods : Option (List VerifyMethod))
    (realm nonce : Bytes) : VerifyRes :=
  let ms := defaultMethods methods
  match Authorization.unmarshal req.authz with
  | none => .error .header
  | some a =>
    if a.method = .digest ∧ digestEnabled ms a.algorithm = true then
      if a.nonce ≠ nonce then .error .nonce
      else if a.realm ≠ realm then .error .realm
      else if a.username ≠ user then .error .user
      else if urlMatches req.urlStr req.urlReq a.uri (req.method == b!"SETUP") = false then .error .url
      else if a.response ≠ digestResponse H a.algorithm user realm pass nonce req.method a.uri then
        .error .response
      else .ok
    else if a.method = .basic ∧ ms.contains vmBasic = true then
      if a.username ≠ user then .error .user
      else if a.basicPass ≠ pass then .error .pass
      else .ok
    else .error .noMethod

/-! ## server_conn.go -/

/-- `serverAuthRealm` (tied to the regenerated fact in `Props/C10`) -/
def serverAuthRealm : Bytes := b!"ipcam"

/-- `Server.Start`: `if len(s.AuthMethods) == 0 { s.AuthMethods = {Basic, DigestMD5} }` -/
def serverMethods (cfg : List VerifyMethod) : List VerifyMethod :=
  if cfg.isEmpty then [vmBasic, vmMD5] else cfg

/-- `credentialsProvided` -/
def credentialsProvided (authz : List Bytes) : Bool :=
  match Authorization.unmarshal authz with
  | some a => a.username != []
  | none => false

/-- the per-connection state that matters: `sc.authNonce` (`""` until the first
`VerifyCredentials`) and whether the connection has been closed by the server -/
structure Conn where
  nonce  : Bytes := []
  closed : Bool := false
deriving DecidableEq, Repr, Inhabited

/-- `ServerConn.VerifyCredentials`; `fresh` is the result of `auth.GenerateNonce()` should it be
called (`none` = it failed).  `methods` is `Server.AuthMethods` after `Server.Start` (non-empty). -/
def verifyCredentials (H : Hashes) (methods : List VerifyMethod) (c : Conn) (fresh : Option Bytes)
    (req : Req) (user pass : Bytes) : Conn × Bool :=
  if user = [] then (c, false)
  else
    let c' : Option Conn :=
      if c.nonce = [] then
        match fresh with
        | none => none
        | some n => some { c with nonce := n }
      else some c
    match c' with
    | none => (c, false)
    | some c' => (c', verify H req user pass (some methods) serverAuthRealm c'.nonce == .ok)

/-- kind of error returned by the application handler together with its response -/
inductive HandlerErr | none | auth | other
deriving DecidableEq, Repr, Inhabited

/-- what goes on the wire and what happens to the connection -/
structure Outcome where
  status : Nat
  www    : Option (List Bytes)     -- WWW-Authenticate header of the response
  closed : Bool                    -- the server closes the connection after writing the response
deriving DecidableEq, Repr, Inhabited

/-- `handleRequestOuter` after the handler returned `(status, err)`: `handleAuthError`, then the
response is written, then a non-nil error ends the reader loop and `run` closes the socket -/
def handleOuter (methods : List VerifyMethod) (c : Conn) (authz : List Bytes) (status : Nat)
    (err : HandlerErr) : Outcome :=
  match err with
  | .none => { status, www := none, closed := false }
  | .other => { status, www := none, closed := true }
  | .auth =>
    if credentialsProvided authz then { status, www := none, closed := true }
    else { status, www := some (generateWWW (some methods) serverAuthRealm c.nonce), closed := false }

/-- the handler of examples/server-auth: `VerifyCredentials` and, when it fails,
`(401, liberrors.ErrServerAuth{})`, else 200 -/
def authHandler (H : Hashes) (methods : List VerifyMethod) (c : Conn) (fresh : Option Bytes)
    (req : Req) (user pass : Bytes) : Conn × Nat × HandlerErr :=
  let (c', ok) := verifyCredentials H methods c fresh req user pass
  if ok then (c', 200, .none) else (c', 401, .auth)

/-- one request on a connection served with `authHandler` -/
def serve (H : Hashes) (methods : List VerifyMethod) (user pass : Bytes) (c : Conn)
    (fresh : Option Bytes) (req : Req) : Conn × Outcome :=
  let (c', status, err) := authHandler H methods c fresh req user pass
  let o := handleOuter methods c' req.authz status err
  ({ c' with closed := c'.closed || o.closed }, o)

/-! ## client.go: `Client.do` -/

/-- what the client knows of a response -/
structure Resp where
  status : Nat
  www    : List Bytes
deriving DecidableEq, Repr, Inhabited

/-- the server of `serve` as a client sees it (status 0 = no response: the connection is gone) -/
def serveResp (H : Hashes) (methods : List VerifyMethod) (user pass : Bytes) (fresh : Option Bytes)
    (c : Conn) (rq : Req) : Conn × Resp :=
  if c.closed then (c, { status := 0, www := [] })
  else
    let (c', o) := serve H methods user pass c fresh rq
    (c', { status := o.status, www := o.www.getD [] })

/-- the request as the client holds it: method, the URL's three renderings and its credentials
(`URL.User`, `none` = nil) -/
structure ClientReq where
  method : Bytes
  urlStr : Bytes                      -- URL without credentials = what goes on the wire
  urlReq : Bytes
  cred   : Option (Bytes × Bytes)
deriving DecidableEq, Repr, Inhabited

inductive DoResult
  | resp (r : Resp)
  | authSetupError                    -- liberrors.ErrClientAuthSetup
deriving DecidableEq, Repr, Inhabited

/-- the wire request for a client request and the client's current sender -/
def wireReq (H : Hashes) (sender : Option (Authenticate × Bytes × Bytes)) (r : ClientReq) : Req :=
  { method := r.method, urlStr := r.urlStr, urlReq := r.urlReq,
    authz := match sender with
      | none => []
      | some (ch, u, p) => addAuthorization H ch u p r.method r.urlStr }

/-- `Client.do` against a server given as a state machine `srv`.  Returns the new server state,
the new sender, the wire requests sent (in order) and the result.  The recursion of the Go code
(`return c.do(req, skipResponse)`) is at most one level deep because the guard requires
`c.sender == nil` and the recursive call is made with `c.sender` set. -/
def clientDo {σ : Type} (H : Hashes) (srv : σ → Req → σ × Resp) (s : σ)
    (sender : Option (Authenticate × Bytes × Bytes)) (r : ClientReq) :
    σ × Option (Authenticate × Bytes × Bytes) × List Req × DoResult :=
  let w1 := wireReq H sender r
  let (s1, res1) := srv s w1
  if res1.status = 401 ∧ r.cred.isSome ∧ sender.isNone then
    match r.cred with
    | none => (s1, sender, [w1], .resp res1)
    | some (u, p) =>
      match senderInit res1.www with
      | none => (s1, sender, [w1], .authSetupError)
      | some ch =>
        let sender' := some (ch, u, p)
        let w2 := wireReq H sender' r
        let (s2, res2) := srv s1 w2
        (s2, sender', [w1, w2], .resp res2)
  else (s1, sender, [w1], .resp res1)

end Rtsp.Auth
