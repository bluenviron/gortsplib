import Rtsp.Generated.Facts.Time
import Rtsp.Model.F64
/-
Model of /repo/pkg/ntp/ntp.go  (Encode, Decode).

A `time.Time` is represented by its Unix time in nanoseconds (`Int`; Go: `t.UnixNano()`, an int64).
An NTP timestamp is the Go `uint64` as a `Nat` below `2^64`.

Encode, as written in Go:

    ntp := uint64(t.UnixNano()) + 2208988800*1000000000          -- uint64 arithmetic, wraps
    secs := ntp / 1000000000
    fractional := uint64(math.Round(float64((ntp%1000000000)*(1<<32)) / 1000000000))
    return secs<<32 | fractional

The float path of `fractional` is modelled by exact integer rounding (`roundDiv`).  Why that is the
same function (the argument below is a Lean theorem for the binary64 model `F64`:
`Ntp.encFracFloat_eq`, Proofs/Time/NtpFloat.lean; for the real code it is validated by the correspondence harness,
which compares all 10^9 possible values of `ntp%1000000000` against this model in the thorough tier
and 2·10^7 of them, plus ~10^6 random and boundary instants, in the quick tier):
  * `n = ntp % 10^9 < 2^30`, so `n·2^32` has at most 30 significant bits: `float64(n·2^32)` is exact.
  * the real quotient `q = n·2^32/10^9 = n·2^23/5^9` is a multiple of `5^-9`; a half-integer is an
    odd multiple of `1/2`, so `|q − h| ≥ 1/(2·5^9) = 2^-21.9` for every half-integer `h`.
  * `q < 2^32`, so the correctly rounded float quotient is within half an ulp `≤ 2^-22 < 1/(2·5^9)` of
    `q`: it lies strictly on the same side of every half-integer as `q`, hence `math.Round` of it is
    the nearest integer of `q` (and ties never occur).
  * `n ≤ 999999999` gives `q ≤ 2^32 − 4.29…`, so `fractional ≤ 4294967292 < 2^32` and the `|` in the
    last line is an addition.

Decode divides integers first (`((v & 0xFFFFFFFF) * 1000000000) / (1 << 32)` is a uint64 floor
division with a result below 10^9); the conversion to float64 and `math.Round` are the identity.

Core Lean only (linked into `oracle_time`).
-/
namespace Rtsp.Ntp
open Rtsp.Facts

def two32 : Nat := 4294967296
def two64 : Nat := 18446744073709551616
def nanos : Nat := Time.nanosPerSecEnc

/-- nearest integer of `a / b`, halves up (Go `math.Round` for non-negative values). -/
def roundDiv (a b : Nat) : Nat := (2 * a + b) / (2 * b)

/-- Go `uint64(x)` of an int64 `x` (two's complement). -/
def toU64 (x : Int) : Nat := (x % (two64 : Int)).toNat

/-- `uint64(t.UnixNano()) + 2208988800*1000000000` (wrapping uint64 addition). -/
def ntpNanos (unixNs : Int) : Nat := (toU64 unixNs + Time.ntpEpochOffsetEnc * nanos) % two64

/-- the fractional field computed by `Encode` for `n = ntp % 10^9`. -/
def encFrac (n : Nat) : Nat := roundDiv (n * two32) nanos

/-- the fractional field exactly as the Go expression computes it, on the binary64 model:
`uint64(math.Round(float64(n*(1<<32)) / 1000000000))`.  `Proofs/Time/NtpFloat.lean` proves
`encFracFloat n = encFrac n` for every `n < 10^9`; the harness compares both with the real code. -/
def encFracFloat (n : Nat) : Nat :=
  F64.roundHalfAway (F64.div (F64.ofNat (n * two32)) (F64.ofNat nanos))

/-- `Encode`: `secs<<32 | fractional` on uint64. -/
def encode (unixNs : Int) : Nat :=
  let ntp := ntpNanos unixNs
  let secs := ntp / nanos
  ((secs * two32) % two64) ||| encFrac (ntp % nanos)

/-- the `secs` of `Decode`: `int64((v >> 32) - 2208988800)`; `v >> 32 < 2^32`, so the wrapped uint64
difference read as int64 is the signed difference. -/
def decSecs (v : Nat) : Int := ((v / two32 : Nat) : Int) - (Time.ntpEpochOffsetDec : Int)

/-- the `nanos` of `Decode`. -/
def decNanos (v : Nat) : Nat := ((v % two32) * nanos) / two32

/-- `Decode(v)` as Unix nanoseconds (`time.Unix(secs, nanos)`). -/
def decode (v : Nat) : Int := decSecs v * (nanos : Int) + (decNanos v : Int)

end Rtsp.Ntp
