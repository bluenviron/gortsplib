import Rtsp.Model.Ntp
import Rtsp.Model.F64
/-
Model of the NTP/RTP time mapping carried by RTCP sender reports:

  /repo/pkg/rtpsender/sender.go      ProcessPacket (time fields, counters), report
  /repo/pkg/rtpreceiver/receiver.go  ProcessSenderReport, packetNTPUnsafe / PacketNTP

`time.Time` values are Unix nanoseconds (`Int`), `time.Duration` is `Int` nanoseconds (no-overflow
range assumed, see props/C15.json).

`report` contains the only floating-point computation that matters for the property:

    rtpTime := rs.lastRTP + uint32(systemDiff.Seconds()*float64(rs.ClockRate))
    Seconds():  sec := d / Second; nsec := d % Second; return float64(sec) + float64(nsec)/1e9

The central theorem (`packet_ntp_within_tick`, Props/C15) treats the truncated product as an input `e`
constrained by a hypothesis (`reportWith`).  The *executable* model computes it with a small exact model
of IEEE-754 binary64 round-to-nearest-even on non-negative rationals (`F64`), so that the correspondence
harness compares the real float path with the model bit for bit and checks the hypothesis on every
case; for that model the hypothesis is itself a theorem (`Proofs/Time/F64.lean`: every rounding has relative
error ≤ 2^-53, integers below 2^53 convert exactly, hence `ticks d rate` is `⌊d·rate/10^9⌋` up to less than
1 ns of time for `d ≤ 2^51 ns`), which gives the hypothesis-free `packet_ntp_within_tick_report`.

Core Lean only (linked into `oracle_time`).
-/
namespace Rtsp.SR
open Rtsp

/-- the time-related fields of `rtpsender.Sender` and its report counters -/
structure Sender where
  rate       : Int        -- ClockRate
  first      : Bool       -- firstRTPPacketSent
  lastRTP    : UInt32
  lastNTP    : Int        -- Unix ns
  lastSystem : Int        -- Unix ns
  ssrc       : UInt32     -- localSSRC
  sent       : Nat        -- uint64
  octets     : UInt32     -- octetCount (wraps)
deriving Repr, DecidableEq

def Sender.init (rate : Int) : Sender :=
  { rate, first := false, lastRTP := 0, lastNTP := 0, lastSystem := 0, ssrc := 0, sent := 0, octets := 0 }

/-- `Sender.ProcessPacket(pkt, ntp, ptsEqualsDTS)`; `now` is `rs.TimeNow()` -/
def Sender.processPacket (s : Sender) (ts : UInt32) (ntp : Int) (eq : Bool) (now : Int)
    (ssrc : UInt32) (payloadLen : Nat) : Sender :=
  let s := if eq then { s with first := true, lastRTP := ts, lastNTP := ntp, lastSystem := now, ssrc := ssrc } else s
  { s with sent := s.sent + 1, octets := s.octets + UInt32.ofNat payloadLen }

/-- `rtcp.SenderReport` as produced by `report` -/
structure Report where
  ssrc    : UInt32
  ntp     : Nat          -- NTPTime (uint64)
  rtp     : UInt32       -- RTPTime
  packets : Nat          -- PacketCount = uint32(sent)
  octets  : UInt32
deriving Repr, DecidableEq

/-- `report()` with the truncated float product `uint32(systemDiff.Seconds()*float64(ClockRate))`
given as `e` (a uint32 value as `Nat`; only `e % 2^32` matters). -/
def Sender.reportWith (s : Sender) (now : Int) (e : Nat) : Report :=
  let d := now - s.lastSystem
  { ssrc := s.ssrc, ntp := Ntp.encode (s.lastNTP + d), rtp := s.lastRTP + UInt32.ofNat e,
    packets := s.sent % 4294967296, octets := s.octets }

/-- the float product as Go computes it.  For `d < 0` or a product `≥ 2^32` Go's float→uint32
conversion is implementation-defined; this follows amd64 (convert to int64, keep the low 32 bits),
which the harness exercises only on amd64. -/
def floatTicks (d rate : Int) : Nat :=
  if d ≥ 0 then F64.ticks d.toNat rate.toNat
  else ((-(F64.ticks (-d).toNat rate.toNat : Int)) % 4294967296).toNat

/-- `report()` -/
def Sender.report (s : Sender) (now : Int) : Report :=
  s.reportWith now (floatTicks (now - s.lastSystem) s.rate)

/-- the sender-report fields of `rtpreceiver.Receiver` -/
structure Recv where
  rate    : Int          -- ClockRate
  firstSR : Bool         -- firstSenderReportReceived
  srNTP   : Nat          -- lastSenderReportTimeNTP
  srRTP   : UInt32       -- lastSenderReportTimeRTP
deriving Repr, DecidableEq

def Recv.init (rate : Int) : Recv := { rate, firstSR := false, srNTP := 0, srRTP := 0 }

/-- `ProcessSenderReport` -/
def Recv.processSR (r : Recv) (ntp : Nat) (rtp : UInt32) : Recv :=
  { r with firstSR := true, srNTP := ntp, srRTP := rtp }

/-- `int32(ts - rr.lastSenderReportTimeRTP)` -/
def tsDiff (ts sr : UInt32) : Int := (ts - sr).toInt32.toInt

/-- `packetNTPUnsafe`; `none` is Go's `(time.Time{}, false)`; the result is Unix ns. -/
def Recv.packetNTP (r : Recv) (ts : UInt32) : Option Int :=
  if !r.firstSR ∨ r.rate = 0 then none
  else some (Ntp.decode r.srNTP + (tsDiff ts r.srRTP * 1000000000).tdiv r.rate)

end Rtsp.SR
