import Rtsp.Proofs.Hdr.Basic
import Rtsp.Model.Headers.KeyVal
/-
A header's `Marshal` is the `render` of a list of `Elem`s; when these are `Elem.Ok` with distinct keys
the tokenizer returns exactly their pairs (`keyValParse_render`), and the header's loop sets the fields
back.  What the codecs write of their own accord is `Tame` (letters, digits, `-`, `_`, `/`), so that it is
`Elem.Ok` for every separator outside that class.  Second half: the tokenizer's two results (`KV.Inv`): its pairs
are the map itself, are read alike through any rearrangement of the map (`KV.pairs_perm`), and are the raw pairs
when the keys are distinct.  Last, `strings.Join` against `render` and against `splitOn` (the list headers).
-/
namespace Rtsp.Hdr

/-- what may follow an element inside a rendered text -/
def Tail (sep : Char) (tail : Str) : Prop := tail = [] ∨ tail.head? = some sep

theorem readKey_append {sep : Char} {k rest : Str} (h1 : '=' ∉ k) (h2 : sep ∉ k) (hr : Tail sep rest ∨ rest.head? = some '=') :
    readKey sep (k ++ rest) = (k, rest) := by
  induction k with
  | nil =>
    rcases hr with (rfl | hr) | hr
    · rfl
    all_goals obtain ⟨cs, rfl⟩ := List.head?_eq_some_iff.mp hr; simp [readKey]
  | cons c cs ih =>
    rw [List.mem_cons, not_or] at h1 h2
    simp [readKey, Ne.symm h1.1, Ne.symm h2.1, ih h1.2 h2.2]

theorem readUntil_append {sep : Char} {v rest : Str} (h : sep ∉ v) (hr : Tail sep rest) :
    readUntil sep (v ++ rest) = (v, rest) := by
  induction v with
  | nil =>
    rcases hr with rfl | hr
    · rfl
    · obtain ⟨cs, rfl⟩ := List.head?_eq_some_iff.mp hr; simp [readUntil]
  | cons c cs ih =>
    rw [List.mem_cons, not_or] at h
    simp [readUntil, Ne.symm h.1, ih h.2]

/-- one element of a marshalled header value -/
inductive Elem
  | bare (k : Str)
  | plain (k v : Str)
  | quoted (k v : Str)

def Elem.text : Elem → Str
  | .bare k => k
  | .plain k v => k ++ '=' :: v
  | .quoted k v => k ++ '=' :: '"' :: (v ++ ['"'])

def Elem.pair : Elem → Str × Str
  | .bare k => (k, [])
  | .plain k v => (k, v)
  | .quoted k v => (k, v)

/-- what `readKey` needs to read `k` back whole, and `trimLeftSp` to leave it alone -/
structure KeyOk (sep : Char) (k : Str) : Prop where
  ne : k ≠ []
  nsp : k.head? ≠ some ' '
  neq : '=' ∉ k
  nsep : sep ∉ k

/-- `KeyOk sep k` for a literal `k` -/
macro "key_ok" : tactic => `(tactic| (constructor <;> decide))

/-- the element's text, followed by a `Tail`, is read back as the element's pair -/
def Elem.Ok (sep : Char) : Elem → Prop
  | .bare k => KeyOk sep k
  | .plain k v => KeyOk sep k ∧ sep ∉ v ∧ v.head? ≠ some '"'
  | .quoted k v => KeyOk sep k ∧ '"' ∉ v

def Elem.key : Elem → Str
  | .bare k => k
  | .plain k _ => k
  | .quoted k _ => k

theorem Elem.keyOk {sep : Char} {e : Elem} (h : e.Ok sep) : KeyOk sep e.key := by
  cases e <;> simp [Elem.Ok] at h <;> simp [Elem.key, h]

theorem Elem.text_cons {sep : Char} {e : Elem} (h : e.Ok sep) : ∃ c t, e.text = c :: t ∧ c ≠ ' ' := by
  have hk := Elem.keyOk h
  obtain ⟨c, cs, hc⟩ := List.exists_cons_of_ne_nil hk.ne
  have hsp : c ≠ ' ' := fun e => hk.nsp (by rw [hc, e]; rfl)
  cases e <;> rw [Elem.key] at hc <;> subst hc <;> exact ⟨c, _, rfl, hsp⟩

theorem Elem.text_ne_nil {sep : Char} {e : Elem} (h : e.Ok sep) : e.text ≠ [] := by
  obtain ⟨c, t, ht, -⟩ := Elem.text_cons h
  rw [ht]; exact List.cons_ne_nil c t


def tameChar (c : Char) : Bool := c.isAlphanum || c == '-' || c == '_' || c == '/'

abbrev Tame := Over tameChar

theorem tame_dec (n : Nat) : Tame (dec n) :=
  (over_dec n).mono fun c h => by simp only [tameChar, Char.isAlphanum, h, Bool.or_true, Bool.true_or]

/-- one hypothesis, so that a literal key is discharged by a single `decide` -/
theorem Tame.keyOk {k : Str} (h : Tame k ∧ k ≠ []) {sep : Char} (hs : tameChar sep = false) : KeyOk sep k :=
  ⟨h.2, head?_ne_of_not_mem (h.1.not_mem (by decide)), h.1.not_mem (by decide), h.1.not_mem hs⟩

theorem Tame.plain_ok {v : Str} (hv : Tame v) {sep : Char} {k : Str} (hk : KeyOk sep k) (hs : tameChar sep = false) :
    (Elem.plain k v).Ok sep :=
  ⟨hk, hv.not_mem hs, head?_ne_of_not_mem (hv.not_mem (by decide))⟩

def optE (k : Str) : Option Str → List Elem
  | some v => [Elem.plain k v]
  | none => []

theorem optE_text (k : Str) (o : Option Str) : (optE k o).map Elem.text = optField (k ++ ['=']) o := by
  cases o <;> simp [optE, optField, Elem.text]

theorem forall_mem_optE {P : Elem → Prop} {k : Str} {o : Option Str} (h : ∀ v, o = some v → P (.plain k v)) :
    ∀ e ∈ optE k o, P e := by
  cases o with
  | none => intro e he; cases he
  | some v => intro e he; rw [List.mem_singleton.mp he]; exact h v rfl

theorem forall_mem_optE_map {α : Type} {P : Elem → Prop} {k : Str} {f : α → Str} (h : ∀ x, P (.plain k (f x))) (o : Option α) :
    ∀ e ∈ optE k (o.map f), P e :=
  forall_mem_optE fun v hv => by obtain ⟨x, _, rfl⟩ := Option.map_eq_some_iff.mp hv; exact h x

theorem optE_keys_sublist (k : Str) (o : Option Str) : ((optE k o).map Elem.key).Sublist [k] := by
  cases o <;> simp [optE, Elem.key]

/-- elements joined by the separator followed by `sp` spaces -/
def render (sep : Char) (sp : Nat) : List Elem → Str
  | [] => []
  | [e] => e.text
  | e :: e' :: es => e.text ++ sep :: (List.replicate sp ' ' ++ render sep sp (e' :: es))

theorem render_head {sep : Char} {sp : Nat} {es : List Elem} (h : ∀ e ∈ es, e.Ok sep) :
    (render sep sp es).head? ≠ some ' ' := by
  fun_cases render sep sp es
  · nofun
  all_goals
    obtain ⟨c, t, ht, hc⟩ := Elem.text_cons (h _ (List.mem_cons_self ..))
    rw [ht]
    exact fun e => hc (Option.some.inj e)

theorem readValue_plain {sep : Char} (hs2 : sep ≠ '"') {v tail : Str} (hv : sep ∉ v) (hq : v.head? ≠ some '"')
    (ht : Tail sep tail) : readValue sep (v ++ tail) = .ok (v, tail) := by
  unfold readValue
  split
  · rename_i rest heq
    cases v with
    | nil => rcases ht with rfl | h
             · cases heq
             · rw [List.nil_append] at heq; rw [heq] at h; cases h; exact absurd rfl hs2
    | cons a as => cases heq; exact absurd rfl hq
  · rw [readUntil_append hv ht]

theorem readValue_quoted {sep : Char} {v : Str} (tail : Str) (hq : '"' ∉ v) :
    readValue sep ('"' :: (v ++ '"' :: tail)) = .ok (v, tail) := by
  simp only [readValue, cut_append tail hq]

theorem kvLoop_value {sep : Char} {k r v tail : Str} (hk : KeyOk sep k) (hv : readValue sep r = .ok (v, tail)) (fuel : Nat) :
    kvLoop sep (fuel + 1) (k ++ '=' :: r) =
      kvLoop sep fuel (trimLeftSp (skipSep sep tail)) >>= fun rest => .ok ((k, v) :: rest) := by
  have hrk := readKey_append hk.neq hk.nsep (rest := '=' :: r) (Or.inr rfl)
  obtain ⟨c, cs, rfl⟩ := List.exists_cons_of_ne_nil hk.ne
  rw [List.cons_append] at hrk ⊢
  simp only [kvLoop, hrk, hv]
  cases kvLoop sep fuel (trimLeftSp (skipSep sep tail)) <;> rfl

theorem kvLoop_bare {sep : Char} (hs1 : sep ≠ '=') {k tail : Str} (hk : KeyOk sep k) (ht : Tail sep tail) (fuel : Nat) :
    kvLoop sep (fuel + 1) (k ++ tail) =
      kvLoop sep fuel (trimLeftSp (skipSep sep tail)) >>= fun rest => .ok ((k, []) :: rest) := by
  have hrk := readKey_append hk.neq hk.nsep (rest := tail) (Or.inl ht)
  obtain ⟨c, cs, rfl⟩ := List.exists_cons_of_ne_nil hk.ne
  rw [List.cons_append] at hrk ⊢
  simp only [kvLoop, hrk]
  split
  · rcases ht with h | h
    · cases h
    · cases h; exact absurd rfl hs1
  · cases kvLoop sep fuel (trimLeftSp (skipSep sep tail)) <;> rfl

theorem kvLoop_elem {sep : Char} (hs1 : sep ≠ '=') (hs2 : sep ≠ '"') {e : Elem} (he : e.Ok sep) {tail : Str}
    (ht : Tail sep tail) (fuel : Nat) :
    kvLoop sep (fuel + 1) (e.text ++ tail) =
      kvLoop sep fuel (trimLeftSp (skipSep sep tail)) >>= fun rest => .ok (e.pair :: rest) := by
  cases e with
  | bare k => exact kvLoop_bare hs1 he ht fuel
  | plain k v =>
    rw [Elem.text, List.append_assoc, List.cons_append]
    exact kvLoop_value he.1 (readValue_plain hs2 he.2.1 he.2.2 ht) fuel
  | quoted k v =>
    rw [Elem.text, List.append_assoc, List.cons_append, List.cons_append, List.append_assoc, List.singleton_append]
    exact kvLoop_value he.1 (readValue_quoted tail he.2) fuel

theorem kvLoop_nil (sep : Char) (fuel : Nat) : kvLoop sep fuel [] = .ok [] := by cases fuel <;> rfl

theorem kvLoop_render {sep : Char} (hs1 : sep ≠ '=') (hs2 : sep ≠ '"') (sp : Nat) (es : List Elem) (fuel : Nat)
    (hok : ∀ e ∈ es, e.Ok sep) (hf : (render sep sp es).length ≤ fuel) :
    kvLoop sep fuel (render sep sp es) = .ok (es.map Elem.pair) := by
  fun_induction render sep sp es generalizing fuel with
  | case1 => exact kvLoop_nil sep fuel
  | case2 e =>
    have htl := List.length_pos_iff.mpr (Elem.text_ne_nil (hok e (by simp)))
    obtain ⟨fuel, rfl⟩ := Nat.exists_eq_add_one_of_ne_zero (by omega : fuel ≠ 0)
    have := kvLoop_elem hs1 hs2 (hok e (by simp)) (tail := []) (Or.inl rfl) fuel
    rw [List.append_nil] at this
    rw [this, show trimLeftSp (skipSep sep []) = [] from rfl, kvLoop_nil]
    rfl
  | case3 e e' es ih =>
    have htl := List.length_pos_iff.mpr (Elem.text_ne_nil (hok e (by simp)))
    have hrest : ∀ x ∈ e' :: es, x.Ok sep := fun x hx => hok x (List.mem_cons_of_mem _ hx)
    simp only [List.length_append, List.length_cons, List.length_replicate] at hf
    obtain ⟨fuel, rfl⟩ := Nat.exists_eq_add_one_of_ne_zero (by omega : fuel ≠ 0)
    rw [kvLoop_elem hs1 hs2 (hok e (by simp)) (Or.inr rfl) fuel, skipSep, if_pos rfl,
      trimLeftSp_replicate sp (render_head hrest), ih fuel hrest (by omega)]
    rfl

theorem mapHas_iff (m : List (Str × Str)) (k : Str) : mapHas m k = true ↔ k ∈ m.map Prod.fst := by
  induction m with
  | nil => simp [mapHas]
  | cons p ps ih =>
    simp only [mapHas, List.map_cons, List.mem_cons]
    by_cases h : p.1 = k
    · simp [h]
    · simp [h, ih]; intro e; exact absurd e.symm h

theorem mapSet_keys (m : List (Str × Str)) (k v : Str) :
    (mapSet m k v).map Prod.fst = if mapHas m k then m.map Prod.fst else m.map Prod.fst ++ [k] := by
  induction m with
  | nil => simp [mapSet, mapHas]
  | cons p ps ih =>
    by_cases h : p.1 = k
    · simp [mapSet, mapHas, h]
    · simp only [mapSet, mapHas, h, if_false, List.map_cons, ih]
      split <;> simp

theorem mapGet_of_mem {m : List (Str × Str)} (hnd : (m.map Prod.fst).Nodup) {k v : Str} (h : (k, v) ∈ m) :
    mapGet m k = v := by
  induction m with
  | nil => cases h
  | cons p ps ih =>
    simp only [List.map_cons, List.nodup_cons] at hnd
    rcases List.mem_cons.mp h with h | h
    · subst h; simp [mapGet]
    · have hne : p.1 ≠ k := by
        intro e; apply hnd.1; rw [e]; exact List.mem_map.mpr ⟨(k, v), h, rfl⟩
      simp [mapGet, hne, ih hnd.2 h]

theorem mapGet_mapSet_self (m : List (Str × Str)) (k v : Str) : mapGet (mapSet m k v) k = v := by
  induction m with
  | nil => simp [mapSet, mapGet]
  | cons p ps ih =>
    by_cases h : p.1 = k
    · simp [mapSet, mapGet, h]
    · simp [mapSet, mapGet, h, ih]

theorem mapSet_fresh {m : List (Str × Str)} {p : Str × Str} (hp : mapHas m p.1 = false) :
    mapSet m p.1 p.2 = m ++ [p] := by
  induction m with
  | nil => simp [mapSet]
  | cons q qs ihq =>
    simp only [mapHas] at hp
    by_cases hq : q.1 = p.1
    · simp [hq] at hp
    · simp only [hq, if_false] at hp
      simp [mapSet, hq, ihq hp]

/-- the invariant of `keyValParseOrdered`'s two results -/
structure KV.Inv (kv : KV) : Prop where
  keys_eq : kv.keys = kv.map.map Prod.fst
  nodup : (kv.map.map Prod.fst).Nodup

theorem KV.Inv.add {kv : KV} (h : kv.Inv) (k v : Str) : (kv.add k v).Inv := by
  constructor
  · simp only [KV.add, mapSet_keys, h.keys_eq]
  · simp only [KV.add, mapSet_keys]
    split
    · exact h.nodup
    · rename_i hh
      have : k ∉ kv.map.map Prod.fst := fun hm => hh ((mapHas_iff _ _).mpr hm)
      exact List.nodup_append.mpr ⟨h.nodup, by simp, by
        intro a ha b hb; simp at hb; subst hb; intro e; subst e; exact this ha⟩

theorem KV.inv_ofPairs (raw : List (Str × Str)) : (KV.ofPairs raw).Inv :=
  List.foldlRecOn raw _ ⟨rfl, List.nodup_nil⟩ fun _ h p _ => h.add p.1 p.2

theorem KV.pairs_eq_map {kv : KV} (h : kv.Inv) : kv.pairs = kv.map := by
  unfold KV.pairs
  rw [h.keys_eq, List.map_map]
  have : ∀ p ∈ kv.map, ((fun k => (k, mapGet kv.map k)) ∘ Prod.fst) p = p := by
    intro p hp
    have := mapGet_of_mem h.nodup (k := p.1) (v := p.2) hp
    simp [this]
  rw [List.map_congr_left this, List.map_id']

theorem KV.pairs_perm {kv : KV} (h : kv.Inv) {m' : List (Str × Str)} (hp : m'.Perm kv.map) :
    ({ kv with map := m' } : KV).pairs = kv.pairs := by
  unfold KV.pairs
  apply List.map_congr_left
  intro k hk
  rw [h.keys_eq] at hk
  obtain ⟨p, hpm, hpk⟩ := List.mem_map.mp hk
  have hnd' : (m'.map Prod.fst).Nodup := (hp.map Prod.fst).nodup_iff.mpr h.nodup
  have h1 : mapGet kv.map k = p.2 := mapGet_of_mem h.nodup (by rw [← hpk]; exact hpm)
  have h2 : mapGet m' k = p.2 := mapGet_of_mem hnd' (by rw [← hpk]; exact hp.mem_iff.mpr hpm)
  simp [h1, h2]

/-- Induction from the right: the last pair is the one `KV.add` appends. -/
theorem KV.map_ofPairs_reverse : ∀ raw : List (Str × Str), (raw.map Prod.fst).Nodup →
    (KV.ofPairs raw.reverse).map = raw.reverse
  | [], _ => rfl
  | p :: raw, hnd => by
    rw [List.map_cons, List.nodup_cons] at hnd
    have hp : mapHas raw.reverse p.1 = false :=
      Bool.eq_false_iff.mpr fun hh => hnd.1 (by simpa using (mapHas_iff _ _).mp hh)
    rw [List.reverse_cons, KV.ofPairs, List.foldl_append, ← KV.ofPairs]
    simp only [List.foldl_cons, List.foldl_nil, KV.add, KV.map_ofPairs_reverse raw hnd.2]
    exact mapSet_fresh hp

theorem KV.pairs_ofPairs_nodup {raw : List (Str × Str)} (hnd : (raw.map Prod.fst).Nodup) :
    (KV.ofPairs raw).pairs = raw := by
  have := KV.map_ofPairs_reverse raw.reverse (List.map_reverse ▸ (List.reverse_perm _).nodup_iff.mpr hnd)
  rwa [List.reverse_reverse, ← KV.pairs_eq_map (KV.inv_ofPairs raw)] at this

/-- the pre-fix reading of `keyValParse`'s result: the callers range over the map, i.e. over some
arrangement `π` of its entries.  If a header codec iterates over the Go map itself, and not over the ordered key
list, the result depends on the arrangement of the map (known-findings key hdr-nondeterministic-parse). -/
def keyValParseMapOrder (π : List (Str × Str) → List (Str × Str)) : KvParser := fun sep s =>
  match kvRaw sep s with
  | .ok raw => .ok (π (KV.ofPairs raw).map)
  | .err e => .err e
  | .unm => .unm

theorem keyValParse_eq_mapOrder_id : keyValParse = keyValParseMapOrder id := by
  funext sep s
  unfold keyValParse keyValParseWith keyValParseMapOrder
  cases kvRaw sep s with
  | ok raw => simp only [id]; rw [KV.pairs_eq_map (KV.inv_ofPairs raw)]
  | err e => rfl
  | unm => rfl

theorem keyValParse_render {sep : Char} (hs1 : sep ≠ '=') (hs2 : sep ≠ '"') (sp : Nat)
    (es : List Elem) (hok : ∀ e ∈ es, e.Ok sep) (hnd : (es.map Elem.key).Nodup) :
    keyValParse sep (render sep sp es) = .ok (es.map Elem.pair) := by
  have hraw : kvRaw sep (render sep sp es) = .ok (es.map Elem.pair) :=
    kvLoop_render hs1 hs2 sp es _ hok (Nat.le_refl _)
  have hkeys : (es.map Elem.pair).map Prod.fst = es.map Elem.key := by
    rw [List.map_map]; apply List.map_congr_left; intro e _; cases e <;> rfl
  unfold keyValParse keyValParseWith
  rw [hraw]
  simp only [id]
  rw [KV.pairs_ofPairs_nodup (by rw [hkeys]; exact hnd)]

theorem joinWith_texts (sep : Char) (es : List Elem) : joinWith sep (es.map Elem.text) = render sep 0 es := by
  induction es with
  | nil => rfl
  | cons e rest ih =>
    cases rest with
    | nil => rfl
    | cons e' es => simp only [List.map_cons, joinWith, render] at ih ⊢; rw [ih]; simp

theorem splitOn_joinWith {α : Type} {sep : Char} (f : α → Str) : ∀ (l : List α), l ≠ [] → (∀ x ∈ l, sep ∉ f x) →
    splitOn sep (joinWith sep (l.map f)) = l.map f
  | [], h, _ => absurd rfl h
  | [x], _, h => by simpa [joinWith] using splitOn_noSep (h x (by simp))
  | x :: y :: l, _, h => by
    simp only [List.map_cons, joinWith]
    rw [splitOn_append _ (h x (by simp)), ← List.map_cons, splitOn_joinWith f (y :: l) (by simp) (fun z hz => h z (by simp [hz]))]

end Rtsp.Hdr
