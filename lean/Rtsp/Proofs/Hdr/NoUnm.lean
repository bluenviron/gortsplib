import Rtsp.Model.Headers.Transport
import Rtsp.Model.Headers.Session
import Rtsp.Model.Headers.RtpInfo
import Rtsp.Model.Headers.Authenticate
import Rtsp.Model.Headers.KeyMgmt
/-
The third outcome `unm` ("outside the modelled domain") is unreachable for every header except
Range: for Transport, Transports, Session, RTP-Info, WWW-Authenticate, Authorization and KeyMgmt the
model decides EVERY header value (value or failure class).  `unm` arises only from NPT seconds
that leave the plain-decimal domain (`parseFloatNs`).
-/
namespace Rtsp.Hdr

theorem readValue_ne_unm {sep : Char} {s : Str} : readValue sep s ≠ .unm := by
  unfold readValue
  split
  · split <;> (intro _; contradiction)
  · intro h; cases h

/-! One case per exit of each definition.  An exit is a recursive call (induction hypothesis), hands on
the `.unm` of a sub-parser that never returns it, or is `.ok`, `.err` or the recursive call's `.unm`. -/

theorem kvLoop_ne_unm {sep : Char} {fuel : Nat} {s : Str} : kvLoop sep fuel s ≠ .unm := by
  fun_induction kvLoop sep fuel s <;>
    first | assumption | exact absurd ‹readValue _ _ = .unm› (readValue_ne_unm) | (intro _; contradiction)

theorem keyValParse_ne_unm {sep : Char} {s : Str} : keyValParse sep s ≠ .unm := by
  unfold keyValParse keyValParseWith kvRaw
  have := @kvLoop_ne_unm sep s.length s
  split <;> simp_all

theorem parsePorts_ne_unm {v : Str} : parsePorts v ≠ .unm := by
  unfold parsePorts; split
  · split <;> simp
  · split <;> simp
  · simp

theorem parseMode_ne_unm {v : Str} : parseMode v ≠ .unm := by
  unfold parseMode; split
  · simp
  · split <;> simp

theorem parseAuthAlgorithm_ne_unm {v : Str} : parseAuthAlgorithm v ≠ .unm := by
  unfold parseAuthAlgorithm; split
  · simp
  · split <;> simp

theorem Transport.step_ne_unm {st : Transport × Bool} {k v : Str} : Transport.step st k v ≠ .unm := by
  fun_cases Transport.step st k v <;>
    first
    | exact absurd ‹parsePorts _ = .unm› (parsePorts_ne_unm)
    | exact absurd ‹parseMode _ = .unm› (parseMode_ne_unm)
    | (intro h; cases h)

theorem Transport.steps_ne_unm {pairs : List (Str × Str)} {st : Transport × Bool} : Transport.steps st pairs ≠ .unm := by
  fun_induction Transport.steps st pairs <;>
    first | assumption | exact absurd ‹Transport.step _ _ _ = .unm› (Transport.step_ne_unm) | (intro _; contradiction)

theorem Transport.unmarshal1_ne_unm {s : Str} : Transport.unmarshal1With keyValParse s ≠ .unm := by
  fun_cases Transport.unmarshal1With keyValParse s <;>
    first
    | exact absurd ‹keyValParse _ _ = .unm› (keyValParse_ne_unm)
    | exact absurd ‹Transport.steps _ _ = .unm› (Transport.steps_ne_unm)
    | (intro h; cases h)

theorem Transport.unmarshal_ne_unm {v : List Str} : Transport.unmarshal v ≠ .unm := by
  unfold Transport.unmarshal
  fun_cases Transport.unmarshalWith keyValParse v <;> first | exact Transport.unmarshal1_ne_unm | (intro h; cases h)

theorem Transports.unmarshalEach_ne_unm {ps : List Str} : Transports.unmarshalEach keyValParse ps ≠ .unm := by
  fun_induction Transports.unmarshalEach keyValParse ps <;>
    first | assumption | exact absurd ‹Transport.unmarshal1With _ _ = .unm› (Transport.unmarshal1_ne_unm) | (intro _; contradiction)

theorem Transports.unmarshal_ne_unm {v : List Str} : Transports.unmarshal v ≠ .unm := by
  unfold Transports.unmarshal
  fun_cases Transports.unmarshalWith keyValParse v <;> first | exact Transports.unmarshalEach_ne_unm | (intro h; cases h)

theorem Session.steps_ne_unm {pairs : List (Str × Str)} {t : Option Nat} : Session.steps t pairs ≠ .unm := by
  fun_induction Session.steps t pairs <;> first | assumption | (intro _; contradiction)

theorem Session.unmarshal1_ne_unm {s : Str} : Session.unmarshal1With keyValParse s ≠ .unm := by
  fun_cases Session.unmarshal1With keyValParse s <;>
    first
    | exact absurd ‹keyValParse _ _ = .unm› (keyValParse_ne_unm)
    | exact absurd ‹Session.steps _ _ = .unm› (Session.steps_ne_unm)
    | (intro h; cases h)

theorem Session.unmarshal_ne_unm {v : List Str} : Session.unmarshal v ≠ .unm := by
  unfold Session.unmarshal
  fun_cases Session.unmarshalWith keyValParse v <;> first | exact Session.unmarshal1_ne_unm | (intro h; cases h)

theorem RtpInfoEntry.steps_ne_unm {pairs : List (Str × Str)} {st : RtpInfoEntry × Bool} :
    RtpInfoEntry.steps st pairs ≠ .unm := by
  fun_induction RtpInfoEntry.steps st pairs <;> first | assumption | (intro _; contradiction)

theorem RtpInfoEntry.unmarshal_ne_unm {p : Str} : RtpInfoEntry.unmarshalWith keyValParse p ≠ .unm := by
  fun_cases RtpInfoEntry.unmarshalWith keyValParse p <;>
    first
    | exact absurd ‹keyValParse _ _ = .unm› (keyValParse_ne_unm)
    | exact absurd ‹RtpInfoEntry.steps _ _ = .unm› (RtpInfoEntry.steps_ne_unm)
    | (intro h; cases h)

theorem RtpInfo.unmarshalEach_ne_unm {ps : List Str} : RtpInfo.unmarshalEach keyValParse ps ≠ .unm := by
  fun_induction RtpInfo.unmarshalEach keyValParse ps <;>
    first | assumption | exact absurd ‹RtpInfoEntry.unmarshalWith _ _ = .unm› (RtpInfoEntry.unmarshal_ne_unm) | (intro _; contradiction)

theorem RtpInfo.unmarshal_ne_unm {v : List Str} : RtpInfo.unmarshal v ≠ .unm := by
  unfold RtpInfo.unmarshal
  fun_cases RtpInfo.unmarshalWith keyValParse v <;> first | exact RtpInfo.unmarshalEach_ne_unm | (intro h; cases h)

theorem Authenticate.stepsDigest_ne_unm {pairs : List (Str × Str)} {st : Authenticate × Bool × Bool} :
    Authenticate.stepsDigest st pairs ≠ .unm := by
  fun_induction Authenticate.stepsDigest st pairs <;>
    first | assumption | exact absurd ‹parseAuthAlgorithm _ = .unm› (parseAuthAlgorithm_ne_unm) | (intro _; contradiction)

theorem parseMethod_ne_unm {s : Str} : parseMethod s ≠ .unm := by
  unfold parseMethod; split
  · simp
  · split
    · simp
    · split <;> simp

theorem Authenticate.unmarshal1_ne_unm {s : Str} : Authenticate.unmarshal1With keyValParse s ≠ .unm := by
  fun_cases Authenticate.unmarshal1With keyValParse s <;>
    first
    | exact absurd ‹parseMethod _ = .unm› (parseMethod_ne_unm)
    | exact absurd ‹keyValParse _ _ = .unm› (keyValParse_ne_unm)
    | exact absurd ‹Authenticate.stepsDigest _ _ = .unm› (Authenticate.stepsDigest_ne_unm)
    | (intro h; cases h)

theorem Authenticate.unmarshal_ne_unm {v : List Str} : Authenticate.unmarshal v ≠ .unm := by
  unfold Authenticate.unmarshal
  fun_cases Authenticate.unmarshalWith keyValParse v <;> first | exact Authenticate.unmarshal1_ne_unm | (intro h; cases h)

theorem Authorization.stepsDigest_ne_unm {pairs : List (Str × Str)} {st : Authorization × AuthzFlags} :
    Authorization.stepsDigest st pairs ≠ .unm := by
  fun_induction Authorization.stepsDigest st pairs <;>
    first | assumption | exact absurd ‹parseAuthAlgorithm _ = .unm› (parseAuthAlgorithm_ne_unm) | (intro _; contradiction)

theorem Authorization.unmarshal1_ne_unm {s : Str} : Authorization.unmarshal1With keyValParse s ≠ .unm := by
  fun_cases Authorization.unmarshal1With keyValParse s <;>
    first
    | exact absurd ‹parseMethod _ = .unm› (parseMethod_ne_unm)
    | exact absurd ‹keyValParse _ _ = .unm› (keyValParse_ne_unm)
    | exact absurd ‹Authorization.stepsDigest _ _ = .unm› (Authorization.stepsDigest_ne_unm)
    | (intro h; cases h)

theorem Authorization.unmarshal_ne_unm {v : List Str} : Authorization.unmarshal v ≠ .unm := by
  unfold Authorization.unmarshal
  fun_cases Authorization.unmarshalWith keyValParse v <;> first | exact Authorization.unmarshal1_ne_unm | (intro h; cases h)

theorem KeyMgmt.steps_ne_unm {pairs : List (Str × Str)} {st : KeyMgmtSt} : KeyMgmt.steps st pairs ≠ .unm := by
  fun_induction KeyMgmt.steps st pairs <;> first | assumption | (intro _; contradiction)

theorem KeyMgmt.unmarshal1_ne_unm {s : Str} : KeyMgmt.unmarshal1With keyValParse s ≠ .unm := by
  fun_cases KeyMgmt.unmarshal1With keyValParse s <;>
    first
    | exact absurd ‹keyValParse _ _ = .unm› (keyValParse_ne_unm)
    | exact absurd ‹KeyMgmt.steps _ _ = .unm› (KeyMgmt.steps_ne_unm)
    | (intro h; cases h)

theorem KeyMgmt.unmarshal_ne_unm {v : List Str} : KeyMgmt.unmarshal v ≠ .unm := by
  unfold KeyMgmt.unmarshal
  fun_cases KeyMgmt.unmarshalWith keyValParse v <;> first | exact KeyMgmt.unmarshal1_ne_unm | (intro h; cases h)

end Rtsp.Hdr
