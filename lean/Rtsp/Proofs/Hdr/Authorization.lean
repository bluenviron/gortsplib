import Rtsp.Proofs.Hdr.Auth
import Rtsp.Proofs.Text.B64Std
/-
Round trip of `Authorization` (pkg/headers/authorization.go).  First the Latin-1 view of a byte string
(`toBytes_ofBytes`, `ofBytes_toBytes` on `IsBytes`), through which Basic credentials and the MIKEY data of
`KeyMgmt` reach base64.
-/
namespace Rtsp.Hdr

theorem char_toNat_ofNat {n : Nat} (h : n < 256) : (Char.ofNat n).toNat = n := by
  have hv : n.isValidChar := Or.inl (by omega)
  simp [Char.ofNat, hv, Char.ofNatAux, Char.toNat]

theorem toBytes_ofBytes (b : List UInt8) : toBytes (ofBytes b) = b := by
  induction b with
  | nil => rfl
  | cons x xs ih =>
    have hx : (Char.ofNat x.toNat).toNat = x.toNat := char_toNat_ofNat x.toNat_lt
    simp only [toBytes, ofBytes, List.map_cons] at ih ⊢
    rw [ih, hx]; simp

/-- strings that are byte strings: every character stands for one byte -/
def IsBytes (s : Str) : Prop := ∀ c ∈ s, c.toNat < 256

instance (s : Str) : Decidable (IsBytes s) := by unfold IsBytes; infer_instance

theorem ofBytes_toBytes {s : Str} (h : IsBytes s) : ofBytes (toBytes s) = s := by
  induction s with
  | nil => rfl
  | cons c cs ih =>
    have hc : c.toNat < 256 := h c (by simp)
    have ih' := ih (fun x hx => h x (by simp [hx]))
    simp only [toBytes, ofBytes, List.map_cons] at ih' ⊢
    have : Char.ofNat (UInt8.ofNat c.toNat).toNat = c := by
      rw [UInt8.toNat_ofNat_of_lt' hc]; exact Char.ofNat_toNat c
    rw [ih', this]

/-- Basic: the user name has no colon (RFC 7617), user name and password are byte strings, the
Digest fields keep their zero values.  Digest: no double quote inside the quoted fields and no
Basic password. -/
structure Authorization.WellFormed (h : Authorization) : Prop where
  basic : h.method = .basic → ':' ∉ h.username ∧ IsBytes h.username ∧ IsBytes h.basicPass ∧
    h.realm = [] ∧ h.nonce = [] ∧ h.uri = [] ∧ h.response = [] ∧ h.opaq = none ∧ h.algorithm = none
  digest : h.method = .digest → '"' ∉ h.username ∧ '"' ∉ h.realm ∧ '"' ∉ h.nonce ∧ '"' ∉ h.uri ∧ '"' ∉ h.response ∧
    (∀ v, h.opaq = some v → '"' ∉ v) ∧ h.basicPass = []

instance Authorization.decWellFormed (h : Authorization) : Decidable h.WellFormed :=
  decidable_of_iff
    ((h.method = .basic → ':' ∉ h.username ∧ IsBytes h.username ∧ IsBytes h.basicPass ∧
        h.realm = [] ∧ h.nonce = [] ∧ h.uri = [] ∧ h.response = [] ∧ h.opaq = none ∧ h.algorithm = none) ∧
     (h.method = .digest → '"' ∉ h.username ∧ '"' ∉ h.realm ∧ '"' ∉ h.nonce ∧ '"' ∉ h.uri ∧ '"' ∉ h.response ∧
        (∀ v, h.opaq = some v → '"' ∉ v) ∧ h.basicPass = []))
    ⟨fun ⟨a, b⟩ => ⟨a, b⟩, fun ⟨a, b⟩ => ⟨a, b⟩⟩

example : Authorization.WellFormed { method := .basic, username := cs!"user", basicPass := cs!"my:pass:" } := by decide
example : Authorization.WellFormed {
    method := .digest, username := cs!"Mufasa", realm := cs!"testrealm@host.com", nonce := cs!"dcd98b",
    uri := cs!"rtsp://h/p?a=b,c", response := cs!"6629fae49393a05397450978507c4ef1", opaq := some [], algorithm := some .md5 } := by
  decide

def Authorization.elems (h : Authorization) : List Elem :=
  [Elem.quoted cs!"username" h.username, Elem.quoted cs!"realm" h.realm, Elem.quoted cs!"nonce" h.nonce,
   Elem.quoted cs!"uri" h.uri, Elem.quoted cs!"response" h.response]
  ++ optQ cs!"opaque" h.opaq ++ optQ cs!"algorithm" (h.algorithm.map algStr)

theorem Authorization.marshal_digest (h : Authorization) (hm : h.method = .digest) :
    h.marshal = cs!"Digest " ++ render ',' 1 h.elems := by
  simp only [Authorization.marshal, hm, Authorization.elems]
  rw [render_append_optQ (by simp), render_append_optQ (by simp)]
  simp only [render, Elem.text, quoted, List.replicate, List.append_assoc, List.cons_append, List.nil_append]

theorem Authorization.steps_elems (h : Authorization) (hm : h.method = .digest) (hp : h.basicPass = []) :
    Authorization.stepsDigest ({ method := .digest }, {}) (h.elems.map Elem.pair) =
      .ok (h, { realm := true, username := true, nonce := true, uri := true, response := true }) := by
  obtain ⟨m, u, p, r, n, ur, rs, o, a⟩ := h
  cases hm; cases hp
  rcases o with _ | o <;> rcases a with _ | _ | _ <;> rfl

theorem Authorization.unmarshal_marshal (h : Authorization) (wf : h.WellFormed) :
    Authorization.unmarshal [h.marshal] = .ok h := by
  cases hm : h.method with
  | basic =>
    obtain ⟨hu, hbu, hbp, h1, h2, h3, h4, h5, h6⟩ := wf.basic hm
    obtain ⟨m, u, p, r, n, ur, rs, o, a⟩ := h
    simp only at hm hu hbu hbp h1 h2 h3 h4 h5 h6; subst hm h1 h2 h3 h4 h5 h6
    have hb : IsBytes (u ++ ':' :: p) := by
      intro c hc
      simp only [List.mem_append, List.mem_cons] at hc
      rcases hc with hc | hc | hc
      · exact hbu c hc
      · subst hc; decide
      · exact hbp c hc
    simp only [Authorization.unmarshal, Authorization.unmarshalWith, Authorization.unmarshal1With, Authorization.marshal]
    rw [parseMethod_basic]
    simp only [toBytes_ofBytes, B64Std.decode_encode, ofBytes_toBytes hb, cut_append p hu]
  | digest =>
    obtain ⟨w1, w2, w3, w4, w5, w6, w7⟩ := wf.digest hm
    have hok : ∀ e ∈ h.elems, e.Ok ',' := by
      simp only [Authorization.elems, List.forall_mem_append, List.forall_mem_cons, List.not_mem_nil, false_imp_iff,
        implies_true, and_true]
      exact ⟨⟨⟨⟨by key_ok, w1⟩, ⟨by key_ok, w2⟩, ⟨by key_ok, w3⟩, ⟨by key_ok, w4⟩, ⟨by key_ok, w5⟩⟩, optQ_ok (by key_ok) w6⟩,
        optQ_algStr_ok (by key_ok) _⟩
    have hnd : (h.elems.map Elem.key).Nodup := by
      simp only [Authorization.elems, List.map_append]
      exact List.Sublist.nodup (((List.Sublist.refl _).append (optQ_keys_sublist ..)).append (optQ_keys_sublist ..))
        (by simp only [List.map, Elem.key]; decide)
    have hkv := keyValParse_render (sep := ',') (by decide) (by decide) 1 _ hok hnd
    simp only [Authorization.unmarshal, Authorization.unmarshalWith, Authorization.unmarshal1With]
    rw [Authorization.marshal_digest h hm, parseMethod_digest]
    simp only [hkv, Authorization.steps_elems h hm w7]
    rfl

end Rtsp.Hdr
