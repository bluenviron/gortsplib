import Rtsp.Proofs.Hdr.RangeNpt
import Rtsp.Proofs.Hdr.RangeUtc
import Rtsp.Proofs.Hdr.KeyVal
/-
Round trip of `Range` (pkg/headers/range.go); the three kinds of time have their own round trips.
-/
namespace Rtsp.Hdr

/-- what the text of one time must satisfy inside `kind=start-stop[;time=…]` -/
structure TextOk (s : Str) : Prop where
  ne : s ≠ []
  noDash : '-' ∉ s
  noSemi : ';' ∉ s
  noQuote : '"' ∉ s

def optText {α : Type} (m : α → Str) : Option α → Str
  | some e => m e
  | none => []

theorem rangeValue_roundtrip {α : Type} {p : Str → Res α} {m : α → Str} {Good : α → Prop}
    (hp : ∀ x, Good x → p (m x) = .ok x) (htext : ∀ x, TextOk (m x))
    (a : α) (b : Option α) (ga : Good a) (gb : ∀ e, b = some e → Good e) :
    rangeValue p (m a ++ '-' :: optText m b) = .ok (a, b) := by
  cases b with
  | none =>
    simp only [rangeValue, optText]
    rw [splitOn_append _ (htext a).noDash]
    simp [splitOn, startStop, hp a ga]
  | some e =>
    simp only [rangeValue, optText]
    rw [splitOn_append _ (htext a).noDash, splitOn_noSep (htext e).noDash]
    simp [startStop, hp a ga, hp e (gb e rfl), (htext e).ne]

theorem smpte_textOk (t : SmpteTime) : TextOk t.marshal :=
  ⟨t.marshal_ne_nil, smpte_noChar (by decide) (by decide) (by decide) t, smpte_noChar (by decide) (by decide) (by decide) t,
   smpte_noChar (by decide) (by decide) (by decide) t⟩

theorem npt_textOk (d : Int) : TextOk (nptMarshalTime d) := by
  have h := nptMarshalTime_chars d
  have no : ∀ c : Char, c.isDigit = false → c ≠ '.' → c ∉ nptMarshalTime d := by
    intro c hc hd hm
    rcases h c hm with h | h
    · rw [h] at hc; cases hc
    · exact hd h
  exact ⟨nptMarshalTime_ne_nil d, no _ (by decide) (by decide), no _ (by decide) (by decide), no _ (by decide) (by decide)⟩

theorem utc_textOk (c : Civil) : TextOk (marshalUTC c) := by
  have no : ∀ x : Char, x.isDigit = false → x ≠ 'T' → x ≠ 'Z' → x ∉ marshalUTC c := by
    intro x hx h1 h2
    have p4 : x ∉ pad4 c.year := (padN_isDigit 4 c.year).not_mem hx
    have p2 := fun n => (pad2_isDigit n).not_mem hx
    simp [marshalUTC, p4, p2, h1, h2]
  exact ⟨marshalUTC_ne_nil c, no _ (by decide) (by decide) (by decide), no _ (by decide) (by decide) (by decide),
    no _ (by decide) (by decide) (by decide)⟩

def NptOk (d : Int) : Prop := 0 ≤ d ∧ d < 1000000000000000

instance : DecidablePred NptOk := fun d => by unfold NptOk; infer_instance

/-- SMPTE: whole non-negative seconds below 2^53 ns, frames below 2^32.  NPT: non-negative, below
10^15 ns (any nanosecond value, in particular every millisecond value).  UTC: a valid civil time
with year ≤ 9999 and whole seconds. -/
def RangeValue.WF : RangeValue → Prop
  | .smpte a b => a.WF ∧ ∀ e, b = some e → e.WF
  | .npt a b => NptOk a ∧ ∀ e, b = some e → NptOk e
  | .utc a b => a.WF ∧ ∀ e, b = some e → e.WF

instance RangeValue.decWF (v : RangeValue) : Decidable v.WF := by
  cases v <;> (unfold RangeValue.WF; infer_instance)

structure Range.WellFormed (h : Range) : Prop where
  value : h.value.WF
  time : ∀ t, h.time = some t → t.WF

instance Range.decWellFormed (h : Range) : Decidable h.WellFormed :=
  decidable_of_iff (h.value.WF ∧ ∀ t, h.time = some t → t.WF) ⟨fun ⟨a, b⟩ => ⟨a, b⟩, fun ⟨a, b⟩ => ⟨a, b⟩⟩

example : Range.WellFormed { value := .npt 1001000000 (some 999999999999999), time := some { year := 1997, month := 11, day := 8, hour := 14 } } := by
  decide
example : Range.WellFormed { value := .smpte { time := 36420000000000 } (some { time := 36453000000000, frame := 5, subframe := 1 }) } := by
  decide
example : Range.WellFormed { value := .utc { year := 1996, month := 11, day := 8, hour := 14, min := 23 } none } := by decide

def RangeValue.key : RangeValue → Str
  | .smpte .. => cs!"smpte"
  | .npt .. => cs!"npt"
  | .utc .. => cs!"clock"

def RangeValue.text : RangeValue → Str
  | .smpte a b => a.marshal ++ '-' :: optText SmpteTime.marshal b
  | .npt a b => nptMarshalTime a ++ '-' :: optText nptMarshalTime b
  | .utc a b => marshalUTC a ++ '-' :: optText marshalUTC b

theorem RangeValue.marshal_eq (v : RangeValue) : v.marshal = v.key ++ '=' :: v.text := by
  cases v with
  | smpte a b => cases b <;> simp [RangeValue.marshal, RangeValue.key, RangeValue.text, optText]
  | npt a b => cases b <;> simp [RangeValue.marshal, RangeValue.key, RangeValue.text, optText]
  | utc a b => cases b <;> simp [RangeValue.marshal, RangeValue.key, RangeValue.text, optText]

theorem startStop_text_ok {α} {m : α → Str} (htext : ∀ x, TextOk (m x)) (a : α) (b : Option α) :
    ';' ∉ (m a ++ '-' :: optText m b) ∧ (m a ++ '-' :: optText m b).head? ≠ some '"' := by
  have ha := htext a
  constructor
  · cases b with
    | none => simp [ha.noSemi, optText]
    | some e => simp [ha.noSemi, (htext e).noSemi, optText]
  · cases hm : m a with
    | nil => exact absurd hm ha.ne
    | cons x xs =>
      have : x ≠ '"' := by intro e; apply ha.noQuote; rw [hm, e]; simp
      simpa using this

theorem RangeValue.elem_ok (v : RangeValue) : (Elem.plain v.key v.text).Ok ';' := by
  cases v with
  | smpte a b => exact ⟨by simp only [RangeValue.key]; key_ok, startStop_text_ok smpte_textOk a b⟩
  | npt a b => exact ⟨by simp only [RangeValue.key]; key_ok, startStop_text_ok npt_textOk a b⟩
  | utc a b => exact ⟨by simp only [RangeValue.key]; key_ok, startStop_text_ok utc_textOk a b⟩

theorem Range.step_value (v : RangeValue) (wf : v.WF) (st : Option RangeValue × Option Civil) :
    Range.step st v.key v.text = .ok (some v, st.2) := by
  cases v with
  | smpte a b =>
    have := rangeValue_roundtrip SmpteTime.unmarshal_marshal smpte_textOk a b wf.1 wf.2
    simp [Range.step, RangeValue.key, RangeValue.text, this]
  | npt a b =>
    have := rangeValue_roundtrip (Good := NptOk) (fun x hx => nptTime_marshal hx.1 hx.2) npt_textOk a b wf.1 wf.2
    simp [Range.step, RangeValue.key, RangeValue.text, this]
  | utc a b =>
    have := rangeValue_roundtrip parseUTC_marshalUTC utc_textOk a b wf.1 wf.2
    simp [Range.step, RangeValue.key, RangeValue.text, this]

theorem Range.step_time (t : Civil) (wf : t.WF) (st : Option RangeValue × Option Civil) :
    Range.step st cs!"time" (marshalUTC t) = .ok (st.1, some t) := by
  simp [Range.step, parseUTC_marshalUTC t wf]

def Range.elems (h : Range) : List Elem :=
  [Elem.plain h.value.key h.value.text] ++ optE cs!"time" (h.time.map marshalUTC)

theorem Range.marshal_eq (h : Range) : h.marshal = render ';' 0 h.elems := by
  obtain ⟨v, t⟩ := h
  cases t <;> simp [Range.marshal, RangeValue.marshal_eq, Range.elems, optE, render, Elem.text]

theorem Range.unmarshal_marshal (h : Range) (wf : h.WellFormed) : Range.unmarshal [h.marshal] = .ok h := by
  have hok : ∀ e ∈ h.elems, e.Ok ';' := by
    simp only [Range.elems, List.forall_mem_append, List.forall_mem_singleton]
    exact ⟨h.value.elem_ok, forall_mem_optE_map
      (fun t => ⟨by key_ok, (utc_textOk t).noSemi, head?_ne_of_not_mem (utc_textOk t).noQuote⟩) _⟩
  have hnd : (h.elems.map Elem.key).Nodup := by
    obtain ⟨v, t⟩ := h
    cases v <;> cases t <;> simp [Range.elems, optE, Elem.key, RangeValue.key]
  simp only [Range.unmarshal, Range.unmarshalWith, Range.unmarshal1With]
  rw [Range.marshal_eq, keyValParse_render (by decide) (by decide) 0 _ hok hnd]
  obtain ⟨v, t⟩ := h
  cases t with
  | none => simp only [Range.elems, optE, Option.map, List.append_nil, List.map, Elem.pair, Range.steps, Range.step_value v wf.value]
  | some t =>
    simp only [Range.elems, optE, Option.map, List.cons_append, List.nil_append, List.map, Elem.pair, Range.steps,
      Range.step_value v wf.value, Range.step_time t (wf.time t rfl)]

end Rtsp.Hdr
