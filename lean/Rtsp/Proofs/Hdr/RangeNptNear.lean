import Rtsp.Proofs.Hdr.RangeNpt
/-
NPT seconds: what `C09.Range.npt_parse_near` (a plain decimal text within a quarter of a nanosecond of `d` ns
parses to `d`) rests on: the number `V` a digit string spells, a long fraction split after its ninth digit with the two
digits that follow as bounds on the remainder (`frac_split`), and the arithmetic of rounding (`near_cases`).
-/
namespace Rtsp.Hdr

abbrev V (l : Str) : Nat := Nat.ofDigitChars 10 l 0

theorem V_append (a b : Str) : V (a ++ b) = 10 ^ b.length * V a + V b := by
  unfold V
  rw [Nat.ofDigitChars_append, Nat.ofDigitChars_eq_ofDigitChars_zero]

theorem digit_val_le {c : Char} (h : c.isDigit = true) : c.toNat - 48 ≤ 9 := by
  simp only [Char.isDigit, Bool.and_eq_true, decide_eq_true_eq] at h
  have h2 : c.val.toNat ≤ 57 := by
    have := h.2; exact UInt32.le_iff_toNat_le.mp this
  show c.val.toNat - 48 ≤ 9
  omega

theorem V_lt : ∀ (l : Str), (∀ c ∈ l, c.isDigit = true) → V l < 10 ^ l.length
  | [], _ => by simp [V]
  | c :: cs, h => by
    have ih := V_lt cs (fun x hx => h x (by simp [hx]))
    have hc := digit_val_le (h c (by simp))
    have e : V (c :: cs) = 10 ^ cs.length * (c.toNat - 48) + V cs := by
      unfold V
      rw [Nat.ofDigitChars_cons, Nat.ofDigitChars_eq_ofDigitChars_zero]; simp
    rw [e, List.length_cons, Nat.pow_succ]
    have : 10 ^ cs.length * (c.toNat - 48) ≤ 10 ^ cs.length * 9 := Nat.mul_le_mul_left _ hc
    omega

/-- A fraction of nine digits or more, in units of `1/K` ns with `K = 10^(|f|-9)`: its first nine digits, and a rest
`R < K` that the two digits after the ninth bound from both sides (both sides read the digits of `R00`: as `100·R`, and as
`frac2 f` followed by `|f| - 9` more digits). -/
theorem frac_split (f : Str) (hf : ∀ c ∈ f, c.isDigit = true) (hlen : 9 ≤ f.length) :
    V f = frac9 f * 10 ^ (f.length - 9) + V (f.drop 9) ∧ V (f.drop 9) < 10 ^ (f.length - 9) ∧
    frac2 f * 10 ^ (f.length - 9) ≤ 100 * V (f.drop 9) ∧ 100 * V (f.drop 9) < (frac2 f + 1) * 10 ^ (f.length - 9) := by
  have hb : ∀ c ∈ f.drop 9, c.isDigit = true := fun c hc => hf c (List.mem_of_mem_drop hc)
  have h0 : ∀ c ∈ ['0', '0'], c.isDigit = true := by decide
  have hbl : (f.drop 9).length = f.length - 9 := List.length_drop
  have hl : ((f.drop 9 ++ ['0', '0']).drop 2).length = f.length - 9 := by simp
  have h1 : V (f.drop 9 ++ ['0', '0']) = 100 * V (f.drop 9) := V_append _ _
  have h2 := V_append ((f.drop 9 ++ ['0', '0']).take 2) ((f.drop 9 ++ ['0', '0']).drop 2)
  have hR := V_lt ((f.drop 9 ++ ['0', '0']).drop 2) fun c hc => (List.mem_append.mp (List.mem_of_mem_drop hc)).elim (hb c) (h0 c)
  have hV := V_lt (f.drop 9) hb
  rw [List.take_append_drop, h1, hl] at h2
  rw [hl] at hR
  rw [hbl] at hV
  refine ⟨?_, hV, ?_⟩
  · unfold frac9
    rw [List.take_append_of_le_length hlen, ← hbl, Nat.mul_comm, ← V_append, List.take_append_drop]
  · show V _ * _ ≤ _ ∧ _ < (V _ + 1) * _
    rw [h2, Nat.add_mul, Nat.one_mul, Nat.mul_comm (10 ^ _)]
    omega

/-- The arithmetic of rounding: `A` ns and a remainder `R < K` (units of `1/K` ns) with first two digits `T`. -/
theorem near_cases {K R T A d : Nat} (hR : R < K) (hT1 : T * K ≤ 100 * R) (hT2 : 100 * R < (T + 1) * K)
    (hlo : 4 * (d * K) < 4 * (A * K + R) + K) (hhi : 4 * (A * K + R) < 4 * (d * K) + K) :
    (T < 25 ∧ d = A) ∨ (75 ≤ T ∧ d = A + 1) := by
  rw [Nat.add_mul] at hT2
  rcases Nat.lt_trichotomy d A with h | rfl | h
  · have := Nat.mul_le_mul_right K (show d + 1 ≤ A from h)
    rw [Nat.add_mul] at this; omega
  · refine Or.inl ⟨Nat.lt_of_not_le fun ht => ?_, rfl⟩
    have := Nat.mul_le_mul_right K ht
    omega
  · by_cases h2 : d = A + 1
    · subst h2
      rw [Nat.add_mul] at hlo hhi
      refine Or.inr ⟨Nat.le_of_not_lt fun ht => ?_, rfl⟩
      have := Nat.mul_le_mul_right K (show T + 1 ≤ 75 from ht)
      rw [Nat.add_mul] at this; omega
    · have := Nat.mul_le_mul_right K (show A + 2 ≤ d by omega)
      rw [Nat.add_mul] at this; omega

end Rtsp.Hdr
