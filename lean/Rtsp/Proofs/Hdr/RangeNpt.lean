import Rtsp.Proofs.Hdr.RangeSmpte
/-
NPT times of a `Range`, exact decimal text; `parseFloatNs` on plain decimals `q` and `q.f`.
-/
namespace Rtsp.Hdr

theorem dropTrailingZeros_spec (s : Str) : ∃ k, s = dropTrailingZeros s ++ List.replicate k '0' := by
  refine ⟨(s.reverse.takeWhile (· = '0')).length, ?_⟩
  have hrep : (s.reverse.takeWhile (· = '0')).reverse = List.replicate (s.reverse.takeWhile (· = '0')).length '0' :=
    List.eq_replicate_iff.mpr ⟨List.length_reverse, fun c hc => by
      simpa using List.all_eq_true.mp List.all_takeWhile c (List.mem_reverse.mp hc)⟩
  rw [← hrep, dropTrailingZeros, ← List.reverse_append, List.takeWhile_append_dropWhile, List.reverse_reverse]

theorem dropTrailingZeros_sub (s : Str) : ∀ c ∈ dropTrailingZeros s, c ∈ s := by
  intro c hc
  unfold dropTrailingZeros at hc
  have := List.mem_reverse.mp hc
  exact List.mem_reverse.mp ((List.dropWhile_sublist _).mem this)

theorem ofDigitChars_zeros (k : Nat) : Nat.ofDigitChars 10 (List.replicate k '0') 0 = 0 := by
  rw [Nat.ofDigitChars_replicate_zero]; simp

theorem frac9_append_zeros (t : Str) (k : Nat) (h : t.length + k = 9) :
    frac9 t = Nat.ofDigitChars 10 (t ++ List.replicate k '0') 0 := by
  unfold frac9
  rw [List.take_append, List.take_of_length_le (by omega), List.take_replicate, show min (9 - t.length) 9 = k by omega]

theorem frac9_dropTrailingZeros {r : Nat} (h : r < 1000000000) :
    (dropTrailingZeros (padN 9 r)).length ≤ 9 ∧ frac9 (dropTrailingZeros (padN 9 r)) = r ∧
    (dropTrailingZeros (padN 9 r) = [] → r = 0) := by
  obtain ⟨k, hk⟩ := dropTrailingZeros_spec (padN 9 r)
  have hv : Nat.ofDigitChars 10 (padN 9 r) 0 = r := (padN_value 9 r).trans (Nat.mod_eq_of_lt h)
  have hl : (dropTrailingZeros (padN 9 r)).length + k = 9 := by
    have := congrArg List.length hk
    rwa [padN_length, List.length_append, List.length_replicate, eq_comm] at this
  refine ⟨by omega, ?_, ?_⟩
  · rw [frac9_append_zeros _ k hl, ← hk, hv]
  · intro he
    rw [hk, he, List.nil_append, ofDigitChars_zeros] at hv
    exact hv.symm

theorem nptMarshalTime_eq (d : Int) :
    nptMarshalTime d =
      if dropTrailingZeros (padN 9 (d.toNat % 1000000000)) = [] then dec (d.toNat / 1000000000)
      else dec (d.toNat / 1000000000) ++ '.' :: dropTrailingZeros (padN 9 (d.toNat % 1000000000)) := rfl

theorem floatAlphabet_digit {c : Char} (h : c.isDigit = true) : floatAlphabet c = true := by
  simp only [floatAlphabet, h, Bool.true_or]

theorem plain_filters {s : Str} (h : ∀ c ∈ s, c.isDigit = true ∨ c = '.') :
    s.any (fun c => !floatAlphabet c) = false ∧ s.all (fun c => c.isDigit || c = '.') = true := by
  rw [List.any_eq_false, List.all_eq_true]
  refine ⟨fun c hc => ?_, fun c hc => ?_⟩
  · rcases h c hc with h | rfl
    · simp only [floatAlphabet_digit h, Bool.not_true, Bool.false_eq_true, not_false_eq_true]
    · decide
  · rcases h c hc with h | h <;> simp [h]

theorem parseFloatNs_dec {q : Nat} (hq : q < 1000000) : parseFloatNs (dec q) = .ok (q * 1000000000) := by
  obtain ⟨hany, hall⟩ := plain_filters (s := dec q) fun c hc => Or.inl (dec_isDigit hc)
  unfold parseFloatNs
  simp only [hany, hall, splitOn_noSep (not_mem_dec (c := '.') (by decide) q), dec_ne_nil, ofDigitChars_dec, hq,
    if_true, if_false, Bool.false_eq_true]

theorem parseFloatNs_dec_frac {q : Nat} {f : Str} (hq : q < 1000000) (hf : ∀ c ∈ f, c.isDigit = true) :
    parseFloatNs (dec q ++ '.' :: f) =
      if f.length ≤ 9 then .ok (q * 1000000000 + frac9 f)
      else if frac2 f < 25 then .ok (q * 1000000000 + frac9 f)
      else if 75 ≤ frac2 f then .ok (q * 1000000000 + frac9 f + 1)
      else .unm := by
  have hdf : '.' ∉ f := fun hm => absurd (hf _ hm) (by decide)
  obtain ⟨hany, hall⟩ := plain_filters (s := dec q ++ '.' :: f) fun c hc => by
    rcases List.mem_append.mp hc with hc | hc
    · exact Or.inl (dec_isDigit hc)
    · rcases List.mem_cons.mp hc with hc | hc
      · exact Or.inr hc
      · exact Or.inl (hf c hc)
  unfold parseFloatNs
  simp only [hany, hall, splitOn_append _ (not_mem_dec (c := '.') (by decide) q), splitOn_noSep hdf, dec_ne_nil,
    ofDigitChars_dec, hq, false_and, if_true, if_false, Bool.false_eq_true]

theorem secsToDur_zero : secsToDur 0 = 0 := by decide

theorem nptMarshalTime_chars (d : Int) : ∀ c ∈ nptMarshalTime d, c.isDigit = true ∨ c = '.' := by
  intro c hc
  have hr : d.toNat % 1000000000 < 1000000000 := Nat.mod_lt _ (by decide)
  rw [nptMarshalTime_eq] at hc
  split at hc
  · exact Or.inl (dec_isDigit hc)
  · simp only [List.mem_append, List.mem_cons] at hc
    rcases hc with hc | hc | hc
    · exact Or.inl (dec_isDigit hc)
    · exact Or.inr hc
    · exact Or.inl (padN_isDigit 9 _ c (dropTrailingZeros_sub _ c hc))

theorem nptMarshalTime_ne_nil (d : Int) : nptMarshalTime d ≠ [] := by
  have := dec_ne_nil (d.toNat / 1000000000)
  rw [nptMarshalTime_eq]; split <;> simp [this]

theorem nptTime_marshal {d : Int} (h0 : 0 ≤ d) (h1 : d < 1000000000000000) : nptTime (nptMarshalTime d) = .ok d := by
  have hr : d.toNat % 1000000000 < 1000000000 := Nat.mod_lt _ (by decide)
  have hq : d.toNat / 1000000000 < 1000000 := by omega
  obtain ⟨fl, fv, fz⟩ := frac9_dropTrailingZeros hr
  have hnocolon : ':' ∉ nptMarshalTime d := fun hm =>
    (nptMarshalTime_chars d _ hm).elim (fun h => absurd h (by decide)) (fun h => absurd h (by decide))
  have hpf : parseFloatNs (nptMarshalTime d) = .ok d.toNat := by
    rw [nptMarshalTime_eq]
    split
    · rename_i hf
      have := Nat.div_add_mod' d.toNat 1000000000
      rw [fz hf, Nat.add_zero] at this
      rw [parseFloatNs_dec hq, this]
    · rw [parseFloatNs_dec_frac hq fun c hc => padN_isDigit 9 _ c (dropTrailingZeros_sub _ c hc), if_pos fl, fv,
        Nat.div_add_mod']
  have hw : wrap64 (Int.ofNat d.toNat + 0) = d := by
    rw [show Int.ofNat d.toNat = d from Int.toNat_of_nonneg h0, Int.add_zero, wrap64_small (by omega) (by omega)]
  simp only [nptTime, splitOn_noSep hnocolon, hpf, secsToDur_zero, hw]

end Rtsp.Hdr
