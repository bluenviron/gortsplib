import Rtsp.Proofs.Hdr.KeyVal
import Rtsp.Model.Headers.RtpInfo
/-
Round trip of `RTP-Info` (pkg/headers/rtp_info.go).
-/
namespace Rtsp.Hdr
open Rtsp.Facts

structure RtpInfoEntry.WellFormed (e : RtpInfoEntry) : Prop where
  noSemi : ';' ∉ e.url
  noComma : ',' ∉ e.url
  noQuote : e.url.head? ≠ some '"'
  seq : ∀ n, e.seq = some n → n < 2 ^ 16
  ts : ∀ n, e.ts = some n → n < 2 ^ 32

instance RtpInfoEntry.decWellFormed (e : RtpInfoEntry) : Decidable e.WellFormed :=
  decidable_of_iff' _ ⟨fun w => And.intro w.noSemi <| And.intro w.noComma <| And.intro w.noQuote <| And.intro w.seq w.ts,
    fun ⟨a, b, c, d, f⟩ => ⟨a, b, c, d, f⟩⟩

def RtpInfoEntry.elems (e : RtpInfoEntry) : List Elem :=
  [Elem.plain cs!"url" e.url] ++ optE cs!"seq" (e.seq.map dec) ++ optE cs!"rtptime" (e.ts.map dec)

theorem RtpInfoEntry.marshal_eq (e : RtpInfoEntry) : e.marshal = render ';' 0 e.elems := by
  rw [← joinWith_texts, RtpInfoEntry.marshal]
  simp only [RtpInfoEntry.elems, List.map_append, optE_text]
  rfl

theorem RtpInfoEntry.steps_elems (e : RtpInfoEntry) (wf : e.WellFormed) :
    RtpInfoEntry.steps ({}, false) (e.elems.map Elem.pair) = .ok (e, true) := by
  obtain ⟨u, s, t⟩ := e
  have hs := fun n h => parseUint_dec (bits := Hdr.seqBits) (wf.seq n h)
  have ht := fun n h => parseUint_dec (bits := Hdr.rtptimeBits) (wf.ts n h)
  rcases s with _ | s <;> rcases t with _ | t <;>
    simp +decide only [RtpInfoEntry.elems, optE, Option.map, List.map, List.cons_append, List.nil_append, List.append_nil,
      Elem.pair, RtpInfoEntry.steps, hs, ht, if_true, if_false]

theorem RtpInfoEntry.elems_ok (e : RtpInfoEntry) (wf : e.WellFormed) : ∀ x ∈ e.elems, x.Ok ';' := by
  simp only [RtpInfoEntry.elems, List.forall_mem_append, List.forall_mem_singleton]
  exact ⟨⟨⟨by key_ok, wf.noSemi, wf.noQuote⟩, forall_mem_optE_map (fun n => (tame_dec n).plain_ok (by key_ok) (by decide)) _⟩,
    forall_mem_optE_map (fun n => (tame_dec n).plain_ok (by key_ok) (by decide)) _⟩

theorem RtpInfoEntry.unmarshal_marshal (e : RtpInfoEntry) (wf : e.WellFormed) :
    RtpInfoEntry.unmarshalWith keyValParse e.marshal = .ok e := by
  have hok := e.elems_ok wf
  have hnd : (e.elems.map Elem.key).Nodup := by
    refine List.Sublist.nodup (l₂ := [cs!"url"] ++ [cs!"seq"] ++ [cs!"rtptime"]) ?_ (by decide)
    simp only [RtpInfoEntry.elems, List.map_append]
    exact ((List.Sublist.refl _).append (optE_keys_sublist ..)).append (optE_keys_sublist ..)
  unfold RtpInfoEntry.unmarshalWith
  rw [RtpInfoEntry.marshal_eq, trimLeftSp_of_head (render_head hok),
    keyValParse_render (by decide) (by decide) 0 _ hok hnd]
  simp only [e.steps_elems wf]

theorem RtpInfoEntry.marshal_noComma (e : RtpInfoEntry) (wf : e.WellFormed) : ',' ∉ e.marshal := by
  obtain ⟨u, s, t⟩ := e
  have h1 : ∀ n, ',' ∉ dec n := fun n => (tame_dec n).not_mem (by decide)
  have hu : ',' ∉ u := wf.noComma
  cases s <;> cases t <;> simp [RtpInfoEntry.marshal, optField, joinWith, hu, h1]

theorem RtpInfo.unmarshalEach_marshal : ∀ (es : List RtpInfoEntry), (∀ e ∈ es, e.WellFormed) →
    RtpInfo.unmarshalEach keyValParse (es.map RtpInfoEntry.marshal) = .ok es
  | [], _ => rfl
  | e :: es, h => by
    simp only [List.map_cons, RtpInfo.unmarshalEach]
    rw [RtpInfoEntry.unmarshal_marshal e (h e (by simp)),
        RtpInfo.unmarshalEach_marshal es (fun x hx => h x (by simp [hx]))]

/-- a well-formed RTP-Info header has at least one entry -/
structure RtpInfo.WellFormed (h : List RtpInfoEntry) : Prop where
  ne : h ≠ []
  entries : ∀ e ∈ h, e.WellFormed

instance RtpInfo.decWellFormed (h : List RtpInfoEntry) : Decidable (RtpInfo.WellFormed h) :=
  decidable_of_iff (h ≠ [] ∧ ∀ e ∈ h, e.WellFormed) ⟨fun ⟨a, b⟩ => ⟨a, b⟩, fun ⟨a, b⟩ => ⟨a, b⟩⟩

example : RtpInfo.WellFormed [{ url := cs!"rtsp://h/a b", seq := some 65535, ts := some 4294967295 }, { url := [] }] := by decide

theorem RtpInfo.unmarshal_marshal (h : List RtpInfoEntry) (wf : RtpInfo.WellFormed h) :
    RtpInfo.unmarshal [RtpInfo.marshal h] = .ok h := by
  simp only [RtpInfo.unmarshal, RtpInfo.unmarshalWith, RtpInfo.marshal]
  rw [splitOn_joinWith _ _ wf.ne fun e he => RtpInfoEntry.marshal_noComma e (wf.entries e he)]
  exact RtpInfo.unmarshalEach_marshal h wf.entries

end Rtsp.Hdr
