import Rtsp.Model.Headers.Basic
/-
What every header proof rests on (core Lean only).  The scanners of Model/Headers/Basic.lean (`splitOn`, `cut`,
`trimLeftSp`) on a text put together from parts that do not contain the separator; `Over p s` (written in a class of
characters) is how a part shows that.  Fixed-width digits `digitsBE` with the Horner lemma `foldl_digitsBE` (decimal
padding and the eight hex digits of an SSRC are instances), and the decimal printer `dec` read back by `parseUint`.
-/
namespace Rtsp.Hdr

instance decForallSome {α : Type} (o : Option α) (P : α → Prop) [DecidablePred P] : Decidable (∀ a, o = some a → P a) :=
  match o with
  | none => isTrue (by intro a h; cases h)
  | some x => if h : P x then isTrue (by intro a e; cases e; exact h) else isFalse (fun H => h (H x rfl))

/-- `ret` is how the parser wraps a value (`Res.ok`, `some`). -/
theorem injOn_of_parse_print {α β γ : Type} {W : α → Prop} {print : α → β} {parse : β → γ} {ret : α → γ}
    (hret : ∀ a b, ret a = ret b → a = b) (h : ∀ a, W a → parse (print a) = ret a) {a b : α} (wa : W a) (wb : W b)
    (e : print a = print b) : a = b :=
  hret a b (by rw [← h a wa, e, h b wb])

theorem head?_ne_of_not_mem {c : Char} {s : Str} (h : c ∉ s) : s.head? ≠ some c :=
  fun e => h (List.mem_of_mem_head? e)

def Over (p : Char → Bool) (s : Str) : Prop := ∀ c ∈ s, p c = true

instance (p : Char → Bool) (s : Str) : Decidable (Over p s) := by unfold Over; infer_instance

theorem Over.not_mem {p : Char → Bool} {s : Str} (h : Over p s) {c : Char} (hc : p c = false) : c ∉ s :=
  fun hm => by rw [h c hm] at hc; cases hc

theorem Over.append {p : Char → Bool} {a b : Str} (ha : Over p a) (hb : Over p b) : Over p (a ++ b) :=
  fun c hc => (List.mem_append.mp hc).elim (ha c) (hb c)

theorem Over.mono {p q : Char → Bool} (hpq : ∀ c, p c = true → q c = true) {s : Str} (h : Over p s) : Over q s :=
  fun c hc => hpq c (h c hc)

theorem splitOn_ne_nil (sep : Char) (s : Str) : splitOn sep s ≠ [] := by
  induction s with
  | nil => simp [splitOn]
  | cons c cs ih =>
    simp only [splitOn]
    split
    · simp
    · split <;> simp

theorem splitOn_noSep {sep : Char} {a : Str} (h : sep ∉ a) : splitOn sep a = [a] := by
  induction a with
  | nil => rfl
  | cons c cs ih =>
    rw [List.mem_cons, not_or] at h
    simp [splitOn, Ne.symm h.1, ih h.2]

theorem splitOn_append {sep : Char} {a : Str} (b : Str) (h : sep ∉ a) :
    splitOn sep (a ++ sep :: b) = a :: splitOn sep b := by
  induction a with
  | nil => simp [splitOn]
  | cons c cs ih =>
    rw [List.mem_cons, not_or] at h
    simp [splitOn, Ne.symm h.1, ih h.2]

theorem cut_append {sep : Char} {a : Str} (b : Str) (h : sep ∉ a) : cut sep (a ++ sep :: b) = some (a, b) := by
  induction a with
  | nil => simp [cut]
  | cons c cs ih =>
    rw [List.mem_cons, not_or] at h
    simp [cut, Ne.symm h.1, ih h.2]

theorem cut_none {sep : Char} {a : Str} (h : sep ∉ a) : cut sep a = none := by
  induction a with
  | nil => rfl
  | cons c cs ih =>
    rw [List.mem_cons, not_or] at h
    simp [cut, Ne.symm h.1, ih h.2]

theorem trimLeftSp_of_head {s : Str} (h : s.head? ≠ some ' ') : trimLeftSp s = s := by
  cases s with
  | nil => rfl
  | cons c cs =>
    have : c ≠ ' ' := by simpa using h
    unfold trimLeftSp
    split
    · rename_i heq; cases heq; exact absurd rfl this
    · rfl

theorem trimLeftSp_replicate (n : Nat) {s : Str} (h : s.head? ≠ some ' ') :
    trimLeftSp (List.replicate n ' ' ++ s) = s := by
  induction n with
  | zero => simpa using trimLeftSp_of_head h
  | succ n ih => simp [List.replicate_succ, trimLeftSp, ih]

/-- the `w` low base-`b` digits of `n`, most significant first -/
def digitsBE (b : Nat) : Nat → Nat → List Nat
  | 0, _ => []
  | w + 1, n => digitsBE b w (n / b) ++ [n % b]

theorem digitsBE_length (b : Nat) : ∀ w n, (digitsBE b w n).length = w
  | 0, _ => rfl
  | w + 1, n => by simp [digitsBE, digitsBE_length b w]

theorem digitsBE_lt {b : Nat} (hb : 0 < b) : ∀ (w n : Nat), ∀ d ∈ digitsBE b w n, d < b
  | 0, _, _, h => by cases h
  | w + 1, n, d, h => by
    rcases List.mem_append.mp h with h | h
    · exact digitsBE_lt hb w _ d h
    · rw [List.mem_singleton.mp h]; exact Nat.mod_lt _ hb

theorem foldl_digitsBE (b : Nat) : ∀ (w n acc : Nat),
    (digitsBE b w n).foldl (fun a d => a * b + d) acc = acc * b ^ w + n % b ^ w
  | 0, n, acc => by simp [digitsBE, Nat.mod_one]
  | w + 1, n, acc => by
    simp only [digitsBE, List.foldl_append, List.foldl_cons, List.foldl_nil, foldl_digitsBE b w]
    rw [Nat.pow_succ', Nat.mod_mul, Nat.add_mul, Nat.mul_assoc, Nat.mul_comm (b ^ w) b, Nat.mul_comm _ b]
    omega

theorem dec_ne_nil (n : Nat) : dec n ≠ [] := Nat.toDigits_ne_nil

theorem dec_isDigit {n : Nat} {c : Char} (h : c ∈ dec n) : c.isDigit = true :=
  Nat.isDigit_of_mem_toDigits (by decide) (by decide) h

theorem dec_all_isDigit (n : Nat) : (dec n).all Char.isDigit = true := by
  rw [List.all_eq_true]; intro c hc; exact dec_isDigit hc

theorem ofDigitChars_dec (n : Nat) : Nat.ofDigitChars 10 (dec n) 0 = n := Nat.ofDigitChars_ten_toDigits

theorem parseUint_dec {bits n : Nat} (h : n < 2 ^ bits) : parseUint bits (dec n) = some n := by
  simp [parseUint, dec_ne_nil, dec_all_isDigit, ofDigitChars_dec, h]

theorem over_dec (n : Nat) : Over Char.isDigit (dec n) := fun _ => dec_isDigit

theorem not_mem_dec {c : Char} (hc : c.isDigit = false) (n : Nat) : c ∉ dec n := (over_dec n).not_mem hc

end Rtsp.Hdr
