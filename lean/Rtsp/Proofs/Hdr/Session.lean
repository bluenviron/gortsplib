import Rtsp.Proofs.Hdr.KeyVal
import Rtsp.Model.Headers.Session
/-
Round trip of `Session` (pkg/headers/session.go).
-/
namespace Rtsp.Hdr
open Rtsp.Facts

structure Session.WellFormed (h : Session) : Prop where
  noSemi : ';' ∉ h.session
  timeout : ∀ t, h.timeout = some t → t < 2 ^ 32

instance Session.decWellFormed (h : Session) : Decidable h.WellFormed :=
  decidable_of_iff (';' ∉ h.session ∧ ∀ t, h.timeout = some t → t < 2 ^ 32)
    ⟨fun ⟨a, b⟩ => ⟨a, b⟩, fun ⟨a, b⟩ => ⟨a, b⟩⟩

example : Session.WellFormed { session := cs!"abc 12", timeout := some 60 } := by decide

theorem Session.unmarshal_marshal (h : Session) (wf : h.WellFormed) :
    Session.unmarshal [h.marshal] = .ok h := by
  obtain ⟨id, to⟩ := h
  cases to with
  | none =>
    simp only [Session.marshal, Session.unmarshal, Session.unmarshalWith, Session.unmarshal1With]
    rw [cut_none wf.noSemi]
  | some t =>
    have ht : t < 2 ^ 32 := wf.timeout t rfl
    have hm : Session.marshal { session := id, timeout := some t } = id ++ ';' :: (render ';' 0 [Elem.plain cs!"timeout" (dec t)]) := by
      simp [Session.marshal, render, Elem.text]
    have hok : ∀ e ∈ [Elem.plain cs!"timeout" (dec t)], e.Ok ';' := by
      intro e he; rw [List.mem_singleton.mp he]
      exact (tame_dec t).plain_ok (by key_ok) (by decide)
    have hkv := keyValParse_render (sep := ';') (by decide) (by decide) 0 _ hok (by simp)
    have htrim : trimLeftSp (render ';' 0 [Elem.plain cs!"timeout" (dec t)]) = render ';' 0 [Elem.plain cs!"timeout" (dec t)] :=
      trimLeftSp_of_head (render_head hok)
    simp only [Session.unmarshal, Session.unmarshalWith, Session.unmarshal1With, hm]
    rw [cut_append _ wf.noSemi]
    simp only [htrim, hkv, List.map, Elem.pair, Session.steps]
    have : parseUint Hdr.timeoutBits (dec t) = some t := parseUint_dec ht
    simp [this]

end Rtsp.Hdr
