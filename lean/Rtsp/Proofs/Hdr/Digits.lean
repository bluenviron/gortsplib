import Rtsp.Proofs.Hdr.Basic
import Rtsp.Model.Headers.Range
/-
Decimal numerals with padding: `pad2`, and `padN w` for `pad4` and the nine-digit fraction.
-/
namespace Rtsp.Hdr

theorem dec_lt10 {n : Nat} (h : n < 10) : dec n = [Nat.digitChar n] := Nat.toDigits_of_lt_base h

theorem dec_step {n : Nat} (h : 10 ≤ n) : dec n = dec (n / 10) ++ [Nat.digitChar (n % 10)] := by
  have h2 : n % 10 < 10 := Nat.mod_lt _ (by decide)
  have := Nat.toDigits_append_toDigits (b := 10) (n := n / 10) (by decide) (by omega) h2
  rw [Nat.toDigits_of_lt_base h2, show 10 * (n / 10) + n % 10 = n by omega] at this
  exact this.symm

theorem digitChar_isDigit {d : Nat} (h : d < 10) : (Nat.digitChar d).isDigit = true := by
  simp [Nat.isDigit_digitChar, h]
theorem digitChar_val : ∀ d, d < 10 → (Nat.digitChar d).toNat - 48 = d := fun _ => Nat.toNat_digitChar_sub_48_of_lt_ten
theorem digitChar_ne_zero_char : ∀ d, d < 10 → d ≠ 0 → Nat.digitChar d ≠ '0' := by decide

theorem ofDigitChars_map_digitChar (ds : List Nat) (h : ∀ d ∈ ds, d < 10) (acc : Nat) :
    Nat.ofDigitChars 10 (ds.map Nat.digitChar) acc = ds.foldl (fun a d => a * 10 + d) acc := by
  induction ds generalizing acc with
  | nil => rfl
  | cons d ds ih =>
    rw [List.map_cons, Nat.ofDigitChars_cons, ih (fun x hx => h x (by simp [hx])), List.foldl_cons,
      show '0'.toNat = 48 from rfl, digitChar_val d (h d (by simp)), Nat.mul_comm]

/-- the zero-padded decimal numeral of width `w` (the `w` low digits when `n` has more) -/
def padN (w n : Nat) : Str := (List.replicate w '0' ++ dec n).drop (dec n).length

theorem padN_succ (w n : Nat) : padN (w + 1) n = padN w (n / 10) ++ [Nat.digitChar (n % 10)] := by
  unfold padN
  by_cases h : n < 10
  · have h0 : n / 10 = 0 := by omega
    have hz : dec 0 = ['0'] := rfl
    rw [dec_lt10 h, h0, hz, Nat.mod_eq_of_lt h, ← List.replicate_succ']
    rfl
  · rw [dec_step (by omega : 10 ≤ n), List.length_append, ← List.append_assoc,
      List.drop_append_of_le_length (by simp; omega), List.replicate_succ, List.cons_append]
    rfl

theorem padN_eq (w n : Nat) : padN w n = (digitsBE 10 w n).map Nat.digitChar := by
  induction w generalizing n with
  | zero => exact List.drop_length
  | succ w ih => rw [padN_succ, ih, digitsBE, List.map_append]; rfl

theorem padN_length (w n : Nat) : (padN w n).length = w := by
  rw [padN_eq, List.length_map, digitsBE_length]

theorem padN_isDigit (w n : Nat) : Over Char.isDigit (padN w n) := by
  intro c hc
  rw [padN_eq] at hc
  obtain ⟨d, hd, rfl⟩ := List.mem_map.mp hc
  exact digitChar_isDigit (digitsBE_lt (by decide) w n d hd)

theorem padN_value (w n : Nat) : Nat.ofDigitChars 10 (padN w n) 0 = n % 10 ^ w := by
  rw [padN_eq, ofDigitChars_map_digitChar _ (digitsBE_lt (by decide) w n), foldl_digitsBE, Nat.zero_mul, Nat.zero_add]

theorem pad2_lt100 {n : Nat} (h : n < 100) : pad2 n = [Nat.digitChar (n / 10), Nat.digitChar (n % 10)] := by
  unfold pad2
  by_cases h10 : n < 10
  · have : n / 10 = 0 := by omega
    have h2 : n % 10 = n := by omega
    simp [h10, dec_lt10 h10, this, h2]
  · have hq : n / 10 < 10 := by omega
    simp [h10, dec_step (by omega : 10 ≤ n), dec_lt10 hq]

theorem pad2_ge {n : Nat} (h : 10 ≤ n) : pad2 n = dec n := by
  unfold pad2; simp [show ¬ n < 10 by omega]

theorem pad2_isDigit (n : Nat) : Over Char.isDigit (pad2 n) := by
  unfold pad2; split
  · exact Over.append (a := ['0']) (by decide) (over_dec n)
  · exact over_dec n

theorem parseUint_pad2 {bits n : Nat} (h : n < 2 ^ bits) : parseUint bits (pad2 n) = some n := by
  unfold pad2
  by_cases h10 : n < 10
  · simp only [h10, if_true]
    have hd := dec_all_isDigit n
    have hv := ofDigitChars_dec n
    simp only [parseUint]
    have e1 : ('0' :: dec n) ≠ [] := by simp
    have e2 : ('0' :: dec n).all Char.isDigit = true := by simp [hd]
    have e3 : Nat.ofDigitChars 10 ('0' :: dec n) 0 = n := by
      rw [Nat.ofDigitChars_cons]; simpa using hv
    simp [e1, e2, e3, h]
  · simp only [h10, if_false]; exact parseUint_dec h

end Rtsp.Hdr
