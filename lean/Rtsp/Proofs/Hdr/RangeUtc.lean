import Rtsp.Proofs.Hdr.Digits
/-
UTC times of a `Range`, layout `20060102T150405Z`.
-/
namespace Rtsp.Hdr

/-- a civil time that the layout `20060102T150405Z` can print: year 0..9999, valid calendar day,
whole seconds -/
structure Civil.WF (c : Civil) : Prop where
  year : c.year < 10000
  month : 1 ≤ c.month ∧ c.month ≤ 12
  day : 1 ≤ c.day ∧ c.day ≤ daysIn c.month c.year
  hour : c.hour < 24
  min : c.min < 60
  sec : c.sec < 60
  nsec : c.nsec = 0

instance Civil.decWF (c : Civil) : Decidable c.WF :=
  decidable_of_iff' _ ⟨fun w => And.intro w.year <| And.intro w.month <| And.intro w.day <| And.intro w.hour <| And.intro w.min <|
      And.intro w.sec w.nsec,
    fun ⟨a, b, c, d, e, f, g⟩ => ⟨a, b, c, d, e, f, g⟩⟩

example : Civil.WF { year := 2024, month := 2, day := 29, hour := 23, min := 59, sec := 59 } := by decide
example : ¬ Civil.WF { year := 1900, month := 2, day := 29 } := by decide

theorem daysIn_le (m y : Nat) : daysIn m y ≤ 31 := by
  unfold daysIn; split
  · split <;> omega
  · split <;> omega

theorem d2_digitChar {n : Nat} (h : n < 100) : d2 (Nat.digitChar (n / 10)) (Nat.digitChar (n % 10)) = n := by
  have h1 := digitChar_val (n / 10) (by omega)
  have h2 := digitChar_val (n % 10) (by omega)
  simp only [d2, h1, h2]; omega

theorem marshalUTC_ne_nil (c : Civil) : marshalUTC c ≠ [] := by
  simp [marshalUTC]

theorem pad4_digits (n : Nat) : pad4 n =
    [Nat.digitChar (n / 10 / 10 / 10 % 10), Nat.digitChar (n / 10 / 10 % 10), Nat.digitChar (n / 10 % 10), Nat.digitChar (n % 10)] :=
  padN_eq 4 n

theorem parseUTC_marshalUTC (c : Civil) (wf : c.WF) : parseUTC (marshalUTC c) = .ok c := by
  obtain ⟨y, mo, d, h, mi, s, ns⟩ := c
  obtain ⟨hy, hmo, hd, hh, hmi, hs, hns⟩ := wf
  simp only at hy hmo hd hh hmi hs hns
  subst hns
  have hdl := daysIn_le mo y
  have v1 : Nat.ofDigitChars 10 (pad4 y) 0 = y := (padN_value 4 y).trans (Nat.mod_eq_of_lt hy)
  rw [pad4_digits] at v1
  simp only [marshalUTC, pad4_digits, pad2_lt100 (show mo < 100 by omega), pad2_lt100 (show d < 100 by omega),
    pad2_lt100 (show h < 100 by omega), pad2_lt100 (show mi < 100 by omega), pad2_lt100 (show s < 100 by omega),
    List.cons_append, List.nil_append, parseUTC, utcTail, v1]
  -- the fourteen characters are digits, and `d2` reads each pair back
  simp (disch := omega) only [List.all_cons, List.all_nil, digitChar_isDigit, Bool.and_self, if_true, d2_digitChar]
  simp [hmo, hd, hh, hmi, hs]

end Rtsp.Hdr
