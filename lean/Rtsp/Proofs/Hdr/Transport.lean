import Rtsp.Proofs.Hdr.KeyVal
import Rtsp.Model.Headers.Transport
/-
Round trip of `Transport` and `Transports` (pkg/headers/transport.go, transports.go).
-/
namespace Rtsp.Hdr
open Rtsp.Facts

def PairOk (p : Nat × Nat) : Prop := p.1 < 2 ^ 31 ∧ p.2 < 2 ^ 31

theorem parsePorts_portsStr {p : Nat × Nat} (h : PairOk p) : parsePorts (portsStr p) = .ok p := by
  have h1 : '-' ∉ dec p.1 := not_mem_dec (by decide) p.1
  have h2 : '-' ∉ dec p.2 := not_mem_dec (by decide) p.2
  have pa : parseUint Hdr.portBits (dec p.1) = some p.1 := parseUint_dec h.1
  have pb : parseUint Hdr.portBits (dec p.2) = some p.2 := parseUint_dec h.2
  simp only [parsePorts, portsStr]
  rw [splitOn_append _ h1, splitOn_noSep h2]
  simp [pa, pb]

theorem hexVal_hexDigitUpper : ∀ d, d < 16 → hexVal (hexDigitUpper d) = some d := by decide
theorem hexDigitUpper_alnum : ∀ d, d < 16 → (hexDigitUpper d).isAlphanum = true := by decide

theorem hexNat_map_hexDigitUpper (ds : List Nat) (h : ∀ d ∈ ds, d < 16) (acc : Nat) :
    hexNat (ds.map hexDigitUpper) acc = some (ds.foldl (fun a d => a * 16 + d) acc) := by
  induction ds generalizing acc with
  | nil => rfl
  | cons d ds ih =>
    simp only [List.map_cons, hexNat, hexVal_hexDigitUpper d (h d (by simp)), List.foldl_cons]
    exact ih (fun x hx => h x (by simp [hx])) _

theorem hex8Upper_eq (n : Nat) : hex8Upper n = (digitsBE 16 8 n).map hexDigitUpper := by
  simp only [digitsBE, Nat.div_div_eq_div_mul, Nat.reduceMul, List.nil_append, List.cons_append, List.map, hex8Upper]

theorem over_hex8Upper (n : Nat) : Over Char.isAlphanum (hex8Upper n) := fun c hc => by
  rw [hex8Upper_eq] at hc
  obtain ⟨d, hd, rfl⟩ := List.mem_map.mp hc
  exact hexDigitUpper_alnum d (digitsBE_lt (by decide) 8 n d hd)

theorem parseSsrc_of_length8 {v : Str} (h0 : v.head? ≠ some ' ') (hl : v.length = 8) : parseSsrc v = hexNat v 0 := by
  unfold parseSsrc
  simp only [trimLeftSp_of_head h0, hl, show ¬ (8 % 2 ≠ 0) by decide, if_false, show 8 ≤ 2 * Hdr.ssrcMaxBytes by decide, if_true]

theorem parseSsrc_hex8Upper {n : Nat} (h : n < 2 ^ 32) : parseSsrc (hex8Upper n) = some n := by
  rw [parseSsrc_of_length8 (head?_ne_of_not_mem ((over_hex8Upper n).not_mem (by decide))) rfl, hex8Upper_eq,
    hexNat_map_hexDigitUpper _ (digitsBE_lt (by decide) 8 n), foldl_digitsBE, Nat.mod_eq_of_lt h, Nat.zero_mul, Nat.zero_add]

def HostOk (s : Str) : Prop := s ≠ [] ∧ ';' ∉ s ∧ s.head? ≠ some '"'

/-- The grammar of a Transport value that `Marshal` can express and `Unmarshal` reads back:
host fields are non-empty, contain no `;` and do not start with a quote; port numbers fit 31 bits
(`ParseUint(…, 31)`), ttl and ssrc 32 bits. -/
structure Transport.WellFormed (h : Transport) : Prop where
  source : ∀ s, h.source = some s → HostOk s
  destination : ∀ s, h.destination = some s → HostOk s
  interleaved : ∀ p, h.interleaved = some p → PairOk p
  ttl : ∀ n, h.ttl = some n → n < 2 ^ 32
  ports : ∀ p, h.ports = some p → PairOk p
  clientPorts : ∀ p, h.clientPorts = some p → PairOk p
  serverPorts : ∀ p, h.serverPorts = some p → PairOk p
  ssrc : ∀ n, h.ssrc = some n → n < 2 ^ 32

instance decPairOk : DecidablePred PairOk := fun p => by unfold PairOk; infer_instance
instance decHostOk : DecidablePred HostOk := fun s => by unfold HostOk; infer_instance

instance Transport.decWellFormed (h : Transport) : Decidable h.WellFormed :=
  decidable_of_iff' _ ⟨fun w => And.intro w.source <| And.intro w.destination <| And.intro w.interleaved <| And.intro w.ttl <|
      And.intro w.ports <| And.intro w.clientPorts <| And.intro w.serverPorts w.ssrc,
    fun ⟨a, b, c, d, e, f, g, i⟩ => ⟨a, b, c, d, e, f, g, i⟩⟩

example : Transport.WellFormed {
    profile := .savp, protocol := .tcp, delivery := some .multicast, source := some cs!"10.0.0.1",
    interleaved := some (0, 1), ttl := some 4294967295, clientPorts := some (2147483647, 0), ssrc := some 0xDEADBEEF,
    mode := some .record } := by
  decide

def delStr : Delivery → Str
  | .unicast => cs!"unicast"
  | .multicast => cs!"multicast"

def modeStr : Mode → Str
  | .play => cs!"play"
  | .record => cs!"record"

def optB : Option Str → List Elem
  | some k => [Elem.bare k]
  | none => []

def Transport.elems (h : Transport) : List Elem :=
  [Elem.bare (profileStr h)]
  ++ optB (h.delivery.map delStr)
  ++ optE cs!"source" h.source
  ++ optE cs!"destination" h.destination
  ++ optE cs!"interleaved" (h.interleaved.map portsStr)
  ++ optE cs!"port" (h.ports.map portsStr)
  ++ optE cs!"ttl" (h.ttl.map dec)
  ++ optE cs!"client_port" (h.clientPorts.map portsStr)
  ++ optE cs!"server_port" (h.serverPorts.map portsStr)
  ++ optE cs!"ssrc" (h.ssrc.map hex8Upper)
  ++ optE cs!"mode" (h.mode.map modeStr)

theorem optB_text (o : Option Str) : (optB o).map Elem.text = optField [] o := by
  cases o <;> rfl

theorem Transport.marshal_eq (h : Transport) : h.marshal = render ';' 0 h.elems := by
  rw [← joinWith_texts, Transport.marshal]
  simp only [Transport.elems, List.map_append, optE_text, optB_text]
  rfl

theorem Transport.steps_append (st : Transport × Bool) (a b : List (Str × Str)) :
    Transport.steps st (a ++ b) =
      match Transport.steps st a with
      | .ok st' => Transport.steps st' b
      | .err e => .err e
      | .unm => .unm := by
  fun_induction Transport.steps st a <;> simp only [List.nil_append, List.cons_append, Transport.steps, *]

theorem Transport.steps_optE {α : Type} {k : Str} {f : α → Str} {st : Transport × Bool} (upd : Option α → Transport × Bool)
    (o : Option α) (hn : upd none = st) (hs : ∀ x, o = some x → Transport.step st k (f x) = .ok (upd (some x))) :
    Transport.steps st ((optE k (o.map f)).map Elem.pair) = .ok (upd o) := by
  cases o with
  | none => rw [hn]; rfl
  | some x => simp only [Option.map, optE, List.map, Elem.pair, Transport.steps, hs x rfl]

/-! Each optional field, read into an arbitrary state.  Literal keys are compared by evaluation. -/

theorem step_profile (h0 h : Transport) (pf : Bool) :
    Transport.step (h0, pf) (profileStr h) [] = .ok ({ h0 with profile := h.profile, protocol := h.protocol }, true) := by
  obtain ⟨pr, pt, _, _, _, _, _, _, _, _, _, _⟩ := h
  cases pr <;> cases pt <;> rfl

theorem piece_delivery (h0 : Transport) (pf : Bool) (o : Option Delivery) :
    Transport.steps (h0, pf) ((optB (o.map delStr)).map Elem.pair) = .ok ({ h0 with delivery := o.or h0.delivery }, pf) := by
  cases o with
  | none => rfl
  | some d => cases d <;> rfl

theorem piece_source {h0 : Transport} {pf : Bool} {o : Option Str} (wf : ∀ s, o = some s → HostOk s) :
    Transport.steps (h0, pf) ((optE cs!"source" o).map Elem.pair) = .ok ({ h0 with source := o.or h0.source }, pf) := by
  cases o with
  | none => rfl
  | some v =>
    simp +decide only [Transport.steps, Transport.step, optE, Elem.pair, (wf v rfl).1, List.map, Option.or, if_true, if_false,
      ne_eq, not_false_eq_true]

theorem piece_destination {h0 : Transport} {pf : Bool} {o : Option Str} (wf : ∀ s, o = some s → HostOk s) :
    Transport.steps (h0, pf) ((optE cs!"destination" o).map Elem.pair) = .ok ({ h0 with destination := o.or h0.destination }, pf) := by
  cases o with
  | none => rfl
  | some v =>
    simp +decide only [Transport.steps, Transport.step, optE, Elem.pair, (wf v rfl).1, List.map, Option.or, if_true, if_false,
      ne_eq, not_false_eq_true]

theorem piece_interleaved {h0 : Transport} {pf : Bool} {o : Option (Nat × Nat)} (wf : ∀ p, o = some p → PairOk p) :
    Transport.steps (h0, pf) ((optE cs!"interleaved" (o.map portsStr)).map Elem.pair) =
      .ok ({ h0 with interleaved := o.or h0.interleaved }, pf) :=
  Transport.steps_optE (fun o => ({ h0 with interleaved := o.or h0.interleaved }, pf)) o rfl fun p hp => by
    simp +decide only [Transport.step, parsePorts_portsStr (wf p hp), Option.or, if_true, if_false]

theorem piece_ports {h0 : Transport} {pf : Bool} {o : Option (Nat × Nat)} (wf : ∀ p, o = some p → PairOk p) :
    Transport.steps (h0, pf) ((optE cs!"port" (o.map portsStr)).map Elem.pair) = .ok ({ h0 with ports := o.or h0.ports }, pf) :=
  Transport.steps_optE (fun o => ({ h0 with ports := o.or h0.ports }, pf)) o rfl fun p hp => by
    simp +decide only [Transport.step, parsePorts_portsStr (wf p hp), Option.or, if_true, if_false]

theorem piece_clientPorts {h0 : Transport} {pf : Bool} {o : Option (Nat × Nat)} (wf : ∀ p, o = some p → PairOk p) :
    Transport.steps (h0, pf) ((optE cs!"client_port" (o.map portsStr)).map Elem.pair) =
      .ok ({ h0 with clientPorts := o.or h0.clientPorts }, pf) :=
  Transport.steps_optE (fun o => ({ h0 with clientPorts := o.or h0.clientPorts }, pf)) o rfl fun p hp => by
    simp +decide only [Transport.step, parsePorts_portsStr (wf p hp), Option.or, if_true, if_false]

theorem piece_serverPorts {h0 : Transport} {pf : Bool} {o : Option (Nat × Nat)} (wf : ∀ p, o = some p → PairOk p) :
    Transport.steps (h0, pf) ((optE cs!"server_port" (o.map portsStr)).map Elem.pair) =
      .ok ({ h0 with serverPorts := o.or h0.serverPorts }, pf) :=
  Transport.steps_optE (fun o => ({ h0 with serverPorts := o.or h0.serverPorts }, pf)) o rfl fun p hp => by
    simp +decide only [Transport.step, parsePorts_portsStr (wf p hp), Option.or, if_true, if_false]

theorem piece_ttl {h0 : Transport} {pf : Bool} {o : Option Nat} (wf : ∀ n, o = some n → n < 2 ^ 32) :
    Transport.steps (h0, pf) ((optE cs!"ttl" (o.map dec)).map Elem.pair) = .ok ({ h0 with ttl := o.or h0.ttl }, pf) :=
  Transport.steps_optE (fun o => ({ h0 with ttl := o.or h0.ttl }, pf)) o rfl fun n hn => by
    simp +decide only [Transport.step, parseUint_dec (show n < 2 ^ Hdr.ttlBits from wf n hn), Option.or, if_true, if_false]

theorem piece_ssrc {h0 : Transport} {pf : Bool} {o : Option Nat} (wf : ∀ n, o = some n → n < 2 ^ 32) :
    Transport.steps (h0, pf) ((optE cs!"ssrc" (o.map hex8Upper)).map Elem.pair) = .ok ({ h0 with ssrc := o.or h0.ssrc }, pf) :=
  Transport.steps_optE (fun o => ({ h0 with ssrc := o.or h0.ssrc }, pf)) o rfl fun n hn => by
    simp +decide only [Transport.step, parseSsrc_hex8Upper (wf n hn), Option.or, if_true, if_false]

theorem piece_mode (h0 : Transport) (pf : Bool) (o : Option Mode) :
    Transport.steps (h0, pf) ((optE cs!"mode" (o.map modeStr)).map Elem.pair) = .ok ({ h0 with mode := o.or h0.mode }, pf) := by
  cases o with
  | none => rfl
  | some m => cases m <;> rfl

theorem Transport.steps_elems (h : Transport) (wf : h.WellFormed) :
    Transport.steps ({}, false) (h.elems.map Elem.pair) = .ok (h, true) := by
  have h1 : Transport.steps ({}, false) ([Elem.bare (profileStr h)].map Elem.pair) =
      .ok ({ profile := h.profile, protocol := h.protocol }, true) := by
    simp only [List.map, Elem.pair, Transport.steps, step_profile]
  simp only [Transport.elems, List.map_append, Transport.steps_append, h1, piece_delivery, piece_source wf.source,
    piece_destination wf.destination, piece_interleaved wf.interleaved, piece_ports wf.ports,
    piece_ttl wf.ttl, piece_clientPorts wf.clientPorts, piece_serverPorts wf.serverPorts,
    piece_ssrc wf.ssrc, piece_mode, Option.or_none]

theorem tame_portsStr (p : Nat × Nat) : Tame (portsStr p) :=
  (tame_dec p.1).append (Over.append (a := ['-']) (by decide) (tame_dec p.2))

theorem tame_hex8Upper (n : Nat) : Tame (hex8Upper n) :=
  (over_hex8Upper n).mono fun c h => by simp only [tameChar, h, Bool.true_or]

theorem tame_profileStr (h : Transport) : Tame (profileStr h) ∧ profileStr h ≠ [] := by
  obtain ⟨pr, pt, _, _, _, _, _, _, _, _, _, _⟩ := h
  cases pr <;> cases pt <;> (simp only [profileStr]; decide)

theorem Transport.forall_mem_elems {P : Elem → Prop} (h : Transport) (hb : ∀ k, Tame k ∧ k ≠ [] → P (.bare k))
    (hsrc : ∀ k s, Tame k ∧ k ≠ [] → h.source = some s → P (.plain k s))
    (hdst : ∀ k s, Tame k ∧ k ≠ [] → h.destination = some s → P (.plain k s))
    (hv : ∀ k v, Tame k ∧ k ≠ [] → Tame v → P (.plain k v)) : ∀ e ∈ h.elems, P e := by
  have hp := fun k hk => forall_mem_optE_map (fun p => hv k _ hk (tame_portsStr p))
  simp only [Transport.elems, List.forall_mem_append, List.forall_mem_singleton]
  -- one component per summand of `Transport.elems`, in its order
  refine ⟨⟨⟨⟨⟨⟨⟨⟨⟨⟨hb _ (tame_profileStr h), ?_⟩, forall_mem_optE (hsrc _ · (by decide))⟩,
    forall_mem_optE (hdst _ · (by decide))⟩, hp _ (by decide) _⟩, hp _ (by decide) _⟩,
    forall_mem_optE_map (fun n => hv _ _ (by decide) (tame_dec n)) _⟩, hp _ (by decide) _⟩,
    hp _ (by decide) _⟩, forall_mem_optE_map (fun n => hv _ _ (by decide) (tame_hex8Upper n)) _⟩,
    forall_mem_optE_map (fun m => hv _ _ (by decide) (by cases m <;> decide)) _⟩
  cases h.delivery with
  | none => intro e he; cases he
  | some d => intro e he; rw [List.mem_singleton.mp he]; cases d <;> exact hb _ (by decide)

theorem Transport.elems_ok (h : Transport) (wf : h.WellFormed) : ∀ e ∈ h.elems, e.Ok ';' :=
  h.forall_mem_elems (fun _ hk => Tame.keyOk hk (by decide))
    (fun _ s hk hs => ⟨Tame.keyOk hk (by decide), (wf.source s hs).2⟩)
    (fun _ s hk hs => ⟨Tame.keyOk hk (by decide), (wf.destination s hs).2⟩)
    (fun _ _ hk hv => hv.plain_ok (Tame.keyOk hk (by decide)) (by decide))

theorem Transport.elems_nodup (h : Transport) : (h.elems.map Elem.key).Nodup := by
  have hp : [profileStr h].Sublist [cs!"RTP/AVP", cs!"RTP/AVP/TCP", cs!"RTP/SAVP", cs!"RTP/SAVP/TCP"] := by
    unfold profileStr
    cases h.protocol <;> cases h.profile <;> decide
  have hd : ((optB (h.delivery.map delStr)).map Elem.key).Sublist [cs!"unicast", cs!"multicast"] := by
    rcases h.delivery with _ | _ | _ <;> decide
  simp only [Transport.elems, List.map_append]
  -- the chain spells out every key a Transport can write; that they differ is one evaluation
  exact List.Sublist.nodup ((((((((((hp.append hd).append (optE_keys_sublist ..)).append (optE_keys_sublist ..)).append
    (optE_keys_sublist ..)).append (optE_keys_sublist ..)).append (optE_keys_sublist ..)).append
    (optE_keys_sublist ..)).append (optE_keys_sublist ..)).append (optE_keys_sublist ..)).append
    (optE_keys_sublist ..)) (by decide)

theorem Transport.unmarshal_marshal (h : Transport) (wf : h.WellFormed) :
    Transport.unmarshal [h.marshal] = .ok h := by
  have hkv := keyValParse_render (sep := ';') (by decide) (by decide) 0 _ (Transport.elems_ok h wf) (Transport.elems_nodup h)
  simp only [Transport.unmarshal, Transport.unmarshalWith, Transport.unmarshal1With]
  rw [Transport.marshal_eq, hkv]
  simp only [Transport.steps_elems h wf]

theorem render_not_mem {c sep : Char} (hc : c ≠ sep) {es : List Elem} (h : ∀ e ∈ es, c ∉ e.text) :
    c ∉ render sep 0 es := by
  induction es with
  | nil => simp [render]
  | cons e rest ih =>
    cases rest with
    | nil => simpa [render] using h e (by simp)
    | cons e' es =>
      have := ih (fun x hx => h x (by simp [hx]))
      simp only [render, List.replicate, List.nil_append, List.mem_append, List.mem_cons, not_or]
      exact ⟨h e (by simp), hc, this⟩

theorem not_mem_plain_text {c : Char} {k v : Str} (hc : c ≠ '=') (hk : c ∉ k) (hv : c ∉ v) : c ∉ (Elem.plain k v).text := by
  simp [Elem.text, hc, hk, hv]

/-- a transport inside a `Transports` header: additionally no `,` in the host fields -/
structure Transport.WellFormedListed (h : Transport) : Prop extends Transport.WellFormed h where
  sourceNoComma : ∀ s, h.source = some s → ',' ∉ s
  destinationNoComma : ∀ s, h.destination = some s → ',' ∉ s

instance Transport.decWellFormedListed (h : Transport) : Decidable h.WellFormedListed :=
  decidable_of_iff' _ ⟨fun w => And.intro w.toWellFormed <| And.intro w.sourceNoComma w.destinationNoComma,
    fun ⟨a, b, c⟩ => ⟨a, b, c⟩⟩

theorem Transport.marshal_noComma (h : Transport) (wf : h.WellFormedListed) : ',' ∉ h.marshal := by
  rw [Transport.marshal_eq]
  exact render_not_mem (by decide) (h.forall_mem_elems (fun _ hk => hk.1.not_mem (by decide))
    (fun _ s hk hs => not_mem_plain_text (by decide) (hk.1.not_mem (by decide)) (wf.sourceNoComma s hs))
    (fun _ s hk hs => not_mem_plain_text (by decide) (hk.1.not_mem (by decide)) (wf.destinationNoComma s hs))
    (fun _ _ hk hv => not_mem_plain_text (by decide) (hk.1.not_mem (by decide)) (hv.not_mem (by decide))))

theorem Transports.unmarshalEach_marshal : ∀ (ts : List Transport), (∀ t ∈ ts, t.WellFormedListed) →
    Transports.unmarshalEach keyValParse (ts.map Transport.marshal) = .ok ts
  | [], _ => rfl
  | t :: ts, h => by
    have wf := (h t (by simp)).toWellFormed
    have htrim : trimLeftSp t.marshal = t.marshal := by
      rw [Transport.marshal_eq]; exact trimLeftSp_of_head (render_head (Transport.elems_ok t wf))
    have h1 : Transport.unmarshal1With keyValParse t.marshal = .ok t := Transport.unmarshal_marshal t wf
    simp only [List.map_cons, Transports.unmarshalEach, htrim, h1]
    rw [Transports.unmarshalEach_marshal ts (fun x hx => h x (by simp [hx]))]

structure Transports.WellFormed (ts : List Transport) : Prop where
  ne : ts ≠ []
  each : ∀ t ∈ ts, t.WellFormedListed

instance Transports.decWellFormed (ts : List Transport) : Decidable (Transports.WellFormed ts) :=
  decidable_of_iff (ts ≠ [] ∧ ∀ t ∈ ts, t.WellFormedListed) ⟨fun ⟨a, b⟩ => ⟨a, b⟩, fun ⟨a, b⟩ => ⟨a, b⟩⟩

example : Transports.WellFormed [{ protocol := .tcp, interleaved := some (0, 1) }, { delivery := some .unicast, clientPorts := some (3456, 3457) }] := by
  decide

theorem Transports.unmarshal_marshal (ts : List Transport) (wf : Transports.WellFormed ts) :
    Transports.unmarshal [Transports.marshal ts] = .ok ts := by
  simp only [Transports.unmarshal, Transports.unmarshalWith, Transports.marshal]
  rw [splitOn_joinWith _ _ wf.ne fun t ht => Transport.marshal_noComma t (wf.each t ht)]
  exact Transports.unmarshalEach_marshal ts wf.each

end Rtsp.Hdr
