import Rtsp.Proofs.Hdr.Authorization
import Rtsp.Proofs.Hdr.Mikey
import Rtsp.Model.Headers.KeyMgmt
/-
Round trip of `KeyMgmt` (pkg/headers/key_mgmt.go).
-/
namespace Rtsp.Hdr

/-- `toBytes` undoes `ofBytes`, so a quote in the text would be a byte 34 of the encoding. -/
theorem ofBytes_encode_noQuote (bs : List UInt8) : '"' ∉ ofBytes (B64Std.encode bs) := fun h => by
  have := List.mem_map_of_mem (f := fun c : Char => UInt8.ofNat c.toNat) h
  rw [← toBytes, toBytes_ofBytes] at this
  exact B64Std.forall_mem_encode (P := (· ≠ 34)) (fun n => B64Std.encChar_ne n rfl) (by decide) bs _ this rfl

structure KeyMgmt.WellFormed (h : KeyMgmt) : Prop where
  url : '"' ∉ h.url
  msg : h.msg.WF

/-- Stated about a variable `d` so that no step carries the base64 text of a marshalled message. -/
theorem KeyMgmt.unmarshal_render {u d : Str} {b : List UInt8} {m : Mikey.Message} (hu : '"' ∉ u) (hq : '"' ∉ d)
    (hd : B64Std.decode (toBytes d) = some b) (hm : Mikey.Message.unmarshal b = some m) :
    KeyMgmt.unmarshal [render ';' 0 [Elem.plain cs!"prot" cs!"mikey", Elem.quoted cs!"uri" u, Elem.quoted cs!"data" d]] =
      .ok { url := u, msg := m } := by
  have hkv := keyValParse_render (sep := ';') (by decide) (by decide) 0
    [Elem.plain cs!"prot" cs!"mikey", Elem.quoted cs!"uri" u, Elem.quoted cs!"data" d]
    (by simp only [List.forall_mem_cons, List.not_mem_nil, false_imp_iff, implies_true, and_true]
        exact ⟨⟨by key_ok, by decide, by decide⟩, ⟨by key_ok, hu⟩, ⟨by key_ok, hq⟩⟩)
    (by simp [Elem.key])
  simp +decide only [KeyMgmt.unmarshal, KeyMgmt.unmarshalWith, KeyMgmt.unmarshal1With, hkv, List.map, Elem.pair,
    KeyMgmt.steps, hd, hm, if_true, if_false]

/-- `h.marshal` is the `render` of those three elements by unfolding both. -/
theorem KeyMgmt.unmarshal_marshal (h : KeyMgmt) (wf : h.WellFormed) : KeyMgmt.unmarshal [h.marshal] = .ok h :=
  KeyMgmt.unmarshal_render wf.url (ofBytes_encode_noQuote _) (by rw [toBytes_ofBytes, B64Std.decode_encode])
    (Mikey.Message.unmarshal_marshal h.msg wf.msg)

end Rtsp.Hdr
