import Rtsp.Proofs.Receiver.Basic
import Rtsp.Proofs.Common.RingArith
/-
The window invariant `WInv` of the reorder buffer; Go's scan loop terminates under it; the window as
a function of the offset from the origin (`view`), what the three rewritings of the window make of it
(`slot_cleared`, `view_stored`, `view_drained`), and that each preserves the invariant.
-/
namespace Rtsp.Recv

/-- window invariant (unreliable mode): the slot at `absPos` is empty — this is what makes Go's
`for { … n++ }` scan terminate — and the slot `r` positions further holds, if anything, exactly the
packet with sequence number `last + 1 + r`. -/
structure WInv (s : State) : Prop where
  pow2   : Pow2 s.buf.length
  abs_lt : s.absPos < s.buf.length
  head   : slot s 0 = none
  seqs   : ∀ r q, r < s.buf.length → slot s r = some q → q.seq = s.last + 1 + UInt16.ofNat r
  neg    : s.negCount ≤ s.buf.length

theorem slot_eq (s : State) (h : Pow2 s.buf.length) (i : Nat) :
    slot s i = s.buf.getD ((s.absPos + i) % s.buf.length) none := by
  unfold slot; rw [slotIdx_mod s h]

theorem slot_congr (s t : State) (hb : t.buf = s.buf) (ha : t.absPos = s.absPos) (i : Nat) :
    slot t i = slot s i := by simp only [slot, slotIdx, hb, ha]

theorem slot_replicate (s : State) (n : Nat) (hb : s.buf = List.replicate n none) (i : Nat) :
    slot s i = none := by
  unfold slot; rw [hb]; exact getD_replicate_none _ _

theorem slot_init (u : Bool) (size i : Nat) : slot (Recv.init u size) i = none := by
  cases u with
  | true => exact slot_replicate _ size (by simp [Recv.init]) i
  | false => simp [slot, Recv.init]

theorem slot_cleared (s : State) (i : Nat) : slot (cleared s) i = none :=
  slot_replicate _ s.buf.length rfl i

/-- the window seen from the origin: what waits `r` positions ahead; nothing at or beyond
`len(buffer)`, so that the rewritings of the window are equations between functions -/
def view (s : State) (r : Nat) : Option Pkt := if r < s.buf.length then slot s r else none

theorem view_of_lt {s : State} {r : Nat} (h : r < s.buf.length) : view s r = slot s r := if_pos h

theorem view_of_ge {s : State} {r : Nat} (h : s.buf.length ≤ r) : view s r = none :=
  if_neg (Nat.not_lt.mpr h)

theorem view_congr (s t : State) (hb : t.buf = s.buf) (ha : t.absPos = s.absPos) : view t = view s := by
  funext r; unfold view; rw [hb, slot_congr s t hb ha]

theorem winv_empty (s : State) (hp : Pow2 s.buf.length) (ha : s.absPos < s.buf.length)
    (he : ∀ i, slot s i = none) (hn : s.negCount ≤ s.buf.length) : WInv s :=
  ⟨hp, ha, he 0, fun r q _ hq => (by rw [he r] at hq; cases hq), hn⟩

theorem WInv.view_head {s : State} (h : WInv s) : view s 0 = none :=
  (view_of_lt h.pow2.pos).trans h.head

theorem WInv.view_seq {s : State} (h : WInv s) {r : Nat} {q : Pkt} (hq : view s r = some q) :
    q.seq = seqAt s.last r := by
  unfold view at hq
  split at hq
  · exact h.seqs r q ‹_› hq
  · cases hq

theorem winv_of_view {s : State} (hp : Pow2 s.buf.length) (ha : s.absPos < s.buf.length)
    (h0 : view s 0 = none) (hs : ∀ r q, view s r = some q → q.seq = seqAt s.last r)
    (hn : s.negCount ≤ s.buf.length) : WInv s :=
  ⟨hp, ha, (view_of_lt hp.pos).symm.trans h0, fun r q hr hq => hs r q ((view_of_lt hr).trans hq), hn⟩

theorem WInv.init (size : Nat) (h : Pow2 size) : WInv (Recv.init true size) :=
  winv_empty _ (by simpa [Recv.init] using h) (by simpa [Recv.init] using h.pos)
    (slot_init true size) (Nat.zero_le _)

theorem drainBuf_length (s : State) : (drainBuf s).length = s.buf.length := length_clear _ _ _

theorem scanFrom_spec (s : State) (fuel n : Nat) :
    n ≤ scanFrom s fuel n ∧ scanFrom s fuel n ≤ n + fuel ∧
    (∀ i, n ≤ i → i < scanFrom s fuel n → (slot s i).isSome = true) ∧
    (scanFrom s fuel n < n + fuel → slot s (scanFrom s fuel n) = none) := by
  induction fuel generalizing n with
  | zero => simp [scanFrom]; intro i h1 h2; omega
  | succ fuel ih =>
    simp only [scanFrom]
    split
    · rename_i hs
      obtain ⟨h1, h2, h3, h4⟩ := ih (n + 1)
      refine ⟨by omega, by omega, ?_, ?_⟩
      · intro i hi hlt
        by_cases hin : i = n
        · subst hin; exact hs
        · exact h3 i (by omega) hlt
      · intro hlt; exact h4 (by omega)
    · rename_i hs
      refine ⟨Nat.le_refl _, by omega, by intro i h1 h2; omega, ?_⟩
      intro _
      cases hq : slot s n with
      | none => rfl
      | some q => rw [hq] at hs; simp at hs

theorem scan_spec (s : State) (h : WInv s) :
    scanLen s < s.buf.length ∧ (∀ i, i < scanLen s → (slot s (i + 1)).isSome = true) ∧
    slot s (scanLen s + 1) = none := by
  have hN := h.pow2.pos
  obtain ⟨h1, h2, h3, h4⟩ := scanFrom_spec s s.buf.length 1
  have hne : scanFrom s s.buf.length 1 ≠ 1 + s.buf.length := by
    intro heq
    -- slot `N` is slot 0 again, which is empty
    have := h3 s.buf.length (by omega) (by omega)
    rw [slot_eq s h.pow2, Nat.add_mod_right, ← Nat.add_zero s.absPos, ← slot_eq s h.pow2, h.head] at this
    cases this
  unfold scanLen
  refine ⟨by omega, ?_, ?_⟩
  · intro i hi; exact h3 (i + 1) (by omega) (by omega)
  · have := h4 (by omega)
    have e : scanFrom s s.buf.length 1 - 1 + 1 = scanFrom s s.buf.length 1 := by omega
    rw [e]; exact this

theorem winv_congr (s t : State) (h : WInv s) (hb : t.buf = s.buf) (ha : t.absPos = s.absPos)
    (hl : t.last = s.last) (hn : t.negCount ≤ t.buf.length) : WInv t := by
  have hs := slot_congr s t hb ha
  exact ⟨by rw [hb]; exact h.pow2, by rw [hb, ha]; exact h.abs_lt, by rw [hs]; exact h.head,
    by intro r q hr hq; rw [hl]; rw [hs] at hq; rw [hb] at hr; exact h.seqs r q hr hq, hn⟩

theorem winv_cleared (s : State) (h : WInv s) (l : UInt16) : WInv { cleared s with last := l } :=
  winv_empty _ (by simpa [cleared, clearAll] using h.pow2) (by simpa [cleared, clearAll] using h.abs_lt)
    (slot_cleared s) (Nat.zero_le _)

theorem view_stored (s : State) (h : WInv s) (p : Pkt) (r : Nat) (hr : r < s.buf.length) (i : Nat) :
    view (stored s r p) i = if r = i then some p else view s i := by
  have hidx := slotIdx_mod s h.pow2
  unfold view
  rw [show (stored s r p).buf.length = s.buf.length from List.length_set]
  by_cases hi : i < s.buf.length
  · have e1 : slot (stored s r p) i = (s.buf.set (slotIdx s r) (some p)).getD (slotIdx s i) none := by
      simp [slot, slotIdx, stored]
    rw [if_pos hi, if_pos hi, e1, getD_set _ _ _ _ (by rw [hidx]; exact Nat.mod_lt _ h.pow2.pos)]
    by_cases hri : r = i
    · rw [hri, if_pos rfl, if_pos rfl]
    · have : slotIdx s r ≠ slotIdx s i := by
        rw [hidx, hidx]; intro heq
        exact hri (Ring.idx_inj hr hi heq)
      rw [if_neg this, if_neg hri]; rfl
  · rw [if_neg hi, if_neg hi, if_neg fun (e : r = i) => hi (e ▸ hr)]

theorem winv_put (s : State) (h : WInv s) (p : Pkt) (r : Nat) (hr0 : 0 < r) (hr : r < s.buf.length)
    (hseq : p.seq = seqAt s.last r) : WInv (stored s r p) := by
  have hlen : (stored s r p).buf.length = s.buf.length := List.length_set
  refine winv_of_view (hlen ▸ h.pow2) (hlen ▸ h.abs_lt) ?_ ?_ (Nat.zero_le _)
  · rw [view_stored s h p r hr, if_neg (by omega)]; exact h.view_head
  · intro i q hq
    rw [view_stored s h p r hr] at hq
    by_cases hri : r = i
    · rw [if_pos hri, Option.some.injEq] at hq
      rw [← hq, ← hri]; exact hseq
    · rw [if_neg hri] at hq; exact h.view_seq hq

theorem getD_drainBuf (s : State) (h : WInv s) (m : Nat) (hm : m < s.buf.length) :
    (drainBuf s).getD (slotIdx s m) none = if 1 ≤ m ∧ m ≤ scanLen s then none else slot s m := by
  have hk := (scan_spec s h).1
  have hidx := slotIdx_mod s h.pow2
  have hmem : slotIdx s m ∈ (List.range (scanLen s)).map (fun i => slotIdx s (i + 1))
      ↔ 1 ≤ m ∧ m ≤ scanLen s := by
    rw [List.mem_map]
    constructor
    · rintro ⟨j, hj, hje⟩
      rw [List.mem_range] at hj
      rw [hidx, hidx] at hje
      have := Ring.idx_inj (by omega) hm hje
      omega
    · rintro ⟨h1, h2⟩
      exact ⟨m - 1, List.mem_range.mpr (by omega), by rw [show m - 1 + 1 = m by omega]⟩
  unfold drainBuf
  rw [getD_clear]
  simp only [hmem]
  rfl

/-- the slots that wrap around are the cleared ones -/
theorem view_drained (s : State) (h : WInv s) (i : Nat) :
    view (drained s) i = view s (scanLen s + 1 + i) := by
  have hk := (scan_spec s h).1
  have hidx := slotIdx_mod s h.pow2
  have hlen : (drained s).buf.length = s.buf.length := drainBuf_length s
  unfold view
  rw [hlen]
  by_cases hi : i < s.buf.length
  · -- position of the new slot `i` in the old frame, reduced below `N`
    have e1 : ∀ m, (scanLen s + 1 + i) % s.buf.length = m →
        slot (drained s) i = (drainBuf s).getD (slotIdx s m) none := by
      intro m hm
      rw [slot_eq _ (hlen ▸ h.pow2), hlen, hidx, ← hm]
      show (drainBuf s).getD ((slotIdx s (scanLen s + 1) + i) % _) none = _
      rw [hidx, Nat.mod_add_mod, Nat.add_mod_mod, Nat.add_assoc]
    rw [if_pos hi]
    by_cases hlt : scanLen s + 1 + i < s.buf.length
    · rw [e1 _ (Nat.mod_eq_of_lt hlt), getD_drainBuf s h _ hlt, if_pos hlt, if_neg (by omega)]
    · have hm : (scanLen s + 1 + i) % s.buf.length = scanLen s + 1 + i - s.buf.length := by
        rw [Nat.mod_eq_sub_mod (by omega), Nat.mod_eq_of_lt (by omega)]
      rw [e1 _ hm, getD_drainBuf s h _ (by omega), if_neg hlt]
      split
      · rfl
      · rw [show scanLen s + 1 + i - s.buf.length = 0 by omega]; exact h.head
  · rw [if_neg hi, if_neg (by omega)]

theorem winv_drain (s : State) (h : WInv s) :
    WInv { drained s with last := seqAt s.last (scanLen s) } := by
  obtain ⟨hk, _, hend⟩ := scan_spec s h
  have hlen : (drained s).buf.length = s.buf.length := drainBuf_length s
  have hv : ∀ i, view { drained s with last := seqAt s.last (scanLen s) } i = _ := fun i =>
    (congrFun (view_congr (drained s) _ rfl rfl) i).trans (view_drained s h i)
  refine winv_of_view (hlen ▸ h.pow2) ?_ ?_ ?_ (Nat.zero_le _)
  · show slotIdx s (scanLen s + 1) < (drained s).buf.length
    rw [hlen, slotIdx_mod s h.pow2]; exact Nat.mod_lt _ h.pow2.pos
  · rw [hv]
    show view s (scanLen s + 1) = none
    unfold view; split
    · exact hend
    · rfl
  · intro i q hq
    rw [hv] at hq
    rw [h.view_seq hq]
    show seqAt s.last (scanLen s + 1 + i) = seqAt (seqAt s.last (scanLen s)) i
    rw [seqAt_eq_curAt s.last (scanLen s), seqAt_curAt]

end Rtsp.Recv
