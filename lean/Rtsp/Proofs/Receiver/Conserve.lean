import Rtsp.Proofs.Receiver.History
/-
Packet identity: what `reorder` / `ProcessPacket2` deliver plus what is still waiting in the buffer
is, as a multiset, contained in what arrived plus what was waiting before — with equality (a
permutation) for every step that is neither behind the origin nor a copy of a waiting packet.
Lifted to whole histories by induction.  At the end: the state after the very first packet
(`started`, from which the `…_from_init` theorems of C14 start) and what a sub-multiset inherits.
-/
namespace Rtsp.Recv

/-- all packets delivered along a history, in delivery order -/
def delivered (os : List Out) : List Pkt := os.flatMap (·.pkts)

/-- multiset inclusion, count-based (core Lean has no `List.Subperm`) -/
def SubMs (a b : List Pkt) : Prop := ∀ q, a.count q ≤ b.count q

theorem occupied_congr (s t : State) (hb : t.buf = s.buf) (ha : t.absPos = s.absPos) :
    occupied t = occupied s := by
  unfold occupied
  rw [hb]
  exact filterMap_congr' fun i _ => slot_congr s t hb ha i

theorem occupied_of_empty (s : State) (h : ∀ i, slot s i = none) : occupied s = [] := by
  unfold occupied
  apply List.filterMap_eq_nil_iff.mpr
  intro i _; exact h i

theorem occupied_cleared (s : State) : occupied (cleared s) = [] :=
  occupied_of_empty _ (slot_cleared s)

theorem occupied_nil_slot (s : State) (h : occupied s = []) (i : Nat) (hi : i < s.buf.length) :
    slot s i = none :=
  List.filterMap_eq_nil_iff.mp h i (List.mem_range.mpr hi)

theorem occupied_eq_view (s : State) (m : Nat) (hm : s.buf.length ≤ m) :
    occupied s = (List.range m).filterMap (view s) := by
  obtain ⟨d, rfl⟩ := Nat.exists_eq_add_of_le hm
  have hz : ((List.range d).map (s.buf.length + ·)).filterMap (view s) = [] :=
    List.filterMap_eq_nil_iff.mpr fun i hi => by
      obtain ⟨j, _, rfl⟩ := List.mem_map.mp hi
      exact view_of_ge (Nat.le_add_right _ _)
  rw [List.range_add, List.filterMap_append, hz, List.append_nil]
  exact filterMap_congr' fun i hi => (view_of_lt (List.mem_range.mp hi)).symm

theorem occupied_put (s : State) (h : WInv s) (p : Pkt) (r : Nat) (hr : r < s.buf.length)
    (hs : slot s r = none) : (occupied (stored s r p)).Perm (p :: occupied s) := by
  -- the slot positions with `r` moved to the front; elsewhere nothing changes
  have hp := List.perm_cons_erase (List.mem_range.mpr hr)
  have hc : ((List.range s.buf.length).erase r).filterMap (view (stored s r p))
      = ((List.range s.buf.length).erase r).filterMap (view s) :=
    filterMap_congr' fun j hj => by
      rw [view_stored s h p r hr, if_neg (Ne.symm (List.nodup_range.mem_erase_iff.mp hj).1)]
  have h1 := hp.filterMap (view (stored s r p))
  have h2 := hp.filterMap (view s)
  rw [List.filterMap_cons, view_stored s h p r hr, if_pos rfl, hc] at h1
  rw [List.filterMap_cons, view_of_lt hr, hs] at h2
  rw [occupied_eq_view _ _ (Nat.le_of_eq List.length_set), occupied_eq_view s _ (Nat.le_refl _)]
  exact h1.trans (h2.symm.cons p)

/-- offset 0 is empty, offsets `1 … scanLen` are the drained run, and offset `scanLen + 1 + i` of
the old window is offset `i` of the new one -/
theorem occupied_drain (s : State) (h : WInv s) :
    occupied s = drainTail s ++ occupied (drained s) := by
  rw [occupied_eq_view s (scanLen s + 1 + s.buf.length) (Nat.le_add_left _ _),
    occupied_eq_view (drained s) s.buf.length (Nat.le_of_eq (drainBuf_length s)),
    List.range_add, List.filterMap_append, List.filterMap_map, List.range_succ_eq_map,
    List.filterMap_cons, h.view_head, List.filterMap_map]
  congr 1
  · exact filterMap_congr' fun i hi =>
      view_of_lt (by have := List.mem_range.mp hi; have := (scan_spec s h).1; omega)
  · exact filterMap_congr' fun i _ => (view_drained s h i).symm

/-- `hnd`: the arrival is not a copy of a packet waiting in its slot -/
theorem Path.perm {s : State} {p : Pkt} {x : State × Out} (hp : Path s p x) (h : WInv s)
    (hr : 0 ≤ relPos p.seq s.last)
    (hnd : relPos p.seq s.last < s.buf.length →
      s.buf.getD (slotIdx s (relPos p.seq s.last).toNat) none = none ∨ relPos p.seq s.last = 0) :
    (x.2.pkts ++ occupied x.1).Perm (p :: occupied s) := by
  cases hp with
  | restart hneg => omega
  | behind hneg => omega
  | flush => rw [occupied_cleared, List.append_nil]; exact List.perm_append_comm
  | dup r q hrr h0 hN hq =>
    rcases hnd (by omega) with hs | hz
    · have e : (relPos p.seq s.last).toNat = r := by omega
      rw [e] at hs
      exact absurd (hq.symm.trans hs) (by simp)
    · omega
  | put r _ _ hN hq => exact occupied_put s h p r hN hq
  | inorder => rw [occupied_drain s h]; rfl

/-- inclusion only: a packet behind the origin or a copy of a waiting one is dropped, a restart
drops what was waiting -/
theorem Path.subms {s : State} {p : Pkt} {x : State × Out} (hp : Path s p x) (h : WInv s) :
    SubMs (x.2.pkts ++ occupied x.1) (p :: occupied s) := by
  intro q
  cases hp with
  | restart => rw [occupied_cleared, List.append_nil]; simp [List.count_cons]
  | behind => exact List.count_le_count_cons
  | dup => exact List.count_le_count_cons
  | flush =>
    rw [occupied_cleared, List.append_nil]
    exact Nat.le_of_eq (List.perm_append_comm.count_eq q)
  | put r _ _ hN hq => exact Nat.le_of_eq ((occupied_put s h p r hN hq).count_eq q)
  | inorder => rw [occupied_drain s h]; exact Nat.le_refl _

theorem step_occupied_unrel (s : State) (p : Pkt) (hf : s.first = true) (hu : s.unreliable = true) :
    occupied (step s p).1 = occupied (reorder s p).1 := by
  obtain ⟨hb, ha, _, _, _⟩ := step_unrel_fields s p hf hu
  exact occupied_congr _ _ hb ha

theorem step_subms (s : State) (p : Pkt) (h : Inv s) :
    SubMs ((step s p).2.pkts ++ occupied (step s p).1) (p :: occupied s) := by
  -- outside `reorder` the packet is delivered as it is and `buf`, `absPos` stay
  have same : ∀ t : State, t.buf = s.buf → t.absPos = s.absPos →
      SubMs ([p] ++ occupied t) (p :: occupied s) := fun t hb ha q => by
    rw [occupied_congr s t hb ha]; exact Nat.le_refl _
  cases hf : s.first with
  | false => rw [step_first s p hf]; exact same _ rfl rfl
  | true =>
    cases hu : s.unreliable with
    | true =>
      rw [step_occupied_unrel s p hf hu, (step_unrel_fields s p hf hu).2.2.2.2]
      exact (reorder_path s p).subms (h.win hu)
    | false => rw [step_rel s p hf hu]; exact same _ rfl rfl

end Rtsp.Recv

namespace Rtsp.Recv.C14

/-- **Every delivered packet is one of the arrivals** (by identity, with multiplicity): along every
history, in both modes, the delivered packets together with those still waiting in the buffer form a
sub-multiset of the arrivals together with those waiting at the start. -/
theorem delivered_subperm_arrivals (s : State) (ps : List Pkt) (h : Inv s) :
    SubMs (delivered (run s ps).2 ++ occupied (run s ps).1) (ps ++ occupied s) := by
  induction ps generalizing s with
  | nil => exact fun q => Nat.le_refl _
  | cons p ps ih =>
    rw [runs.cons]
    intro q
    have h1 := ih (step s p).1 (inv_step s p h) q
    have h2 := step_subms s p h q
    simp only [delivered, List.flatMap_cons, List.count_append, List.count_cons, List.cons_append] at *
    omega

end Rtsp.Recv.C14

namespace Rtsp.Recv

/-- the state `ProcessPacket2` leaves after the very first packet `p` -/
def started (u : Bool) (size : Nat) (p : Pkt) : State :=
  { (Recv.init u size) with first := true, received := 1, rlSince := 1, last := p.seq }

theorem step_init (u : Bool) (size : Nat) (p : Pkt) :
    step (Recv.init u size) p = (started u size p, { pkts := [p], lost := 0 }) :=
  step_first _ p rfl

theorem inv_started (u : Bool) (size : Nat) (hs : u = true → Pow2 size) (p : Pkt) :
    Inv (started u size p) := by
  have := inv_step _ p (inv_init u size hs)
  rw [step_init] at this
  exact this

theorem occupied_init (u : Bool) (size : Nat) : occupied (Recv.init u size) = [] :=
  occupied_of_empty _ (slot_init u size)

theorem occupied_started (u : Bool) (size : Nat) (p : Pkt) : occupied (started u size p) = [] := by
  rw [← occupied_init u size]
  exact occupied_congr _ _ rfl rfl

theorem SubMs.mem {a b : List Pkt} (h : SubMs a b) {q : Pkt} (hq : q ∈ a) : q ∈ b := by
  have := h q
  have h1 : 0 < a.count q := List.count_pos_iff.mpr hq
  exact List.count_pos_iff.mp (by omega)

theorem SubMs.nodup {a b : List Pkt} (h : SubMs a b) (hb : b.Nodup) : a.Nodup := by
  apply List.nodup_iff_count.mpr
  intro q
  exact Nat.le_trans (h q) (List.nodup_iff_count.mp hb q)

theorem SubMs.ids_nodup {a b : List Pkt} (h : SubMs a b) (hb : (b.map (·.id)).Nodup) :
    (a.map (·.id)).Nodup := by
  have hb' : b.Pairwise (fun x y => x.id ≠ y.id) := List.pairwise_map.mp hb
  -- distinct members of `b` have distinct ids, in whichever order they stand
  have inj := List.Pairwise.forall_of_forall_of_flip (R := fun x y => x ≠ y → x.id ≠ y.id)
    (fun x _ hne => absurd rfl hne) (hb'.imp fun {x y} hxy (_ : x ≠ y) => hxy)
    (hb'.imp fun {x y} hxy (_ : y ≠ x) e => hxy e.symm)
  have han : a.Nodup := h.nodup (hb'.imp fun hxy e => hxy (congrArg _ e))
  exact List.pairwise_map.mpr (han.imp_of_mem fun hx hy hne => inj (h.mem hx) (h.mem hy) hne)

end Rtsp.Recv
