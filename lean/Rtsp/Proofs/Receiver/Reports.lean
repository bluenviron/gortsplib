import Rtsp.Proofs.Receiver.Conserve
/-
Receiver-report fields along whole histories:
* the extended highest sequence number (`cycles * 65536 + last`) equals its starting value plus the
  sum of the forward distances of all delivered packets;
* `totalLost`, `fractionLost` of a report after any interleaving of packets and reports, in terms of
  the outputs of the steps of the history (all of them / those since the previous report).
-/
namespace Rtsp.Recv
open Rtsp.Facts

/-- forward distance from `a` to `b` modulo 2^16 -/
def dist (a b : UInt16) : Nat := (b - a).toNat

/-- sum of the forward distances along a list of consecutively delivered sequence numbers -/
def travel : UInt16 → List UInt16 → Nat
  | _, [] => 0
  | a, b :: bs => dist a b + travel b bs

/-- every element is between 1 and `m` positions ahead of its predecessor, starting from `a` -/
def Steps (m : Nat) : UInt16 → List UInt16 → Prop
  | _, [] => True
  | a, b :: bs => (1 ≤ dist a b ∧ dist a b ≤ m) ∧ Steps m b bs

/-- `IncFrom` is decidable (used by the non-vacuity examples only) -/
def decIncFrom : (a : UInt16) → (l : List UInt16) → Decidable (IncFrom a l)
  | _, [] => isTrue trivial
  | a, b :: bs =>
    match (inferInstance : Decidable (Fwd a b)), decIncFrom b bs with
    | isTrue h1, isTrue h2 => isTrue ⟨h1, h2⟩
    | isFalse h1, _ => isFalse (fun h => h1 h.1)
    | _, isFalse h2 => isFalse (fun h => h2 h.2)

instance (a : UInt16) (l : List UInt16) : Decidable (IncFrom a l) := decIncFrom a l

def decSteps (m : Nat) : (a : UInt16) → (l : List UInt16) → Decidable (Steps m a l)
  | _, [] => isTrue trivial
  | a, b :: bs =>
    match (inferInstance : Decidable (1 ≤ dist a b ∧ dist a b ≤ m)), decSteps m b bs with
    | isTrue h1, isTrue h2 => isTrue ⟨h1, h2⟩
    | isFalse h1, _ => isFalse (fun h => h1 h.1)
    | _, isFalse h2 => isFalse (fun h => h2 h.2)

instance (m : Nat) (a : UInt16) (l : List UInt16) : Decidable (Steps m a l) := decSteps m a l

theorem fwd_dist (a b : UInt16) (h : Fwd a b) : 1 ≤ dist a b ∧ dist a b ≤ 32768 := by
  obtain ⟨r, hr⟩ : ∃ r : Nat, relPos b a = (r : Int) := ⟨(relPos b a).toNat, by unfold Fwd at h; omega⟩
  obtain ⟨hb, hr15, _⟩ := seq_of_relPos b a r hr
  have : dist a b = 1 + r := by
    unfold dist
    rw [hb, seqAt, UInt16.add_assoc, UInt16.add_comm a, UInt16.add_sub_cancel]
    show (UInt16.ofNat 1 + UInt16.ofNat r).toNat = 1 + r
    rw [← UInt16.ofNat_add, UInt16.toNat_ofNat', Nat.mod_eq_of_lt (by omega)]
  omega

theorem incFrom_steps (a : UInt16) (l : List UInt16) (h : IncFrom a l) : Steps 61440 a l := by
  induction l generalizing a with
  | nil => trivial
  | cons b bs ih =>
    have := fwd_dist a b h.1
    exact ⟨⟨this.1, by omega⟩, ih b h.2⟩

theorem add_dist (a b : UInt16) : b = a + UInt16.ofNat (dist a b) := by
  unfold dist
  rw [UInt16.ofNat_toNat, UInt16.add_comm, UInt16.sub_add_cancel]

def extSeq (s : State) : Nat := s.cycles.toNat * 65536 + s.last.toNat

/-- delivering a packet `1 … 61440` (= 2^16 − 4096, from the `diff < -0x0FFF` test) positions ahead
advances the extended sequence number by exactly that distance, as long as the new value still
fits 32 bits (which is what keeps the 16-bit cycle counter from overflowing) -/
theorem ext_seq_advance (s : State) (p : Pkt) (hd1 : 1 ≤ dist s.last p.seq)
    (hd2 : dist s.last p.seq ≤ 61440) (hb : extSeq s + dist s.last p.seq < 4294967296) :
    extSeq (advance s p) = extSeq s + dist s.last p.seq := by
  have hthr : Recv.cycleThreshold = -4095 := rfl
  have hl := s.last.toNat_lt
  have hcl := s.cycles.toNat_lt
  have hpn : p.seq.toNat = (s.last.toNat + dist s.last p.seq) % 65536 := by
    conv => lhs; rw [add_dist s.last p.seq]
    rw [UInt16.toNat_add, UInt16.toNat_ofNat', Nat.add_mod_mod]
  generalize dist s.last p.seq = d at *
  unfold extSeq advance at *
  simp only [hthr]
  by_cases hw : s.last.toNat + d < 65536
  · rw [if_neg (by omega)]; omega
  · -- the sequence number wraps; the 32-bit bound leaves room for one more cycle
    have : (s.cycles + 1).toNat = s.cycles.toNat + 1 := by
      rw [UInt16.toNat_add, Nat.mod_eq_of_lt (by simp; omega)]; rfl
    rw [if_pos (by omega), this]; omega

/-- the same for a packet `d` positions ahead, with the cycle counter below its maximum -/
theorem ext_seq_exact (s : State) (p : Pkt) (d : Nat) (hd1 : 1 ≤ d)
    (hd2 : (d : Int) < 65536 + Recv.cycleThreshold) (hthr : Recv.cycleThreshold < 0)
    (hp : p.seq = s.last + UInt16.ofNat d) (hc : s.cycles.toNat < 65535) :
    extSeq (advance s p) = extSeq s + d := by
  have ht : Recv.cycleThreshold = -4095 := rfl
  have hl := s.last.toNat_lt
  have hd : dist s.last p.seq = d := by
    unfold dist
    rw [hp, UInt16.add_comm, UInt16.add_sub_cancel, UInt16.toNat_ofNat', Nat.mod_eq_of_lt (by omega)]
  rw [← hd] at hd1 hd2 ⊢
  exact ext_seq_advance s p hd1 (by omega) (by unfold extSeq; omega)

theorem ext_seq_foldl (s : State) (ps : List Pkt) (hst : Steps 61440 s.last (ps.map (·.seq)))
    (hb : extSeq s + travel s.last (ps.map (·.seq)) < 4294967296) :
    extSeq (ps.foldl advance s) = extSeq s + travel s.last (ps.map (·.seq)) := by
  induction ps generalizing s with
  | nil => simp [travel]
  | cons p ps ih =>
    simp only [List.map_cons, Steps, travel, List.foldl_cons] at *
    have h1 := ext_seq_advance s p hst.1.1 hst.1.2 (by omega)
    have hl : (advance s p).last = p.seq := rfl
    rw [ih (advance s p) (by rw [hl]; exact hst.2) (by rw [hl, h1]; omega), hl, h1]
    omega

theorem run_cycles_last (s : State) (ps : List Pkt) (hf : s.first = true) :
    (run s ps).1.cycles = ((delivered (run s ps).2).foldl advance s).cycles ∧
    (run s ps).1.last = ((delivered (run s ps).2).foldl advance s).last := by
  induction ps generalizing s with
  | nil => exact ⟨rfl, rfl⟩
  | cons p ps ih =>
    rw [runs.cons]
    obtain ⟨_, _, _, e⟩ := step_frame s p hf
    have hc : (step s p).1.cycles = ((step s p).2.pkts.foldl advance s).cycles := by rw [e]
    have hl : (step s p).1.last = ((step s p).2.pkts.foldl advance s).last := by
      rw [e, foldl_advance_last]
    have := ih (step s p).1 (step_first_true s p hf)
    rw [foldl_advance_eq _ _ _ hc hl, ← foldl_advance_last] at this
    simp only [delivered, List.flatMap_cons, List.foldl_append] at this ⊢
    exact this

theorem incFrom_append (l : UInt16) (ps qs : List Pkt) (h1 : IncFrom l (ps.map (·.seq)))
    (h2 : IncFrom (lastSeq l ps) (qs.map (·.seq))) : IncFrom l ((ps ++ qs).map (·.seq)) := by
  induction ps generalizing l with
  | nil => exact h2
  | cons p ps ih =>
    simp only [List.cons_append, List.map_cons, IncFrom, lastSeq] at *
    exact ⟨h1.1, ih p.seq h1.2 h2⟩

theorem accounted_incFrom (l : UInt16) (os : List Out) (h : Accounted true l os)
    (hnr : ∀ o ∈ os, o.restart = false) : IncFrom l ((delivered os).map (·.seq)) := by
  induction os generalizing l with
  | nil => trivial
  | cons o os ih =>
    obtain ⟨h1, h2⟩ := h
    have hr := hnr o (by simp)
    simp only [hr, Bool.false_eq_true, if_false] at h1
    simp only [delivered, List.flatMap_cons]
    exact incFrom_append l _ _ (h1.1 trivial) (ih _ h2 (fun x hx => hnr x (by simp [hx])))

/-- outputs of all `ProcessPacket2` steps of an event history -/
def outsOf : List Ev → List Out
  | [] => []
  | .out o :: es => o :: outsOf es
  | .rep _ :: es => outsOf es

/-- outputs of the steps since the last report that was actually produced (`acc`: those before the
events considered) -/
def sinceAux : List Out → List Ev → List Out
  | acc, [] => acc
  | acc, .out o :: es => sinceAux (acc ++ [o]) es
  | _, .rep (some _) :: es => sinceAux [] es
  | acc, .rep none :: es => sinceAux acc es

def sinceReport (es : List Ev) : List Out := sinceAux [] es

theorem lostTotal_snoc (a : List Out) (o : Out) : lostTotal (a ++ [o]) = lostTotal a + o.lost := by
  simp [lostTotal, List.sum_append]

theorem deliveredCount_snoc (a : List Out) (o : Out) :
    deliveredCount (a ++ [o]) = deliveredCount a + o.pkts.length := by
  simp [deliveredCount, List.sum_append]

/-- the loss counters of a state agree with the outputs of a history: `tot` all steps, `acc` the
steps since the last report -/
structure Acct (s : State) (tot acc : List Out) : Prop where
  lost  : s.lost = lostTotal tot
  since : s.lostSince = lostTotal acc
  rl    : s.rlSince = deliveredCount acc + lostTotal acc

theorem acct_step (s : State) (p : Pkt) (tot acc : List Out) (h : Inv s) (ha : Acct s tot acc) :
    Acct (step s p).1 (tot ++ [(step s p).2]) (acc ++ [(step s p).2]) := by
  -- the loss counters grow by the output, first packet included (the interval counters are zero
  -- before it)
  have hc : (step s p).1.lost = s.lost + (step s p).2.lost ∧
      (step s p).1.lostSince = s.lostSince + (step s p).2.lost ∧
      (step s p).1.rlSince = s.rlSince + (step s p).2.pkts.length + (step s p).2.lost := by
    cases hf : s.first with
    | false =>
      rw [step_first s p hf]
      exact ⟨rfl, rfl, by rw [(h.fresh hf).2.2]; rfl⟩
    | true => exact (step_counters s p hf).2
  refine ⟨?_, ?_, ?_⟩
  · rw [lostTotal_snoc, hc.1, ha.lost]
  · rw [lostTotal_snoc, hc.2.1, ha.since]
  · rw [lostTotal_snoc, deliveredCount_snoc, hc.2.2, ha.rl]; omega

theorem exec_acct (s : State) (ops : List Op) (tot acc : List Out) (h : Inv s) (ha : Acct s tot acc) :
    Acct (exec s ops).1 (tot ++ outsOf (exec s ops).2) (sinceAux acc (exec s ops).2) := by
  induction ops generalizing s tot acc with
  | nil => simpa [exec, outsOf, sinceAux] using ha
  | cons op ops ih =>
    rw [execs.cons]
    cases op with
    | pkt p =>
      have := ih (step s p).1 _ _ (inv_step s p h) (acct_step s p tot acc h ha)
      simp only [exec1, outsOf, sinceAux]
      simpa [List.append_assoc] using this
    | report =>
      cases hf : s.first with
      | false =>
        simp only [exec1, report_none s hf, outsOf, sinceAux]
        exact ih s tot acc h ha
      | true =>
        have hinv := inv_report s h
        rw [report_some s hf] at hinv
        simp only [exec1, report_some s hf, outsOf, sinceAux]
        exact ih _ tot [] hinv ⟨ha.lost, rfl, rfl⟩

theorem report_floor (s : State) (r : Report) (hr : (report s).2 = some r) :
    r.totalLost = min s.lost Recv.lostClamp ∧ r.extSeq = extSeq s ∧
    (s.rlSince = 0 → r.fractionLost = 0) ∧
    r.fractionLost * s.rlSince ≤ 256 * min s.lostSince Recv.fractionClamp ∧
    (s.rlSince ≠ 0 → 256 * min s.lostSince Recv.fractionClamp < (r.fractionLost + 1) * s.rlSince) := by
  cases hf : s.first with
  | false => rw [report_none s hf] at hr; cases hr
  | true =>
    rw [report_some s hf, Option.some.injEq] at hr
    subst hr
    refine ⟨rfl, rfl, ?_, ?_, ?_⟩
    · intro h0; simp [h0]
    · simp only
      split
      · have := Nat.div_mul_le_self (min s.lostSince Recv.fractionClamp * 256) s.rlSince
        omega
      · omega
    · intro hne
      simp only [hne, ne_eq, not_false_eq_true, if_true]
      have := Nat.lt_mul_div_succ (min s.lostSince Recv.fractionClamp * 256) (Nat.pos_of_ne_zero hne)
      rw [Nat.mul_comm s.rlSince] at this
      omega

end Rtsp.Recv
