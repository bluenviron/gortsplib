import Rtsp.Proofs.Receiver.Invariant
import Rtsp.Proofs.Receiver.Order
/-
Arrival histories: what is to hold of the outputs of consecutive steps (`Accounted`), the sums
the statistics are compared with, the invariant along `run`, and the restart detection bound.
-/
namespace Rtsp.Recv

/-- what must hold of the outputs of consecutive steps, starting after sequence number `l`:
a non-restart step delivers strictly increasing sequence numbers (continuing after `l`) and reports
exactly the skipped ones as lost; a detected restart delivers exactly the arriving packet and
reports no loss.  Afterwards the chain continues from the last delivered packet. -/
def Accounted (unrel : Bool) (l : UInt16) : List Out → Prop
  | [] => True
  | o :: os =>
    (if o.restart then o.pkts.length = 1 ∧ o.lost = 0
     else (unrel = true → IncFrom l (o.pkts.map (·.seq))) ∧ o.lost = skipped l (o.pkts.map (·.seq)))
    ∧ Accounted unrel (lastSeq l o.pkts) os

theorem inv_run (s : State) (ps : List Pkt) (h : Inv s) : Inv (run s ps).1 :=
  runs.inv (Q := fun _ => True) (fun s p h _ => inv_step s p h) s ps h fun _ _ => trivial

def deliveredCount (os : List Out) : Nat := (os.map (·.pkts.length)).sum
def lostTotal (os : List Out) : Nat := (os.map (·.lost)).sum

/-- one of the first `BufferSize + 1 − negativeCount` packets behind the origin triggers the restart
branch (stated from any `negativeCount`, as the induction needs) -/
theorem restart_within (s : State) (ps : List Pkt) (h : WInv s) (hf : s.first = true)
    (hu : s.unreliable = true) (hneg : ∀ p ∈ ps, relPos p.seq s.last < 0)
    (hlen : s.negCount + ps.length > s.buf.length) :
    ∃ o ∈ (run s ps).2, o.restart = true := by
  induction ps generalizing s with
  | nil => simp at hlen; have := h.neg; omega
  | cons p ps ih =>
    have hr := hneg p (by simp)
    simp only [run]
    have ho : (step s p).2 = (reorder s p).2 := (step_unrel_fields s p hf hu).2.2.2.2
    by_cases hn : s.negCount + 1 > s.buf.length
    · refine ⟨(step s p).2, by simp, ?_⟩
      rw [ho, reorder_behind s p hr, if_pos hn]
    · obtain ⟨hb, ha, hnc, hl, _⟩ := step_unrel_fields s p hf hu
      have hre : reorder s p = _ := (reorder_behind s p hr).trans (if_neg hn)
      have hlast : (step s p).1.last = s.last := by rw [hl, hre]; rfl
      have hneg' : (step s p).1.negCount = s.negCount + 1 := by rw [hnc, hre]
      have hbuf : (step s p).1.buf.length = s.buf.length := by rw [hb, hre]
      obtain ⟨o, ho1, ho2⟩ := ih (step s p).1 (winv_step s p hf hu h) (step_first_true s p hf)
        (by rw [step_unreliable s p hf]; exact hu)
        (fun q hq => by rw [hlast]; exact hneg q (by simp [hq]))
        (by rw [hneg', hbuf]; simp at hlen; omega)
      exact ⟨o, by simp [ho1], ho2⟩

end Rtsp.Recv
