import Rtsp.Proofs.Receiver.Step
import Rtsp.Proofs.Common.Runs
/-
The full state invariant, preserved by every operation (`ProcessPacket2`, `report`), hence along
every history of packets and reports; the two equations of `report()`.
-/
namespace Rtsp.Recv
open Rtsp.Facts

theorem Path.winv {s : State} {p : Pkt} {x : State × Out} (hp : Path s p x) (h : WInv s) :
    WInv { x.1 with last := lastSeq s.last x.2.pkts } := by
  cases hp with
  | restart => exact winv_cleared s h _
  | behind _ hn => exact winv_congr s _ h rfl rfl rfl hn
  | flush => exact winv_cleared s h _
  | dup => exact winv_congr s _ h rfl rfl rfl (Nat.zero_le _)
  | put r hr h0 hN => exact winv_put s h p r h0 hN (seq_of_relPos _ _ r hr).1
  | inorder h0 =>
    have hl := (lastSeq_inorder s h p (seq_of_relPos _ _ 0 h0).1).1
    have := winv_drain s h
    rw [← hl] at this
    exact this

theorem winv_step (s : State) (p : Pkt) (hf : s.first = true) (hu : s.unreliable = true)
    (h : WInv s) : WInv (step s p).1 := by
  obtain ⟨hb, ha, hn, hl, _⟩ := step_unrel_fields s p hf hu
  have hwr := (reorder_path s p).winv h
  exact winv_congr _ _ hwr hb ha hl (by rw [hn, hb]; exact hwr.neg)

/-- state invariant: the window invariant in unreliable mode; before the first packet nothing is
buffered and the interval counters are zero; `lostSinceReport < receivedAndLostSinceReport` unless
both are zero (what keeps `fractionLost` below 256) -/
structure Inv (s : State) : Prop where
  win   : s.unreliable = true → WInv s
  fresh : s.first = false → (∀ i, slot s i = none) ∧ s.lostSince = 0 ∧ s.rlSince = 0
  loss  : s.lostSince < s.rlSince ∨ (s.lostSince = 0 ∧ s.rlSince = 0)

theorem inv_init (u : Bool) (size : Nat) (h : u = true → Pow2 size) : Inv (Recv.init u size) := by
  refine ⟨?_, ?_, Or.inr ⟨rfl, rfl⟩⟩
  · intro hu
    have : u = true := hu
    subst this
    exact WInv.init size (h rfl)
  · exact fun _ => ⟨slot_init u size, rfl, rfl⟩

/-- **the invariant is preserved by `ProcessPacket2` for every packet** -/
theorem inv_step (s : State) (p : Pkt) (h : Inv s) : Inv (step s p).1 := by
  cases hf : s.first with
  | false =>
    rw [step_first s p hf]
    obtain ⟨hempty, hl, hrl⟩ := h.fresh hf
    refine ⟨?_, by simp, by left; simp [hl]⟩
    intro hu
    have hw := h.win hu
    exact winv_empty _ hw.pow2 hw.abs_lt hempty hw.neg
  | true =>
    refine ⟨?_, ?_, ?_⟩
    · intro hu
      rw [step_unreliable s p hf] at hu
      exact winv_step s p hf hu (h.win hu)
    · intro hff
      rw [step_first_true s p hf] at hff
      cases hff
    · -- a step that reports a loss also delivers a packet
      have hpk : (step s p).2.lost ≠ 0 → (step s p).2.pkts ≠ [] := by
        by_cases hu : s.unreliable = true
        · rw [(step_unrel_fields s p hf hu).2.2.2.2]
          exact (reorder_path s p).lost_pos_pkts
        · rw [step_rel s p hf (Bool.eq_false_iff.mpr hu)]
          exact fun _ => List.cons_ne_nil _ _
      obtain ⟨_, _, _, e⟩ := step_frame s p hf
      rw [e]
      simp only
      generalize (step s p).2 = o at hpk
      have hlen : o.pkts ≠ [] → 0 < o.pkts.length := List.length_pos_iff.mpr
      have := h.loss
      by_cases hz : o.lost = 0
      · omega
      · have := hlen (hpk hz); omega

theorem report_none (s : State) (hf : s.first = false) : report s = (s, none) := by
  simp [report, hf]

theorem report_some (s : State) (hf : s.first = true) :
    report s = ({ s with lostSince := 0, rlSince := 0 },
      some { extSeq := s.cycles.toNat * 65536 + s.last.toNat,
             fractionLost := if s.rlSince ≠ 0 then
               (min s.lostSince Recv.fractionClamp * 256) / s.rlSince else 0,
             totalLost := min s.lost Recv.lostClamp }) := by
  simp [report, hf]

theorem inv_report (s : State) (h : Inv s) : Inv (report s).1 := by
  cases hf : s.first with
  | false => rw [report_none s hf]; exact h
  | true =>
    rw [report_some s hf]
    exact ⟨fun hu => winv_congr s _ (h.win hu) rfl rfl rfl (h.win hu).neg,
      fun hff => absurd (hf.symm.trans hff) (by decide), Or.inr ⟨rfl, rfl⟩⟩

/-- what can happen to a receiver: a packet arrives (`ProcessPacket2`) or a report is due
(`report()`, called by the periodic goroutine) -/
inductive Op where
  | pkt (p : Pkt)
  | report
deriving Repr

/-- what an operation yields: the step's output, or the report (if any) -/
inductive Ev where
  | out (o : Out)
  | rep (r : Option Report)
deriving Repr

def exec1 (s : State) : Op → State × Ev
  | .pkt p => let (s', o) := step s p; (s', .out o)
  | .report => let (s', r) := report s; (s', .rep r)

/-- run any interleaving of packets and reports, each as one indivisible step (see
`C14.report_is_one_exclusive_section` for why that is true of the Go code) -/
def exec (s : State) : List Op → State × List Ev
  | [] => (s, [])
  | op :: ops =>
    let (s1, e) := exec1 s op
    let (s2, es) := exec s1 ops
    (s2, e :: es)

theorem runs : Runs step run := ⟨fun _ => rfl, fun _ _ _ => rfl⟩
theorem execs : Runs exec1 exec := ⟨fun _ => rfl, fun _ _ _ => rfl⟩

theorem inv_exec (s : State) (ops : List Op) (h : Inv s) : Inv (exec s ops).1 :=
  execs.inv (Q := fun _ => True) (fun s op h _ => by
    cases op with
    | pkt p => exact inv_step s p h
    | report => exact inv_report s h) s ops h fun _ _ => trivial

end Rtsp.Recv
