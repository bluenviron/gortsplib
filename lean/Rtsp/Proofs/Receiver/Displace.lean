import Rtsp.Proofs.Receiver.Conserve
/-
The displacement clause in the case where it is true of the code: a loss-free, duplicate-free
arrival history in which no packet arrives before a packet whose sequence number is `BufferSize` or
more lower.  Then every arrival falls inside the window, nothing is flushed or dropped, and
everything is delivered exactly once, in order, with `lost = 0`.

Proof: a ghost description of the window in terms of stream indices (`Pending`: how many packets of
the stream were delivered, and that an index has arrived exactly if it was delivered or is waiting
at its offset).  The bookkeeping is done on an abstract window function, once for a stored packet and
once for a drain; `Disp` ties it to a state through `view` (`Window`).
-/
namespace Rtsp.Recv

/-- every arrival of the history falls into the window `0 ≤ relPos < len(buffer)` of the state it
meets and finds its slot free: `reorder` takes neither the negative (drop / restart) branch nor
the whole-buffer flush branch nor the duplicate branch -/
def InWindow : State → List Pkt → Prop
  | _, [] => True
  | s, p :: ps =>
    (0 ≤ relPos p.seq s.last ∧ relPos p.seq s.last < (s.buf.length : Int) ∧
      slot s (relPos p.seq s.last).toNat = none)
    ∧ InWindow (step s p).1 ps

/-- ghost description of a window with contents `f` in the middle of a loss-free run: of the stream
indices in `arr` (those that have arrived) the first `b` were delivered — every index below `b` has
arrived — and index `b + r` has arrived exactly if it waits at offset `r` (so `b` itself has not
as long as offset 0 is empty, which the window invariant says: `Pending.next`) -/
structure Pending (f : Nat → Option Pkt) (b : Nat) (arr : List Nat) : Prop where
  below : ∀ j, j < b → j ∈ arr
  wait  : ∀ r, (f r).isSome = true ↔ b + r ∈ arr

variable {f : Nat → Option Pkt} {b d k : Nat} {arr : List Nat}

theorem Pending.ge (h : Pending f b arr) {i : Nat} (hi : i ∉ arr) : b ≤ i :=
  Nat.le_of_not_lt fun hlt => hi (h.below i hlt)

theorem Pending.next (h : Pending f b arr) (h0 : f 0 = none) : b ∉ arr := fun hb => by
  have := (h.wait 0).mpr hb
  rw [h0] at this; cases this

theorem Pending.free (h : Pending f b arr) (hi : b + d ∉ arr) : f d = none := by
  cases hf : f d with
  | none => rfl
  | some q => exact absurd ((h.wait d).mp (by rw [hf]; rfl)) hi

theorem Pending.put (h : Pending f b arr) (p : Pkt) :
    Pending (fun r => if d = r then some p else f r) b (arr ++ [b + d]) := by
  refine ⟨fun j hj => List.mem_append_left _ (h.below j hj), fun r => ?_⟩
  rw [List.mem_append, List.mem_singleton, ← h.wait r]
  by_cases hdr : d = r
  · simp [hdr]
  · rw [if_neg hdr, or_iff_left (show ¬ b + r = b + d by omega)]

/-- the arrival is the next packet of the stream: it is delivered together with the `k` packets
waiting behind it, and the window moves `k + 1` positions -/
theorem Pending.drain (h : Pending f b arr) (hocc : ∀ j, j < k → (f (j + 1)).isSome = true) :
    Pending (fun r => f (k + 1 + r)) (b + k + 1) (arr ++ [b]) := by
  refine ⟨fun j hj => ?_, fun r => ?_⟩
  · rw [List.mem_append, List.mem_singleton]
    rcases Nat.lt_trichotomy j b with hlt | rfl | hgt
    · exact Or.inl (h.below j hlt)
    · exact Or.inr rfl
    · -- `j = b + m + 1` with `m < k` waits in an occupied slot
      obtain ⟨m, rfl⟩ := Nat.exists_eq_add_of_lt hgt
      exact Or.inl ((h.wait (m + 1)).mp (hocc m (by omega)))
  · rw [List.mem_append, List.mem_singleton, or_iff_left (show ¬ b + k + 1 + r = b by omega),
      Nat.add_assoc b, Nat.add_assoc b]
    exact h.wait _

/-- a state in the middle of a loss-free run over the stream `seqAt L 0, seqAt L 1, …` -/
structure Disp (L : UInt16) (s : State) (b : Nat) (arr : List Nat) : Prop where
  last : s.last = curAt L b
  pend : Pending (view s) b arr

/-- One arrival: an index that has not arrived before and lies less than `len(buffer)` ahead of the
first undelivered one is stored (`m = 0`) or, if it is the next packet of the stream, delivered with
the run waiting behind it. -/
theorem disp_step (L : UInt16) (b i : Nat) (arr : List Nat) (s : State) (p : Pkt)
    (hw : WInv s) (hf : s.first = true) (hu : s.unreliable = true)
    (hd : Disp L s b arr) (hp : p.seq = seqAt L i) (hi : i ∉ arr) (hiN : i < b + s.buf.length) :
    ∃ m, Disp L (step s p).1 (b + m) (arr ++ [i]) ∧ (step s p).1.buf.length = s.buf.length ∧
      InWindow s [p] ∧ (step s p).2.restart = false ∧ (step s p).2.lost = 0 ∧
      (step s p).2.pkts.map (·.seq) = (List.range' b m).map (seqAt L) := by
  obtain ⟨hb, ha, _, hl, ho⟩ := step_unrel_fields s p hf hu
  rw [ho]
  have hNle := hw.pow2.le
  -- the arrival as an offset `d` from the origin
  obtain ⟨d, rfl⟩ := Nat.exists_eq_add_of_le (hd.pend.ge hi)
  have hdN : d < s.buf.length := Nat.lt_of_add_lt_add_left hiN
  have hnone : slot s d = none := (view_of_lt hdN).symm.trans (hd.pend.free hi)
  have hrel : relPos p.seq s.last = (d : Int) := by
    rw [hp, hd.last, ← seqAt_curAt]; exact relPos_of_offset _ d (by omega)
  have hwin : InWindow s [p] :=
    ⟨⟨hrel ▸ Int.natCast_nonneg _, hrel ▸ Int.ofNat_lt.mpr hdN,
      by rw [hrel]; exact hnone⟩, trivial⟩
  have hpth := reorder_path s p
  revert hpth hb ha hl
  generalize reorder s p = x
  intro hb ha hl hpth
  cases hpth with
  | restart hneg => exact absurd hneg (Int.not_lt.mpr hwin.1.1)
  | behind hneg => exact absurd hneg (Int.not_lt.mpr hwin.1.1)
  | flush r hrr hN =>
    obtain rfl := Int.natCast_inj.mp (hrr.symm.trans hrel)
    exact absurd hN (Nat.not_le.mpr hdN)
  | dup r q hrr _ _ hq =>
    obtain rfl := Int.natCast_inj.mp (hrr.symm.trans hrel)
    rw [hnone] at hq; cases hq
  | inorder h0 =>
    obtain rfl : d = 0 := Int.natCast_inj.mp (hrel.symm.trans h0)
    obtain ⟨hk, hocc, _⟩ := scan_spec s hw
    obtain ⟨hlast, hseqs⟩ := lastSeq_inorder s hw p (by rw [hp, hd.last, seqAt_curAt])
    refine ⟨scanLen s + 1, ⟨?_, ?_⟩, hb ▸ drainBuf_length s, hwin, rfl, rfl, ?_⟩
    · rw [hl, hlast, hd.last, seqAt_curAt, seqAt_eq_curAt]; rfl
    · rw [view_congr _ _ hb ha, show view (drained s) = _ from funext (view_drained s hw)]
      exact hd.pend.drain fun j hj => by rw [view_of_lt (by omega)]; exact hocc j hj
    · show (p :: drainTail s).map (·.seq) = _
      rw [hseqs, List.range'_eq_map_range, List.map_map, hd.last]
      exact List.map_congr_left fun j _ => seqAt_curAt L b j
  | put r hrr =>
    obtain rfl := Int.natCast_inj.mp (hrr.symm.trans hrel)
    refine ⟨0, ⟨hl.trans hd.last, ?_⟩, hb ▸ List.length_set, hwin, rfl, rfl, rfl⟩
    rw [view_congr _ _ hb ha, show view (stored s r p) = _ from funext (view_stored s hw p r hdN)]
    exact hd.pend.put p

theorem lostTotal_zero (os : List Out) (h : ∀ o ∈ os, o.lost = 0) : lostTotal os = 0 := by
  induction os with
  | nil => rfl
  | cons o os ih =>
    simp only [lostTotal, List.map_cons, List.sum_cons] at *
    have h1 := h o (by simp)
    have h2 := ih (fun x hx => h x (by simp [hx]))
    omega

/-- The indices `arr` have arrived, `rest1` arrive now, `rest2` later, together the indices
`0 … n-1` once each; `hpw` bounds the displacement. -/
theorem disp_prefix (L : UInt16) (n : Nat) (s : State) (b : Nat) (arr rest1 rest2 : List Nat)
    (ps1 : List Pkt) (hinv : Inv s) (hf : s.first = true) (hu : s.unreliable = true)
    (hd : Disp L s b arr) (hperm : (arr ++ (rest1 ++ rest2)).Perm (List.range n))
    (hpw : (rest1 ++ rest2).Pairwise (fun a c => a < c + s.buf.length))
    (hps : ps1.map (·.seq) = rest1.map (seqAt L)) :
    ∃ m, Disp L (run s ps1).1 (b + m) (arr ++ rest1) ∧
      (delivered (run s ps1).2).map (·.seq) = (List.range' b m).map (seqAt L) ∧
      WInv (run s ps1).1 ∧ InWindow s ps1 ∧ ∀ o ∈ (run s ps1).2, o.restart = false ∧ o.lost = 0 := by
  induction ps1 generalizing s b arr rest1 with
  | nil =>
    cases rest1 with
    | cons a as => simp at hps
    | nil => exact ⟨0, by rwa [List.append_nil], rfl, hinv.win hu, trivial, fun _ ho => nomatch ho⟩
  | cons p ps ih =>
    cases rest1 with
    | nil => simp at hps
    | cons i rest1 =>
      simp only [List.map_cons, List.cons.injEq] at hps
      have hw := hinv.win hu
      obtain ⟨-, -, hdj⟩ := List.nodup_append.mp (hperm.nodup_iff.mpr List.nodup_range)
      have hi : i ∉ arr := fun h => hdj i h i (List.mem_cons_self ..) rfl
      -- the first undelivered index is `i` or arrives later, hence less than `N` behind `i`
      have hiN : i < b + s.buf.length := by
        have hb := hd.pend.ge hi
        rcases Nat.eq_or_lt_of_le hb with rfl | hlt
        · exact Nat.lt_add_of_pos_right hw.pow2.pos
        · have hin : i < n := List.mem_range.mp
            (hperm.mem_iff.mp (List.mem_append_right _ (List.mem_cons_self ..)))
          rcases List.mem_append.mp (hperm.mem_iff.mpr (List.mem_range.mpr (Nat.lt_trans hlt hin))) with e | e
          · exact absurd e (hd.pend.next hw.view_head)
          · rcases List.mem_cons.mp e with e | e
            · omega
            · exact (List.pairwise_cons.mp hpw).1 b e
      obtain ⟨m1, hd1, hlen, hwin, hnr, hl0, hseqs⟩ := disp_step L b i arr s p hw hf hu hd hps.1 hi hiN
      obtain ⟨m2, hd', hdel, hw', hwin', hout⟩ := ih (step s p).1 (b + m1) (arr ++ [i]) rest1
        (inv_step s p hinv) (step_first_true s p hf) (by rw [step_unreliable s p hf]; exact hu) hd1
        (by rwa [List.append_assoc, List.singleton_append])
        (by rw [hlen]; exact (List.pairwise_cons.mp hpw).2) hps.2
      rw [runs.cons]
      refine ⟨m1 + m2, ?_, ?_, hw', ⟨hwin.1, hwin'⟩, ?_⟩
      · rw [← Nat.add_assoc]; rwa [List.append_assoc, List.singleton_append] at hd'
      · simp only [delivered, List.flatMap_cons, List.map_append] at hdel ⊢
        rw [hseqs, hdel, ← List.map_append, List.range'_append_1]
      · intro o ho
        rcases List.mem_cons.mp ho with e | e
        · subst e; exact ⟨hnr, hl0⟩
        · exact hout o e

theorem Disp.done {L : UInt16} {s : State} {n : Nat} (hd : Disp L s b arr) (hw : WInv s)
    (hperm : arr.Perm (List.range n)) : b = n ∧ occupied s = [] := by
  have hmem : ∀ i, i ∈ arr ↔ i < n := fun i => by rw [hperm.mem_iff, List.mem_range]
  have hbn : b = n := Nat.le_antisymm
    (Nat.le_of_not_lt fun h => Nat.lt_irrefl n ((hmem n).mp (hd.pend.below n h)))
    (Nat.le_of_not_lt fun h => hd.pend.next hw.view_head ((hmem b).mpr h))
  refine ⟨hbn, List.filterMap_eq_nil_iff.mpr fun r hr => ?_⟩
  rw [← view_of_lt (List.mem_range.mp hr)]
  exact hd.pend.free fun h => by have := (hmem _).mp h; omega

theorem inwindow_perm (s : State) (ps : List Pkt) (h : Inv s) (hf : s.first = true)
    (hu : s.unreliable = true) (hwin : InWindow s ps) :
    (delivered (run s ps).2 ++ occupied (run s ps).1).Perm (occupied s ++ ps) := by
  induction ps generalizing s with
  | nil => simp [run, delivered]
  | cons p ps ih =>
    obtain ⟨⟨w1, w2, w3⟩, wrest⟩ := hwin
    have ih' := ih (step s p).1 (inv_step s p h) (step_first_true s p hf)
      (by rw [step_unreliable s p hf]; exact hu) wrest
    have hperm := (reorder_path s p).perm (h.win hu) w1 fun _ => Or.inl w3
    rw [← step_occupied_unrel s p hf hu, ← (step_unrel_fields s p hf hu).2.2.2.2] at hperm
    rw [runs.cons]
    simp only [delivered, List.flatMap_cons, List.append_assoc] at ih' ⊢
    refine (ih'.append_left _).trans ?_
    rw [← List.append_assoc]
    exact (hperm.append_right _).trans List.perm_middle.symm

theorem disp_start (s : State) (hempty : occupied s = []) : Disp s.last s 0 [] := by
  refine ⟨(curAt_zero _).symm, fun _ h => absurd h (Nat.not_lt_zero _), fun r => ?_⟩
  have : view s r = none := by
    unfold view; split
    · exact occupied_nil_slot s hempty r ‹_›
    · rfl
  rw [this]; simp

end Rtsp.Recv
