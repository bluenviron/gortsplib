import Rtsp.Proofs.Receiver.Step
/-
Ordering and loss accounting of one step: what `reorder` delivers sits at strictly increasing
offsets from `lastSequenceNumber`, and for such a run both facts come from one chain lemma.
-/
namespace Rtsp.Recv

/-- `b` is ahead of `a` in the receiver's own sense: `int16(b - a - 1) ≥ 0`, i.e. `b` is between 1
and 2^15 positions after `a` modulo 2^16 -/
def Fwd (a b : UInt16) : Prop := 0 ≤ relPos b a

instance (a b : UInt16) : Decidable (Fwd a b) := by unfold Fwd; infer_instance

/-- every element is ahead of its predecessor, starting from `a` -/
def IncFrom : UInt16 → List UInt16 → Prop
  | _, [] => True
  | a, b :: bs => Fwd a b ∧ IncFrom b bs

/-- sequence numbers skipped between `a` and `b` -/
def gap (a b : UInt16) : Nat := (b - a - 1).toNat

/-- sequence numbers skipped along a list of consecutively delivered packets, starting after `a` -/
def skipped : UInt16 → List UInt16 → Nat
  | _, [] => 0
  | a, b :: bs => gap a b + skipped b bs

theorem rel_seqAt (last : UInt16) (q e : Nat) (h1 : q ≤ e) (h2 : e - q < 32768) :
    relPos (seqAt last e) (curAt last q) = ((e - q : Nat) : Int) ∧ gap (curAt last q) (seqAt last e) = e - q := by
  obtain ⟨d, rfl⟩ := Nat.exists_eq_add_of_le h1
  rw [← seqAt_curAt, Nat.add_sub_cancel_left] at *
  have h := relPos_of_offset (curAt last q) d h2
  exact ⟨h, (seq_of_relPos _ _ _ h).2.2⟩

/-- the sequence numbers at a strictly increasing run of offsets `offs ++ [e]` from `last + 1`,
seen from `q` positions after `last` -/
theorem offs_chain (last : UInt16) (q : Nat) (offs : List Nat) (e : Nat)
    (hinc : (offs ++ [e]).Pairwise (· < ·)) (hge : ∀ r ∈ offs ++ [e], q ≤ r) (hlt : e < 32768) :
    IncFrom (curAt last q) ((offs ++ [e]).map (seqAt last)) ∧
    skipped (curAt last q) ((offs ++ [e]).map (seqAt last)) + offs.length + q = e := by
  induction offs generalizing q with
  | nil =>
    have hq := hge e (List.mem_singleton_self e)
    obtain ⟨hrel, hgap⟩ := rel_seqAt last q e hq (by omega)
    refine ⟨⟨?_, trivial⟩, ?_⟩
    · show 0 ≤ relPos (seqAt last e) (curAt last q)
      rw [hrel]; omega
    · show gap (curAt last q) (seqAt last e) + 0 + 0 + q = e
      rw [hgap]; omega
  | cons r rs ih =>
    obtain ⟨hlt', hinc'⟩ := List.pairwise_cons.mp hinc
    have hr := hge r (List.mem_cons_self ..)
    have hre := hlt' e (List.mem_append_right _ (List.mem_singleton_self e))
    obtain ⟨hrel, hgap⟩ := rel_seqAt last q r hr (by omega)
    obtain ⟨ih1, ih2⟩ := ih (r + 1) hinc' (fun x hx => hlt' x hx)
    rw [← seqAt_eq_curAt] at ih1 ih2
    simp only [List.cons_append, List.map_cons, IncFrom, skipped, Fwd, List.length_cons]
    rw [hrel, hgap]
    exact ⟨⟨by omega, ih1⟩, by omega⟩

theorem Path.accounted {s : State} {p : Pkt} {x : State × Out} (hp : Path s p x) (h : WInv s)
    (hnr : x.2.restart = false) :
    IncFrom s.last (x.2.pkts.map (·.seq)) ∧ x.2.lost = skipped s.last (x.2.pkts.map (·.seq)) := by
  have hNle := h.pow2.le
  cases hp with
  | restart => exact Bool.noConfusion hnr
  | behind => exact ⟨trivial, rfl⟩
  | dup => exact ⟨trivial, rfl⟩
  | put => exact ⟨trivial, rfl⟩
  | flush r hr hN =>
    -- whole-buffer flush: the occupied slots in order, then the arrival `r ≥ N` positions ahead
    obtain ⟨hseq, hr15, _⟩ := seq_of_relPos p.seq s.last r hr
    have hocc_lt : ∀ x ∈ (List.range s.buf.length).filter (fun r => (slot s r).isSome),
        x < s.buf.length := fun x hx => List.mem_range.mp (List.mem_filter.mp hx).1
    have hc := offs_chain s.last 0 _ r
      (List.pairwise_append.mpr ⟨List.pairwise_lt_range.sublist List.filter_sublist,
        List.pairwise_singleton _ _, fun a ha b hb => by
          have := hocc_lt a ha; rw [List.mem_singleton.mp hb]; omega⟩)
      (fun _ _ => Nat.zero_le _) hr15
    have hl : (occupied s).length
        = ((List.range s.buf.length).filter (fun r => (slot s r).isSome)).length := by
      have := congrArg List.length (occupied_seq s h); simpa using this
    rw [curAt_zero, List.map_append, ← occupied_seq s h, List.map_singleton, ← hl] at hc
    dsimp only
    rw [List.map_append, List.map_singleton, hseq]
    exact ⟨hc.1, by have := hc.2; omega⟩
  | inorder h0 =>
    -- in order: the packet and the run of buffered packets behind it
    have hseq := (seq_of_relPos p.seq s.last 0 h0).1
    have hk := (scan_spec s h).1
    have hc := offs_chain s.last 0 (List.range (scanLen s)) (scanLen s)
      (by rw [← List.range_succ]; exact List.pairwise_lt_range) (fun _ _ => Nat.zero_le _) (by omega)
    rw [curAt_zero, ← List.range_succ, ← (lastSeq_inorder s h p hseq).2, List.length_range] at hc
    dsimp only
    exact ⟨hc.1, by have := hc.2; omega⟩

end Rtsp.Recv
