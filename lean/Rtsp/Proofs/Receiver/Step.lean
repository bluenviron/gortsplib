import Rtsp.Proofs.Receiver.Window
/-
`ProcessPacket2` as a whole: `reorder` followed by bookkeeping that leaves the window alone; what
is delivered, in terms of offsets from `lastSequenceNumber`.
-/
namespace Rtsp.Recv

theorem step_first (s : State) (p : Pkt) (hf : s.first = false) :
    step s p = ({ s with first := true, received := 1, rlSince := 1, last := p.seq }, { pkts := [p], lost := 0 }) := by
  simp [step, hf]

/-- counters after `reorder` -/
def counted (s1 : State) (o : Out) : State :=
  { s1 with lost := s1.lost + o.lost, lostSince := s1.lostSince + o.lost,
            received := s1.received + o.pkts.length, rlSince := s1.rlSince + o.pkts.length + o.lost }

theorem step_unrel (s : State) (p : Pkt) (hf : s.first = true) (hu : s.unreliable = true) :
    step s p = ((reorder s p).2.pkts.foldl advance (counted (reorder s p).1 (reorder s p).2), (reorder s p).2) := by
  simp [step, hf, hu, counted]

theorem step_rel (s : State) (p : Pkt) (hf : s.first = true) (hu : s.unreliable = false) :
    step s p = ([p].foldl advance (counted s { pkts := [p], lost := (p.seq - s.last - 1).toNat }),
                { pkts := [p], lost := (p.seq - s.last - 1).toNat }) := by
  simp [step, hf, hu, counted]

theorem step_frame (s : State) (p : Pkt) (hf : s.first = true) :
    ∃ nc b a, (step s p).1 = { s with
      negCount := nc, buf := b, absPos := a,
      lost := s.lost + (step s p).2.lost, lostSince := s.lostSince + (step s p).2.lost,
      received := s.received + (step s p).2.pkts.length,
      rlSince := s.rlSince + (step s p).2.pkts.length + (step s p).2.lost,
      cycles := ((step s p).2.pkts.foldl advance s).cycles,
      last := lastSeq s.last (step s p).2.pkts } := by
  by_cases hu : s.unreliable = true
  · obtain ⟨nc, b, a, h⟩ := (reorder_path s p).frame
    rw [step_unrel s p hf hu]
    generalize reorder s p = x at h ⊢
    obtain ⟨s1, o⟩ := x
    subst h
    exact ⟨nc, b, a, foldl_advance_eq (counted _ o) s o.pkts rfl rfl⟩
  · rw [step_rel s p hf (Bool.eq_false_iff.mpr hu)]
    exact ⟨_, _, _, foldl_advance_eq (counted s _) s [p] rfl rfl⟩

theorem step_unrel_fields (s : State) (p : Pkt) (hf : s.first = true) (hu : s.unreliable = true) :
    (step s p).1.buf = (reorder s p).1.buf ∧ (step s p).1.absPos = (reorder s p).1.absPos ∧
    (step s p).1.negCount = (reorder s p).1.negCount ∧
    (step s p).1.last = lastSeq s.last (reorder s p).2.pkts ∧ (step s p).2 = (reorder s p).2 := by
  have hl := reorder_last s p
  rw [step_unrel s p hf hu]
  -- `reorder s p` as a variable: comparing projections of it would unfold the model
  generalize reorder s p = x at hl ⊢
  rw [foldl_advance_eq (counted x.1 x.2) x.1 x.2.pkts rfl rfl, hl]
  exact ⟨rfl, rfl, rfl, rfl, rfl⟩

theorem step_first_true (s : State) (p : Pkt) (hf : s.first = true) : (step s p).1.first = true := by
  obtain ⟨_, _, _, h⟩ := step_frame s p hf
  rw [h]; exact hf

theorem step_unreliable (s : State) (p : Pkt) (hf : s.first = true) :
    (step s p).1.unreliable = s.unreliable := by
  obtain ⟨_, _, _, h⟩ := step_frame s p hf
  rw [h]

theorem step_last (s : State) (p : Pkt) (hf : s.first = true) :
    (step s p).1.last = lastSeq s.last (step s p).2.pkts := by
  obtain ⟨_, _, _, h⟩ := step_frame s p hf
  rw [h]

theorem step_counters (s : State) (p : Pkt) (hf : s.first = true) :
    (step s p).1.received = s.received + (step s p).2.pkts.length ∧
    (step s p).1.lost = s.lost + (step s p).2.lost ∧
    (step s p).1.lostSince = s.lostSince + (step s p).2.lost ∧
    (step s p).1.rlSince = s.rlSince + (step s p).2.pkts.length + (step s p).2.lost := by
  obtain ⟨_, _, _, h⟩ := step_frame s p hf
  rw [h]; exact ⟨rfl, rfl, rfl, rfl⟩

theorem filterMap_seq (s : State) (h : WInv s) (l : List Nat) (hl : ∀ r ∈ l, r < s.buf.length) :
    (l.filterMap (slot s)).map (·.seq) = (l.filter (fun r => (slot s r).isSome)).map (seqAt s.last) := by
  induction l with
  | nil => rfl
  | cons r rs ih =>
    have ih' := ih (fun x hx => hl x (by simp [hx]))
    cases hs : slot s r with
    | none => simp [hs, ih']
    | some q =>
      have := h.seqs r q (hl r (by simp)) hs
      simp [hs, ih', this, seqAt]

theorem occupied_seq (s : State) (h : WInv s) :
    (occupied s).map (·.seq)
      = ((List.range s.buf.length).filter (fun r => (slot s r).isSome)).map (seqAt s.last) := by
  unfold occupied
  exact filterMap_seq s h _ (fun r hr => by simpa using hr)

theorem drainTail_seq (s : State) (h : WInv s) :
    (drainTail s).map (·.seq) = (List.range (scanLen s)).map (fun i => seqAt s.last (i + 1)) := by
  obtain ⟨hk, hocc, _⟩ := scan_spec s h
  have hf : ((List.range (scanLen s)).map (· + 1)).filter (fun r => (slot s r).isSome)
      = (List.range (scanLen s)).map (· + 1) := by
    apply List.filter_eq_self.mpr
    intro r hr
    obtain ⟨i, hi, rfl⟩ := List.mem_map.mp hr
    exact hocc i (List.mem_range.mp hi)
  have := filterMap_seq s h ((List.range (scanLen s)).map (· + 1)) (fun r hr => by
    obtain ⟨i, hi, rfl⟩ := List.mem_map.mp hr
    have := List.mem_range.mp hi
    omega)
  rw [hf, List.filterMap_map, List.map_map] at this
  exact this

theorem drainTail_length (s : State) (h : WInv s) : (drainTail s).length = scanLen s := by
  have := congrArg List.length (drainTail_seq s h)
  simpa using this

theorem lastSeq_map (l : UInt16) (ps : List Pkt) :
    lastSeq l ps = ((ps.map (·.seq)).getLast?).getD l := by
  induction ps generalizing l with
  | nil => rfl
  | cons p ps ih =>
    rw [lastSeq, ih]
    cases ps with
    | nil => rfl
    | cons q qs => simp [List.getLast?_cons]

theorem lastSeq_inorder (s : State) (h : WInv s) (p : Pkt) (hseq : p.seq = seqAt s.last 0) :
    lastSeq s.last (p :: drainTail s) = seqAt s.last (scanLen s) ∧
    (p :: drainTail s).map (·.seq) = (List.range (scanLen s + 1)).map (seqAt s.last) := by
  have hm : (p :: drainTail s).map (·.seq) = (List.range (scanLen s + 1)).map (seqAt s.last) := by
    simp only [List.map_cons, drainTail_seq s h]
    rw [List.range_succ_eq_map, List.map_cons, List.map_map]
    simp [hseq]
  refine ⟨?_, hm⟩
  rw [lastSeq_map, hm, List.getLast?_map, List.getLast?_range]
  simp

end Rtsp.Recv
