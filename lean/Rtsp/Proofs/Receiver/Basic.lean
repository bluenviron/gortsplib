import Rtsp.Model.Receiver
/-
Lemmas about the receiver model: the signed 16-bit view of sequence-number differences, sequence
numbers as offsets from an origin, the slot index as a remainder for power-of-two sizes
(`slotIdx_mod`), buffer updates, and the six paths through Go's `reorder` (`Path`: one constructor
per path, with the condition under which it is taken and the state and output it produces).
-/
namespace Rtsp.Recv

theorem toInt_eq (x : UInt16) :
    x.toInt16.toInt = if x.toNat < 32768 then (x.toNat : Int) else (x.toNat : Int) - 65536 := by
  have : x.toInt16.toInt = x.toBitVec.toInt := rfl
  rw [this, BitVec.toInt_eq_toNat_cond]
  have h : x.toBitVec.toNat = x.toNat := rfl
  rw [h]
  split <;> split <;> omega

theorem relPos_eq (seq last : UInt16) :
    relPos seq last = if (seq - last - 1).toNat < 32768 then ((seq - last - 1).toNat : Int)
                      else ((seq - last - 1).toNat : Int) - 65536 := by
  unfold relPos; exact toInt_eq _

theorem relPos_range (seq last : UInt16) : -32768 ≤ relPos seq last ∧ relPos seq last < 32768 := by
  rw [relPos_eq]
  have hlt := (seq - last - 1).toNat_lt
  split <;> omega

/-! `curAt l q` is `q` positions after `l`, `seqAt l r = curAt l (r + 1)` the one `r` positions after
`l + 1`.  The two facts that need the 16-bit representation are `seq_of_relPos` and
`relPos_of_offset`; the rest is algebra in `UInt16`. -/

def curAt (last : UInt16) (q : Nat) : UInt16 := last + UInt16.ofNat q

def seqAt (last : UInt16) (r : Nat) : UInt16 := last + 1 + UInt16.ofNat r

theorem curAt_zero (last : UInt16) : curAt last 0 = last := UInt16.add_zero last

theorem curAt_add (L : UInt16) (a c : Nat) : curAt (curAt L a) c = curAt L (a + c) := by
  unfold curAt; rw [UInt16.ofNat_add, UInt16.add_assoc]

theorem seqAt_eq_curAt (last : UInt16) (r : Nat) : seqAt last r = curAt last (r + 1) := by
  unfold seqAt curAt; rw [Nat.add_comm r 1, UInt16.ofNat_add, ← UInt16.add_assoc]; rfl

theorem seqAt_curAt (L : UInt16) (a j : Nat) : seqAt (curAt L a) j = seqAt L (a + j) := by
  rw [seqAt_eq_curAt, seqAt_eq_curAt, curAt_add]; rfl

theorem seq_of_relPos (seq last : UInt16) (r : Nat) (h : relPos seq last = (r : Int)) :
    seq = seqAt last r ∧ r < 32768 ∧ (seq - last - 1).toNat = r := by
  unfold seqAt
  rw [relPos_eq] at h
  have hlt := (seq - last - 1).toNat_lt
  have hx : (seq - last - 1).toNat = r ∧ r < 32768 := by split at h <;> omega
  refine ⟨?_, hx.2, hx.1⟩
  have e : seq = seq - last - 1 + 1 + last :=
    UInt16.sub_eq_iff_eq_add.mp (UInt16.sub_eq_iff_eq_add.mp rfl)
  rw [← hx.1, UInt16.ofNat_toNat, UInt16.add_comm last, UInt16.add_comm (1 + last), ← UInt16.add_assoc]
  exact e

theorem relPos_of_offset (last : UInt16) (r : Nat) (h : r < 32768) :
    relPos (last + 1 + UInt16.ofNat r) last = (r : Int) := by
  have e : last + 1 + UInt16.ofNat r - last - 1 = UInt16.ofNat r := by
    rw [UInt16.add_assoc, UInt16.add_comm last, UInt16.add_sub_cancel, UInt16.add_comm, UInt16.add_sub_cancel]
  rw [relPos_eq, e, UInt16.toNat_ofNat', Nat.mod_eq_of_lt (by omega), if_pos h]

/-- `BufferSize` is a power of two, at most 2^14 (so that the `uint16` / `int16` conversions of
`len(rr.buffer)` in the Go code are exact) -/
def Pow2 (n : Nat) : Prop := ∃ k, n = 2 ^ k ∧ k ≤ 14

theorem Pow2.pos {n : Nat} (h : Pow2 n) : 0 < n := by
  obtain ⟨k, hk, _⟩ := h; rw [hk]; exact Nat.pow_pos (by decide)

theorem Pow2.le {n : Nat} (h : Pow2 n) : n ≤ 16384 := by
  obtain ⟨k, hk, hk2⟩ := h; rw [hk]
  calc 2 ^ k ≤ 2 ^ 14 := Nat.pow_le_pow_right (by decide) hk2
    _ = 16384 := by decide

theorem slotIdx_mod (s : State) (h : Pow2 s.buf.length) (i : Nat) :
    slotIdx s i = (s.absPos + i) % s.buf.length := by
  obtain ⟨k, hk, _⟩ := h
  unfold slotIdx; rw [hk]; exact Nat.and_two_pow_sub_one_eq_mod _ _

theorem mod_lt' (n x : Nat) (h : 0 < n) : x % n < n := Nat.mod_lt x h

abbrev Buf := List (Option Pkt)

theorem getD_set (b : Buf) (i x : Nat) (v : Option Pkt) (hi : i < b.length) :
    (b.set i v).getD x none = if i = x then v else b.getD x none := by
  simp only [List.getD_eq_getElem?_getD, List.getElem?_set, hi, if_true]
  split <;> simp

theorem getD_set_none (b : Buf) (i x : Nat) :
    (b.set i none).getD x none = if i = x then none else b.getD x none := by
  simp only [List.getD_eq_getElem?_getD, List.getElem?_set]
  split
  · split <;> simp
  · rfl

/-- the slots `g i`, `i ∈ l`, cleared one after the other, as `drainBuf` does -/
theorem getD_clear {α : Type} (g : α → Nat) (l : List α) (b : Buf) (x : Nat) :
    (l.foldl (fun b i => b.set (g i) none) b).getD x none = if x ∈ l.map g then none else b.getD x none := by
  induction l generalizing b with
  | nil => simp
  | cons i is ih =>
    simp only [List.foldl_cons, ih, getD_set_none, List.map_cons, List.mem_cons]
    by_cases h1 : x ∈ is.map g
    · simp [h1]
    · by_cases h2 : g i = x
      · simp [h1, h2]
      · have : ¬ x = g i := fun h => h2 h.symm
        simp [h1, h2, this]

theorem length_clear {α : Type} (g : α → Nat) (l : List α) (b : Buf) :
    (l.foldl (fun b i => b.set (g i) none) b).length = b.length := by
  induction l generalizing b with
  | nil => rfl
  | cons i is ih => simp [List.foldl_cons, ih]

theorem getD_replicate_none (n x : Nat) : (List.replicate n (none : Option Pkt)).getD x none = none := by
  simp only [List.getD_eq_getElem?_getD, List.getElem?_replicate]
  split <;> rfl

/-- whole-buffer flush and restart: every slot emptied -/
def cleared (s : State) : State := { s with negCount := 0, buf := clearAll s }

/-- a packet stored `r` positions ahead of the origin -/
def stored (s : State) (r : Nat) (p : Pkt) : State :=
  { s with negCount := 0, buf := s.buf.set (slotIdx s r) (some p) }

/-- the state `reorder` returns on the in-order branch: the run of waiting packets behind the
origin removed, the origin moved past it -/
def drained (s : State) : State :=
  { s with negCount := 0, buf := drainBuf s, absPos := slotIdx s (scanLen s + 1) }

/-- the result of `reorder s p` together with the condition under which it is produced; a
non-negative `relPos` is given as a natural number -/
inductive Path (s : State) (p : Pkt) : State × Out → Prop
  | restart : relPos p.seq s.last < 0 → s.buf.length < s.negCount + 1 →
      Path s p (cleared s, { pkts := [p], lost := 0, restart := true })
  | behind : relPos p.seq s.last < 0 → s.negCount + 1 ≤ s.buf.length →
      Path s p ({ s with negCount := s.negCount + 1 }, { pkts := [], lost := 0 })
  | flush (r : Nat) : relPos p.seq s.last = r → s.buf.length ≤ r →
      Path s p (cleared s, { pkts := occupied s ++ [p], lost := r - (occupied s).length })
  | dup (r : Nat) (q : Pkt) : relPos p.seq s.last = r → 0 < r → r < s.buf.length →
      slot s r = some q → Path s p ({ s with negCount := 0 }, { pkts := [], lost := 0 })
  | put (r : Nat) : relPos p.seq s.last = r → 0 < r → r < s.buf.length → slot s r = none →
      Path s p (stored s r p, { pkts := [], lost := 0 })
  | inorder : relPos p.seq s.last = 0 →
      Path s p (drained s, { pkts := p :: drainTail s, lost := 0 })

theorem reorder_path (s : State) (p : Pkt) : Path s p (reorder s p) := by
  simp only [reorder]
  by_cases hr : relPos p.seq s.last < 0
  · rw [if_pos hr]
    by_cases hn : s.negCount + 1 > s.buf.length
    · rw [if_pos hn]; exact .restart hr hn
    · rw [if_neg hn]; exact .behind hr (Nat.le_of_not_gt hn)
  · -- from here on `relPos` is a natural number `r`
    rw [if_neg hr]
    have hrr := (Int.toNat_of_nonneg (Int.not_lt.mp hr)).symm
    generalize (relPos p.seq s.last).toNat = r at hrr
    by_cases hf : relPos p.seq s.last ≥ (s.buf.length : Int)
    · rw [if_pos hf]
      have : (relPos p.seq s.last - ((occupied s).length + 1 : Nat) + 1).toNat
          = r - (occupied s).length := by rw [hrr]; omega
      rw [this]; exact .flush r hrr (Int.ofNat_le.mp (hrr ▸ hf))
    · rw [if_neg hf]
      have hN : r < s.buf.length := Int.ofNat_lt.mp (hrr ▸ Int.not_le.mp hf)
      by_cases h0 : relPos p.seq s.last = 0
      · rw [if_neg fun h => h h0]; exact .inorder h0
      · have hpos : 0 < r := Nat.pos_of_ne_zero fun e => h0 (by rw [hrr, e]; rfl)
        rw [if_pos h0]
        cases hs : s.buf.getD (slotIdx s r) none with
        | some q => exact .dup r q hrr hpos hN hs
        | none => exact .put r hrr hpos hN hs

theorem reorder_behind (s : State) (p : Pkt) (hr : relPos p.seq s.last < 0) :
    reorder s p = if s.negCount + 1 > s.buf.length
      then (cleared s, { pkts := [p], lost := 0, restart := true })
      else ({ s with negCount := s.negCount + 1 }, { pkts := [], lost := 0 }) := by
  simp only [reorder, if_pos hr]
  rfl

/-! Facts about `reorder s p` are proved of any `x` with `Path s p x` (so that `cases` applies) and
used at `reorder_path s p`. -/

variable {s : State} {p : Pkt} {x : State × Out}

theorem Path.frame (hp : Path s p x) :
    ∃ nc b a, x.1 = { s with negCount := nc, buf := b, absPos := a } := by
  cases hp <;> exact ⟨_, _, _, rfl⟩

theorem reorder_last (s : State) (p : Pkt) : (reorder s p).1.last = s.last := by
  obtain ⟨_, _, _, h⟩ := (reorder_path s p).frame; rw [h]

theorem Path.lost_pos_pkts (hp : Path s p x) (h : x.2.lost ≠ 0) : x.2.pkts ≠ [] := by
  cases hp with
  | flush => exact List.append_ne_nil_of_right_ne_nil _ (List.cons_ne_nil _ _)
  | _ => exact absurd rfl h

theorem Path.restart_shape (hp : Path s p x) (h : x.2.restart = true) :
    x.2.pkts.length = 1 ∧ x.2.lost = 0 := by
  cases hp with
  | restart => exact ⟨rfl, rfl⟩
  | _ => exact Bool.noConfusion h

/-- sequence number of the last delivered packet (or the old one if nothing was delivered) -/
def lastSeq (l : UInt16) : List Pkt → UInt16
  | [] => l
  | p :: ps => lastSeq p.seq ps

/-- the loop touches `cycles` and `last` only, and what it computes depends on those two alone -/
theorem foldl_advance_eq (s t : State) (ps : List Pkt) (hc : s.cycles = t.cycles)
    (hl : s.last = t.last) :
    ps.foldl advance s = { s with cycles := (ps.foldl advance t).cycles, last := lastSeq t.last ps } := by
  induction ps generalizing s t with
  | nil => simp only [List.foldl_nil, lastSeq, ← hc, ← hl]
  | cons p ps ih =>
    simp only [List.foldl_cons, lastSeq]
    rw [ih (advance s p) (advance t p) (by simp only [advance, hc, hl]) rfl]
    rfl

theorem foldl_advance_last (s : State) (ps : List Pkt) :
    (ps.foldl advance s).last = lastSeq s.last ps := by
  rw [foldl_advance_eq s s ps rfl rfl]

theorem lastSeq_append' (l : UInt16) (ps qs : List Pkt) :
    lastSeq l (ps ++ qs) = lastSeq (lastSeq l ps) qs := by
  induction ps generalizing l with
  | nil => rfl
  | cons p ps ih => simp only [List.cons_append, lastSeq]; exact ih _

theorem lastSeq_append (l : UInt16) (ps : List Pkt) (p : Pkt) : lastSeq l (ps ++ [p]) = p.seq := by
  rw [lastSeq_append']; rfl

end Rtsp.Recv
