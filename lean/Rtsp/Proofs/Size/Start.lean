import Rtsp.Model.SizeGuard
import Rtsp.Proofs.Size.Pow2
/-
C18 helper lemmas: `Client.Start` / `Server.Start` size checks.
-/
namespace Rtsp.Size

def StartRejects (limit : Nat) (wq : BitVec 64) (max : Int) : Prop :=
  (wq ≠ 0 ∧ wq &&& (wq - 1) ≠ 0) ∨ (limit : Int) < max

instance (limit : Nat) (wq : BitVec 64) (max : Int) : Decidable (StartRejects limit wq max) :=
  inferInstanceAs (Decidable (_ ∨ _))

theorem not_startRejects_iff (limit : Nat) (wq : BitVec 64) (max : Int) :
    ¬ StartRejects limit wq max ↔ (wq = 0 ∨ ∃ k, k < 64 ∧ wq.toNat = 2 ^ k) ∧ max ≤ limit := by
  unfold StartRejects
  rw [not_or, Int.not_lt]
  refine and_congr_left' ?_
  by_cases h0 : wq = 0
  · exact iff_of_true (fun h => h.1 h0) (Or.inl h0)
  · exact ⟨fun h => Or.inr ((pow2_iff_bv wq).1 ⟨Decidable.not_not.1 fun hb => h ⟨h0, hb⟩, h0⟩),
      fun h hh => h.elim h0 fun hk => hh.2 ((pow2_iff_bv wq).2 hk).1⟩

/-- `Start` with the bit test in force.  The test `max != 0` is redundant: the limit is not negative. -/
theorem start_eq (defWq defMax limit : Nat) (wq : BitVec 64) (max : Int) :
    start true defWq defMax limit wq max =
      if StartRejects limit wq max then none
      else some (if wq = 0 then BitVec.ofNat 64 defWq else wq, if max = 0 then (defMax : Int) else max) := by
  unfold start
  by_cases h1 : wq ≠ 0 ∧ wq &&& (wq - 1) ≠ 0
  · rw [if_pos (by simpa using h1), if_pos (show StartRejects limit wq max from Or.inl h1)]
  · rw [if_neg (by simpa using h1)]
    by_cases h2 : (limit : Int) < max
    · rw [if_pos (by simp; omega), if_pos (show StartRejects limit wq max from Or.inr h2)]
    · rw [if_neg (by simp; omega), if_neg (show ¬ StartRejects limit wq max from not_or.2 ⟨h1, h2⟩)]
      simp only [beq_iff_eq]

theorem start_none_iff (defWq defMax limit : Nat) (wq : BitVec 64) (max : Int) :
    start true defWq defMax limit wq max = none ↔ StartRejects limit wq max := by
  rw [start_eq]
  by_cases h : StartRejects limit wq max
  · rw [if_pos h]; exact ⟨fun _ => h, fun _ => rfl⟩
  · rw [if_neg h]; exact ⟨nofun, fun h' => absurd h' h⟩

theorem start_some_iff (defWq defMax limit : Nat) (wq : BitVec 64) (max : Int) (r : BitVec 64 × Int) :
    start true defWq defMax limit wq max = some r ↔
      ¬ StartRejects limit wq max ∧
      r = (if wq = 0 then BitVec.ofNat 64 defWq else wq, if max = 0 then (defMax : Int) else max) := by
  rw [start_eq]
  by_cases h : StartRejects limit wq max
  · rw [if_pos h]; exact ⟨nofun, fun h' => absurd h h'.1⟩
  · rw [if_neg h]; exact ⟨fun e => ⟨h, (Option.some.inj e).symm⟩, fun h' => congrArg some h'.2.symm⟩

theorem clientStart_eq (wq : BitVec 64) (max : Int) : clientStart wq max = start true 256 1472 1472 wq max := rfl
theorem serverStart_eq (wq : BitVec 64) (max : Int) : serverStart wq max = start true 256 1472 1472 wq max := rfl

end Rtsp.Size
