import Rtsp.Proofs.Size.Rtp
/-
C18 helper lemmas: every write entry point is the shared marshal / encrypt step followed by the choice
of buffer for the destination; what it hands to the transport.
-/
namespace Rtsp.Size
open Rtsp.Facts.Size

/-- Which MKI lengths can occur on a path.  The client's outbound context carries the Axis MKI in
client-managed-keys mode (any length is allowed here); contexts made by the server
(`server_session.go`, `server_stream_media.go`) never get one — facts `sessionOutMkiSites = 0`,
`streamOutMkiSites = 0`. -/
def Path.mkiOk : Path → Option Nat → Prop
  | .client, _ => True
  | _, ctx => ctxMki ctx = 0

/-- the property on one transport write -/
def WireOk (max : Nat) : Wire → Prop
  | .nothing => True
  | .datagram n => n ≤ max
  | .frame declared written => declared ≤ max ∧ written = declared

/-- the encrypted-or-plain size a packet of plain size `n` has for this destination -/
def Path.wire : Path → Option Nat → (growth : Option Nat → Nat) → Nat → Nat
  | .stream false, _, _, n => n
  | .stream true, none, _, _ => 0      -- a reader with SRTP on a stream without context gets the nil slice
  | _, ctx, g, n => n + g ctx

theorem Path.wire_le (path : Path) (ctx : Option Nat) (g : Option Nat → Nat) (n : Nat) :
    path.wire ctx g n ≤ n + g ctx := by
  unfold Path.wire
  split <;> omega

/-- second half of a write function: the buffer this destination gets -/
def Path.finish : Path → Enc → Res
  | .stream rs, e => e.reader rs
  | _, e => e.own

theorem Path.finish_err (path : Path) : path.finish .err = .err := by cases path <;> rfl

theorem Path.finish_panic (path : Path) : path.finish .panic = .panic := by cases path <;> rfl

/-- `f n m` is the protected size of `n` plain bytes under an MKI of `m` bytes (`srtpLen`, `srtcpLen`),
`g` the growth (`rtpGrowth`, `rtcpGrowth`) -/
theorem Path.finish_ok {f : Nat → Nat → Nat} {g : Option Nat → Nat} (hg : g none = 0)
    (hf : ∀ n m, f n m = n + g (some m)) (path : Path) (ctx : Option Nat) (n : Nat) :
    path.finish (.ok n (ctx.map (f n))) = .sent (path.wire ctx g n) := by
  cases ctx with
  | none =>
    have e : n = n + g none := by rw [hg]; rfl
    cases path
    case stream rs => cases rs <;> rfl
    all_goals exact congrArg Res.sent e
  | some m =>
    cases path
    case stream rs =>
      cases rs
      · rfl
      · exact congrArg Res.sent (hf n m)
    all_goals exact congrArg Res.sent (hf n m)

theorem srtpLen_eq (n m : Nat) : srtpLen n m = n + rtpGrowth (some m) := Nat.add_assoc ..

theorem srtcpLen_eq (n m : Nat) : srtcpLen n m = n + rtcpGrowth (some m) := by
  simp only [srtcpLen, rtcpGrowth]; omega

theorem Path.counts_of_mkiOk {path : Path} {ctx : Option Nat} (hm : path.mkiOk ctx) :
    (path == .client) = true ∨ ctxMki ctx = 0 := by
  cases path <;> first | exact Or.inl rfl | exact Or.inr hm

/-- what the write functions are called with: every path subtracts the overhead of the cipher; the client's two count the MKI -/
theorem path_constants :
    clientRtpOverhead = srtpOverhead ∧ sessionRtpOverhead = srtpOverhead ∧ streamRtpOverhead = srtpOverhead ∧
    clientRtcpOverhead = srtcpOverhead ∧ sessionRtcpOverhead = srtcpOverhead ∧ streamRtcpOverhead = srtcpOverhead ∧
    mcastRtcpOverhead = srtcpOverhead ∧ clientRtpCountsMki = true ∧ clientRtcpCountsMki = true := by decide

theorem Path.rtp_eq (path : Path) (max : Nat) (ctx : Option Nat) (p : RtpShape) (hp : path ≠ .mcastReport) :
    path.rtp max ctx p = path.finish (encodeRtp max srtpOverhead (path == .client) ctx p) := by
  obtain ⟨c1, c2, c3, _, _, _, _, k1, _⟩ := path_constants
  cases path
  case mcastReport => exact absurd rfl hp
  all_goals
    simp only [Path.rtp, clientWriteRtp, sessionWriteRtp, streamWriteRtp, streamMcastRtp, writeRtp, c1, c2, c3, k1]
    rfl

theorem Path.rtcp_eq (path : Path) (max : Nat) (ctx : Option Nat) (ver2 : Bool) (parts : List Nat) :
    path.rtcp max ctx ver2 parts =
      path.finish (encodeRtcp max srtcpOverhead (path == .client) ctx ver2 (rtcpLen parts)) := by
  obtain ⟨_, _, _, c4, c5, c6, c7, _, k2⟩ := path_constants
  cases path
  all_goals
    simp only [Path.rtcp, clientWriteRtcp, sessionWriteRtcp, streamWriteRtcp, streamMcastRtcp, mcastWriteRtcp,
      writeRtcp, c4, c5, c6, c7, k2]
    rfl

/-- `.panic`: Go's `make` with a negative length, when the maximum is below what the cipher adds. -/
theorem Path.rtp_spec (path : Path) (max : Nat) (ctx : Option Nat) (p : RtpShape) (hp : path ≠ .mcastReport)
    (hm : path.mkiOk ctx) :
    path.rtp max ctx p =
      if max < rtpGrowth ctx then .panic
      else if wellFormed p = true ∧ rtpMarshalSize p + rtpGrowth ctx ≤ max
        then .sent (path.wire ctx rtpGrowth (rtpMarshalSize p)) else .err := by
  rw [Path.rtp_eq path max ctx p hp, encodeRtp_eq (Path.counts_of_mkiOk hm)]
  split
  · exact Path.finish_panic _
  · split
    · exact Path.finish_ok rfl srtpLen_eq ..
    · exact Path.finish_err _

theorem Path.rtcp_spec (path : Path) (max : Nat) (ctx : Option Nat) (ver2 : Bool) (parts : List Nat)
    (hm : path.mkiOk ctx) :
    path.rtcp max ctx ver2 parts =
      if rtcpLen parts + rtcpGrowth ctx ≤ max ∧ (ctx ≠ none → rtcpEncryptable ver2 (rtcpLen parts) = true)
        then .sent (path.wire ctx rtcpGrowth (rtcpLen parts)) else .err := by
  rw [Path.rtcp_eq, encodeRtcp_eq (Path.counts_of_mkiOk hm)]
  split
  · exact Path.finish_ok rfl srtcpLen_eq ..
  · exact Path.finish_err _

theorem WireOk.mono {m m' : Nat} {w : Wire} (h : WireOk m w) (hm : m ≤ m') : WireOk m' w := by
  cases w with
  | nothing => trivial
  | datagram n => exact Nat.le_trans h hm
  | frame d k => exact ⟨Nat.le_trans h.1 hm, h.2⟩

theorem onWire_ok {proto : Proto} {max extra : Nat} {r : Res} (hex : extra = 4)
    (h : ∀ w, r = .sent w → w ≤ max) : WireOk max (onWire proto max extra r) := by
  cases r with
  | err => trivial
  | panic => trivial
  | sent w =>
    have hw := h w rfl
    cases proto with
    | udp => exact hw
    | tcp => exact ⟨hw, by omega⟩

theorem onWire_nothing_iff {proto : Proto} {max extra : Nat} {r : Res} :
    onWire proto max extra r = .nothing ↔ ∀ w, r ≠ .sent w := by
  cases r with
  | err => exact iff_of_true rfl nofun
  | panic => exact iff_of_true rfl nofun
  | sent w => cases proto <;> exact iff_of_false nofun fun h => h w rfl

theorem Path.extra_eq (path : Path) : path.extra = 4 := by
  cases path <;> rfl

end Rtsp.Size
