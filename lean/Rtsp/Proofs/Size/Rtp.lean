import Rtsp.Model.SizeGuard
/-
C18 helper lemmas: the marshal / encrypt step (`encodeRtp`, `encodeRtcp`) as one case distinction on
sizes, first against the plain limit, then — on the write paths — against the maximum itself.
-/
namespace Rtsp.Size
open Rtsp.Facts.Size

/-- `MarshalTo`'s buffer test on the header is implied by the one on the whole packet (`hh`). -/
theorem marshalTo_eq (p : RtpShape) (buf : Nat) :
    marshalTo p buf = if wellFormed p = true ∧ rtpMarshalSize p ≤ buf then some (rtpMarshalSize p) else none := by
  have hh : headerSize p ≤ rtpMarshalSize p := Nat.le_add_right_of_le (Nat.le_add_right ..)
  unfold marshalTo wellFormed
  cases (p.padFlag && paddingSize p == 0)
  · cases extWellFormed p.ext
    · simp only [Bool.false_eq_true, Bool.not_false, Bool.and_false, false_and, if_false, if_true]
      split <;> rfl
    · simp only [Bool.false_eq_true, Bool.not_false, Bool.not_true, Bool.and_true, true_and, if_false]
      by_cases h : rtpMarshalSize p ≤ buf
      · rw [if_neg (by omega), if_neg (by omega), if_pos h]
      · rw [if_neg h]
        split
        · rfl
        · rw [if_pos (by omega)]
  · rfl

/-- `Packet.MarshalSize` with the constants of pion put in -/
theorem C18.rtpMarshalSize_eq (p : RtpShape) :
    rtpMarshalSize p = 12 + 4 * p.csrc + extSize p.ext + p.payload + paddingSize p := by
  have c1 : rtpFixedHeader = 12 := rfl
  have c2 : rtpCsrcLength = 4 := rfl
  unfold rtpMarshalSize headerSize
  rw [c1, c2]; omega

/-- MKI length of an optional context (0 without SRTP) -/
def ctxMki : Option Nat → Nat
  | none => 0
  | some m => m

/-- bytes SRTP adds to an RTP packet under this context -/
def rtpGrowth : Option Nat → Nat
  | none => 0
  | some m => m + authTagRtpLen

/-- bytes SRTCP adds to an RTCP packet under this context -/
def rtcpGrowth : Option Nat → Nat
  | none => 0
  | some m => authTagRtcpLen + m + srtcpIndexSize

/-- what `srtp.Context.EncryptRTCP` refuses -/
def rtcpEncryptable (ver2 : Bool) (len : Nat) : Bool := !(len < 4 || !ver2 || len < srtcpHeaderSize)

theorem plainLimit_none (max ov : Nat) (cm : Bool) : plainLimit max ov cm none = (max : Int) := rfl

theorem plainLimit_some (max ov : Nat) (cm : Bool) (m : Nat) :
    plainLimit max ov cm (some m) = (max : Int) - ((ov : Int) + (if cm then (m : Int) else 0)) := rfl

theorem encodeRtp_eq_limit (max ov : Nat) (cm : Bool) (ctx : Option Nat) (p : RtpShape) :
    encodeRtp max ov cm ctx p =
      if plainLimit max ov cm ctx < 0 then .panic
      else if wellFormed p = true ∧ (rtpMarshalSize p : Int) ≤ plainLimit max ov cm ctx
        then .ok (rtpMarshalSize p) (ctx.map (srtpLen (rtpMarshalSize p)))
        else .err := by
  unfold encodeRtp
  by_cases h0 : plainLimit max ov cm ctx < 0
  · rw [if_pos h0, if_pos h0]
  · have hn : ∀ n : Nat, n ≤ (plainLimit max ov cm ctx).toNat ↔ (n : Int) ≤ plainLimit max ov cm ctx := by omega
    rw [if_neg h0, if_neg h0, marshalTo_eq]
    by_cases hc : wellFormed p = true ∧ (rtpMarshalSize p : Int) ≤ plainLimit max ov cm ctx
    · simp only [hn, if_pos hc]
      cases ctx <;> rfl
    · simp only [hn, if_neg hc]

theorem encodeRtp_ok_of_fits {max ov : Nat} {cm : Bool} {ctx : Option Nat} {p : RtpShape}
    (hw : wellFormed p = true) (hf : (rtpMarshalSize p : Int) ≤ plainLimit max ov cm ctx) :
    encodeRtp max ov cm ctx p = .ok (rtpMarshalSize p) (ctx.map (srtpLen (rtpMarshalSize p))) := by
  rw [encodeRtp_eq_limit, if_neg (by omega), if_pos ⟨hw, hf⟩]

theorem encodeRtp_err_of_oversize {max ov : Nat} {cm : Bool} {ctx : Option Nat} {p : RtpShape}
    (hl : 0 ≤ plainLimit max ov cm ctx) (hf : plainLimit max ov cm ctx < (rtpMarshalSize p : Int)) :
    encodeRtp max ov cm ctx p = .err := by
  rw [encodeRtp_eq_limit, if_neg (by omega), if_neg (fun h => by omega)]

theorem encodeRtp_err_of_malformed {max ov : Nat} {cm : Bool} {ctx : Option Nat} {p : RtpShape}
    (hl : 0 ≤ plainLimit max ov cm ctx) (hw : wellFormed p = false) :
    encodeRtp max ov cm ctx p = .err := by
  rw [encodeRtp_eq_limit, if_neg (by omega), if_neg (fun h => by simp [hw] at h)]

theorem encodeRtcp_eq_limit (max ov : Nat) (cm : Bool) (ctx : Option Nat) (ver2 : Bool) (len : Nat) :
    encodeRtcp max ov cm ctx ver2 len =
      if (len : Int) ≤ plainLimit max ov cm ctx ∧ (ctx ≠ none → rtcpEncryptable ver2 len = true)
        then .ok len (ctx.map (srtcpLen len)) else .err := by
  unfold encodeRtcp
  by_cases h0 : (len : Int) > plainLimit max ov cm ctx
  · rw [if_pos h0, if_neg (fun h => by omega)]
  · rw [if_neg h0]
    cases ctx with
    | none => exact (if_pos ⟨by omega, fun h => absurd rfl h⟩).symm
    | some m =>
      have he : rtcpEncryptable ver2 len = !(len < 4 || !ver2 || len < srtcpHeaderSize) := rfl
      simp only [he, ne_eq, reduceCtorEq, not_false_eq_true, true_implies]
      cases (len < 4 || !ver2 || len < srtcpHeaderSize)
      · exact (if_pos ⟨by omega, rfl⟩).symm
      · exact (if_neg (fun h => nomatch h.2)).symm

theorem encodeRtcp_err_of_oversize {max ov : Nat} {cm : Bool} {ctx : Option Nat} {ver2 : Bool} {len : Nat}
    (hf : plainLimit max ov cm ctx < (len : Int)) :
    encodeRtcp max ov cm ctx ver2 len = .err := by
  rw [encodeRtcp_eq_limit, if_neg (fun h => by omega)]

/-- On every write path the overhead subtracted is what the cipher adds besides the MKI (`ov` = 10 for
RTP, 14 for RTCP), and the MKI is counted or there is none: the test against the plain limit is the
test of the protected size against the maximum. -/
theorem le_plainLimit_iff {max ov : Nat} {cm : Bool} {ctx : Option Nat} {g : Option Nat → Nat}
    (hg0 : g none = 0) (hg : ∀ m, g (some m) = m + ov) (hcm : cm = true ∨ ctxMki ctx = 0) (n : Nat) :
    (n : Int) ≤ plainLimit max ov cm ctx ↔ n + g ctx ≤ max := by
  cases ctx with
  | none => rw [hg0]; exact Int.ofNat_le
  | some m =>
    rw [hg, plainLimit]
    rcases hcm with rfl | h
    · simp only [if_true]; omega
    · cases (h : m = 0); split <;> omega

theorem rtcpGrowth_some (m : Nat) : rtcpGrowth (some m) = m + srtcpOverhead := by
  simp only [rtcpGrowth, authTagRtcpLen, srtcpIndexSize, srtcpOverhead]; omega

theorem encodeRtp_eq {max : Nat} {cm : Bool} {ctx : Option Nat} (hcm : cm = true ∨ ctxMki ctx = 0) (p : RtpShape) :
    encodeRtp max srtpOverhead cm ctx p =
      if max < rtpGrowth ctx then .panic
      else if wellFormed p = true ∧ rtpMarshalSize p + rtpGrowth ctx ≤ max
        then .ok (rtpMarshalSize p) (ctx.map (srtpLen (rtpMarshalSize p)))
        else .err := by
  have hl := le_plainLimit_iff (max := max) (ov := srtpOverhead) (g := rtpGrowth) rfl (fun _ => rfl) hcm
  have h0 : plainLimit max srtpOverhead cm ctx < 0 ↔ max < rtpGrowth ctx := by have := hl 0; omega
  simp only [encodeRtp_eq_limit, hl, h0]

theorem encodeRtcp_eq {max : Nat} {cm : Bool} {ctx : Option Nat} (hcm : cm = true ∨ ctxMki ctx = 0)
    (ver2 : Bool) (len : Nat) :
    encodeRtcp max srtcpOverhead cm ctx ver2 len =
      if len + rtcpGrowth ctx ≤ max ∧ (ctx ≠ none → rtcpEncryptable ver2 len = true)
        then .ok len (ctx.map (srtcpLen len)) else .err := by
  simp only [encodeRtcp_eq_limit, le_plainLimit_iff (ov := srtcpOverhead) (g := rtcpGrowth) rfl rtcpGrowth_some hcm]

end Rtsp.Size
