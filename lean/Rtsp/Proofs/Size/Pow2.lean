/-
C18 helper: the bit trick `n & (n-1) == 0` characterises the powers of two.  On `Nat` this is core's
`Nat.ne_zero_and_sub_one_eq_zero_iff_isPowerOfTwo`; here it is carried to Go's 64-bit `int`, read as a bit
pattern (`pow2_iff_bv`) and as a signed number (`toInt_single_bit`).
-/
namespace Rtsp.Size

/-- The check of `Client.Start` / `Server.Start` (and of `ringbuffer.New`) on natural numbers:
`n & (n-1) == 0` holds for a non-zero `n` exactly when `n` is a power of two.  (For `n = 0` the bit
trick also yields 0: both `Start` functions replace 0 by the default 256 before the check.) -/
theorem pow2_iff (n : Nat) : (n &&& (n - 1) = 0 ∧ n ≠ 0) ↔ ∃ k, n = 2 ^ k :=
  and_comm.trans Nat.ne_zero_and_sub_one_eq_zero_iff_isPowerOfTwo

theorem zero_and_pred : (0 : Nat) &&& (0 - 1) = 0 := by decide

/-- on a non-zero pattern the subtraction does not wrap -/
theorem toNat_and_pred (w : BitVec 64) (hn : w ≠ 0) : (w &&& (w - 1)).toNat = w.toNat &&& (w.toNat - 1) := by
  have h0 : w.toNat ≠ 0 := fun h => hn (BitVec.eq_of_toNat_eq h)
  have hlt := w.isLt
  rw [BitVec.toNat_and, BitVec.toNat_sub, show (1 : BitVec 64).toNat = 1 from rfl]
  congr 1
  omega

theorem pow2_iff_bv (w : BitVec 64) : (w &&& (w - 1) = 0 ∧ w ≠ 0) ↔ ∃ k, k < 64 ∧ w.toNat = 2 ^ k := by
  constructor
  · rintro ⟨h, hn⟩
    obtain ⟨k, hk⟩ := (pow2_iff w.toNat).1
      ⟨by rw [← toNat_and_pred w hn, h]; rfl, fun h0 => hn (BitVec.eq_of_toNat_eq h0)⟩
    exact ⟨k, (Nat.pow_lt_pow_iff_right (by decide)).1 (hk ▸ w.isLt), hk⟩
  · rintro ⟨k, _, hw⟩
    have hn : w ≠ 0 := by
      rintro rfl
      exact absurd hw.symm (Nat.ne_of_gt (Nat.pow_pos (by decide)))
    exact ⟨BitVec.eq_of_toNat_eq (by rw [toNat_and_pred w hn, ((pow2_iff _).2 ⟨k, hw⟩).1]; rfl), hn⟩

/-- `-9223372036854775808` is `math.MinInt64`: the top bit alone -/
theorem toInt_single_bit (wq : BitVec 64) (k : Nat) (hk64 : k < 64) (hk : wq.toNat = 2 ^ k) :
    (k < 63 ∧ wq.toInt = 2 ^ k) ∨ wq.toInt = -9223372036854775808 := by
  rw [BitVec.toInt_eq_toNat_cond, hk]
  by_cases hh : k < 63
  · have : 2 ^ k ≤ 2 ^ 62 := Nat.pow_le_pow_right (by decide) (by omega)
    exact Or.inl ⟨hh, by rw [if_pos (by omega)]; simp⟩
  · obtain rfl : k = 63 := by omega
    exact Or.inr rfl

end Rtsp.Size
