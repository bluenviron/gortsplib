import Rtsp.Proofs.Queue.AsyncProps
import Rtsp.Drv.Ring
/-
The building blocks of the deterministic schedule used by the correspondence driver (`settle`,
`post`, `joinFuel`) are made of steps of the small-step processor model: `Reachable` (`AsyncProps`) is closed under
them.  The oracle's line-protocol operations are put together from these in
`C16.Async.oracle_states_reachable`.
-/
namespace Rtsp.Async
variable {size : Nat} {b : Bool}

theorem settle_eq (p : Proc) : settle p = run p [.cerr, .cpull] := by
  show settle p = cpull (cerr p)
  simp only [settle]
  split
  · rfl
  · rename_i hc
    rw [cpull_of_not_pulling]
    intro e; exact hc e

theorem Reachable.settle {p : Proc} (hr : Reachable size b p) : Reachable size b (settle p) := by
  rw [settle_eq]; exact hr.run _

theorem Reachable.step {p : Proc} (hr : Reachable size b p) (op : AOp) : Reachable size b (step p op) :=
  hr.run [op]

theorem Reachable.post {p : Proc} (hr : Reachable size b p) : Reachable size b (Rtsp.Drv.Async.post p) := by
  simp only [Rtsp.Drv.Async.post]
  split
  · exact hr.settle.step .closeStep
  · exact hr.settle

theorem Reachable.joinFuel {p : Proc} (n : Nat) (hr : Reachable size b p) : Reachable size b (joinFuel n p) := by
  induction n generalizing p with
  | zero => exact hr
  | succ n ih =>
    simp only [Async.joinFuel]
    split
    · exact hr
    · have h1 : Reachable size b (Async.settle (cexec p)) := (hr.step .cexec).settle
      have h2 : Reachable size b (closeStep (Async.settle (cexec p))) := h1.step .closeStep
      split
      · exact h2
      · exact ih h2

end Rtsp.Async
