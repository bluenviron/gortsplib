import Rtsp.Spec.BoundedFifo
import Rtsp.Proofs.Common.Runs
/-
Properties of the bounded FIFO specification over arbitrary operation sequences: conservation
(nothing lost, duplicated or reordered while open), order, at-most-once, nothing after close.
They transfer to the ring by `Rtsp.Ring.run_refines` (Proofs/Queue/RingRefine.lean); the transferred
statements are in Proofs/Queue/RingQueue.lean.
-/
namespace Rtsp.Fifo
open Rtsp.Ring (Op Res)
variable {α : Type}

/-- items whose `push` returned true, in order -/
def accepted : List (Op α) → List (Res α) → List α
  | .push x :: ops, .pushed true :: rs => x :: accepted ops rs
  | _ :: ops, _ :: rs => accepted ops rs
  | _, _ => []

/-- items returned by `pull`, in order -/
def pulled : List (Res α) → List α
  | .pulled (.item x) :: rs => x :: pulled rs
  | _ :: rs => pulled rs
  | [] => []

/-- every item offered to `push`, accepted or not -/
def pushes : List (Op α) → List α
  | .push x :: ops => x :: pushes ops
  | _ :: ops => pushes ops
  | [] => []

/-- items discarded by `close` / `reset` during a run from `q` -/
def discarded (q : Fifo α) : List (Op α) → List α
  | [] => []
  | .close :: ops => q.items ++ discarded (close q) ops
  | .reset :: ops => q.items ++ discarded (reset q) ops
  | op :: ops => discarded (step q op).1 ops

def noCloseReset : List (Op α) → Prop
  | [] => True
  | .close :: _ => False
  | .reset :: _ => False
  | _ :: ops => noCloseReset ops

def noReset : List (Op α) → Prop
  | [] => True
  | .reset :: _ => False
  | _ :: ops => noReset ops

@[simp] theorem run_nil (q : Fifo α) : run q [] = (q, []) := rfl
theorem runs : Runs (α := Op α) step run := ⟨fun _ => rfl, fun _ _ _ => rfl⟩

theorem push_ok {q : Fifo α} (h : q.items.length < q.cap) (x : α) :
    push q x = ({ q with items := q.items ++ [x] }, true) := by simp only [push, h, if_true]
theorem push_no {q : Fifo α} (h : ¬ q.items.length < q.cap) (x : α) :
    push q x = (q, false) := by simp only [push, h, if_false]
theorem pull_closed {q : Fifo α} (h : q.closed = true) : pull q = (q, .closed) := by
  simp only [pull, h, if_true]
theorem pull_nil {q : Fifo α} (hc : q.closed = false) (hi : q.items = []) : pull q = (q, .wait) := by
  simp only [pull, hc, hi]; rfl
theorem pull_cons {q : Fifo α} (hc : q.closed = false) {y : α} {ys : List α} (hi : q.items = y :: ys) :
    pull q = ({ q with items := ys }, .item y) := by
  simp only [pull, hc, hi]; rfl

theorem items_of_push_true {q q' : Fifo α} {x : α} (h : push q x = (q', true)) : q'.items = q.items ++ [x] := by
  by_cases hr : q.items.length < q.cap
  · rw [push_ok hr] at h; cases h; rfl
  · rw [push_no hr] at h; cases h

theorem of_pull_item {q q' : Fifo α} {x : α} (h : pull q = (q', .item x)) :
    q.closed = false ∧ q.items = x :: q'.items := by
  cases hc : q.closed with
  | true => rw [pull_closed hc] at h; cases h
  | false =>
    cases hi : q.items with
    | nil => rw [pull_nil hc hi] at h; cases h
    | cons y ys => rw [pull_cons hc hi] at h; cases h; exact ⟨rfl, rfl⟩

theorem step_elim {q : Fifo α} {motive : Op α → Fifo α × Res α → Prop}
    (pushOk : ∀ x, q.items.length < q.cap → motive (.push x) ({ q with items := q.items ++ [x] }, .pushed true))
    (pushNo : ∀ x, ¬ q.items.length < q.cap → motive (.push x) (q, .pushed false))
    (pullClosed : q.closed = true → motive .pull (q, .pulled .closed))
    (pullWait : q.closed = false → q.items = [] → motive .pull (q, .pulled .wait))
    (pullItem : ∀ y ys, q.closed = false → q.items = y :: ys → motive .pull ({ q with items := ys }, .pulled (.item y)))
    (close : motive .close (close q, .done)) (reset : motive .reset (reset q, .done))
    (op : Op α) : motive op (step q op) := by
  cases op with
  | push x =>
    by_cases h : q.items.length < q.cap
    · simp only [step, push_ok h]; exact pushOk x h
    · simp only [step, push_no h]; exact pushNo x h
  | pull =>
    cases hc : q.closed with
    | true => simp only [step, pull_closed hc]; exact pullClosed hc
    | false =>
      cases hi : q.items with
      | nil => simp only [step, pull_nil hc hi]; exact pullWait hc hi
      | cons y ys => simp only [step, pull_cons hc hi]; exact pullItem y ys hc hi
  | close => exact close
  | reset => exact reset

theorem pulled_append (rs1 rs2 : List (Res α)) : pulled (rs1 ++ rs2) = pulled rs1 ++ pulled rs2 := by
  induction rs1 with
  | nil => rfl
  | cons r rs ih =>
    cases r with
    | pushed ok => simp only [List.cons_append, pulled, ih]
    | pulled p => cases p <;> simp only [List.cons_append, pulled, ih]
    | done => simp only [List.cons_append, pulled, ih]

theorem accepted_cons (op : Op α) (ops : List (Op α)) (r : Res α) (rs : List (Res α)) :
    accepted (op :: ops) (r :: rs) = accepted [op] [r] ++ accepted ops rs := by
  cases op <;> cases r <;> first | rfl | (rename_i ok; cases ok <;> rfl)

theorem discarded_cons (q : Fifo α) (op : Op α) (ops : List (Op α)) :
    discarded q (op :: ops) = discarded q [op] ++ discarded (step q op).1 ops := by
  cases op <;> simp [discarded, step]

/-- The law of one step; the statements about whole runs below are this law iterated. -/
theorem step_accounting (q : Fifo α) (op : Op α) :
    q.items ++ accepted [op] [(step q op).2] =
      pulled [(step q op).2] ++ (discarded q [op] ++ (step q op).1.items) := by
  apply step_elim (op := op)
    (motive := fun op r => q.items ++ accepted [op] [r.2] = pulled [r.2] ++ (discarded q [op] ++ r.1.items))
  case pullWait => intro _ hi; simp [accepted, pulled, discarded, hi]
  case pullItem => intro y ys _ hi; simp [accepted, pulled, discarded, hi]
  case close => simp [Fifo.close, accepted, pulled, discarded]
  case reset => simp [Fifo.reset, accepted, pulled, discarded]
  all_goals intros; simp [accepted, pulled, discarded]

theorem run_cons_accounting (q : Fifo α) (op : Op α) (ops : List (Op α)) :
    q.items ++ accepted (op :: ops) (run q (op :: ops)).2 =
      pulled [(step q op).2] ++ (discarded q [op] ++ ((step q op).1.items ++ accepted ops (run (step q op).1 ops).2)) := by
  rw [runs.cons, accepted_cons, ← List.append_assoc, step_accounting, List.append_assoc, List.append_assoc]

theorem conservation_of_noCloseReset (q : Fifo α) (ops : List (Op α)) (hops : noCloseReset ops) :
    q.items ++ accepted ops (run q ops).2 = pulled (run q ops).2 ++ (run q ops).1.items := by
  induction ops generalizing q with
  | nil => simp [accepted, pulled]
  | cons op ops ih =>
    have hd : discarded q [op] = [] ∧ noCloseReset ops := by
      cases op <;> first | exact ⟨rfl, hops⟩ | exact hops.elim
    rw [run_cons_accounting, hd.1, List.nil_append, ih _ hd.2, ← List.append_assoc, ← pulled_append]
    rfl

/-- **conservation** between Close / Reset: what was held plus what was accepted is exactly what was
pulled followed by what is still held — no loss, no duplication, no reordering.  `hq` is not needed:
on a closed queue pulls return nothing and the equation holds all the same. -/
theorem conservation (q : Fifo α) (ops : List (Op α)) (hq : q.closed = false) (hops : noCloseReset ops) :
    q.items ++ accepted ops (run q ops).2 = pulled (run q ops).2 ++ (run q ops).1.items :=
  conservation_of_noCloseReset q ops hops

/-- **accounting** over arbitrary operation sequences (Close / Reset anywhere): every item that was
held or accepted is — exactly once — either pulled, or discarded by a Close / Reset (the signalled
loss), or still held. -/
theorem accounting (q : Fifo α) (ops : List (Op α)) :
    (q.items ++ accepted ops (run q ops).2).Perm
      (pulled (run q ops).2 ++ (discarded q ops ++ (run q ops).1.items)) := by
  induction ops generalizing q with
  | nil => simp [accepted, pulled, discarded]
  | cons op ops ih =>
    rw [discarded_cons, run_cons_accounting, runs.cons]
    show List.Perm _ (pulled ([_] ++ _) ++ _)
    rw [pulled_append, List.append_assoc, List.append_assoc]
    refine .append_left _ (((ih _).append_left _).trans ?_)
    exact List.perm_append_comm_assoc ..

theorem pulled_sublist (q : Fifo α) (ops : List (Op α)) :
    (pulled (run q ops).2).Sublist (q.items ++ accepted ops (run q ops).2) := by
  induction ops generalizing q with
  | nil => simp [pulled]
  | cons op ops ih =>
    rw [run_cons_accounting, runs.cons]
    show (pulled ([_] ++ _)).Sublist _
    rw [pulled_append]
    exact ((ih _).trans (List.sublist_append_right ..)).append_left _

theorem pushes_cons (op : Op α) (ops : List (Op α)) : pushes (op :: ops) = pushes [op] ++ pushes ops := by
  cases op <;> rfl

theorem accepted_sublist (ops : List (Op α)) (rs : List (Res α)) : (accepted ops rs).Sublist (pushes ops) := by
  induction ops generalizing rs with
  | nil => simp [accepted]
  | cons op ops ih =>
    cases rs with
    | nil => cases op <;> simp [accepted]
    | cons r rs =>
      have one : (accepted [op] [r]).Sublist (pushes [op]) := by
        cases op <;> cases r <;> first | exact List.nil_sublist _ | (rename_i ok; cases ok <;> simp [accepted, pushes])
      rw [accepted_cons, pushes_cons]
      exact one.append (ih rs)

theorem step_closed (q : Fifo α) (op : Op α) (hq : q.closed = true) (hop : op ≠ .reset) :
    pulled [(step q op).2] = [] ∧ (step q op).1.closed = true := by
  revert hop
  apply step_elim (op := op) (motive := fun op r => op ≠ .reset → pulled [r.2] = [] ∧ r.1.closed = true)
  case pullWait => intro hc; rw [hq] at hc; cases hc
  case pullItem => intro _ _ hc; rw [hq] at hc; cases hc
  case reset => exact fun h => absurd rfl h
  case close => exact fun _ => ⟨rfl, rfl⟩
  all_goals intros; exact ⟨rfl, hq⟩

theorem closed_run (q : Fifo α) (ops : List (Op α)) (hq : q.closed = true) (hops : noReset ops) :
    pulled (run q ops).2 = [] ∧ (run q ops).1.closed = true := by
  induction ops generalizing q with
  | nil => exact ⟨rfl, hq⟩
  | cons op ops ih =>
    have hop : op ≠ .reset ∧ noReset ops := by
      cases op <;> first | exact ⟨nofun, hops⟩ | exact hops.elim
    obtain ⟨h1, h2⟩ := step_closed q op hq hop.1
    rw [runs.cons]
    show pulled ([_] ++ _) = [] ∧ _
    rw [pulled_append, h1]
    exact ih _ h2 hop.2

theorem step_bounded (q : Fifo α) (op : Op α) (hq : q.items.length ≤ q.cap) :
    (step q op).1.items.length ≤ q.cap ∧ (step q op).1.cap = q.cap := by
  apply step_elim (op := op) (motive := fun _ r => r.1.items.length ≤ q.cap ∧ r.1.cap = q.cap)
  case pushOk => exact fun x h => ⟨by simp only [List.length_append, List.length_singleton]; exact h, rfl⟩
  case pullItem => exact fun y ys _ hi => ⟨by rw [hi] at hq; exact Nat.le_of_succ_le hq, rfl⟩
  case close => exact ⟨Nat.zero_le _, rfl⟩
  case reset => exact ⟨Nat.zero_le _, rfl⟩
  all_goals intros; exact ⟨hq, rfl⟩

theorem bounded (q : Fifo α) (ops : List (Op α)) (hq : q.items.length ≤ q.cap) :
    (run q ops).1.items.length ≤ (run q ops).1.cap ∧ (run q ops).1.cap = q.cap := by
  induction ops generalizing q with
  | nil => exact ⟨hq, rfl⟩
  | cons op ops ih =>
    obtain ⟨h1, h2⟩ := step_bounded q op hq
    have := ih (step q op).1 (h2 ▸ h1)
    exact ⟨this.1, this.2.trans h2⟩

end Rtsp.Fifo
