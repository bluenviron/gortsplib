import Rtsp.Proofs.Queue.RingConcOwner
import Rtsp.Proofs.Queue.RingSeq
/-
The condition variable: no wake-up is lost (`NoLostWakeup`, an invariant of all reachable states),
and hence progress (no deadlock): from every reachable state in which there is something for the
consumer to see — an item in the slot at `readIndex`, or `closed` — there is a finite schedule
after which the consumer's `Pull` has returned.
-/
namespace Rtsp.RingConc
open Rtsp.Ring
variable {α : Type}

/-- a pending `Broadcast`: some thread has changed the state, released the mutex and not yet
broadcast -/
def BcastPending (s : State α) : Prop := (∃ i, s.prod i = .bcast) ∨ s.closer = .bcast

/-- **no lost wake-up**: if the consumer is parked in `cond.Wait()`, then either there is nothing
for it to see (slot at `readIndex` empty and ring open) or a `Broadcast` is still pending -/
def NoLostWakeup (s : State α) : Prop :=
  s.cons = .waiting → (slot s.ring s.ring.readIndex = none ∧ s.ring.closed = false) ∨ BcastPending s

theorem wake_ne_waiting (c : CPc) : wake c ≠ .waiting := by cases c <;> simp [wake]

theorem BcastPending.setProd {s : State α} (h : BcastPending s) {i : Nat} (hi : s.prod i ≠ .bcast) (pc : PPc α)
    {s' : State α} (hp : s'.prod = setProd s.prod i pc) (hk : s'.closer = s.closer) : BcastPending s' :=
  h.imp (fun ⟨j, hj⟩ => ⟨j, by
    have hne : j ≠ i := fun e => hi (e ▸ hj)
    rw [hp, setProd_ne _ _ hne]; exact hj⟩) (hk ▸ ·)

theorem noLostWakeup_step {s s' : State α} (a : Act α) (h : NoLostWakeup s)
    (hs : step? s a = some s') : NoLostWakeup s' := by
  cases step?_elim hs with
  | prodLock i x hp => exact fun hw => (h hw).imp_right (·.setProd (by rw [hp]; nofun) _ rfl rfl)
  | prodBody i x hp =>
    intro hw
    cases hok : (Ring.push s.ring x).2
    · -- refused: the ring is unchanged
      refine (h hw).imp (fun hv => ?_) (·.setProd (by rw [hp]; nofun) _ rfl rfl)
      rwa [show (Ring.push s.ring x).1 = s.ring from push_false_eq _ _ hok]
    · exact .inr (.inl ⟨i, by simp only [setProd_self]; rfl⟩)
  | prodBcast | closerBcast => exact fun hw => absurd hw (wake_ne_waiting _)
  | consLock | consReacq | consUnlock => exact nofun
  | consBody =>
    intro hw
    have hwait : (pullTry s.ring).2 = .wait := by
      revert hw; show consAfter _ = _ → _; cases (pullTry s.ring).2 <;> first | exact fun _ => rfl | nofun
    obtain ⟨e, hn, hc⟩ := pullTry_wait _ hwait
    exact .inl (by rw [show (pullTry s.ring).1 = s.ring from e]; exact ⟨hn, hc⟩)
  | closerLock hk => exact fun hw => (h hw).imp_right (·.imp id fun hb => by rw [hk] at hb; cases hb)
  | closerBody => exact fun _ => .inr (.inr rfl)

theorem noLostWakeup_reachable {size : Nat} {s : State α} (h : Reachable size s) : NoLostWakeup s := by
  induction h with
  | init => exact nofun
  | step a _ hs ih => exact noLostWakeup_step a ih hs

/-- there is something for the consumer to see -/
def Visible (r : Ring α) : Prop := slot r r.readIndex ≠ none ∨ r.closed = true

theorem pullTry_visible {r : Ring α} (h : Visible r) : (pullTry r).2 ≠ .wait := by
  intro hw
  obtain ⟨_, hn, hc⟩ := pullTry_wait r hw
  rcases h with h | h
  · exact h hn
  · rw [hc] at h; cases h

theorem visible_push {r : Ring α} (x : α) (h : Visible r) : Visible (Ring.push r x).1 := by
  unfold Ring.push
  split
  · exact h
  · rename_i hn
    -- the slot written was empty, so it is not the visible slot at `readIndex`
    refine h.imp (fun hv => ?_) id
    have hne : r.writeIndex ≠ r.readIndex := fun e => hv (e ▸ hn)
    show slot { r with buffer := r.buffer.set r.writeIndex (some x) } r.readIndex ≠ none
    rwa [slot_set_ne r (some x) hne]

theorem visible_close (r : Ring α) : Visible (Ring.close r) := .inr rfl

/-- there is a finite schedule after which the consumer has returned from `Pull` once more -/
def Prog (s : State α) : Prop :=
  ∃ acts s', runActs s acts = some s' ∧ s'.returns.length = s.returns.length + 1

theorem prog_of_step {s s1 : State α} {a : Act α} (h : Step s a s1)
    (hr : s1.returns = s.returns) (hp : Prog s1) : Prog s := by
  obtain ⟨acts, s', hrun, hlen⟩ := hp
  exact ⟨a :: acts, s', by simp only [runActs, h.enabled, hrun], by rw [hlen, hr]⟩

theorem returnsAfter_length (rs : List (PullRes α)) (p : PullRes α) (h : p ≠ .wait) :
    (returnsAfter rs p).length = rs.length + 1 := by
  cases p <;> simp [returnsAfter] at h ⊢

theorem prog_locked {s : State α} (hc : s.cons = .locked) (hv : Visible s.ring) : Prog s :=
  ⟨[.consBody], _, by simp only [runActs, (Step.consBody hc).enabled]; rfl, returnsAfter_length _ _ (pullTry_visible hv)⟩

theorem prog_idle_free {s : State α} (hc : s.cons = .idle) (ho : s.owner = none) (hv : Visible s.ring) : Prog s :=
  prog_of_step (.consLock hc ho) rfl (prog_locked rfl hv)

theorem prog_relocked {s : State α} (hc : s.cons = .relocked) (hv : Visible s.ring) : Prog s :=
  prog_of_step (.consUnlock hc) rfl (prog_idle_free rfl rfl hv)

theorem prog_woken_free {s : State α} (hc : s.cons = .woken) (ho : s.owner = none) (hv : Visible s.ring) : Prog s :=
  prog_of_step (.consReacq hc ho) rfl (prog_relocked rfl hv)

theorem release_lock {s : State α} (hi : OwnerInv s) {t : Tid} (ho : s.owner = some t) (ht : t ≠ .cons)
    (hv : Visible s.ring) :
    ∃ a s', Step s a s' ∧ s'.owner = none ∧ s'.cons = s.cons ∧ s'.returns = s.returns ∧ Visible s'.ring := by
  have hh := (holder_is_owner hi t).mpr ho
  cases t with
  | cons => exact absurd rfl ht
  | prod i =>
    cases hp : s.prod i with
    | locked x => exact ⟨_, _, .prodBody i x hp, rfl, rfl, rfl, visible_push x hv⟩
    | _ => rw [holding, hp] at hh; cases hh
  | closer =>
    cases hk : s.closer with
    | locked => exact ⟨_, _, .closerBody hk, rfl, rfl, rfl, visible_close _⟩
    | _ => rw [holding, hk] at hh; cases hh

/-- an idle or woken consumer gets the mutex, after the current owner (if any) has released it -/
theorem prog_unlocked {s : State α} (hi : OwnerInv s) (hc : s.cons = .idle ∨ s.cons = .woken)
    (hv : Visible s.ring) : Prog s := by
  have free : ∀ s1 : State α, s1.cons = s.cons → s1.owner = none → Visible s1.ring → Prog s1 :=
    fun s1 hc1 ho1 hv1 => hc.elim (fun h => prog_idle_free (hc1.trans h) ho1 hv1) (fun h => prog_woken_free (hc1.trans h) ho1 hv1)
  cases ho : s.owner with
  | none => exact free s rfl ho hv
  | some t =>
    have ht : t ≠ .cons := by
      rintro rfl
      have := (holder_is_owner hi .cons).mpr ho
      rcases hc with h | h <;> rw [holding, h] at this <;> cases this
    obtain ⟨a, s1, hstep, ho1, hc1, hr1, hv1⟩ := release_lock hi ho ht hv
    exact prog_of_step hstep hr1 (free s1 hc1 ho1 hv1)

/-- a waiting consumer that has something to see is woken by the pending `Broadcast` -/
theorem prog_waiting {s : State α} (hi : OwnerInv s) (hn : NoLostWakeup s) (hc : s.cons = .waiting)
    (hv : Visible s.ring) : Prog s := by
  -- either pending `Broadcast` leaves the consumer woken and the ring as it was
  have woken : ∀ {a : Act α} {s1 : State α}, Step s a s1 → s1.cons = wake s.cons → s1.ring = s.ring →
      s1.returns = s.returns → Prog s := fun st e er hr =>
    prog_of_step st hr (prog_unlocked (ownerInv_step _ hi st.enabled) (.inr (by rw [e, hc]; rfl)) (er ▸ hv))
  rcases hn hc with ⟨h1, h2⟩ | ⟨i, hb⟩ | hb
  · rcases hv with hv | hv
    · exact absurd h1 hv
    · rw [h2] at hv; cases hv
  · exact woken (.prodBcast i hb) rfl rfl rfl
  · exact woken (.closerBcast hb) rfl rfl rfl

/-- **progress**: in every reachable state where an item is at the read position or the ring is
closed, some finite schedule makes the consumer's `Pull` return -/
theorem progress {size : Nat} {s : State α} (h : Reachable size s) (hv : Visible s.ring) : Prog s := by
  have hi := ownerInv_reachable h
  cases hc : s.cons with
  | idle => exact prog_unlocked hi (.inl hc) hv
  | locked => exact prog_locked hc hv
  | waiting => exact prog_waiting hi (noLostWakeup_reachable h) hc hv
  | woken => exact prog_unlocked hi (.inr hc) hv
  | relocked => exact prog_relocked hc hv

end Rtsp.RingConc
