import Rtsp.Proofs.Queue.AsyncInv
/-
Theorems about the processor model: error reported once and the processor stops, executed is a
prefix of accepted (exactly once while open), nothing runs after Close has returned, Close can
always return.  (That an open error-free processor can execute everything it accepted is `C16.Async.drain`.)
-/
namespace Rtsp.Async
open Rtsp.Ring
variable {size : Nat}

/-- The consumer will never run a callback again: it holds none, and wherever it could still pull (or
be started and then pull) the ring is closed.  Both an error (`Stopped`) and a returned `Close` lead
here, and no step of anybody leads out. -/
def Dead (p : Proc) : Prop :=
  (∀ c, p.cons ≠ .holding c) ∧ (p.cons = .notStarted ∨ p.cons = .pulling → p.ring.closed = true)

theorem Stopped.dead {p : Proc} (h : Stopped p) : Dead p :=
  ⟨h.cons.2.2, fun hc => hc.elim (absurd · h.cons.1) (absurd · h.cons.2.1)⟩

theorem dead_step {p : Proc} (h : Dead p) (op : AOp) :
    Dead (step p op) ∧ (step p op).executed = p.executed ∧ (step p op).errors = p.errors := by
  obtain ⟨hh, hc⟩ := h
  apply step_elim (motive := fun q => Dead q ∧ q.executed = p.executed ∧ q.errors = p.errors) (op := op)
  case pushed => exact fun _ => ⟨⟨hh, fun e => (push_closed ..).trans (hc e)⟩, rfl, rfl⟩
  case started => exact fun e => ⟨⟨nofun, fun _ => hc (.inl e)⟩, rfl, rfl⟩
  case closed => exact fun _ => ⟨⟨hh, fun _ => rfl⟩, rfl, rfl⟩
  case pulled => exact fun c e hp => by rw [pull_closed (hc (.inr e))] at hp; cases hp
  case pulledClosed => exact fun _ _ => ⟨⟨nofun, by rintro (e | e) <;> cases e⟩, rfl, rfl⟩
  case ranFail => exact fun c e _ => absurd e (hh c)
  case ranOk => exact fun c e _ => absurd e (hh c)
  case errored => exact fun _ _ _ => ⟨⟨nofun, by rintro (e | e) <;> cases e⟩, rfl, rfl⟩
  all_goals intros; exact ⟨⟨hh, hc⟩, rfl, rfl⟩

theorem dead_run {p : Proc} (h : Dead p) (ops : List AOp) :
    (run p ops).executed = p.executed ∧ (run p ops).errors = p.errors := by
  induction ops generalizing p with
  | nil => exact ⟨rfl, rfl⟩
  | cons op ops ih =>
    obtain ⟨hs, he, hr⟩ := dead_step h op
    exact ⟨(ih hs).1.trans he, (ih hs).2.trans hr⟩

/-- states reachable from `Initialize` under any interleaving of caller and consumer steps -/
def Reachable (size : Nat) (b : Bool) (p : Proc) : Prop := ∃ ops, run (init size b) ops = p

theorem Reachable.inv {b : Bool} {p : Proc} (h : 0 < size) (hr : Reachable size b p) : AInv p := by
  obtain ⟨ops, rfl⟩ := hr; exact ainv_run (ainv_init h b) ops

theorem Reachable.run {b : Bool} {p : Proc} (hr : Reachable size b p) (ops : List AOp) :
    Reachable size b (run p ops) := by
  obtain ⟨ops0, rfl⟩ := hr; exact ⟨ops0 ++ ops, run_append _ _ _⟩

/-- **error_once**: in every reachable state `OnError` has been called at most once, exactly for
the failing callbacks that ran (so: once iff one ran), and the failing callback is the last one
that ran. -/
theorem error_once {b : Bool} {p : Proc} (h : 0 < size) (hr : Reachable size b p) :
    p.errors.length ≤ 1 ∧ p.errors = p.executed.filter (·.fails) ∧
      (∀ c, c ∈ p.errors → p.executed.getLast? = some c) := by
  have hi := hr.inv h
  refine ⟨?_, hi.errs, ?_⟩
  · rcases hi.err1 with e | ⟨_, c, e, _⟩ <;> rw [e] <;> simp
  · intro c hc
    rcases hi.err1 with e | ⟨_, c', e, e2⟩
    · rw [e] at hc; cases hc
    · rw [e] at hc
      simp at hc; subst hc; exact e2

/-- … and the processor stops: once an error was reported, no further step of anybody runs a
callback or reports another error -/
theorem stops_after_error {b : Bool} {p : Proc} (h : 0 < size) (hr : Reachable size b p)
    (he : p.errors ≠ []) (ops : List AOp) :
    (run p ops).executed = p.executed ∧ (run p ops).errors = p.errors :=
  dead_run ((hr.inv h).err1.resolve_left he).1.dead ops

/-- **prefix_executed**: what ran, followed by what is running (`held`), is a prefix of what was accepted: same
order, nothing twice, nothing that was not accepted -/
theorem prefix_executed {b : Bool} {p : Proc} (h : 0 < size) (hr : Reachable size b p) :
    (p.executed ++ held p) <+: p.accepted := by
  obtain ⟨mid, hacc, _⟩ := (hr.inv h).acct
  exact ⟨mid ++ absItems p.ring, by rw [hacc]; simp⟩

/-- `prefix_executed` without the callback in execution: only what has returned -/
theorem executed_prefix {b : Bool} {p : Proc} (h : 0 < size) (hr : Reachable size b p) :
    p.executed <+: p.accepted :=
  (List.prefix_append _ _).trans (prefix_executed h hr)

/-- while the ring has not been closed, every accepted callback has run, is running or is still
queued — in that order (nothing lost, nothing duplicated) -/
theorem exactly_once_while_open {b : Bool} {p : Proc} (h : 0 < size) (hr : Reachable size b p)
    (hopen : p.ring.closed = false) :
    p.accepted = p.executed ++ held p ++ absItems p.ring := by
  obtain ⟨mid, hacc, hmid⟩ := (hr.inv h).acct
  rw [hmid hopen] at hacc
  simpa using hacc

/-- **nothing runs after Close has returned**: whatever happens afterwards (pushes, a late Start,
consumer steps, another Close) no callback is executed any more -/
theorem nothing_after_close {b : Bool} {p : Proc} (h : 0 < size) (hr : Reachable size b p)
    (hret : p.closer = .returned) (ops : List AOp) :
    (run p ops).executed = p.executed := by
  have hi := hr.inv h
  exact (dead_run ⟨hi.ret hret, fun _ => hi.clo (.inr hret)⟩ ops).1

/-- `Close` returns only when the consumer was never started or has exited -/
theorem close_returned_joined {b : Bool} {p : Proc} (h : 0 < size) (hr : Reachable size b p)
    (hnot : p.closer ≠ .returned) (hret : (closeStep p).closer = .returned) :
    p.cons = .notStarted ∨ p.cons = .exited := by
  revert hret
  -- of the moves of `step_elim` only the join sets `closer := .returned`; every other leaves it or sets another value
  apply step_elim (op := .closeStep)
    (motive := fun q => q.closer = .returned → p.cons = .notStarted ∨ p.cons = .exited)
  case joined =>
    exact fun _ hcond _ => hcond.imp_left fun hc => by simpa [hc] using (hr.inv h).run.symm
  case cancelled => exact nofun
  case closed => exact fun _ => nofun
  all_goals intros; exact absurd ‹_› hnot

/-- One round of the consumer's three steps takes it to its exit from wherever it stands: the ring is closed and the
context cancelled, so neither `Pull` nor a blocking `OnError` can hold it. -/
theorem close_terminates_const {b : Bool} {p : Proc} (h : 0 < size) (hr : Reachable size b p)
    (hcl : p.closer = .ringClosed) :
    (closeStep (run p [.cexec, .cerr, .cpull])).closer = .returned := by
  have hi := hr.inv h
  have hclosed := hi.clo (.inl hcl)
  have hcanc : (!p.onErrBlocks || p.cancelled) = true := by
    rw [hi.canc.resolve_left (by rw [hcl]; nofun), Bool.or_true]
  have fin : ∀ q : Proc, q.closer = .ringClosed → q.cons = .exited → (closeStep q).closer = .returned :=
    fun q hq hc => by rw [closeStep_join hq (.inr hc)]
  show (closeStep (cpull (cerr (cexec p)))).closer = .returned
  -- per place of the consumer: the steps that do not apply leave the state as it is
  cases hc : p.cons with
  | notStarted =>
    have e : cpull (cerr (cexec p)) = p := by simp [cexec, cerr, cpull, hc]
    rw [e, closeStep_join hcl (.inl (by rw [hi.run, hc]; rfl))]
  | exited =>
    have e : cpull (cerr (cexec p)) = p := by simp [cexec, cerr, cpull, hc]
    rw [e]; exact fin p hcl hc
  | pulling =>
    have e : cerr (cexec p) = p := by simp [cexec, cerr, hc]
    rw [e, cpull_closed hc hclosed]; exact fin _ hcl rfl
  | inError c =>
    have e : cexec p = p := by simp [cexec, hc]
    rw [e, cerr_exit hc hcanc, cpull_of_not_pulling (by simp)]; exact fin _ hcl rfl
  | holding c =>
    cases hf : c.fails with
    | true =>
      have e1 := cexec_fail hc hf
      have e2 := cerr_exit (p := cexec p) (congrArg Proc.cons e1) (by rw [e1]; exact hcanc)
      rw [e2, cpull_of_not_pulling (by simp)]
      exact fin _ (by rw [e1]; exact hcl) rfl
    | false =>
      have e1 := cexec_ok hc hf
      have e0 : cerr (cexec p) = cexec p := by simp [cerr, e1]
      rw [e0, cpull_closed (p := cexec p) (congrArg Proc.cons e1) (by rw [e1]; exact hclosed)]
      exact fin _ (by rw [e1]; exact hcl) rfl

/-- once `buffer.Close()` has run, steps of the consumer alone take it to its exit, after which
`Close` returns (the statement does not bound the schedule; `close_terminates_const` gives one that always serves) -/
theorem close_terminates {b : Bool} {p : Proc} (h : 0 < size) (hr : Reachable size b p)
    (hcl : p.closer = .ringClosed) :
    ∃ cs : List AOp, (∀ o ∈ cs, o = .cpull ∨ o = .cexec ∨ o = .cerr) ∧
      (closeStep (run p cs)).closer = .returned :=
  ⟨[.cexec, .cerr, .cpull], by decide, close_terminates_const h hr hcl⟩

end Rtsp.Async
