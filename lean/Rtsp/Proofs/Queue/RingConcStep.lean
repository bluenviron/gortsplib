import Rtsp.Model.RingConc
/-
The scheduling steps of the concurrent ring (Model/RingConc.lean), seen one thread at a time: which
thread takes a step, which program counters are inside a critical section (`holding`), where each
thread is in its current operation (`phase`), and the relation `Step` between a state, an action and
the state it leads to: `step?_elim` for what an enabled step was, `Step.enabled` for taking one.
-/
namespace Rtsp.RingConc
open Rtsp.Ring
variable {α : Type}

def PPc.holds : PPc α → Bool
  | .locked _ => true
  | _ => false
def CPc.holds : CPc → Bool
  | .locked | .relocked => true
  | _ => false
def KPc.holds : KPc → Bool
  | .locked => true
  | _ => false

@[simp] theorem PPc.holds_idle : (PPc.idle : PPc α).holds = false := rfl
@[simp] theorem PPc.holds_bcast : (PPc.bcast : PPc α).holds = false := rfl
@[simp] theorem PPc.holds_locked (x : α) : (PPc.locked x).holds = true := rfl
@[simp] theorem PPc.holds_ite (c : Prop) [Decidable c] : (if c then (PPc.bcast : PPc α) else PPc.idle).holds = false := by
  split <;> rfl
theorem CPc.holds_idle : CPc.idle.holds = false := rfl
theorem CPc.holds_locked : CPc.locked.holds = true := rfl
theorem CPc.holds_waiting : CPc.waiting.holds = false := rfl
theorem CPc.holds_woken : CPc.woken.holds = false := rfl
theorem CPc.holds_relocked : CPc.relocked.holds = true := rfl
theorem KPc.holds_idle : KPc.idle.holds = false := rfl
theorem KPc.holds_locked : KPc.locked.holds = true := rfl
theorem KPc.holds_bcast : KPc.bcast.holds = false := rfl
theorem wake_holds (c : CPc) : (wake c).holds = c.holds := by cases c <;> rfl
theorem consAfter_holds (p : PullRes α) : (consAfter p).holds = false := by cases p <;> rfl

theorem tid_prod_beq (i j : Nat) : (Tid.prod i == Tid.prod j) = decide (i = j) := by
  by_cases h : i = j <;> simp [h]

@[simp] theorem setProd_self (f : Nat → PPc α) (i : Nat) (pc : PPc α) : setProd f i pc i = pc :=
  if_pos rfl

theorem setProd_ne (f : Nat → PPc α) {i j : Nat} (pc : PPc α) (h : j ≠ i) : setProd f i pc j = f j :=
  if_neg h

/-- thread `t` is inside a critical section (between `Lock` and `Unlock`) -/
def holding (s : State α) : Tid → Bool
  | .prod i => (s.prod i).holds
  | .cons => s.cons.holds
  | .closer => s.closer.holds

/-- the thread that takes a step -/
def Act.tid : Act α → Tid
  | .prodLock i _ | .prodBody i | .prodBcast i => .prod i
  | .consLock | .consBody | .consReacq | .consUnlock => .cons
  | .closerLock | .closerBody | .closerBcast => .closer

/-- the steps that read or write ring state (`buffer`, `readIndex`, `writeIndex`, `closed`) -/
def Act.accessesRing : Act α → Bool
  | .prodBody _ | .consBody | .closerBody => true
  | _ => false

/-- unfold one scheduling step: closes the disabled cases, leaves the enabled one with `s'` replaced
by its definition -/
macro "step_cases" hs:ident : tactic =>
  `(tactic| (simp only [step?] at $hs:ident
             split at $hs:ident <;> first
               | contradiction
               | (injection $hs:ident with $hs:ident; subst $hs:ident)))

/-- What one scheduling step can do: per kind of action, what enables it and the state it leads to. -/
inductive Step (s : State α) : Act α → State α → Prop
  | prodLock (i : Nat) (x : α) : s.prod i = .idle → s.owner = none →
      Step s (.prodLock i x) { s with prod := setProd s.prod i (.locked x), owner := some (.prod i),
                                      acq := s.acq ++ [(.prod i, .push x)] }
  | prodBody (i : Nat) (x : α) : s.prod i = .locked x →
      Step s (.prodBody i) { s with ring := (Ring.push s.ring x).1, owner := none,
                                    prod := setProd s.prod i (if (Ring.push s.ring x).2 then .bcast else .idle),
                                    log := s.log ++ [⟨.prod i, .push x, .pushed (Ring.push s.ring x).2⟩] }
  | prodBcast (i : Nat) : s.prod i = .bcast →
      Step s (.prodBcast i) { s with prod := setProd s.prod i .idle, cons := wake s.cons }
  | consLock : s.cons = .idle → s.owner = none →
      Step s .consLock { s with cons := .locked, owner := some .cons, acq := s.acq ++ [(.cons, .pull)] }
  | consBody : s.cons = .locked →
      Step s .consBody { s with ring := (pullTry s.ring).1, owner := none, cons := consAfter (pullTry s.ring).2,
                                log := s.log ++ [⟨.cons, .pull, .pulled (pullTry s.ring).2⟩],
                                returns := returnsAfter s.returns (pullTry s.ring).2 }
  | consReacq : s.cons = .woken → s.owner = none → Step s .consReacq { s with cons := .relocked, owner := some .cons }
  | consUnlock : s.cons = .relocked → Step s .consUnlock { s with cons := .idle, owner := none }
  | closerLock : s.closer = .idle → s.owner = none →
      Step s .closerLock { s with closer := .locked, owner := some .closer, acq := s.acq ++ [(.closer, .close)] }
  | closerBody : s.closer = .locked →
      Step s .closerBody { s with ring := Ring.close s.ring, owner := none, closer := .bcast,
                                  log := s.log ++ [⟨.closer, .close, .done⟩] }
  | closerBcast : s.closer = .bcast → Step s .closerBcast { s with closer := .idle, cons := wake s.cons }

/-- An enabled step is one of the ten; every invariant of the system is proved by `cases` on this. -/
theorem step?_elim {s s' : State α} {a : Act α} (hs : step? s a = some s') : Step s a s' := by
  cases a
  case prodLock i x => step_cases hs; exact .prodLock i x ‹_› ‹_›
  case prodBody i => step_cases hs; exact .prodBody i _ ‹_›
  case prodBcast i => step_cases hs; exact .prodBcast i ‹_›
  case consLock => step_cases hs; exact .consLock ‹_› ‹_›
  case consBody => step_cases hs; exact .consBody ‹_›
  case consReacq => step_cases hs; exact .consReacq ‹_› ‹_›
  case consUnlock => step_cases hs; exact .consUnlock ‹_›
  case closerLock => step_cases hs; exact .closerLock ‹_› ‹_›
  case closerBody => step_cases hs; exact .closerBody ‹_›
  case closerBcast => step_cases hs; exact .closerBcast ‹_›

theorem Step.enabled {s s' : State α} {a : Act α} (h : Step s a s') : step? s a = some s' := by
  cases h <;> simp only [step?, *]

theorem step?_frame {s s' : State α} {a : Act α} (hs : step? s a = some s') :
    (∀ j, .prod j ≠ a.tid → s'.prod j = s.prod j) ∧
    (.cons ≠ a.tid → s'.cons = s.cons ∨ s'.cons = wake s.cons) ∧
    (.closer ≠ a.tid → s'.closer = s.closer) := by
  have prodCase : ∀ (i : Nat) (pc : PPc α) (j : Nat), Tid.prod j ≠ .prod i → setProd s.prod i pc j = s.prod j :=
    fun i pc j h => setProd_ne _ _ fun e => h (e ▸ rfl)
  cases step?_elim hs with
  | prodLock i | prodBody i => exact ⟨prodCase i _, fun _ => .inl rfl, fun _ => rfl⟩
  | prodBcast i => exact ⟨prodCase i _, fun _ => .inr rfl, fun _ => rfl⟩
  | consLock | consBody | consReacq | consUnlock => exact ⟨fun _ _ => rfl, fun h => absurd rfl h, fun _ => rfl⟩
  | closerLock | closerBody => exact ⟨fun _ _ => rfl, fun _ => .inl rfl, fun h => absurd rfl h⟩
  | closerBcast => exact ⟨fun _ _ => rfl, fun _ => .inr rfl, fun h => absurd rfl h⟩

theorem holding_other {s s' : State α} {a : Act α} (hs : step? s a = some s') {t : Tid} (ht : t ≠ a.tid) :
    holding s' t = holding s t := by
  obtain ⟨hp, hc, hk⟩ := step?_frame hs
  cases t with
  | prod j => exact congrArg PPc.holds (hp j ht)
  | cons => rcases hc ht with e | e <;> simp only [holding, e, wake_holds]
  | closer => exact congrArg KPc.holds (hk ht)

/-- where a thread is inside its current operation -/
inductive Phase (α : Type) where
  | out                      -- between operations
  | called (op : Op α)       -- invoked, not yet linearized
  | linned (res : Res α)     -- linearized with this result, not yet returned

/-- the phase of each thread, read off its program counter -/
def phase (s : State α) : Tid → Phase α
  | .prod i =>
    match s.prod i with
    | .idle => .out
    | .locked x => .called (.push x)
    | .bcast => .linned (.pushed true)
  | .cons =>
    match s.cons with
    | .locked => .called .pull
    | _ => .out
  | .closer =>
    match s.closer with
    | .idle => .out
    | .locked => .called .close
    | .bcast => .linned .done

theorem phase_other {s s' : State α} {a : Act α} (hs : step? s a = some s') {t : Tid} (ht : t ≠ a.tid) :
    phase s' t = phase s t := by
  obtain ⟨hp, hc, hk⟩ := step?_frame hs
  cases t with
  | prod j => simp only [phase, hp j ht]
  | cons => rcases hc ht with e | e <;> simp only [phase, e]; cases s.cons <;> rfl
  | closer => simp only [phase, hk ht]

end Rtsp.RingConc
