import Rtsp.Model.Ring
import Rtsp.Spec.BoundedFifo
import Rtsp.Proofs.Common.RingArith
import Rtsp.Proofs.Common.Runs
/-
The abstraction of the ring (Model/Ring.lean) to a bounded FIFO state, the invariant under which it
is faithful, and what each operation does under the invariant.

`Inv r base items`: the occupied slots of `r` are exactly the cyclic interval of `items.length`
slots starting at `base`, they hold `items` in order, `writeIndex` is the slot after the interval,
and while the ring is open `readIndex = base`.  (After `Close` the code leaves `readIndex` where it
was, so on a closed ring the interval starts wherever pushes after the `Close` started: `base` is
existentially quantified in `RingInv`.)
-/
namespace Rtsp.Ring
open Rtsp.Fifo (Fifo)

variable {α : Type}

/-- abstraction function: the occupied slots in cyclic order starting at `writeIndex` -/
def absItems (r : Ring α) : List α :=
  (List.range r.size).filterMap (fun j => slot r ((r.writeIndex + j) % r.size))

def abs (r : Ring α) : Fifo α := { cap := r.size, items := absItems r, closed := r.closed }

structure Inv (r : Ring α) (base : Nat) (items : List α) : Prop where
  size_pos : 0 < r.size
  len : r.buffer.length = r.size
  base_lt : base < r.size
  rd_lt : r.readIndex < r.size
  n_le : items.length ≤ r.size
  wr : r.writeIndex = (base + items.length) % r.size
  rd : r.closed = false → r.readIndex = base
  occ : ∀ i, i < items.length → slot r ((base + i) % r.size) = items[i]?
  emp : ∀ i, items.length ≤ i → i < r.size → slot r ((base + i) % r.size) = none

def RingInv (r : Ring α) : Prop := ∃ base items, Inv r base items

/-- `occ` and `emp` together: seen from `base`, the slots spell out `items` -/
theorem Inv.slot_eq {r : Ring α} {base : Nat} {items : List α} (h : Inv r base items) {i : Nat} (hi : i < r.size) :
    slot r ((base + i) % r.size) = items[i]? := by
  by_cases hlt : i < items.length
  · exact h.occ i hlt
  · rw [h.emp i (by omega) hi, List.getElem?_eq_none (by omega)]

theorem push_size (r : Ring α) (x : α) : (push r x).1.size = r.size := by
  simp only [push]; split <;> rfl
theorem push_closed (r : Ring α) (x : α) : (push r x).1.closed = r.closed := by
  simp only [push]; split <;> rfl
theorem pullTry_size (r : Ring α) : (pullTry r).1.size = r.size := by
  simp only [pullTry]; split
  · rfl
  · split <;> rfl
theorem pullTry_closed (r : Ring α) : (pullTry r).1.closed = r.closed := by
  simp only [pullTry]; split
  · rfl
  · split <;> rfl

theorem push_false_eq (r : Ring α) (x : α) (h : (push r x).2 = false) : (push r x).1 = r := by
  simp only [push] at h ⊢
  split <;> simp_all

theorem pullTry_not_item_eq (r : Ring α) (h : ∀ x, (pullTry r).2 ≠ .item x) : (pullTry r).1 = r := by
  simp only [pullTry] at h ⊢
  split
  · rfl
  · split
    · rename_i x hx; simp only [hx] at h; split at h <;> simp_all
    · rfl

theorem pullTry_closed_iff (r : Ring α) : (pullTry r).2 = .closed ↔ r.closed = true := by
  simp only [pullTry]
  split
  · simp_all
  · split <;> simp_all

theorem pullTry_wait (r : Ring α) (h : (pullTry r).2 = .wait) :
    (pullTry r).1 = r ∧ slot r r.readIndex = none ∧ r.closed = false := by
  unfold pullTry at h ⊢
  split at h
  · cases h
  · rename_i hc
    split at h
    · cases h
    · rename_i hn
      exact ⟨by rw [if_neg hc], hn, Bool.eq_false_iff.mpr hc⟩

theorem runs : Runs (α := Op α) step run := ⟨fun _ => rfl, fun _ _ _ => rfl⟩

theorem slot_set_eq (r : Ring α) {i : Nat} (v : Option α) (h : i < r.buffer.length) :
    slot { r with buffer := r.buffer.set i v } i = v := by
  simp only [slot, List.getElem?_set, h, if_true, Option.join_some]

theorem slot_set_ne (r : Ring α) {i j : Nat} (v : Option α) (hij : i ≠ j) :
    slot { r with buffer := r.buffer.set i v } j = slot r j := by
  simp only [slot, List.getElem?_set, hij, if_false]

theorem length_clearAll (s : Nat) (b : List (Option α)) : (clearAll s b).length = b.length := by
  induction s with
  | zero => rfl
  | succ s ih =>
    simp only [clearAll, List.range_succ, List.foldl_append, List.foldl_cons, List.foldl_nil, List.length_set] at ih ⊢
    exact ih

theorem getElem?_clearAll_join (s : Nat) (b : List (Option α)) (i : Nat) (hi : i < s) :
    ((clearAll s b)[i]?).join = none := by
  induction s with
  | zero => omega
  | succ s ih =>
    have e : clearAll (s + 1) b = (clearAll s b).set s none := by
      simp only [clearAll, List.range_succ, List.foldl_append, List.foldl_cons, List.foldl_nil]
    rw [e, List.getElem?_set]
    by_cases h : s = i
    · simp only [h, if_true]; split <;> rfl
    · simp only [h, if_false]; exact ih (by omega)

/-- Read from `writeIndex`, one turn of the ring meets the free slots first and then the held items
in order.  This is why `absItems` starts there: it needs neither `readIndex`, which is stale on a
closed ring, nor the number of items held. -/
theorem absItems_of_inv {r : Ring α} {base : Nat} {items : List α} (h : Inv r base items) :
    absItems r = items := by
  have hs := h.size_pos
  apply filterMap_range_tail h.n_le
  · intro j hj
    have e : (r.writeIndex + j) % r.size = (base + (items.length + j)) % r.size := by
      rw [h.wr, Nat.mod_add_mod, Nat.add_assoc]
    rw [e]
    exact h.emp _ (by omega) (by omega)
  · intro j hj
    have e : (r.writeIndex + (r.size - items.length + j)) % r.size = (base + j) % r.size := by
      rw [h.wr, Nat.mod_add_mod]
      have : base + items.length + (r.size - items.length + j) = base + j + r.size := by
        have := h.n_le; omega
      rw [this, Nat.add_mod_right]
    rw [e]
    exact h.occ j hj

theorem abs_of_inv {r : Ring α} {base : Nat} {items : List α} (h : Inv r base items) :
    abs r = { cap := r.size, items := items, closed := r.closed } := by
  simp only [abs, absItems_of_inv h]

/-- `New`, `Close` and `Reset` all end here: every slot empty, the write cursor anywhere. -/
theorem inv_empty {r : Ring α} (hs : 0 < r.size) (hl : r.buffer.length = r.size) (hw : r.writeIndex < r.size)
    (hrd : r.readIndex < r.size) (hr : r.closed = false → r.readIndex = r.writeIndex)
    (he : ∀ i, i < r.size → slot r i = none) : Inv r r.writeIndex [] where
  size_pos := hs
  len := hl
  base_lt := hw
  rd_lt := hrd
  n_le := Nat.zero_le _
  wr := (Nat.mod_eq_of_lt hw).symm
  rd := hr
  occ := fun _ hi => nomatch hi
  emp := fun _ _ _ => he _ (Nat.mod_lt _ hs)

theorem inv_new (size : Nat) (h : 0 < size) : Inv (new (α := α) size) 0 [] :=
  inv_empty (r := new size) h List.length_replicate h h (fun _ => rfl) fun i (hi : i < size) => by
    simp only [slot, new, List.getElem?_replicate, if_pos hi]; rfl

theorem inv_close {r : Ring α} {base : Nat} {items : List α} (h : Inv r base items) :
    Inv (close r) r.writeIndex [] :=
  inv_empty (r := close r) h.size_pos ((length_clearAll ..).trans h.len) (h.wr ▸ Nat.mod_lt _ h.size_pos) h.rd_lt
    nofun (getElem?_clearAll_join _ _)

theorem inv_reset {r : Ring α} {base : Nat} {items : List α} (h : Inv r base items) :
    Inv (reset r) 0 [] :=
  inv_empty (r := reset r) h.size_pos ((length_clearAll ..).trans h.len) h.size_pos h.size_pos (fun _ => rfl)
    (getElem?_clearAll_join _ _)

theorem push_full {r : Ring α} {base : Nat} {items : List α} (h : Inv r base items)
    (hfull : items.length = r.size) (x : α) : push r x = (r, false) := by
  have hs := h.size_pos
  have hw : r.writeIndex = (base + 0) % r.size := by
    rw [h.wr, hfull, Nat.add_mod_right, Nat.add_zero]
  have : slot r r.writeIndex = items[0]? := by rw [hw]; exact h.occ 0 (by omega)
  have h0 : items[0]? = some (items[0]'(by omega)) := List.getElem?_eq_getElem (by omega)
  simp only [push, this, h0]

theorem push_room {r : Ring α} {base : Nat} {items : List α} (h : Inv r base items)
    (hroom : items.length < r.size) (x : α) :
    (push r x).2 = true ∧ Inv (push r x).1 base (items ++ [x]) := by
  have hs := h.size_pos
  have hwlt : r.writeIndex < r.buffer.length := by rw [h.len, h.wr]; exact Nat.mod_lt _ hs
  have hnone : slot r r.writeIndex = none := by rw [h.wr]; exact h.emp _ (Nat.le_refl _) hroom
  have hp : push r x = ({ r with buffer := r.buffer.set r.writeIndex (some x), writeIndex := (r.writeIndex + 1) % r.size }, true) := by
    simp only [push, hnone]
  rw [hp]
  have slots : ∀ i, i < r.size → slot { r with buffer := r.buffer.set r.writeIndex (some x) } ((base + i) % r.size) =
      (items ++ [x])[i]? := by
    intro i hi
    by_cases hin : i = items.length
    · rw [hin, ← h.wr, slot_set_eq r (some x) hwlt, List.getElem?_concat_length]
    · have hne : r.writeIndex ≠ (base + i) % r.size := by
        rw [h.wr]; exact fun he => hin (idx_inj hroom hi he).symm
      rw [slot_set_ne r (some x) hne, h.slot_eq hi, List.getElem?_append]
      split
      · rfl
      · rw [List.getElem?_eq_none (by omega), List.getElem?_eq_none (by simp only [List.length_singleton]; omega)]
  have hlen : (items ++ [x]).length = items.length + 1 := by simp only [List.length_append, List.length_singleton]
  exact ⟨rfl, {
    size_pos := hs
    base_lt := h.base_lt
    rd_lt := h.rd_lt
    rd := h.rd
    len := (List.length_set ..).trans h.len
    n_le := by rw [hlen]; exact hroom
    wr := by rw [hlen]; show (r.writeIndex + 1) % r.size = _; rw [h.wr, Nat.mod_add_mod, Nat.add_assoc]
    occ := fun i hi => slots i (by rw [hlen] at hi; show i < r.size; omega)
    emp := fun i hi his => (slots i his).trans (List.getElem?_eq_none hi) }⟩

theorem pull_closed {r : Ring α} (hc : r.closed = true) : pullTry r = (r, .closed) := by
  simp only [pullTry, hc, if_true]

theorem pull_empty {r : Ring α} {base : Nat} (h : Inv r base []) (hc : r.closed = false) :
    pullTry r = (r, .wait) := by
  have hs := h.size_pos
  have hb : r.readIndex = (base + 0) % r.size := by
    rw [h.rd hc, Nat.add_zero, Nat.mod_eq_of_lt h.base_lt]
  have : slot r r.readIndex = none := by rw [hb]; exact h.emp 0 (Nat.le_refl _) hs
  simp only [pullTry, hc, this]
  rfl

theorem pull_item {r : Ring α} {base : Nat} {x : α} {xs : List α} (h : Inv r base (x :: xs))
    (hc : r.closed = false) :
    (pullTry r).2 = .item x ∧ Inv (pullTry r).1 ((base + 1) % r.size) xs := by
  have hs := h.size_pos
  have hrd := h.rd hc
  have hb : r.readIndex = (base + 0) % r.size := by
    rw [hrd, Nat.add_zero, Nat.mod_eq_of_lt h.base_lt]
  have hx : slot r r.readIndex = some x := by
    rw [hb, h.occ 0 (by simp)]; rfl
  have hp : pullTry r = ({ r with buffer := r.buffer.set r.readIndex none, readIndex := (r.readIndex + 1) % r.size }, .item x) := by
    simp only [pullTry, hc, hx]
    rfl
  rw [hp]
  have hn : xs.length + 1 ≤ r.size := h.n_le
  have hrlt : r.readIndex < r.buffer.length := by rw [h.len]; exact h.rd_lt
  have slots : ∀ i, i < r.size → slot { r with buffer := r.buffer.set r.readIndex none }
      (((base + 1) % r.size + i) % r.size) = xs[i]? := by
    intro i hi
    rw [idx_succ]
    by_cases hlast : i + 1 = r.size
    · -- the last offset wraps around to the slot just vacated
      rw [hlast, Nat.add_mod_right, Nat.mod_eq_of_lt h.base_lt, ← hrd, slot_set_eq r none hrlt,
        List.getElem?_eq_none (by omega)]
    · have hne : r.readIndex ≠ (base + (i + 1)) % r.size := by
        rw [hb]; exact fun he => absurd (idx_inj hs (by omega) he) (by omega)
      rw [slot_set_ne r none hne, h.slot_eq (by omega), List.getElem?_cons_succ]
  exact ⟨rfl, {
    size_pos := hs
    len := (List.length_set ..).trans h.len
    base_lt := Nat.mod_lt _ hs
    rd_lt := Nat.mod_lt _ hs
    n_le := by show xs.length ≤ r.size; omega
    wr := by show r.writeIndex = _; rw [h.wr, idx_succ, List.length_cons]
    rd := fun _ => by show (r.readIndex + 1) % r.size = _; rw [hrd]
    occ := fun i hi => slots i (by show i < r.size; omega)
    emp := fun i hi his => (slots i his).trans (List.getElem?_eq_none hi) }⟩

end Rtsp.Ring
