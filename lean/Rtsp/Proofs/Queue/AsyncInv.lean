import Rtsp.Model.Async
import Rtsp.Proofs.Queue.RingRefine
import Rtsp.Proofs.Common.Steps
/-
Invariants of the processor model (Model/Async.lean) under every interleaving of caller steps
(push / start / the statements of Close) and consumer steps.
-/
namespace Rtsp.Async
open Rtsp.Ring
variable {size : Nat}

/-- the callback the consumer has pulled and not finished -/
def held (p : Proc) : List Cb :=
  match p.cons with
  | .holding c => [c]
  | _ => []

/-- the consumer can no longer run anything -/
def Stopped (p : Proc) : Prop := (∃ c, p.cons = .inError c) ∨ p.cons = .exited

theorem cpull_closed {p : Proc} (hc : p.cons = .pulling) (hcl : p.ring.closed = true) :
    cpull p = { p with cons := .exited } := by
  simp only [cpull, hc, pull_closed hcl]

theorem cpull_item {p : Proc} {c : Cb} (hc : p.cons = .pulling) (hp : (pullTry p.ring).2 = .item c) :
    cpull p = { p with ring := (pullTry p.ring).1, cons := .holding c } := by
  have : pullTry p.ring = ((pullTry p.ring).1, .item c) := by rw [← hp]
  unfold cpull; rw [hc, this]

theorem cpull_of_not_pulling {p : Proc} (h : p.cons ≠ .pulling) : cpull p = p := by
  unfold cpull
  split
  · rename_i hc; exact absurd hc h
  · rfl

theorem cexec_ok {p : Proc} {c : Cb} (hc : p.cons = .holding c) (hf : c.fails = false) :
    cexec p = { p with executed := p.executed ++ [c], cons := .pulling } := by
  simp [cexec, hc, hf]

theorem cexec_fail {p : Proc} {c : Cb} (hc : p.cons = .holding c) (hf : c.fails = true) :
    cexec p = { p with executed := p.executed ++ [c], errors := p.errors ++ [c], cons := .inError c } := by
  simp [cexec, hc, hf]

theorem cerr_exit {p : Proc} {c : Cb} (hc : p.cons = .inError c) (h : (!p.onErrBlocks || p.cancelled) = true) :
    cerr p = { p with cons := .exited } := by
  simp only [cerr, hc, h, if_true]

theorem closeStep_join {p : Proc} (hcl : p.closer = .ringClosed) (h : p.running = false ∨ p.cons = .exited) :
    closeStep p = { p with closer := .returned } := by
  have : (!p.running || p.cons == .exited) = true := by rcases h with h | h <;> simp [h]
  simp only [closeStep, hcl, this, if_true]

theorem Stopped.cons {p : Proc} (h : Stopped p) :
    p.cons ≠ .notStarted ∧ p.cons ≠ .pulling ∧ ∀ c, p.cons ≠ .holding c := by
  rcases h with ⟨c, e⟩ | e <;> rw [e] <;> exact ⟨nofun, nofun, nofun⟩

/-- The moves that change the state, each with what enables it; every other step is `same`. -/
theorem step_elim {p : Proc} {motive : Proc → Prop} (same : motive p)
    (pushed : ∀ c, motive (push p c).1)
    (started : p.cons = .notStarted → motive { p with running := true, cons := .pulling })
    (cancelled : motive { p with cancelled := true, closer := .cancelled })
    (closed : p.closer = .cancelled → motive { p with ring := Ring.close p.ring, closer := .ringClosed })
    (joined : p.closer = .ringClosed → p.running = false ∨ p.cons = .exited → motive { p with closer := .returned })
    (pulled : ∀ c, p.cons = .pulling → (pullTry p.ring).2 = .item c →
      motive { p with ring := (pullTry p.ring).1, cons := .holding c })
    (pulledClosed : p.cons = .pulling → (pullTry p.ring).2 = .closed → motive { p with cons := .exited })
    (ranFail : ∀ c, p.cons = .holding c → c.fails = true →
      motive { p with executed := p.executed ++ [c], errors := p.errors ++ [c], cons := .inError c })
    (ranOk : ∀ c, p.cons = .holding c → c.fails = false →
      motive { p with executed := p.executed ++ [c], cons := .pulling })
    (errored : ∀ c, p.cons = .inError c → (!p.onErrBlocks || p.cancelled) = true → motive { p with cons := .exited })
    (op : AOp) : motive (step p op) := by
  cases op with
  | push c => exact pushed c
  | start =>
    show motive (start p)
    unfold start; split
    · exact started ‹_›
    · exact same
  | closeStep =>
    show motive (closeStep p)
    unfold closeStep; split
    · exact cancelled
    · exact cancelled
    · exact closed ‹_›
    · split
      · rename_i hcond
        simp only [Bool.or_eq_true, Bool.not_eq_true', beq_iff_eq] at hcond
        exact joined ‹_› hcond
      · exact same
  | cpull =>
    show motive (cpull p)
    unfold cpull; split
    · split
      · rename_i r c hp
        have := pulled c ‹_› (by rw [hp])
        rwa [hp] at this
      · rename_i hp; exact pulledClosed ‹_› (by rw [hp])
      · exact same
    · exact same
  | cexec =>
    show motive (cexec p)
    unfold cexec; split
    · split
      · exact ranFail _ ‹_› ‹_›
      · exact ranOk _ ‹_› (Bool.eq_false_iff.mpr ‹_›)
    · exact same
  | cerr =>
    show motive (cerr p)
    unfold cerr; split
    · split
      · exact errored _ ‹_› ‹_›
      · exact same
    · exact same

/-- The invariant of the processor under every interleaving; each theorem of AsyncProps.lean reads
off one or two of its fields. -/
structure AInv (p : Proc) : Prop where
  ring : RingInv p.ring
  /-- accounting: accepted = executed ++ in execution ++ discarded by Close ++ queued -/
  acct : ∃ mid, p.accepted = p.executed ++ held p ++ mid ++ absItems p.ring ∧ (p.ring.closed = false → mid = [])
  errs : p.errors = p.executed.filter (·.fails)
  /-- an error is reported once, for the last callback that ran, and stops the consumer -/
  err1 : p.errors = [] ∨ Stopped p ∧ ∃ c, p.errors = [c] ∧ p.executed.getLast? = some c
  /-- `w.running` is set exactly when the consumer goroutine was launched -/
  run : p.running = (p.cons != .notStarted)
  /-- `Close` is past `buffer.Close()`: the ring is closed (and stays so: no `Reset`) -/
  clo : (p.closer = .ringClosed ∨ p.closer = .returned) → p.ring.closed = true
  /-- `Close` has returned: no callback is in the consumer's hands (it was never started or was joined, and a
  `Start` after that only takes it into `Pull` on the closed ring).  With `clo` this is `Dead` (AsyncProps.lean). -/
  ret : p.closer = .returned → ∀ c, p.cons ≠ .holding c
  /-- `Close` cancels the context first, so a blocking `OnError` gives up before the join -/
  canc : p.closer = .none ∨ p.cancelled = true

theorem AInv.errors_nil {p : Proc} (h : AInv p) (hc : ¬ Stopped p) : p.errors = [] :=
  h.err1.resolve_right fun hs => hc hs.1

theorem ainv_init (h : 0 < size) (b : Bool) : AInv (init size b) where
  ring := ringInv_new h
  acct := ⟨[], by simp [init, held, absItems_of_inv (inv_new size h)], fun _ => rfl⟩
  errs := rfl
  err1 := .inl rfl
  run := rfl
  clo := fun hc => by simp [init] at hc
  ret := fun hc => by simp [init] at hc
  canc := .inl rfl

theorem filter_fails_append (l : List Cb) (c : Cb) :
    (l ++ [c]).filter (·.fails) = l.filter (·.fails) ++ (if c.fails then [c] else []) := by
  simp only [List.filter_append, List.filter_cons, List.filter_nil]

theorem ainv_step {p : Proc} (h : AInv p) (op : AOp) : AInv (step p op) := by
  obtain ⟨mid, hacc, hmid⟩ := h.acct
  -- a consumer that moves between states in which it holds nothing
  have idle : ∀ {q : Proc}, held p = [] → held q = [] → q.accepted = p.accepted → q.executed = p.executed →
      q.ring = p.ring → ∃ mid, q.accepted = q.executed ++ held q ++ mid ++ absItems q.ring ∧
        (q.ring.closed = false → mid = []) := by
    intro q h0 h1 ha he hr
    exact ⟨mid, by rw [ha, he, hr, h1, ← h0]; exact hacc, by rw [hr]; exact hmid⟩
  apply step_elim (op := op)
  case same => exact h
  case pushed =>
    intro c
    refine { h with
      ring := (push_refines h.ring c).1
      clo := fun hc => (push_closed ..).trans (h.clo hc)
      acct := ⟨mid, ?_, fun hc => hmid ((push_closed ..).symm.trans hc)⟩ }
    show (if (Ring.push p.ring c).2 then p.accepted ++ [c] else p.accepted) =
      p.executed ++ held p ++ mid ++ absItems (Ring.push p.ring c).1
    cases hok : (Ring.push p.ring c).2
    · rw [push_false_eq _ _ hok]; exact hacc
    · rw [absItems_push_ok h.ring c hok, if_pos rfl, hacc]; simp only [List.append_assoc]
  case started =>
    intro hc
    exact { h with
      acct := idle (by simp only [held, hc]) rfl rfl rfl rfl
      err1 := .inl (h.errors_nil fun hs => hs.cons.1 hc)
      run := rfl
      ret := fun _ _ e => nomatch e }
  case cancelled =>
    exact { h with
      clo := fun hc => by rcases hc with hc | hc <;> cases hc
      ret := fun hc => by cases hc
      canc := .inr rfl }
  case closed =>
    intro hcl
    obtain ⟨hri, hre⟩ := close_refines h.ring
    have hitems : absItems (Ring.close p.ring) = [] := (congrArg Fifo.Fifo.items hre).symm
    exact { h with
      ring := hri
      acct := ⟨mid ++ absItems p.ring, by
        show p.accepted = _ ++ held p ++ _ ++ absItems (Ring.close p.ring)
        rw [hitems, hacc]; simp only [List.append_assoc, List.append_nil], fun hc => nomatch hc⟩
      clo := fun _ => rfl
      ret := fun hc => by cases hc
      canc := h.canc.imp (fun e => by rw [hcl] at e; cases e) id }
  case joined =>
    intro hcl hcond
    exact { h with
      clo := fun _ => h.clo (.inl hcl)
      ret := fun _ c (e : p.cons = .holding c) => by
        -- a consumer with a callback in its hands is running and has not exited: no join
        rw [h.run, e] at hcond
        rcases hcond with hx | hx <;> cases hx
      canc := h.canc.imp (fun e => by rw [hcl] at e; cases e) id }
  case pulled =>
    intro c hc hp
    obtain ⟨hopen, hitems⟩ := absItems_pull_item h.ring hp
    have hclo : ∀ {P : Prop}, p.ring.closed = true → P := fun e => by rw [hopen] at e; cases e
    exact { h with
      ring := (pull_refines h.ring).1
      acct := ⟨[], by
        show p.accepted = p.executed ++ [c] ++ [] ++ absItems (pullTry p.ring).1
        rw [hacc, hmid hopen, hitems]; simp only [held, hc, List.append_nil, List.append_assoc, List.cons_append, List.nil_append],
        fun _ => rfl⟩
      err1 := .inl (h.errors_nil fun hs => hs.cons.2.1 hc)
      run := by rw [h.run, hc]; rfl
      clo := fun hcl => hclo (h.clo hcl)
      ret := fun hr => hclo (h.clo (.inr hr)) }
  case pulledClosed =>
    intro hc _
    exact { h with
      acct := idle (by simp only [held, hc]) rfl rfl rfl rfl
      err1 := h.err1.imp_right (And.imp_left fun _ => .inr rfl)
      run := by rw [h.run, hc]; rfl
      ret := fun _ _ e => nomatch e }
  case ranFail =>
    intro c hc hf
    have herr0 : p.errors = [] := h.errors_nil fun hs => hs.cons.2.2 c hc
    exact { h with
      acct := ⟨mid, by
        show p.accepted = p.executed ++ [c] ++ [] ++ mid ++ _
        rw [hacc]; simp only [held, hc, List.append_assoc, List.append_nil], hmid⟩
      errs := by
        show p.errors ++ [c] = (p.executed ++ [c]).filter (·.fails)
        rw [filter_fails_append, ← h.errs, hf]; rfl
      err1 := .inr ⟨.inl ⟨c, rfl⟩, c, by show p.errors ++ [c] = [c]; rw [herr0]; rfl, by simp⟩
      run := by rw [h.run, hc]; rfl
      ret := fun hr => absurd hc (h.ret hr c) }
  case ranOk =>
    intro c hc hf
    exact { h with
      acct := ⟨mid, by
        show p.accepted = p.executed ++ [c] ++ [] ++ mid ++ _
        rw [hacc]; simp only [held, hc, List.append_assoc, List.append_nil], hmid⟩
      errs := by
        show p.errors = (p.executed ++ [c]).filter (·.fails)
        rw [filter_fails_append, ← h.errs, hf]; exact (List.append_nil _).symm
      err1 := .inl (h.errors_nil fun hs => hs.cons.2.2 c hc)
      run := by rw [h.run, hc]; rfl
      ret := fun _ _ e => nomatch e }
  case errored =>
    intro c hc _
    exact { h with
      acct := idle (by simp only [held, hc]) rfl rfl rfl rfl
      err1 := h.err1.imp_right (And.imp_left fun _ => .inr rfl)
      run := by rw [h.run, hc]; rfl
      ret := fun _ _ e => nomatch e }

theorem run_nil (p : Proc) : run p [] = p := rfl
theorem run_cons (p : Proc) (op : AOp) (ops : List AOp) : run p (op :: ops) = run (step p op) ops := rfl
theorem run_append (p : Proc) (ops1 ops2 : List AOp) : run p (ops1 ++ ops2) = run (run p ops1) ops2 := by
  simp only [run, List.foldl_append]

theorem ainv_run {p : Proc} (h : AInv p) (ops : List AOp) : AInv (run p ops) :=
  foldl_inv step (P := AInv) (fun _ op h => ainv_step h op) ops p h

end Rtsp.Async
