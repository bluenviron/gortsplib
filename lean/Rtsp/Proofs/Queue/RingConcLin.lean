import Rtsp.Proofs.Queue.RingConcStep
import Rtsp.Proofs.Queue.RingRefine
/-
Linearizability of the concurrent ring.  First in state form: the log of critical sections, replayed
on the sequential ring, gives the current ring state and every returned value (`LogInv`,
`conc_linearizable`).  Then with linearization points: the concurrent system is instrumented with a
history of invocation (`call`), linearization (`lin`) and response (`ret`) events (`events`):

  Push  : call at `Lock`, lin at the critical section, ret after `Broadcast` (accepted) or right
          after `Unlock` (refused)
  Pull  : one *attempt* (one iteration of the loop) = call at `Lock`, lin + ret at the end of the
          critical section; an attempt that finds nothing returns `wait` (a no-op of the
          specification) and the real `Pull` goes on with the next attempt after being woken, so
          the interval of the real call contains the interval of its last attempt
  Close : call at `Lock`, lin at the critical section, ret after `Broadcast`

The `lin` events, in order, are the log that `conc_linearizable` replays (`lins_eq_log`), and per
thread call, lin, ret alternate, each `lin` with the operation of its `call`, each `ret` with the
result of its `lin` (`wf_reach`).  So each linearization point lies inside its own operation's
interval, and the sequential witness that orders operations by their points respects real-time order.
-/
namespace Rtsp.RingConc
open Rtsp.Ring
variable {α : Type}

def LogInv (size : Nat) (s : State α) : Prop :=
  Ring.run (Ring.new size) (s.log.map (·.op)) = (s.ring, s.log.map (·.res))

theorem logInv_step {size : Nat} {s s' : State α} (a : Act α) (h : LogInv size s)
    (hs : step? s a = some s') : LogInv size s' := by
  have body : ∀ (t : Tid) (op : Op α) (s' : State α), s'.ring = (Ring.step s.ring op).1 →
      s'.log = s.log ++ [⟨t, op, (Ring.step s.ring op).2⟩] → LogInv size s' := by
    intro t op s' hr hl
    unfold LogInv at h ⊢
    simp only [hr, hl, List.map_append, List.map_cons, List.map_nil, Ring.runs.snoc, h]
  cases step?_elim hs with
  | prodBody i x => exact body (.prod i) (.push x) _ rfl rfl
  | consBody => exact body .cons .pull _ rfl rfl
  | closerBody => exact body .closer .close _ rfl rfl
  | _ => exact h

theorem logInv_reachable {size : Nat} {s : State α} (h : Reachable size s) : LogInv size s := by
  induction h with
  | init => rfl
  | step a _ hs ih => exact logInv_step a ih hs

/-- **linearizability (state and results)**: in every reachable state, the log of critical sections
(in execution order) replayed on the *sequential* ring from `New(size)` produces the current ring
state and exactly the value each thread obtained; the same log replayed on the *bounded FIFO
specification* produces the same values, and the ring invariant holds. -/
theorem conc_linearizable {size : Nat} (hsize : 0 < size) {s : State α} (h : Reachable size s) :
    Ring.run (Ring.new size) (s.log.map (·.op)) = (s.ring, s.log.map (·.res)) ∧
    Fifo.run (Fifo.new size) (s.log.map (·.op)) = (Ring.abs s.ring, s.log.map (·.res)) ∧
    RingInv s.ring := by
  have hl : Ring.run _ _ = _ := logInv_reachable h
  refine ⟨hl, ?_, ?_⟩
  · rw [run_new_refines hsize, hl]
  · have := ringInv_run (α := α) hsize (s.log.map (·.op))
    rw [hl] at this; exact this

inductive HEv (α : Type) where
  | call (t : Tid) (op : Op α)
  | lin (t : Tid) (op : Op α) (res : Res α)
  | ret (t : Tid) (res : Res α)

def HEv.tid : HEv α → Tid
  | .call t _ | .lin t _ _ | .ret t _ => t

/-- events emitted by one scheduling step taken in state `s` -/
def events (s : State α) : Act α → List (HEv α)
  | .prodLock i x => [.call (.prod i) (.push x)]
  | .prodBody i =>
    match s.prod i with
    | .locked x =>
      if (Ring.push s.ring x).2 then [.lin (.prod i) (.push x) (.pushed true)]
      else [.lin (.prod i) (.push x) (.pushed false), .ret (.prod i) (.pushed false)]
    | _ => []
  | .prodBcast i => [.ret (.prod i) (.pushed true)]
  | .consLock => [.call .cons .pull]
  | .consBody => [.lin .cons .pull (.pulled (pullTry s.ring).2), .ret .cons (.pulled (pullTry s.ring).2)]
  | .consReacq => []
  | .consUnlock => []
  | .closerLock => [.call .closer .close]
  | .closerBody => [.lin .closer .close .done]
  | .closerBcast => [.ret .closer .done]

/-- reachable states together with their history -/
inductive IReach (size : Nat) : State α → List (HEv α) → Prop where
  | init : IReach size (init size) []
  | step {s s' : State α} {h : List (HEv α)} (a : Act α) :
      IReach size s h → step? s a = some s' → IReach size s' (h ++ events s a)

theorem IReach.reachable {size : Nat} {s : State α} {h : List (HEv α)} (hr : IReach size s h) : Reachable size s := by
  induction hr with
  | init => exact .init
  | step a _ hs ih => exact .step a ih hs

theorem Reachable.history {size : Nat} {s : State α} (hr : Reachable size s) : ∃ h, IReach size s h := by
  induction hr with
  | init => exact ⟨[], .init⟩
  | step a _ hs ih => obtain ⟨h, ih⟩ := ih; exact ⟨_, .step a ih hs⟩

/-- per-thread well-formedness of a history, ending in the given phase -/
inductive WF (t : Tid) : List (HEv α) → Phase α → Prop where
  | nil : WF t [] .out
  | other {h : List (HEv α)} {p : Phase α} (e : HEv α) : WF t h p → e.tid ≠ t → WF t (h ++ [e]) p
  | call {h : List (HEv α)} (op : Op α) : WF t h .out → WF t (h ++ [.call t op]) (.called op)
  | lin {h : List (HEv α)} (op : Op α) (res : Res α) : WF t h (.called op) → WF t (h ++ [.lin t op res]) (.linned res)
  | ret {h : List (HEv α)} (res : Res α) : WF t h (.linned res) → WF t (h ++ [.ret t res]) .out

/-- the linearization events of a history, as log entries -/
def lins : List (HEv α) → List (Ev α)
  | [] => []
  | .lin t op res :: h => ⟨t, op, res⟩ :: lins h
  | _ :: h => lins h

theorem lins_append (h1 h2 : List (HEv α)) : lins (h1 ++ h2) = lins h1 ++ lins h2 := by
  induction h1 with
  | nil => rfl
  | cons e h ih => cases e <;> simp only [List.cons_append, lins, ih]

theorem lins_eq_log {size : Nat} {s : State α} {h : List (HEv α)} (hr : IReach size s h) : lins h = s.log := by
  induction hr with
  | init => rfl
  | @step s0 s1 h0 a _ hs ih =>
    rw [lins_append, ih]
    cases step?_elim hs with
    | prodBody i x hp =>
      simp only [events, hp]
      cases (Ring.push s0.ring x).2 <;> rfl
    | consBody | closerBody => rfl
    | _ => exact List.append_nil _

theorem wf_others {t t' : Tid} {h : List (HEv α)} {p : Phase α} (hw : WF t h p) (ht : t ≠ t') {es : List (HEv α)}
    (hes : ∀ e ∈ es, e.tid = t') : WF t (h ++ es) p := by
  induction es generalizing h with
  | nil => simpa using hw
  | cons e es ih =>
    rw [List.append_cons]
    exact ih (.other e hw (hes e (List.mem_cons_self ..) ▸ ht.symm)) (fun e' he' => hes e' (List.mem_cons_of_mem _ he'))

theorem events_tid (s : State α) (a : Act α) : ∀ e ∈ events s a, e.tid = a.tid := by
  have nil : ∀ t : Tid, ∀ e ∈ ([] : List (HEv α)), e.tid = t := fun _ _ h => absurd h List.not_mem_nil
  have cons : ∀ {t : Tid} {x : HEv α} {l : List (HEv α)}, x.tid = t → (∀ e ∈ l, e.tid = t) →
      ∀ e ∈ x :: l, e.tid = t := fun hx hl => List.forall_mem_cons.mpr ⟨hx, hl⟩
  cases a with
  | prodBody i =>
    simp only [events]
    split
    · split
      · exact cons rfl (nil _)
      · exact cons rfl (cons rfl (nil _))
    · exact nil _
  | consBody => exact cons rfl (cons rfl (nil _))
  | consReacq => exact nil _
  | consUnlock => exact nil _
  | _ => exact cons rfl (nil _)

/-- **every linearization point lies inside its operation**; the thread's program counter tells
where in the cycle call → lin → ret it is. -/
theorem wf_reach {size : Nat} {s : State α} {h : List (HEv α)} (hr : IReach size s h) (t : Tid) :
    WF t h (phase s t) := by
  induction hr with
  | init => cases t <;> exact .nil
  | @step s0 s1 h0 a _ hs ih =>
    by_cases ht : t = a.tid
    · subst ht
      cases step?_elim hs with
      | prodLock i x hp =>
        simp only [Act.tid, phase, hp, setProd_self] at ih ⊢
        exact .call (.push x) ih
      | prodBody i x hp =>
        simp only [Act.tid, phase, hp, setProd_self, events] at ih ⊢
        cases (Ring.push s0.ring x).2
        · exact List.append_cons .. ▸ .ret _ (.lin (.push x) _ ih)
        · exact .lin (.push x) _ ih
      | prodBcast i hp =>
        simp only [Act.tid, phase, hp, setProd_self] at ih ⊢
        exact .ret _ ih
      | consLock hc =>
        simp only [Act.tid, phase, hc] at ih
        exact .call .pull ih
      | consBody hc =>
        simp only [Act.tid, phase, hc] at ih
        have e : phase { s0 with cons := consAfter (pullTry s0.ring).2 } .cons = .out := by
          simp only [phase]; cases (pullTry s0.ring).2 <;> rfl
        exact e ▸ List.append_cons .. ▸ .ret _ (.lin .pull _ ih)
      | consReacq hc | consUnlock hc =>
        simp only [Act.tid, phase, hc] at ih
        exact (List.append_nil h0).symm ▸ ih
      | closerLock hk =>
        simp only [Act.tid, phase, hk] at ih
        exact .call .close ih
      | closerBody hk =>
        simp only [Act.tid, phase, hk] at ih
        exact .lin .close .done ih
      | closerBcast hk =>
        simp only [Act.tid, phase, hk] at ih
        exact .ret .done ih
    · rw [phase_other hs ht]
      exact wf_others ih ht (events_tid s0 a)

/-- the two parts of linearizability described at the head of this file, together -/
theorem conc_history_linearizable {size : Nat} (hsize : 0 < size) {s : State α} {h : List (HEv α)}
    (hr : IReach size s h) :
    Fifo.run (Fifo.new size) ((lins h).map (·.op)) = (Ring.abs s.ring, (lins h).map (·.res)) ∧
    ∀ t, WF t h (phase s t) := by
  refine ⟨?_, wf_reach hr⟩
  rw [lins_eq_log hr]
  exact (conc_linearizable hsize hr.reachable).2.1

end Rtsp.RingConc
