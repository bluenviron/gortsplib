import Rtsp.Proofs.Queue.RingConcStep
/-
The mutex discipline of the concurrent ring: the owner field is exactly the thread inside a
critical section (`OwnerInv`), hence mutual exclusion, ring accesses only by the owner, and
lock-acquisition order = critical-section order (`AcqInv`).
-/
namespace Rtsp.RingConc
open Rtsp.Ring
variable {α : Type}

/-- the mutex owner is exactly the thread whose program counter is inside a critical section -/
structure OwnerInv (s : State α) : Prop where
  prod : ∀ i, (s.prod i).holds = (s.owner == some (.prod i))
  cons : s.cons.holds = (s.owner == some .cons)
  closer : s.closer.holds = (s.owner == some .closer)

theorem ownerInv_iff {s : State α} : OwnerInv s ↔ ∀ t, holding s t = (s.owner == some t) :=
  ⟨fun h t => match t with | .prod i => h.prod i | .cons => h.cons | .closer => h.closer,
   fun h => ⟨fun i => h (.prod i), h .cons, h .closer⟩⟩

theorem holder_is_owner {s : State α} (h : OwnerInv s) (t : Tid) : holding s t = true ↔ s.owner = some t := by
  rw [ownerInv_iff.mp h t, beq_iff_eq]

theorem ownerInv_init (size : Nat) : OwnerInv (init (α := α) size) :=
  ownerInv_iff.mpr fun t => by cases t <;> rfl

theorem step?_owner {s s' : State α} {a : Act α} (hs : step? s a = some s') :
    (s.owner = none ∧ s'.owner = some a.tid ∧ holding s' a.tid = true) ∨
    (holding s a.tid = true ∧ s'.owner = none ∧ holding s' a.tid = false) ∨
    (s'.owner = s.owner ∧ holding s' a.tid = holding s a.tid) := by
  cases step?_elim hs with
  | prodLock i x _ ho => exact .inl ⟨ho, rfl, by simp [holding, Act.tid]⟩
  | prodBody i x hp => exact .inr (.inl ⟨congrArg PPc.holds hp, rfl, by simp [holding, Act.tid]⟩)
  | prodBcast i hp => exact .inr (.inr ⟨rfl, by simp [holding, Act.tid, hp]⟩)
  | consLock _ ho | consReacq _ ho | closerLock _ ho => exact .inl ⟨ho, rfl, rfl⟩
  | consBody hc => exact .inr (.inl ⟨congrArg CPc.holds hc, rfl, consAfter_holds _⟩)
  | consUnlock hc => exact .inr (.inl ⟨congrArg CPc.holds hc, rfl, rfl⟩)
  | closerBody hk => exact .inr (.inl ⟨congrArg KPc.holds hk, rfl, rfl⟩)
  | closerBcast hk => exact .inr (.inr ⟨rfl, (congrArg KPc.holds hk).symm⟩)

theorem ownerInv_step {s s' : State α} (a : Act α) (h : OwnerInv s) (hs : step? s a = some s') : OwnerInv s' := by
  rw [ownerInv_iff] at h ⊢
  intro t
  by_cases ht : t = a.tid
  · subst ht
    rcases step?_owner hs with ⟨_, ho', hh⟩ | ⟨_, ho', hh⟩ | ⟨ho', hh⟩
    · rw [hh, ho', beq_self_eq_true]
    · rw [hh, ho']; rfl
    · rw [hh, ho', h]
  · rw [holding_other hs ht, h t]
    have hne : (some a.tid == some t) = false := by simpa using Ne.symm ht
    rcases step?_owner hs with ⟨ho, ho', _⟩ | ⟨hh, ho', _⟩ | ⟨ho', _⟩
    · rw [ho, ho', hne]; rfl
    · rw [h, beq_iff_eq] at hh; rw [hh, ho', hne]; rfl
    · rw [ho']

theorem ownerInv_reachable {size : Nat} {s : State α} (h : Reachable size s) : OwnerInv s := by
  induction h with
  | init => exact ownerInv_init size
  | step a _ hs ih => exact ownerInv_step a ih hs

/-- **mutual exclusion**: in every reachable state at most one thread is inside a critical section -/
theorem mutual_exclusion {size : Nat} {s : State α} (h : Reachable size s) (t1 t2 : Tid)
    (h1 : holding s t1 = true) (h2 : holding s t2 = true) : t1 = t2 := by
  have hi := ownerInv_reachable h
  exact Option.some.inj (((holder_is_owner hi t1).mp h1).symm.trans ((holder_is_owner hi t2).mp h2))

/-- every access to ring state is made by the thread that owns the mutex -/
theorem ring_access_by_owner {size : Nat} {s s' : State α} (h : Reachable size s) {a : Act α}
    (hs : step? s a = some s') (ha : a.accessesRing = true) : s.owner = some a.tid := by
  refine (holder_is_owner (ownerInv_reachable h) _).mp ?_
  cases step?_elim hs with
  | prodBody i x hp => exact congrArg PPc.holds hp
  | consBody hc => exact congrArg CPc.holds hc
  | closerBody hk => exact congrArg KPc.holds hk
  | _ => contradiction

/-- What thread `t` acquired the mutex to do and has not done yet, as an `acq` entry: the operation
it has called and not linearized.  Empty at the consumer's `relocked`, where `cond.Wait()` has
re-acquired the mutex only to unlock it. -/
def inHand (s : State α) (t : Tid) : List (Tid × Op α) :=
  match phase s t with
  | .called op => [(t, op)]
  | _ => []

/-- the critical section the current mutex owner is about to execute -/
def pending (s : State α) : List (Tid × Op α) :=
  match s.owner with
  | some t => inHand s t
  | none => []

/-- the sequence of lock acquisitions that start a critical section is the sequence of executed
critical sections, plus the one in progress -/
def AcqInv (s : State α) : Prop := s.acq = s.log.map (fun e => (e.tid, e.op)) ++ pending s

theorem pending_none {s : State α} (h : s.owner = none) : pending s = [] := by simp only [pending, h]

theorem inHand_other {s s' : State α} {a : Act α} (hs : step? s a = some s') {t : Tid} (ht : t ≠ a.tid) :
    inHand s' t = inHand s t := by
  rw [inHand, inHand, phase_other hs ht]

theorem acqInv_step {s s' : State α} (a : Act α) (hi : OwnerInv s) (h : AcqInv s) (hs : step? s a = some s') :
    AcqInv s' := by
  unfold AcqInv at h ⊢
  -- a locking step appends to `acq` what the thread now has in hand
  have lock : ∀ {s' : State α} (t : Tid) (l : List (Tid × Op α)), s.owner = none → s'.owner = some t → s'.log = s.log →
      s'.acq = s.acq ++ l → inHand s' t = l → s'.acq = s'.log.map (fun e => (e.tid, e.op)) ++ pending s' := by
    intro s' t l ho ho' hl ha hin
    rw [ha, hl, h, pending_none ho, List.append_nil]; simp only [pending, ho', hin]
  -- a critical section moves what its thread had in hand to the log
  have body : ∀ {s' : State α} (t : Tid) (op : Op α) (res : Res α), holding s t = true → inHand s t = [(t, op)] →
      s'.owner = none → s'.acq = s.acq → s'.log = s.log ++ [⟨t, op, res⟩] →
      s'.acq = s'.log.map (fun e => (e.tid, e.op)) ++ pending s' := by
    intro s' t op res hh hin ho' ha hl
    rw [ha, hl, h, pending_none ho', List.append_nil, List.map_append]
    simp only [pending, (holder_is_owner hi t).mp hh, hin, List.map_cons, List.map_nil]
  -- a `Broadcast` is made by a thread that is not the owner
  have bcast : ∀ {a : Act α} {s' : State α}, step? s a = some s' → holding s a.tid = false → s'.owner = s.owner →
      s'.acq = s.acq → s'.log = s.log → s'.acq = s'.log.map (fun e => (e.tid, e.op)) ++ pending s' := by
    intro a s' hs hh ho' ha hl
    rw [ha, hl, h]; congr 1
    unfold pending; rw [ho']
    cases ho : s.owner with
    | none => rfl
    | some t =>
      refine (inHand_other hs fun e => ?_).symm
      rw [← e, (holder_is_owner hi t).mpr ho] at hh; cases hh
  cases step?_elim hs with
  | prodLock i x _ ho => exact lock (.prod i) _ ho rfl rfl rfl (by simp only [inHand, phase, setProd_self])
  | prodBody i x hp => exact body (.prod i) _ _ (congrArg PPc.holds hp) (by simp only [inHand, phase, hp]) rfl rfl rfl
  | prodBcast i hp => exact bcast hs (congrArg PPc.holds hp) rfl rfl rfl
  | consLock _ ho => exact lock .cons _ ho rfl rfl rfl rfl
  | consBody hc => exact body .cons _ _ (congrArg CPc.holds hc) (by simp only [inHand, phase, hc]) rfl rfl rfl
  | consReacq _ ho => exact lock .cons [] ho rfl rfl (List.append_nil _).symm rfl
  | consUnlock hc =>
    have ho := (holder_is_owner hi .cons).mp (congrArg CPc.holds hc)
    show s.acq = _ ++ []
    rw [h]; simp only [pending, ho, inHand, phase, hc]
  | closerLock _ ho => exact lock .closer _ ho rfl rfl rfl rfl
  | closerBody hk => exact body .closer _ _ (congrArg KPc.holds hk) (by simp only [inHand, phase, hk]) rfl rfl rfl
  | closerBcast hk => exact bcast hs (congrArg KPc.holds hk) rfl rfl rfl

theorem acqInv_reachable {size : Nat} {s : State α} (h : Reachable size s) : AcqInv s := by
  induction h with
  | init => rfl
  | step a hr hs ih => exact acqInv_step a (ownerInv_reachable hr) ih hs

/-- **lock-acquisition order = execution order**: whenever the mutex is free, the critical sections
have been executed exactly in the order in which their threads acquired the mutex -/
theorem acq_order {size : Nat} {s : State α} (h : Reachable size s) (ho : s.owner = none) :
    s.acq = s.log.map (fun e => (e.tid, e.op)) := by
  have := acqInv_reachable h
  unfold AcqInv at this
  rw [this, pending_none ho, List.append_nil]

end Rtsp.RingConc
