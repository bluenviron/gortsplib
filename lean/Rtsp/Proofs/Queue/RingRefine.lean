import Rtsp.Proofs.Queue.RingSeq
import Rtsp.Proofs.Queue.FifoProps
/-
Refinement theorems: every ring operation, on a state satisfying `RingInv`, is the corresponding
operation of the bounded FIFO on the abstraction `abs` (both in `RingSeq`); by induction, so is every run.
-/
namespace Rtsp.Ring
variable {α : Type}

theorem ringInv_new {size : Nat} (h : 0 < size) : RingInv (new (α := α) size) := ⟨0, [], inv_new size h⟩

theorem abs_new {size : Nat} (h : 0 < size) : abs (new (α := α) size) = Fifo.new size := by
  rw [abs_of_inv (inv_new size h)]; rfl

theorem push_refines {r : Ring α} (hr : RingInv r) (x : α) :
    RingInv (push r x).1 ∧ Fifo.push (abs r) x = (abs (push r x).1, (push r x).2) := by
  obtain ⟨base, items, h⟩ := hr
  by_cases hfull : items.length = r.size
  · rw [push_full h hfull]
    refine ⟨⟨base, items, h⟩, ?_⟩
    simp only [abs_of_inv h, Fifo.push, hfull, Nat.lt_irrefl, if_false]
  · have hroom : items.length < r.size := by have := h.n_le; omega
    obtain ⟨hok, hinv⟩ := push_room h hroom x
    refine ⟨⟨base, _, hinv⟩, ?_⟩
    rw [abs_of_inv hinv, hok, abs_of_inv h]
    simp only [Fifo.push, hroom, if_true, push_size, push_closed]

theorem pull_refines {r : Ring α} (hr : RingInv r) :
    RingInv (pullTry r).1 ∧ Fifo.pull (abs r) = (abs (pullTry r).1, (pullTry r).2) := by
  obtain ⟨base, items, h⟩ := hr
  by_cases hc' : r.closed = true
  · rw [pull_closed hc']
    exact ⟨⟨base, items, h⟩, by simp only [Fifo.pull, abs, hc', if_true]⟩
  · have hc : r.closed = false := by simpa using hc'
    cases items with
    | nil =>
      rw [pull_empty h hc]
      refine ⟨⟨base, [], h⟩, ?_⟩
      simp only [abs_of_inv h, Fifo.pull, hc]
      rfl
    | cons x xs =>
      obtain ⟨hres, hinv⟩ := pull_item h hc
      refine ⟨⟨_, xs, hinv⟩, ?_⟩
      rw [abs_of_inv hinv, hres, abs_of_inv h]
      simp only [Fifo.pull, hc, pullTry_size, pullTry_closed]
      rfl

theorem absItems_push_ok {r : Ring α} (hr : RingInv r) (x : α) (hok : (push r x).2 = true) :
    absItems (push r x).1 = absItems r ++ [x] :=
  Fifo.items_of_push_true ((push_refines hr x).2.trans (congrArg (Prod.mk _) hok))

theorem absItems_pull_item {r : Ring α} (hr : RingInv r) {x : α} (hx : (pullTry r).2 = .item x) :
    r.closed = false ∧ absItems r = x :: absItems (pullTry r).1 :=
  Fifo.of_pull_item ((pull_refines hr).2.trans (congrArg (Prod.mk _) hx))

theorem pull_head {r : Ring α} (hr : RingInv r) (hopen : r.closed = false) {c : α} {xs : List α}
    (hitems : absItems r = c :: xs) :
    (pullTry r).2 = .item c ∧ absItems (pullTry r).1 = xs := by
  have he := (pull_refines hr).2
  rw [Fifo.pull_cons (q := abs r) hopen hitems] at he
  exact ⟨(congrArg Prod.snd he).symm, (congrArg (·.1.items) he).symm⟩

theorem close_refines {r : Ring α} (hr : RingInv r) :
    RingInv (close r) ∧ Fifo.close (abs r) = abs (close r) := by
  obtain ⟨base, items, h⟩ := hr
  exact ⟨⟨_, [], inv_close h⟩, by rw [abs_of_inv (inv_close h), abs_of_inv h]; rfl⟩

theorem reset_refines {r : Ring α} (hr : RingInv r) :
    RingInv (reset r) ∧ Fifo.reset (abs r) = abs (reset r) := by
  obtain ⟨base, items, h⟩ := hr
  exact ⟨⟨_, [], inv_reset h⟩, by rw [abs_of_inv (inv_reset h), abs_of_inv h]; rfl⟩

theorem step_refines {r : Ring α} (hr : RingInv r) (op : Op α) :
    RingInv (step r op).1 ∧ Fifo.step (abs r) op = (abs (step r op).1, (step r op).2) := by
  cases op with
  | push x => exact ⟨(push_refines hr x).1, by simp only [Fifo.step, step, (push_refines hr x).2]⟩
  | pull => exact ⟨(pull_refines hr).1, by simp only [Fifo.step, step, (pull_refines hr).2]⟩
  | close => exact ⟨(close_refines hr).1, by simp only [Fifo.step, step, (close_refines hr).2]⟩
  | reset => exact ⟨(reset_refines hr).1, by simp only [Fifo.step, step, (reset_refines hr).2]⟩

theorem run_refines {r : Ring α} (hr : RingInv r) (ops : List (Op α)) :
    RingInv (run r ops).1 ∧ Fifo.run (abs r) ops = (abs (run r ops).1, (run r ops).2) := by
  induction ops generalizing r with
  | nil => exact ⟨hr, rfl⟩
  | cons op ops ih =>
    obtain ⟨hi, he⟩ := step_refines hr op
    obtain ⟨hi2, he2⟩ := ih hi
    refine ⟨by simpa only [run] using hi2, ?_⟩
    simp only [Fifo.run, run, he, he2]

theorem ringInv_run {size : Nat} (h : 0 < size) (ops : List (Op α)) :
    RingInv (run (new size) ops).1 := (run_refines (ringInv_new h) ops).1

theorem run_new_refines {size : Nat} (h : 0 < size) (ops : List (Op α)) :
    Fifo.run (Fifo.new size) ops = (abs (run (new size) ops).1, (run (new size) ops).2) := by
  rw [← abs_new h]; exact (run_refines (ringInv_new h) ops).2

theorem abs_length_le {r : Ring α} (hr : RingInv r) : (abs r).items.length ≤ r.size := by
  obtain ⟨base, items, h⟩ := hr
  rw [abs_of_inv h]; exact h.n_le

/-- `Push` returns false exactly when the queue holds `size` items -/
theorem refused_iff_full {r : Ring α} (hr : RingInv r) (x : α) :
    (push r x).2 = false ↔ (abs r).items.length = r.size := by
  have he := (push_refines hr x).2
  have : (Fifo.push (abs r) x).2 = (push r x).2 := by rw [he]
  rw [← this]
  have hcap : (abs r).cap = r.size := rfl
  have hle := abs_length_le hr
  simp only [Fifo.push, hcap]
  split <;> simp <;> omega

end Rtsp.Ring
