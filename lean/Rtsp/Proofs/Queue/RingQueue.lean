import Rtsp.Proofs.Queue.RingRefine
/-
The queue properties of the ring, obtained from the refinement (`run_refines`, `RingRefine`) and the properties of
the bounded FIFO specification.
-/
namespace Rtsp.Ring
open Rtsp.Fifo (accepted pulled pushes noCloseReset noReset)
variable {α : Type}

theorem fifo_order_from {r : Ring α} (hr : RingInv r) (ops : List (Op α)) (hops : noCloseReset ops) :
    absItems r ++ accepted ops (run r ops).2 = pulled (run r ops).2 ++ absItems (run r ops).1 := by
  have := Fifo.conservation_of_noCloseReset (abs r) ops hops
  rwa [(run_refines hr ops).2] at this

/-- **FIFO order, no loss, no duplication** (from `New`, no close/reset): the accepted items are
exactly the pulled items, in the same order, followed by the items still held -/
theorem fifo_order {size : Nat} (h : 0 < size) (ops : List (Op α)) (hops : noCloseReset ops) :
    accepted ops (run (new size) ops).2 =
      pulled (run (new size) ops).2 ++ absItems (run (new size) ops).1 := by
  have := fifo_order_from (ringInv_new (α := α) h) ops hops
  rwa [absItems_of_inv (inv_new size h), List.nil_append] at this

theorem pulled_sublist_accepted {size : Nat} (h : 0 < size) (ops : List (Op α)) :
    (pulled (run (new size) ops).2).Sublist (accepted ops (run (new size) ops).2) := by
  have := Fifo.pulled_sublist (Fifo.new (α := α) size) ops
  rwa [run_new_refines h] at this

/-- **accounting** for any operation sequence (Close / Reset anywhere): every accepted item is —
exactly once — pulled, or discarded by a Close / Reset, or still held -/
theorem accounting {size : Nat} (h : 0 < size) (ops : List (Op α)) :
    (accepted ops (run (new size) ops).2).Perm
      (pulled (run (new size) ops).2 ++
        (Fifo.discarded (Fifo.new size) ops ++ absItems (run (new size) ops).1)) := by
  have := Fifo.accounting (Fifo.new (α := α) size) ops
  rw [run_new_refines h] at this
  simpa [Fifo.new, abs] using this

/-- **each accepted item is pulled at most once**: if the offered items are pairwise distinct, so
are the pulled ones (what is pulled is a subsequence of what was accepted, and that of what was
offered) -/
theorem executed_at_most_once {size : Nat} (h : 0 < size) (ops : List (Op α)) (hd : (pushes ops).Nodup) :
    (pulled (run (new size) ops).2).Nodup :=
  ((pulled_sublist_accepted h ops).trans (Fifo.accepted_sublist ops _)).nodup hd

/-- **nothing after close**: after a `Close`, and until a `Reset`, no `Pull` returns an item —
whatever is pushed in between -/
theorem nothing_after_close {r : Ring α} (hr : RingInv r) (ops1 ops2 : List (Op α)) (h2 : noReset ops2) :
    pulled (run r (ops1 ++ .close :: ops2)).2 = pulled (run r ops1).2 := by
  have e : ∀ ops, pulled (run r ops).2 = pulled (Fifo.run (abs r) ops).2 := fun ops => by rw [(run_refines hr ops).2]
  rw [e, e, Fifo.runs.append, Fifo.pulled_append, Fifo.runs.cons]
  have := Fifo.closed_run (Fifo.step (Fifo.run (abs r) ops1).1 Op.close).1 ops2 rfl h2
  have e : ∀ q : Fifo.Fifo α, (Fifo.step q Op.close).2 = Res.done := fun _ => rfl
  rw [e]
  simp only [Fifo.pulled, this.1, List.append_nil]

/-- the ring never holds more than `size` items, in any reachable state -/
theorem never_over_capacity {size : Nat} (h : 0 < size) (ops : List (Op α)) :
    (absItems (run (new size) ops).1).length ≤ size := by
  have := Fifo.bounded (Fifo.new (α := α) size) ops (Nat.zero_le _)
  rw [run_new_refines h] at this
  exact Nat.le_trans this.1 (Nat.le_of_eq this.2)

end Rtsp.Ring
