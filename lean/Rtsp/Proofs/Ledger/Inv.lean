import Rtsp.Proofs.Ledger.Answer
/- The ownership invariant of the resource ledger (C11) and its preservation by the primitives of the model. -/
namespace Rtsp.Ledger

variable {st : State} {c : Conn}

/-- The ownership invariant of `Server.conns` / `Server.sessions`, `ServerSession.conns`, the UDP listeners'
`clients`, the reader maps of `ServerStream`, `ss.writer`, `httpReadChannels`: unique ids; listed connections
point back; none listed only while surviving alone (`chRemoveConn`); every table entry has a live owner. -/
structure Inv (st : State) : Prop where
  connsNodup : (st.conns.map (·.id)).Nodup
  sessNodup : (st.sessions.map (·.id)).Nodup
  sessLt : ∀ s ∈ st.sessions, s.id < st.nextSess
  attached : ∀ s ∈ st.sessions, ∀ c ∈ s.conns, ∃ x ∈ st.conns, x.id = c ∧ x.session = some s.id
  alive : ∀ s ∈ st.sessions, s.conns = [] → survivesAlone s = true
  rtpOwned : ∀ e ∈ st.udpRtp, ∃ s ∈ st.sessions, s.id = e.2 ∧ isUdp s = true ∧ ∃ m ∈ s.medias, m.rtp = e.1
  rtcpOwned : ∀ e ∈ st.udpRtcp, ∃ s ∈ st.sessions, s.id = e.2 ∧ isUdp s = true ∧ ∃ m ∈ s.medias, m.rtcp = e.1
  readersOwned : ∀ x ∈ st.readers, ∃ s ∈ st.sessions, s.id = x ∧ playMode s = true
  activeOwned : ∀ x ∈ st.active, ∃ s ∈ st.sessions, s.id = x ∧ playMode s = true
  writersOwned : ∀ x ∈ st.writers, ∃ s ∈ st.sessions, s.id = x
  httpOwned : ∀ e ∈ st.httpRead, ∃ x ∈ st.conns, x.id = e.1

theorem Inv.sess_unique (h : Inv st) {s t : Sess} (hs : s ∈ st.sessions) (ht : t ∈ st.sessions)
    (e : s.id = t.id) : s = t := Keyed.eq_of_nodup Sess.id h.sessNodup hs ht e

theorem Inv.conn_unique (h : Inv st) {s t : Conn} (hs : s ∈ st.conns) (ht : t ∈ st.conns)
    (e : s.id = t.id) : s = t := Keyed.eq_of_nodup Conn.id h.connsNodup hs ht e

/-- listed ⇒ pointer (the converse is `Ptr.listed`) -/
theorem Inv.listed {st : State} (h : Inv st) {c : Conn} (hc : c ∈ st.conns) {t : Sess} (ht : t ∈ st.sessions)
    (hl : c.id ∈ t.conns) : c.session = some t.id := by
  obtain ⟨x, hx, e1, e2⟩ := h.attached t ht c.id hl
  have : x = c := h.conn_unique hx hc e1
  subst this
  exact e2

theorem inv_init (cfg : Config) : Inv (init cfg) := by
  constructor <;> simp [init]

theorem inv_dropConn (h : Inv st) (c : ConnId)
    (hno : ∀ s ∈ st.sessions, c ∉ s.conns) : Inv (dropConn st c) :=
  have keep : ∀ x ∈ st.conns, x.id ≠ c → x ∈ (dropConn st c).conns := fun x hx hne =>
    List.mem_filter.mpr ⟨hx, by simpa using hne⟩
  { h with
    connsNodup := Keyed.nodup_filter Conn.id _ h.connsNodup
    attached := fun s hs c' hc' => by
      obtain ⟨x, hx, e1, e2⟩ := h.attached s hs c' hc'
      exact ⟨x, keep x hx (e1 ▸ fun e => hno s hs (e ▸ hc')), e1, e2⟩
    httpOwned := fun e he => by
      obtain ⟨x, hx, e1⟩ := h.httpOwned e (List.mem_filter.mp he).1
      exact ⟨x, keep x hx (by simpa [e1] using (List.mem_filter.mp he).2), e1⟩ }


theorem mem_ite_filter {α : Type} {b : Bool} {p : α → Bool} {l : List α} {e : α}
    (h : e ∈ if b then l.filter p else l) : e ∈ l ∧ (b = true → p e = true) := by
  split at h
  · exact ⟨(List.mem_filter.mp h).1, fun _ => (List.mem_filter.mp h).2⟩
  · rename_i hb; exact ⟨h, fun hb' => absurd hb' hb⟩

/-- Closing a session of the table; the record that is closed may list fewer connections (the requester of a
TEARDOWN, the connection that just left, are gone from it). -/
theorem inv_closeSessSt (h : Inv st) {s : Sess} (hs : s ∈ st.sessions) (cs : List ConnId) (hsub : ∀ c ∈ cs, c ∈ s.conns) :
    Inv (closeSessSt st { s with conns := cs }) := by
  have huniq : ∀ t ∈ st.sessions, t.id = s.id → t = s := fun t ht e => h.sess_unique ht hs e
  have keep : ∀ t ∈ st.sessions, t.id ≠ s.id → t ∈ (closeSessSt st { s with conns := cs }).sessions := fun t ht hne =>
    List.mem_filter.mpr ⟨ht, by simpa using hne⟩
  have keepConn : ∀ x ∈ st.conns, x.id ∉ cs → x ∈ (closeSessSt st { s with conns := cs }).conns := fun x hx hn =>
    List.mem_filter.mpr ⟨hx, by simpa using hn⟩
  -- a registration that is left was made by another session
  have udp : ∀ (tbl : List (Nat × SessId)) (f : Media → Nat),
      (∀ e ∈ tbl, ∃ t ∈ st.sessions, t.id = e.2 ∧ isUdp t = true ∧ ∃ m ∈ t.medias, f m = e.1) →
      ∀ e ∈ (if isUdp s then removePorts tbl (s.medias.map f) else tbl),
        ∃ t ∈ (closeSessSt st { s with conns := cs }).sessions, t.id = e.2 ∧ isUdp t = true ∧ ∃ m ∈ t.medias, f m = e.1 := by
    intro tbl f owned e he
    obtain ⟨he1, he2⟩ := mem_ite_filter he
    obtain ⟨t, ht, e1, e2, m, hmm, e3⟩ := owned e he1
    refine ⟨t, keep t ht fun hts => ?_, e1, e2, m, hmm, e3⟩
    have := huniq t ht hts
    subst this
    have hn : e.1 ∉ t.medias.map f := by simpa using he2 e2
    exact hn (List.mem_map.mpr ⟨m, hmm, e3⟩)
  have play : ∀ l : List SessId, (∀ x ∈ l, ∃ t ∈ st.sessions, t.id = x ∧ playMode t = true) →
      ∀ x ∈ (if playMode s then l.filter (· != s.id) else l),
        ∃ t ∈ (closeSessSt st { s with conns := cs }).sessions, t.id = x ∧ playMode t = true := by
    intro l owned x hx
    obtain ⟨hx1, hx2⟩ := mem_ite_filter hx
    obtain ⟨t, ht, e1, e2⟩ := owned x hx1
    refine ⟨t, keep t ht fun hts => ?_, e1, e2⟩
    have := huniq t ht hts
    subst this
    simpa [← e1] using hx2 e2
  exact {
    connsNodup := Keyed.nodup_filter Conn.id _ h.connsNodup
    sessNodup := Keyed.nodup_filter Sess.id _ h.sessNodup
    sessLt := fun t ht => h.sessLt t (List.mem_filter.mp ht).1
    attached := fun t ht c hc => by
      have ht := List.mem_filter.mp ht
      obtain ⟨x, hx, e1, e2⟩ := h.attached t ht.1 c hc
      refine ⟨x, keepConn x hx fun hmem => ?_, e1, e2⟩
      -- x is attached to t, not to s
      have : t.id = s.id := Option.some.inj (e2.symm.trans (h.listed hx hs (hsub _ hmem)))
      simp [this] at ht
    alive := fun t ht => h.alive t (List.mem_filter.mp ht).1
    rtpOwned := udp _ (·.rtp) h.rtpOwned
    rtcpOwned := udp _ (·.rtcp) h.rtcpOwned
    readersOwned := play _ h.readersOwned
    activeOwned := play _ h.activeOwned
    writersOwned := fun x hx => by
      have hx := List.mem_filter.mp hx
      obtain ⟨t, ht, e1⟩ := h.writersOwned x hx.1
      exact ⟨t, keep t ht fun hts => by simp [← e1, hts] at hx, e1⟩
    httpOwned := fun e he => by
      have he := List.mem_filter.mp he
      obtain ⟨x, hx, e1⟩ := h.httpOwned e he.1
      exact ⟨x, keepConn x hx (by simpa [e1] using he.2), e1⟩ }

/-- Replacing the record of a session: the new record must justify its own connection list and
its survival, and keep what the tables rely on (UDP transport and medias, play mode). -/
theorem inv_setSess (h : Inv st) {s0 : Sess} (hs0 : s0 ∈ st.sessions) (s : Sess)
    (hid : s.id = s0.id)
    (hatt : ∀ c ∈ s.conns, ∃ x ∈ st.conns, x.id = c ∧ x.session = some s.id)
    (hal : s.conns = [] → survivesAlone s = true)
    (hudp : isUdp s0 = true → isUdp s = true ∧ ∀ m ∈ s0.medias, m ∈ s.medias)
    (hplay : playMode s0 = true → playMode s = true) : Inv (setSess st s) := by
  have huniq : ∀ t ∈ st.sessions, t.id = s.id → t = s0 := fun t ht e => h.sess_unique ht hs0 (e.trans hid)
  -- every old owner has a new owner with the same id that still justifies the entry
  have owner : ∀ t ∈ st.sessions, ∃ t' ∈ (setSess st s).sessions, t'.id = t.id ∧
      (isUdp t = true → isUdp t' = true ∧ ∀ m ∈ t.medias, m ∈ t'.medias) ∧ (playMode t = true → playMode t' = true) := by
    intro t ht
    by_cases e : t.id = s.id
    · have := huniq t ht e; subst this
      exact ⟨s, mem_setSess_new hs0 hid, hid, hudp, hplay⟩
    · exact ⟨t, mem_setSess_old ht e, rfl, fun hu => ⟨hu, fun m hm => hm⟩, fun hp => hp⟩
  exact { h with
    sessNodup := (Keyed.map_key_map Sess.id st.sessions (Keyed.key_replace Sess.id s)).symm ▸ h.sessNodup
    sessLt := Keyed.forall_replace Sess.id h.sessLt (hid ▸ h.sessLt s0 hs0)
    attached := Keyed.forall_replace Sess.id h.attached hatt
    alive := Keyed.forall_replace Sess.id h.alive hal
    rtpOwned := fun e he => by
      obtain ⟨t, ht, e1, e2, m, hm, e3⟩ := h.rtpOwned e he
      obtain ⟨t', ht', f1, f2, _⟩ := owner t ht
      exact ⟨t', ht', f1.trans e1, (f2 e2).1, m, (f2 e2).2 m hm, e3⟩
    rtcpOwned := fun e he => by
      obtain ⟨t, ht, e1, e2, m, hm, e3⟩ := h.rtcpOwned e he
      obtain ⟨t', ht', f1, f2, _⟩ := owner t ht
      exact ⟨t', ht', f1.trans e1, (f2 e2).1, m, (f2 e2).2 m hm, e3⟩
    readersOwned := fun x hx => by
      obtain ⟨t, ht, e1, e2⟩ := h.readersOwned x hx
      obtain ⟨t', ht', f1, _, f3⟩ := owner t ht
      exact ⟨t', ht', f1.trans e1, f3 e2⟩
    activeOwned := fun x hx => by
      obtain ⟨t, ht, e1, e2⟩ := h.activeOwned x hx
      obtain ⟨t', ht', f1, _, f3⟩ := owner t ht
      exact ⟨t', ht', f1.trans e1, f3 e2⟩
    writersOwned := fun x hx => by
      obtain ⟨t, ht, e1⟩ := h.writersOwned x hx
      obtain ⟨t', ht', f1, _, _⟩ := owner t ht
      exact ⟨t', ht', f1.trans e1⟩ }

/-- Replacing the record of a connection: its `session` field may change only when it points to no session of the
table (then no session lists the connection, `Inv.listed`). -/
theorem inv_setConn (h : Inv st) {c0 : Conn} (hc0 : c0 ∈ st.conns) (c : Conn) (hid : c.id = c0.id)
    (hsess : c.session = c0.session ∨ ∀ s ∈ st.sessions, c0.session ≠ some s.id) : Inv (setConn st c) :=
  have newmem : c ∈ (setConn st c).conns := mem_setConn_new hc0 hid
  { h with
    connsNodup := (Keyed.map_key_map Conn.id st.conns (Keyed.key_replace Conn.id c)).symm ▸ h.connsNodup
    attached := fun s hs c' hc' => by
      obtain ⟨x, hx, e1, e2⟩ := h.attached s hs c' hc'
      by_cases e : x.id = c.id
      · have : x = c0 := h.conn_unique hx hc0 (e.trans hid)
        subst this
        exact ⟨c, newmem, e.symm.trans e1, (hsess.resolve_right fun hs' => hs' s hs e2).trans e2⟩
      · exact ⟨x, mem_setConn_old hx e, e1, e2⟩
    httpOwned := fun e he => by
      obtain ⟨x, hx, e1⟩ := h.httpOwned e he
      by_cases e' : x.id = c.id
      · exact ⟨c, newmem, e'.symm.trans e1⟩
      · exact ⟨x, mem_setConn_old hx e', e1⟩ }

theorem inv_mapConns (h : Inv st) (f : Conn → Conn) (hid : ∀ x, (f x).id = x.id)
    (hs : ∀ x, (f x).session = x.session) : Inv { st with conns := st.conns.map f } :=
  { h with
    connsNodup := (Keyed.map_key_map Conn.id st.conns hid).symm ▸ h.connsNodup
    attached := fun s hs' c hc => by
      obtain ⟨x, hx, e1, e2⟩ := h.attached s hs' c hc
      exact ⟨f x, List.mem_map.mpr ⟨x, hx, rfl⟩, (hid x).trans e1, (hs x).trans e2⟩
    httpOwned := fun e he => by
      obtain ⟨x, hx, e1⟩ := h.httpOwned e he
      exact ⟨f x, List.mem_map.mpr ⟨x, hx, rfl⟩, (hid x).trans e1⟩ }

theorem inv_setPhase (h : Inv st) (c : ConnId) (p : Phase) : Inv (setPhase st c p) :=
  inv_mapConns h _ (fun x => (setPhase_keeps c p x).1) (fun x => (setPhase_keeps c p x).2.1)

theorem inv_armConns (h : Inv st) (cs : List ConnId) : Inv (armConns st cs) :=
  inv_mapConns h _ (fun x => (armConns_keeps cs x).1) (fun x => (armConns_keeps cs x).2)

theorem mem_foldl_addClient (f : Media → Nat) (sid : SessId) (e : Nat × SessId) :
    ∀ (ms : List Media) (tbl : List (Nat × SessId)),
      e ∈ ms.foldl (fun t m => addClient t (f m) sid) tbl → e ∈ tbl ∨ (e.2 = sid ∧ ∃ m ∈ ms, f m = e.1)
  | [], tbl, h => Or.inl h
  | m :: ms, tbl, h => by
    simp only [List.foldl_cons] at h
    rcases mem_foldl_addClient f sid e ms _ h with h' | ⟨h1, m', hm', h2⟩
    · simp only [addClient, List.mem_cons, List.mem_filter] at h'
      rcases h' with rfl | h'
      · exact Or.inr ⟨rfl, m, List.mem_cons_self, rfl⟩
      · exact Or.inl h'.1
    · exact Or.inr ⟨h1, m', List.mem_cons_of_mem _ hm', h2⟩

theorem IdStep.mem {ok : Prop} {x y : SessId} {T T' : List SessId} (h : IdStep ok x T T') (hy : y ∈ T') :
    y ∈ T ∨ (y = x ∧ ok) := by
  cases h with
  | same => exact Or.inl hy
  | push h => exact (List.mem_cons.mp hy).symm.imp_right (⟨·, h⟩)
  | drop => exact Or.inl (List.mem_filter.mp hy).1

theorem PortStep.mem {s : Sess} {f : Media → Nat} {T T' : List (Nat × SessId)} (h : PortStep s f T T') {e : Nat × SessId}
    (he : e ∈ T') : e ∈ T ∨ (e.2 = s.id ∧ isUdp s = true ∧ ∃ m ∈ s.medias, f m = e.1) := by
  cases h with
  | same => exact Or.inl he
  | start hu => exact (mem_foldl_addClient f s.id e s.medias T he).imp_right fun ⟨h1, hm⟩ => ⟨h1, hu, hm⟩
  | stop => exact Or.inl (List.mem_filter.mp he).1

theorem inv_touched {st st' : State} {c : ConnId} {s : Sess} (h : Inv st) (hs : s ∈ st.sessions) (hne : s.conns ≠ [])
    (ht : Touched st c s st') : Inv st' := by
  cases ht with
  | unchanged => exact h
  | mk st0 s' tcp p arm tbl k _ =>
    have h1 : Inv (setSess st s') :=
      inv_setSess h hs s' k.id (fun x hx => k.id ▸ h.attached s hs x (k.conns ▸ hx)) (fun he => absurd (k.conns ▸ he) hne)
        k.udp k.play
    have hs' : s' ∈ (setSess st s').sessions := mem_setSess_new hs k.id
    have udp : ∀ {f : Media → Nat} {e : Nat × SessId}, (e.2 = s.id ∧ isUdp s = true ∧ ∃ m ∈ s.medias, f m = e.1) →
        ∃ t ∈ (setSess st s').sessions, t.id = e.2 ∧ isUdp t = true ∧ ∃ m ∈ t.medias, f m = e.1 :=
      fun ⟨e1, hu, m, hm, e3⟩ => ⟨s', hs', k.id.trans e1.symm, (k.udp hu).1, m, (k.udp hu).2 m hm, e3⟩
    have play : ∀ {x : SessId}, x = s.id ∧ playMode s' = true → ∃ t ∈ (setSess st s').sessions, t.id = x ∧ playMode t = true :=
      fun ⟨e, hp⟩ => ⟨s', hs', k.id.trans e.symm, hp⟩
    have hss : (setSess st0 s').sessions = (setSess st s').sessions := congrArg (List.map _) tbl.sessions
    have h2 : Inv (setSess st0 s') := {
      connsNodup := tbl.conns ▸ h1.connsNodup
      sessNodup := hss ▸ h1.sessNodup
      sessLt := hss ▸ tbl.nextSess ▸ h1.sessLt
      attached := hss ▸ tbl.conns ▸ h1.attached
      alive := hss ▸ h1.alive
      rtpOwned := fun e he => hss ▸ (tbl.rtp.mem he).elim (h1.rtpOwned e) udp
      rtcpOwned := fun e he => hss ▸ (tbl.rtcp.mem he).elim (h1.rtcpOwned e) udp
      readersOwned := fun x hx => hss ▸ (tbl.readers.mem hx).elim (h1.readersOwned x) play
      activeOwned := fun x hx => hss ▸ (tbl.active.mem hx).elim (h1.activeOwned x) play
      writersOwned := fun x hx => hss ▸ (tbl.writers.mem hx).elim (h1.writersOwned x) fun ⟨e, _⟩ => ⟨s', hs', k.id.trans e.symm⟩
      httpOwned := tbl.httpRead ▸ tbl.conns ▸ h1.httpOwned }
    have h3 := ite_both (inv_setPhase h2 c p) h2 (c := tcp = true)
    exact ite_both (inv_armConns h3 _) h3

theorem Inv.findSess_mem (h : Inv st) {t : Sess} (ht : t ∈ st.sessions) : findSess st t.id = some t :=
  Keyed.find?_of_mem Sess.id h.sessNodup ht

theorem Inv.lt_of_live (h : Inv st) {x : SessId} (hx : (findSess st x).isSome) : x < st.nextSess := by
  obtain ⟨s, hf⟩ := Option.isSome_iff_exists.mp hx
  exact (findSess_some hf).2 ▸ h.sessLt s (findSess_some hf).1

theorem inv_closeConn (h : Inv st) (hc : c ∈ st.conns) : Inv (closeConn st c).1 := by
  have others : ∀ {s : Sess}, c.session = some s.id → ∀ t ∈ st.sessions, t.id ≠ s.id → c.id ∉ t.conns :=
    fun hcs t ht hne hl => hne (Option.some.inj ((h.listed hc ht hl).symm.trans hcs))
  have hsub : ∀ s : Sess, ∀ x ∈ (leaveSess s c.id).conns, x ∈ s.conns := fun s x hx => (List.mem_filter.mp hx).1
  refine closeConn_ind (P := fun v => Inv v.1) st c (fun hb => ?_) (fun s hs hcs => ?_) (fun s hs hcs hkeep => ?_)
  · refine inv_dropConn h c.id fun t ht hl => ?_
    simp [h.listed hc ht hl, h.findSess_mem ht] at hb
  · refine inv_dropConn (inv_closeSessSt h hs _ (hsub s)) c.id fun t ht => ?_
    simp only [closeSessSt_sessions', List.mem_filter] at ht
    exact others hcs t ht.1 (by simpa [leaveSess] using ht.2)
  · have h1 : Inv (setSess st (leaveSess s c.id)) := by
      refine inv_setSess h hs _ rfl (fun x hx => h.attached s hs x (hsub s x hx)) (fun he => ?_)
        (fun hu => ⟨by simpa [isUdp, leaveSess] using hu, fun m hm => hm⟩) (fun hp => by simpa [playMode, leaveSess] using hp)
      have : survivesAlone s = true := by simpa [he] using hkeep
      simpa [survivesAlone, streaming, isTcp, leaveSess] using this
    refine inv_dropConn h1 c.id fun t ht => ?_
    rcases mem_setSess ht with rfl | ⟨ht', hne⟩
    · simp [leaveSess]
    · exact others hcs t ht' (by simpa [leaveSess] using hne)

end Rtsp.Ledger
