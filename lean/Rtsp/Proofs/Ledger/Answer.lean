import Rtsp.Proofs.Ledger.Frames
/-
What the request logic answers (error flag iff 400 / 454; a failed verdict asks for nothing), and one case
principle (`…_ind`) per operation of the model saying which results it can have: what is carried through a
step is proved from these.
-/
namespace Rtsp.Ledger
open Rtsp.Facts.Ledger

/-- a status is one of the two the server pairs with an error -/
def errStatus (n : Nat) : Bool := n == statusBadRequest || n == statusSessionNotFound

/-- the status of a verdict says whether the request failed -/
abbrev Coherent (v : Verdict) : Prop := v.2.1 = errStatus v.1

theorem coh_bad : Coherent bad := by decide
theorem coh_404 (a : Action) : Coherent (statusNotFound, false, a) :=
  show false = errStatus statusNotFound by decide
theorem coh_501 (a : Action) : Coherent (statusNotImplemented, false, a) :=
  show false = errStatus statusNotImplemented by decide

/-- what every verdict of `ServerSession.handleRequestInner` satisfies: its status says whether it failed, and a failed
one changes nothing -/
structure Sound (v : Verdict) : Prop where
  coherent : Coherent v
  errNothing : v.2.1 = true → v.2.2 = .nothing

theorem sound_bad : Sound bad := ⟨coh_bad, fun _ => rfl⟩

theorem sound_pass {n : Nat} {a : Action} (h : errStatus n = false) : Sound (n, false, a) :=
  ⟨h.symm, fun e => nomatch e⟩

theorem setupMedia_sound (st : State) (s : Sess) (r : Req) (t : Tr) (play : Bool) (proto : Proto) :
    Sound (setupMedia st s r t play proto) := by
  unfold setupMedia
  split
  · exact sound_bad
  · exact ite_both sound_bad (ite_both sound_bad (sound_pass rfl))

/-- the checks of `setupChecks` in their order: seven refusals, 461, a refusal, 404, the media -/
theorem setupChecks_sound (st : State) (s : Sess) (r : Req) (t : Tr) (play : Bool) (proto : Proto) :
    Sound (setupChecks st s r t play proto) := by
  unfold setupChecks
  iterate 7 refine ite_both sound_bad ?_
  exact ite_both (sound_pass rfl) (ite_both sound_bad (ite_both (sound_pass rfl) (setupMedia_sound ..)))

theorem decideSetup_sound (st : State) (c : Conn) (s : Sess) (r : Req) : Sound (decideSetup st c s r) := by
  unfold decideSetup
  refine ite_both sound_bad ?_
  split
  · exact sound_bad
  · split
    · exact sound_pass rfl
    · exact setupChecks_sound ..

theorem decideInSession_sound (st : State) (c : Conn) (s : Sess) (r : Req) : Sound (decideInSession st c s r) := by
  unfold decideInSession
  refine ite_both sound_bad ?_
  cases r.method with
  | options | teardown | getParameter => exact sound_pass rfl
  | announce =>
    refine ite_both sound_bad (ite_both sound_bad ?_)
    split
    · exact sound_pass rfl
    · exact sound_bad
  | setup => exact decideSetup_sound ..
  | play => exact ite_both sound_bad (ite_both sound_bad (sound_pass rfl))
  | record => exact ite_both sound_bad (ite_both sound_bad (ite_both sound_bad (ite_both sound_bad (sound_pass rfl))))
  | pause => exact ite_both sound_bad (sound_pass rfl)
  | setParameter => exact ite_both (sound_pass rfl) (sound_pass rfl)
  | describe | unknown => exact sound_pass rfl

theorem handleRequest_ind {P : State × Nat × Bool × List Out → Prop} (st : State) (c : Conn) (r : Req)
    (direct : ∀ n, P (st, n, errStatus n, [])) (sess : ∀ create, P (inSession st c r create)) :
    P (handleRequest st c r) := by
  have e501 : P (st, statusNotImplemented, false, []) := direct _
  have eok : P (st, statusOK, false, []) := direct _
  unfold handleRequest
  refine ite_both (direct _) (ite_both (direct _) ?_)
  simp only
  cases r.method with
  | options => exact ite_both (sess _) eok
  | describe =>
    refine ite_both ?_ e501
    split
    · exact eok
    · exact direct _
  | announce | setup | play | record | pause | teardown => exact ite_both (sess _) e501
  | getParameter | setParameter => exact ite_both (sess _) (ite_both eok e501)
  | unknown => exact e501

/-- the state in which a request is judged: connection `c` has joined session `s` -/
abbrev attached (st1 : State) (s : Sess) (c : Conn) : State :=
  setConn (setSess st1 (joined s c.id)) { c with session := some s.id }

theorem inSession_ind {P : State × Nat × Bool × List Out → Prop} (st : State) (c : Conn) (r : Req) (create : Bool)
    (err : ∀ n, resolve st c r create = .error n → P (st, n, true, []))
    (ok : ∀ st1 s opened, resolve st c r create = .ok (st1, s, opened) →
      ∀ v, Sound v →
        (v.2.2 = .teardown →
          P ((tornDown (attached st1 s c)
                { c with session := some s.id } s.id).1, v.1, v.2.1,
             opened ++ (tornDown (attached st1 s c)
                { c with session := some s.id } s.id).2)) ∧
        (v.2.2 ≠ .teardown →
          P (applyAction (attached st1 s c) c.id
              (joined s c.id) v.2.2, v.1, v.2.1, opened))) :
    P (inSession st c r create) := by
  unfold inSession
  split
  · rename_i n hr; exact err n hr
  · rename_i st1 s opened hr
    obtain ⟨htd, hact⟩ := ok st1 s opened hr _ (decideInSession_sound ..)
    simp only [joinSess_eq]
    split
    · rename_i he
      have he := beq_iff_eq.mp he
      rw [he]
      exact htd he
    · rename_i he
      exact hact fun e => he (beq_iff_eq.mpr e)

theorem resolve_ind {P : Except Nat (State × Sess × List Out) → Prop} (st : State) (c : Conn) (r : Req) (create : Bool)
    (err : ∀ n, errStatus n = true → P (.error n))
    (old : ∀ s ∈ st.sessions, c.session = some s.id ∨ (c.session = none ∧ r.sess = .id s.id) → P (.ok (st, s, [])))
    (new : c.session = none → P (.ok (addSess st (newSess st c.id), newSess st c.id, [Out.sessOpen st.nextSess]))) :
    P (resolve st c r create) := by
  unfold resolve
  split
  · rename_i cur hcur
    split
    · rename_i s hfs
      have hs := old s (findSess_some hfs).1 (.inl (by rw [hcur, (findSess_some hfs).2]))
      split
      · exact hs
      · exact ite_both hs (err _ rfl)
      · exact err _ rfl
    · exact err _ rfl
  · rename_i hnone
    split
    · rename_i s hfs
      split at hfs
      · rename_i x hx
        exact old s (findSess_some hfs).1 (.inr ⟨hnone, by rw [hx, (findSess_some hfs).2]⟩)
      · cases hfs
    · exact ite_both (new hnone) (err _ rfl)

theorem resolve_error {st : State} {c : Conn} {r : Req} {create : Bool} {n : Nat}
    (h : resolve st c r create = .error n) : errStatus n = true :=
  resolve_ind (P := fun x => x = .error n → errStatus n = true) st c r create (fun _ hn e => Except.error.inj e ▸ hn)
    (fun _ _ _ => nofun) (fun _ => nofun) h

theorem resolve_cases {st : State} {c : Conn} {r : Req} {create : Bool} {st1 : State} {s : Sess} {opened : List Out}
    (hr : resolve st c r create = .ok (st1, s, opened)) :
    (st1 = st ∧ s ∈ st.sessions ∧ (c.session = some s.id ∨ (c.session = none ∧ r.sess = .id s.id))) ∨
    (st1 = addSess st (newSess st c.id) ∧ s = newSess st c.id ∧ c.session = none) := by
  refine resolve_ind (P := fun x => x = .ok (st1, s, opened) → _) st c r create (fun _ _ => nofun) (fun s' hs' h e => ?_)
    (fun h e => ?_) hr
  · cases e; exact .inl ⟨rfl, hs', h⟩
  · cases e; exact .inr ⟨rfl, rfl, h⟩

theorem resolve_ok {st : State} {c : Conn} {r : Req} {create : Bool} {st1 : State} {s : Sess} {opened : List Out}
    (hr : resolve st c r create = .ok (st1, s, opened)) : st1.conns = st.conns ∧ s ∈ st1.sessions := by
  rcases resolve_cases hr with ⟨rfl, hs, _⟩ | ⟨rfl, rfl, _⟩
  · exact ⟨rfl, hs⟩
  · exact ⟨rfl, List.mem_append_right _ (List.mem_singleton_self _)⟩

theorem inSession_coherent (st : State) (c : Conn) (r : Req) (create : Bool) :
    (inSession st c r create).2.2.1 = errStatus (inSession st c r create).2.1 :=
  inSession_ind (P := fun v => v.2.2.1 = errStatus v.2.1) st c r create (fun _ h => (resolve_error h).symm)
    fun _ _ _ _ _ hv => ⟨fun _ => hv.coherent, fun _ => hv.coherent⟩

theorem handleRequest_error {st : State} {c : Conn} {r : Req} (he : (handleRequest st c r).2.2.1 = true) :
    (handleRequest st c r).1 = st ∨ ∃ st1 s opened create, resolve st c r create = .ok (st1, s, opened) ∧
      (handleRequest st c r).1 = attached st1 s c := by
  revert he
  refine handleRequest_ind (P := fun v => v.2.2.1 = true → v.1 = st ∨ ∃ st1 s opened create,
    resolve st c r create = .ok (st1, s, opened) ∧ v.1 = attached st1 s c)
    st c r (fun _ _ => Or.inl rfl) fun create => ?_
  refine inSession_ind (P := fun v => v.2.2.1 = true → v.1 = st ∨ ∃ st1 s opened create,
    resolve st c r create = .ok (st1, s, opened) ∧ v.1 = attached st1 s c)
    st c r create (fun _ _ _ => Or.inl rfl) fun st1 s opened hr v hv => ?_
  refine ⟨fun htd he => ?_, fun _ he => Or.inr ⟨st1, s, opened, create, hr, ?_⟩⟩
  · rw [hv.errNothing he] at htd; cases htd
  · show applyAction _ _ _ v.2.2 = _
    rw [hv.errNothing he]; rfl

theorem handleRequest_coherent (st : State) (c : Conn) (r : Req) :
    (handleRequest st c r).2.2.1 = errStatus (handleRequest st c r).2.1 :=
  handleRequest_ind (P := fun v => v.2.2.1 = errStatus v.2.1) st c r (fun _ => rfl) (inSession_coherent st c r)

theorem closeConn_ind {P : State × List Out → Prop} (st : State) (c : Conn)
    (alone : c.session.bind (findSess st) = none → P (dropConn st c.id, [Out.connClose c.id]))
    (last : ∀ s ∈ st.sessions, c.session = some s.id →
      P (dropConn (closeSessSt st (leaveSess s c.id)) c.id, Out.connClose c.id :: (closeSess st (leaveSess s c.id)).2))
    (leave : ∀ s ∈ st.sessions, c.session = some s.id → ¬ ((leaveSess s c.id).conns.isEmpty && !survivesAlone s) = true →
      P (dropConn (setSess st (leaveSess s c.id)) c.id, [Out.connClose c.id])) :
    P (closeConn st c) := by
  unfold closeConn
  split
  · rename_i hb; exact alone hb
  · rename_i s hb
    have hcs := bind_findSess_some hb
    split
    · exact last s hcs.1 hcs.2
    · rename_i hk; exact leave s hcs.1 hcs.2 hk

theorem closeById_ind {P : State × List Out → Prop} (st : State) (c : ConnId)
    (found : ∀ conn ∈ st.conns, conn.id = c → P (closeConn st conn)) (gone : findConn st c = none → P (st, [])) :
    P (closeById st c) := by
  unfold closeById
  split
  · rename_i conn hf; exact found conn (findConn_some hf).1 (findConn_some hf).2
  · rename_i hf; exact gone hf

theorem tornDown_ind {P : State × List Out → Prop} (st : State) (c : Conn) (sid : SessId)
    (found : ∀ s ∈ st.sessions, s.id = sid →
      P (setConn (closeSessSt st (leaveSess s c.id))
          { c with session := none, phase := if c.phase == .tcp then .standard else c.phase },
         (closeSess st (leaveSess s c.id)).2))
    (gone : findSess st sid = none →
      P (setConn st { c with session := none, phase := if c.phase == .tcp then .standard else c.phase }, [])) :
    P (tornDown st c sid) := by
  unfold tornDown
  split
  · rename_i s hf; exact found s (findSess_some hf).1 (findSess_some hf).2
  · rename_i hf; exact gone hf

theorem rtspInput_ind {P : State × List Out → Prop} (st : State) (c : Conn) (i : Input)
    (consumed : (i = .skipped ∨ ∃ ch, i = .frame ch ∧ c.phase = .tcp) → P (st, [Out.consumed c.id]))
    (close : P (closeConn st c))
    (req : ∀ r, i = .req r →
      P ((handleRequest st c r).1, Out.rtsp c.id (handleRequest st c r).2.1 :: (handleRequest st c r).2.2.2) ∧
      ((handleRequest st c r).2.2.1 = true →
        P ((closeById (handleRequest st c r).1 c.id).1,
           Out.rtsp c.id (handleRequest st c r).2.1 :: (handleRequest st c r).2.2.2 ++
             (closeById (handleRequest st c r).1 c.id).2))) :
    P (rtspInput st c i) := by
  cases i with
  | req r =>
    simp only [rtspInput]
    split
    · rename_i he; exact (req r rfl).2 he
    · exact (req r rfl).1
  | frame ch =>
    simp only [rtspInput]
    split
    · rename_i hp; exact consumed (Or.inr ⟨ch, rfl, beq_iff_eq.mp hp⟩)
    · exact close
  | skipped => exact consumed (Or.inl rfl)
  | _ => exact close

/-- by the phase of the reader: waiting GET channel (`wait`, `close`), past the first message (`close`, `late`),
the first message in `handleTunneling` (the rest) -/
theorem connInput0_ind {P : State × List Out → Prop} (st : State) (c : Conn) (i : Input)
    (wait : ∀ k, c.phase = .httpWait k → i ≠ .idle → P (st, []))
    (close : P (closeConn st c)) (httpClose : ∀ n, P (httpThenClose st c n)) (late : P (rtspInput st c i))
    (std : i = .skipped → P (setConn st { c with phase := .standard }, [Out.consumed c.id]))
    (first : i ≠ .skipped →
      P (rtspInput (setConn st { c with phase := .standard }) { c with phase := .standard } i))
    (get : ∀ k, P ({ setPhase st c.id (.httpWait k) with httpRead := st.httpRead ++ [(c.id, k)] }, [Out.http c.id 200]))
    (post : ∀ k f e, i = .httpPost k f → st.httpRead.find? (·.2 == k) = some e → P (mergeTunnel st c e.1 f))
    (ws : P (setConn st { c with tunnel := .ws, phase := .standard }, [Out.ws c.id])) :
    P (connInput0 st c i) := by
  unfold connInput0
  split
  · rename_i k hk
    split
    · exact close
    · rename_i hi; exact wait k hk fun e => hi (beq_iff_eq.mpr e)
  · cases i with
    | httpGet k => exact get k
    | httpPost k f =>
      simp only [freshInput]
      split
      · rename_i e he; exact post k f e rfl he
      · exact httpClose _
    | httpOther => exact httpClose _
    | wsUpgrade ok =>
      simp only [freshInput]
      split
      · exact ws
      · exact httpClose _
    | skipped => exact std rfl
    | _ => exact first nofun
  · cases i with
    | httpGet | httpPost | httpOther | wsUpgrade => exact close
    | _ => exact late

theorem rearm_ind {P : State → Prop} (st : State) (a : ConnId) (gone : (∀ x ∈ st.conns, x.id ≠ a) → P st)
    (set : ∀ x ∈ st.conns, x.id = a → P (setConn st { x with armed := deadlineFor st x })) : P (rearm st a) := by
  unfold rearm
  split
  · rename_i x hf; exact set x (findConn_some hf).1 (findConn_some hf).2
  · rename_i hf; exact gone (findConn_none hf)

theorem step_timeout_ind {P : State × List Out → Prop} (st : State) (s : SessId) (same : P (st, []))
    (close : ∀ ss ∈ st.sessions, P (closeSess st ss)) :
    P (step st (.sessTimeout s)) := by
  simp only [step]
  split
  · rename_i ss hf
    exact ite_both (close ss (findSess_some hf).1) same
  · exact same

theorem step_input_ind {P : State → Prop} (st : State) (a : ConnId) (i : Input) (same : P st)
    (conn : ∀ c ∈ st.conns, c.id = a →
      (i = .skipped → P (connInput0 st c i).1) ∧ P (rearm (connInput0 st c i).1 a)) :
    P (step st (.input a i)).1 := by
  simp only [step]
  split
  · rename_i c hf
    obtain ⟨hc, hca⟩ := findConn_some hf
    unfold connInput
    split
    · exact same
    · split
      · rename_i hi; exact (conn c hc hca).1 (beq_iff_eq.mp hi)
      · exact hca ▸ (conn c hc hca).2
  · exact same

end Rtsp.Ledger
