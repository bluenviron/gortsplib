import Rtsp.Proofs.Ledger.Inv
/- No dangling session pointers (C11 `pointers_valid`; the isolation and the time-out theorems assume them, as `Wf`
(`Reach`)): preservation by the primitives. -/
namespace Rtsp.Ledger

variable {st : State} {c : Conn}

/-- no dangling `sc.session`: the session a connection points to is live and lists the connection -/
def Ptr (st : State) : Prop :=
  ∀ c ∈ st.conns, ∀ sid, c.session = some sid → ∃ s ∈ st.sessions, s.id = sid ∧ c.id ∈ s.conns

theorem ptr_init (cfg : Config) : Ptr (init cfg) := by intro c hc; simp [init] at hc

theorem ptr_of_eq {st st' : State} (h : Ptr st) (hc : st'.conns = st.conns) (hs : st'.sessions = st.sessions) : Ptr st' := by
  intro c hc' sid hsid; rw [hc] at hc'; rw [hs]; exact h c hc' sid hsid

theorem ptr_map (h : Ptr st) (f : Conn → Conn) (hid : ∀ x, (f x).id = x.id) (hs : ∀ x, (f x).session = x.session) :
    Ptr { st with conns := st.conns.map f } := by
  intro y hy sid hsid
  obtain ⟨x, hx, rfl⟩ := List.mem_map.mp hy
  rw [hid x]
  exact h x hx sid ((hs x).symm.trans hsid)

theorem ptr_setPhase (h : Ptr st) (c : ConnId) (p : Phase) : Ptr (setPhase st c p) :=
  ptr_map h _ (fun x => (setPhase_keeps c p x).1) fun x => (setPhase_keeps c p x).2.1

theorem ptr_armConns (h : Ptr st) (cs : List ConnId) : Ptr (armConns st cs) :=
  ptr_map h _ (fun x => (armConns_keeps cs x).1) fun x => (armConns_keeps cs x).2

theorem ptr_setConn (h : Ptr st) (c : Conn)
    (hc : ∀ sid, c.session = some sid → ∃ s ∈ st.sessions, s.id = sid ∧ c.id ∈ s.conns) : Ptr (setConn st c) :=
  Keyed.forall_replace Conn.id h hc

theorem ptr_setSess (h : Ptr st) {s0 : Sess} (hs0 : s0 ∈ st.sessions) (s' : Sess) (hid : s'.id = s0.id)
    (hl : ∀ c ∈ st.conns, c.session = some s'.id → c.id ∈ s'.conns) : Ptr (setSess st s') := by
  intro c hc sid hsid
  rw [setSess_conns] at hc
  obtain ⟨t, ht, e1, e2⟩ := h c hc sid hsid
  by_cases e : t.id = s'.id
  · exact ⟨s', mem_setSess_new hs0 hid, e.symm.trans e1, hl c hc (by rw [hsid, ← e1, e])⟩
  · exact ⟨t, mem_setSess_old ht e, e1, e2⟩

theorem ptr_addSess (h : Ptr st) (s : Sess) : Ptr (addSess st s) := by
  intro c hc sid hsid
  obtain ⟨t, ht, e⟩ := h c hc sid hsid
  exact ⟨t, List.mem_append_left _ ht, e⟩

theorem ptr_addConn (h : Ptr st) (c : Conn) (hc : c.session = none) : Ptr (addConn st c) := by
  unfold addConn
  split
  · exact h
  · intro y hy sid hsid
    rcases List.mem_append.mp hy with hy | hy
    · exact h y hy sid hsid
    · simp only [List.mem_singleton] at hy; subst hy; rw [hc] at hsid; cases hsid

/-- a connection that stays keeps its session, `x` exempt: one that points to `s` is listed by `s` and goes with it -/
theorem ptr_closeSessSt_except (h : Ptr st) (s : Sess) (x : Option ConnId)
    (hl : ∀ c ∈ st.conns, x ≠ some c.id → c.session = some s.id → c.id ∈ s.conns) :
    ∀ c ∈ (closeSessSt st s).conns, x ≠ some c.id → ∀ sid, c.session = some sid →
      ∃ t ∈ (closeSessSt st s).sessions, t.id = sid ∧ c.id ∈ t.conns := by
  intro c hc hca sid hsid
  simp only [closeSessSt_conns', List.mem_filter] at hc
  obtain ⟨t, ht, e1, e2⟩ := h c hc.1 sid hsid
  refine ⟨t, ?_, e1, e2⟩
  simp only [closeSessSt_sessions', List.mem_filter]
  refine ⟨ht, ?_⟩
  simp only [bne_iff_ne, ne_eq]
  intro e
  have : c.id ∈ s.conns := hl c hc.1 hca (by rw [hsid, ← e1, e])
  simp [this] at hc

theorem ptr_closeSessSt (h : Ptr st) (s : Sess)
    (hl : ∀ c ∈ st.conns, c.session = some s.id → c.id ∈ s.conns) : Ptr (closeSessSt st s) := fun c hc =>
  ptr_closeSessSt_except h s none (fun y hy _ => hl y hy) c hc nofun

theorem ptr_dropConn (h : Ptr st) (a : ConnId) : Ptr (dropConn st a) := by
  intro c hc sid hsid
  simp only [dropConn_conns', List.mem_filter] at hc
  simpa using h c hc.1 sid hsid

theorem Ptr.listed' (hp : Ptr st) (hu : (st.sessions.map (·.id)).Nodup) {s : Sess} (hs : s ∈ st.sessions)
    (hc : c ∈ st.conns) (hcs : c.session = some s.id) : c.id ∈ s.conns := by
  obtain ⟨t, ht, e1, e2⟩ := hp c hc s.id hcs
  have : t = s := Keyed.eq_of_nodup Sess.id hu ht hs e1
  subst this; exact e2

theorem Ptr.listed {st : State} (hp : Ptr st) (h : Inv st) {s : Sess} (hs : s ∈ st.sessions) {c : Conn}
    (hc : c ∈ st.conns) (hcs : c.session = some s.id) : c.id ∈ s.conns := hp.listed' h.sessNodup hs hc hcs

theorem ptr_closeLeft (hp : Ptr st) (h : Inv st) {s : Sess} (hs : s ∈ st.sessions) (c : ConnId) :
    ∀ y ∈ (closeSessSt st (leaveSess s c)).conns, y.id ≠ c → ∀ sid, y.session = some sid →
      ∃ t ∈ (closeSessSt st (leaveSess s c)).sessions, t.id = sid ∧ y.id ∈ t.conns := fun y hy hyc =>
  ptr_closeSessSt_except hp (leaveSess s c) (some c) (fun x hx hxa hxs =>
    List.mem_filter.mpr ⟨hp.listed h hs hx hxs, by simpa using Ne.symm hxa⟩) y hy fun e => hyc (Option.some.inj e).symm

theorem ptr_closeConn (hp : Ptr st) (h : Inv st) (c : Conn) : Ptr (closeConn st c).1 := by
  refine closeConn_ind (P := fun v => Ptr v.1) st c (fun _ => ptr_dropConn hp _) (fun s hs _ => ?_) (fun s hs _ _ => ?_)
  · -- the session is closed; every other connection pointing to it is listed, hence removed
    intro y hy sid' hsid''
    have hy := List.mem_filter.mp hy
    exact ptr_closeLeft hp h hs c.id y hy.1 (by simpa using hy.2) sid' hsid''
  · intro y hy sid' hsid''
    have hy := List.mem_filter.mp hy
    have hyc : y.id ≠ c.id := by simpa using hy.2
    obtain ⟨t, ht, e1, e2⟩ := hp y hy.1 sid' hsid''
    by_cases e : t.id = s.id
    · have hts : t = s := h.sess_unique ht hs e
      subst hts
      exact ⟨leaveSess t c.id, mem_setSess_new hs rfl, e1, List.mem_filter.mpr ⟨e2, by simpa using hyc⟩⟩
    · exact ⟨t, mem_setSess_old ht e, e1, e2⟩

theorem ptr_touched {st st' : State} {c : ConnId} {s : Sess} (hp : Ptr st) (h : Inv st) (hs : s ∈ st.sessions)
    (ht : Touched st c s st') : Ptr st' := by
  cases ht with
  | unchanged => exact hp
  | mk st0 s' tcp p arm tbl k _ =>
    have h1 : Ptr (setSess st0 s') :=
      ptr_setSess (ptr_of_eq hp tbl.conns tbl.sessions) (tbl.sessions ▸ hs) s' k.id fun x hx hxs =>
        k.conns ▸ hp.listed h hs (tbl.conns ▸ hx) (k.id ▸ hxs)
    have h2 := ite_both (ptr_setPhase h1 c p) h1 (c := tcp = true)
    exact ite_both (ptr_armConns h2 _) h2

theorem ptr_tornDown (hp : Ptr st) (h : Inv st) (c : Conn) (sid : SessId) : Ptr (tornDown st c sid).1 := by
  refine tornDown_ind (P := fun v => Ptr v.1) st c sid (fun s hs _ y hy sid' hsid' => ?_)
    (fun _ => ptr_setConn hp _ fun _ hs => nomatch hs)
  rcases mem_setConn hy with rfl | ⟨hy', hne⟩
  · cases hsid'
  · exact ptr_closeLeft hp h hs c.id y hy' hne sid' hsid'

end Rtsp.Ledger
