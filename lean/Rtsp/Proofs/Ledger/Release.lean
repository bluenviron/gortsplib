import Rtsp.Proofs.Ledger.Reach
/- What is left when connections have ended (C11 `ledger_empty_after_close`). -/
namespace Rtsp.Ledger

variable {st : State}

/-- no resource table has an entry -/
def Released (st : State) : Prop :=
  st.sessions = [] ∧ st.udpRtp = [] ∧ st.udpRtcp = [] ∧ st.readers = [] ∧ st.active = [] ∧ st.writers = [] ∧
  st.httpRead = []

theorem Inv.owners (h : Inv st) {P : SessId → Prop} (hP : ∀ t ∈ st.sessions, P t.id) :
    (∀ e ∈ st.udpRtp, P e.2) ∧ (∀ e ∈ st.udpRtcp, P e.2) ∧ (∀ x ∈ st.readers, P x) ∧ (∀ x ∈ st.active, P x) ∧
    (∀ x ∈ st.writers, P x) :=
  ⟨fun e he => (h.rtpOwned e he).elim fun t ht => ht.2.1 ▸ hP t ht.1,
   fun e he => (h.rtcpOwned e he).elim fun t ht => ht.2.1 ▸ hP t ht.1,
   fun x hx => (h.readersOwned x hx).elim fun t ht => ht.2.1 ▸ hP t ht.1,
   fun x hx => (h.activeOwned x hx).elim fun t ht => ht.2.1 ▸ hP t ht.1,
   fun x hx => (h.writersOwned x hx).elim fun t ht => ht.2 ▸ hP t ht.1⟩

theorem Inv.released_of_no_sessions (h : Inv st) (hs : st.sessions = []) (hc : st.conns = []) :
    Released st := by
  obtain ⟨h1, h2, h3, h4, h5⟩ := h.owners (P := fun _ => False) (hs ▸ fun _ ht => nomatch ht)
  refine ⟨hs, List.eq_nil_iff_forall_not_mem.mpr h1, List.eq_nil_iff_forall_not_mem.mpr h2, List.eq_nil_iff_forall_not_mem.mpr h3,
    List.eq_nil_iff_forall_not_mem.mpr h4, List.eq_nil_iff_forall_not_mem.mpr h5, List.eq_nil_iff_forall_not_mem.mpr fun e he => ?_⟩
  obtain ⟨t, ht, _⟩ := h.httpOwned e he
  rw [hc] at ht; cases ht

theorem Inv.alone_survives (h : Inv st) (hc : st.conns = []) {s : Sess} (hs : s ∈ st.sessions) :
    s.conns = [] ∧ survivesAlone s = true := by
  have : s.conns = [] := by
    apply List.eq_nil_iff_forall_not_mem.mpr; intro x hx
    obtain ⟨y, hy, _⟩ := h.attached s hs x hx; rw [hc] at hy; cases hy
  exact ⟨this, h.alive s hs this⟩

theorem timeouts_remove (h : Inv st) (hc : st.conns = []) (ids : List SessId) :
    (run st (ids.map Event.sessTimeout)).1.conns = [] ∧
    ∀ t ∈ (run st (ids.map Event.sessTimeout)).1.sessions, t ∈ st.sessions ∧ t.id ∉ ids := by
  induction ids generalizing st with
  | nil => exact ⟨hc, fun t ht => ⟨ht, by simp⟩⟩
  | cons i ids ih =>
    simp only [List.map_cons, run]
    have hstep : (step st (.sessTimeout i)).1.conns = [] ∧
        ∀ t ∈ (step st (.sessTimeout i)).1.sessions, t ∈ st.sessions ∧ t.id ≠ i := by
      cases hf : findSess st i with
      | none => simp only [step, hf]; exact ⟨hc, fun t ht => ⟨ht, findSess_none hf t ht⟩⟩
      | some ss =>
        obtain ⟨hss, rfl⟩ := findSess_some hf
        rw [step_timeout_eq h hss (h.alone_survives hc hss).2]
        exact ⟨by simp [closeSess, hc], fun t ht => ⟨(List.mem_filter.mp ht).1, by simpa using (List.mem_filter.mp ht).2⟩⟩
    obtain ⟨h1, h2⟩ := ih (inv_step h (.sessTimeout i)) hstep.1
    refine ⟨h1, ?_⟩
    intro t ht
    obtain ⟨ht1, ht2⟩ := h2 t ht
    obtain ⟨ht3, ht4⟩ := hstep.2 t ht1
    exact ⟨ht3, by simp [ht4, ht2]⟩

theorem all_released (h : Inv st) (hc : st.conns = []) :
    Released (run st (st.sessions.map fun s => Event.sessTimeout s.id)).1 := by
  have hmap : (st.sessions.map fun s => Event.sessTimeout s.id) = (st.sessions.map (·.id)).map Event.sessTimeout := by
    rw [List.map_map]; rfl
  rw [hmap]
  obtain ⟨h1, h2⟩ := timeouts_remove h hc (st.sessions.map (·.id))
  apply Inv.released_of_no_sessions (inv_run h _) _ h1
  apply List.eq_nil_iff_forall_not_mem.mpr
  intro t ht
  obtain ⟨ht1, ht2⟩ := h2 t ht
  exact ht2 (List.mem_map.mpr ⟨t, ht1, rfl⟩)

theorem closed_conn_holds_nothing (h : Inv st) (c : ConnId) (hc : ∀ x ∈ st.conns, x.id ≠ c) :
    (∀ s ∈ st.sessions, c ∉ s.conns) ∧ (∀ e ∈ st.httpRead, e.1 ≠ c) ∧
    ∀ s ∈ st.sessions, s.conns = [] → survivesAlone s = true := by
  refine ⟨?_, ?_, h.alive⟩
  · intro s hs hl
    obtain ⟨x, hx, e, _⟩ := h.attached s hs c hl
    exact hc x hx e
  · intro e he hce
    obtain ⟨x, hx, e'⟩ := h.httpOwned e he
    exact hc x hx (e'.trans hce)

theorem timeout_releases (h : Inv st) {s : Sess} (hs : s ∈ st.sessions) (ha : survivesAlone s = true) :
    let st' := (step st (.sessTimeout s.id)).1
    (∀ t ∈ st'.sessions, t.id ≠ s.id) ∧ (∀ e ∈ st'.udpRtp, e.2 ≠ s.id) ∧ (∀ e ∈ st'.udpRtcp, e.2 ≠ s.id) ∧
    (∀ x ∈ st'.readers, x ≠ s.id) ∧ (∀ x ∈ st'.active, x ≠ s.id) ∧ (∀ x ∈ st'.writers, x ≠ s.id) ∧
    (∀ x ∈ st'.conns, x.id ∉ s.conns) := by
  intro st'
  have hI : Inv st' := inv_step h _
  have hst' : st' = closeSessSt st s := congrArg Prod.fst (step_timeout_eq h hs ha)
  have hsess : ∀ t ∈ st'.sessions, t.id ≠ s.id := by
    intro t ht
    rw [hst'] at ht
    simpa using (List.mem_filter.mp ht).2
  obtain ⟨h1, h2, h3, h4, h5⟩ := hI.owners (P := (· ≠ s.id)) hsess
  refine ⟨hsess, h1, h2, h3, h4, h5, fun x hx => ?_⟩
  rw [hst'] at hx
  simpa using (List.mem_filter.mp hx).2

end Rtsp.Ledger
