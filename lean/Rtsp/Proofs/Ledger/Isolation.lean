import Rtsp.Proofs.Ledger.Reach
/- Non-interference between connections (C11 `other_conns_unaffected`): what a step on connection `a`
leaves untouched for another connection `b`. -/
namespace Rtsp.Ledger

variable {st st0 : State} {c : Conn} {a : ConnId} {b : Option ConnId} {sb : Option SessId} {i : Input}

/-- connection `b` (if one is meant) and session `sb` (if any) look the same in both states -/
structure Same (b : Option ConnId) (sb : Option SessId) (st st' : State) : Prop where
  conn : ∀ y, b = some y → findConn st' y = findConn st y
  sess : ∀ x, sb = some x → findSess st' x = findSess st x

theorem Same.refl (b : Option ConnId) (sb : Option SessId) (st : State) : Same b sb st st :=
  ⟨fun _ _ => rfl, fun _ _ => rfl⟩
theorem Same.trans {s1 s2 s3 : State} (h1 : Same b sb s1 s2) (h2 : Same b sb s2 s3) : Same b sb s1 s3 :=
  ⟨fun y hy => (h2.conn y hy).trans (h1.conn y hy), fun x hx => (h2.sess x hx).trans (h1.sess x hx)⟩

theorem same_mapConns (st : State) (f : Conn → Conn) (hid : ∀ x, (f x).id = x.id) (hfix : ∀ x, b = some x.id → f x = x) :
    Same b sb st { st with conns := st.conns.map f } :=
  ⟨fun _ hy => Keyed.find?_map_fix Conn.id st.conns hid fun x e => hfix x (e ▸ hy), fun _ _ => rfl⟩

theorem same_setConn (st : State) (c : Conn) (h : b ≠ some c.id) : Same b sb st (setConn st c) :=
  same_mapConns st _ (Keyed.key_replace Conn.id c) fun _ e => if_neg fun e' => h (e.trans (congrArg some (beq_iff_eq.mp e')))

theorem same_setPhase (st : State) (c : ConnId) (p : Phase) (h : b ≠ some c) : Same b sb st (setPhase st c p) :=
  same_mapConns st _ (fun x => (setPhase_keeps c p x).1) fun _ e => if_neg fun e' => h (e.trans (congrArg some (beq_iff_eq.mp e')))

theorem same_armConns (st : State) (cs : List ConnId) (h : ∀ y ∈ cs, b ≠ some y) : Same b sb st (armConns st cs) :=
  same_mapConns st _ (fun x => (armConns_keeps cs x).1) fun _ e => if_neg fun e' => h _ (List.contains_iff_mem.mp e') e

theorem same_setSess (st : State) (s : Sess) (h : sb ≠ some s.id) : Same b sb st (setSess st s) :=
  ⟨fun _ _ => rfl, fun sx hsx => Keyed.find?_map_fix Sess.id st.sessions (Keyed.key_replace Sess.id s) fun _ e =>
    if_neg fun e' => h (by rw [hsx, ← e, beq_iff_eq.mp e'])⟩

theorem same_dropConn (st : State) (c : ConnId) (h : b ≠ some c) : Same b sb st (dropConn st c) :=
  ⟨fun _ hy => Keyed.find?_filter Conn.id st.conns true fun _ e =>
    bne_iff_ne.mpr fun e' => h (hy.trans (congrArg some (e.symm.trans e'))), fun _ _ => rfl⟩

theorem same_closeSessSt (st : State) (s : Sess) (h1 : sb ≠ some s.id) (h2 : ∀ y ∈ s.conns, b ≠ some y) :
    Same b sb st (closeSessSt st s) :=
  ⟨fun y hy => Keyed.find?_filter Conn.id st.conns true fun x e => by simpa [e] using fun hm => h2 y hm hy,
   fun sx hsx => Keyed.find?_filter Sess.id st.sessions true fun x e => bne_iff_ne.mpr fun e' => h1 (by rw [hsx, ← e, e'])⟩

theorem same_addConn (st : State) (c : Conn) (h : b ≠ some c.id) : Same b sb st (addConn st c) :=
  ite_both (P := Same b sb st) (Same.refl ..)
    ⟨fun _ hy => Keyed.find?_snoc_ne Conn.id st.conns fun e => h (hy.trans (congrArg some e.symm)), fun _ _ => rfl⟩

theorem same_addSess (st : State) (s : Sess) (h : sb ≠ some s.id) : Same b sb st (addSess st s) :=
  ⟨fun _ _ => rfl, fun sx hsx => Keyed.find?_snoc_ne Sess.id st.sessions fun e => h (by rw [hsx, e])⟩

theorem same_of_eq {st st' : State} (hc : st'.conns = st.conns) (hs : st'.sessions = st.sessions) :
    Same b sb st st' := ⟨fun _ _ => by unfold findConn; rw [hc], fun _ _ => by unfold findSess; rw [hs]⟩


/-- `sb` is what connection `b` points to -/
def PointsTo (st : State) (b : ConnId) (sb : Option SessId) : Prop :=
  ∀ cb, findConn st b = some cb → cb.session = sb

/-- connection `a` does not point to `sb` -/
def Sep (st : State) (a : ConnId) (sb : Option SessId) : Prop :=
  ∀ y ∈ st.conns, y.id = a → ∀ sid, y.session = some sid → sb ≠ some sid

/-- `PointsTo` for a connection that need not be there: the tables theorem has a bystander session only -/
def Points (st : State) (b : Option ConnId) (sb : Option SessId) : Prop := ∀ y, b = some y → PointsTo st y sb

theorem Points.transfer {st st' : State} (h : Points st b sb) (hs : Same b sb st st') : Points st' b sb :=
  fun y hy cb hcb => h y hy cb (hs.conn y hy ▸ hcb)

theorem not_listed (h : Inv st) (hb : Points st b sb) {s : Sess} (hs : s ∈ st.sessions) (hne : sb ≠ some s.id) :
    ∀ y ∈ s.conns, b ≠ some y := by
  intro y hl hy
  obtain ⟨x, hx, e1, _⟩ := h.attached s hs y hl
  cases hf : findConn st y with
  | none => exact findConn_none hf x hx e1
  | some z =>
    obtain ⟨hz, ez⟩ := findConn_some hf
    exact hne ((hb y hy z hf).symm.trans (h.listed hz hs (ez ▸ hl)))

theorem same_closeLeft (h : Inv st) (hb : Points st b sb) {s : Sess} (hs : s ∈ st.sessions) (hne : sb ≠ some s.id) (c : ConnId) :
    Same b sb st (closeSessSt st (leaveSess s c)) :=
  same_closeSessSt st (leaveSess s c) hne fun y hm => not_listed h hb hs hne y (List.mem_filter.mp hm).1

theorem same_closeConn (h : Inv st) (c : Conn)
    (hcb : b ≠ some c.id) (hb : Points st b sb) (hsep : ∀ sid, c.session = some sid → sb ≠ some sid) :
    Same b sb st (closeConn st c).1 :=
  closeConn_ind (P := fun v => Same b sb st v.1) st c (fun _ => same_dropConn st c.id hcb)
    (fun _ hs hcs => (same_closeLeft h hb hs (hsep _ hcs) c.id).trans (same_dropConn _ c.id hcb))
    (fun s _ hcs _ => (same_setSess st (leaveSess s c.id) (hsep _ hcs)).trans (same_dropConn _ c.id hcb))

theorem same_touched {st st' : State} {s : Sess} (ht : Touched st a s st')
    (hab : b ≠ some a) (hne : sb ≠ some s.id) (hnl : ∀ y ∈ s.conns, b ≠ some y) : Same b sb st st' := by
  cases ht with
  | unchanged => exact Same.refl ..
  | mk st0 s' tcp p arm tbl k _ =>
    have h1 : Same b sb st (setSess st0 s') :=
      (same_of_eq tbl.conns tbl.sessions).trans (same_setSess st0 s' (k.id ▸ hne))
    have h2 := ite_both (h1.trans (same_setPhase _ a p hab)) h1 (c := tcp = true)
    exact ite_both (h2.trans (same_armConns _ _ hnl)) h2

theorem same_tornDown (h : Inv st) (c : Conn) (sid : SessId)
    (hcb : b ≠ some c.id) (hb : Points st b sb) (hne : sb ≠ some sid) : Same b sb st (tornDown st c sid).1 :=
  tornDown_ind (P := fun v => Same b sb st v.1) st c sid
    (fun _ hs hid => (same_closeLeft h hb hs (hid ▸ hne) c.id).trans (same_setConn _ _ hcb)) fun _ => same_setConn _ _ hcb

theorem same_attach (hcb : b ≠ some c.id) (hsep : ∀ sid, c.session = some sid → sb ≠ some sid)
    (hlive : ∀ x, sb = some x → x < st.nextSess) {r : Req} (hname : ∀ x, r.sess = .id x → sb ≠ some x) {create : Bool}
    {st1 : State} {s : Sess} {opened : List Out} (hr : resolve st c r create = .ok (st1, s, opened)) :
    Same b sb st (attached st1 s c) := by
  -- the session the request goes to is not `sb`: it is `c`'s, or the one the request names, or a new one
  have hfacts : Same b sb st st1 ∧ sb ≠ some s.id := by
    rcases resolve_cases hr with ⟨rfl, hs, hor⟩ | ⟨rfl, rfl, _⟩
    · exact ⟨Same.refl .., hor.elim (hsep _) (hname _ ·.2)⟩
    · have hne : sb ≠ some (newSess st c.id).id := fun e => Nat.lt_irrefl _ (hlive _ e)
      exact ⟨same_addSess st _ hne, hne⟩
  exact (hfacts.1.trans (same_setSess st1 (joined s c.id) hfacts.2)).trans (same_setConn _ _ hcb)

/-- While the record of session `sb` is what it was at `st0`, a connection that did not point to it then does not
point to it now: a valid pointer is listed, and what was listed pointed back. -/
theorem sep_of_same (h0 : Inv st0) (h : Wf st) (hS : Same b sb st0 st) {y : ConnId} (hy : Sep st0 y sb) : Sep st y sb := by
  intro y' hy' hid sid hs e
  obtain ⟨t, ht, e1, hl⟩ := h.2 y' hy' sid hs
  have hf : findSess st0 sid = some t := by rw [← hS.sess sid e, ← e1]; exact h.1.findSess_mem ht
  obtain ⟨x, hx, f1, f2⟩ := h0.attached t (findSess_some hf).1 _ hl
  exact hy x hx (f1.trans hid) _ f2 (by rw [e, e1])

/-- connection `y` is not the bystander and does not point to the bystander's session -/
abbrev Apart (st : State) (b : Option ConnId) (sb : Option SessId) (y : ConnId) : Prop := b ≠ some y ∧ Sep st y sb

/-- The bystander's view is kept by an input that stays clear of it: it acts on no connection that is `b` or points
to `sb`, names no session `sb`, merges no tunnel connection `b`. -/
theorem kept_same (h0 : Inv st0) (hpts : Points st0 b sb) (ha : Apart st0 b sb a)
    (hlive : ∀ x, sb = some x → (findSess st0 x).isSome)
    (hname : ∀ r x, i = .req r → r.sess = .id x → sb ≠ some x) (hfresh : ∀ kk f, i = .httpPost kk f → b ≠ some f) :
    Kept a i (Apart st0 b sb) Wf (Same b sb st0) (Same b sb st0) := by
  have sep : ∀ {st c}, Wf st → Same b sb st0 st → c ∈ st.conns → Apart st0 b sb c.id → ∀ sid, c.session = some sid → sb ≠ some sid :=
    fun hI h hc hy => sep_of_same h0 hI h hy.2 _ hc rfl
  have hb : b ≠ some a := ha.1
  have flags : ∀ {st c} (c' : Conn), Same b sb st0 st → c ∈ st.conns → c.id = a → c'.id = c.id →
      c'.session = c.session → Same b sb st0 (setConn st c') := fun c' h _ hca hid _ =>
    h.trans (same_setConn _ c' (hid ▸ hca ▸ hb))
  exact {
    flags := flags
    close := fun hI h hc hy => h.trans (same_closeConn hI.1 _ hy.1 (hpts.transfer h) (sep hI h hc hy))
    attach := fun hI h hc hca hi hr => h.trans (same_attach (hca ▸ hb) (sep hI h hc (hca ▸ ha))
      (fun x e => hI.1.lt_of_live (by rw [h.sess x e]; exact hlive x e)) (hname _ · hi) hr)
    touched := fun hI h hc hca hcs hs _ ht => h.trans (same_touched ht hb (sep hI h hc (hca ▸ ha) _ hcs)
      (not_listed hI.1 (hpts.transfer h) hs (sep hI h hc (hca ▸ ha) _ hcs)))
    torn := fun hI h hc hca hcs =>
      h.trans (same_tornDown hI.1 _ _ (hca ▸ hb) (hpts.transfer h) (sep hI h hc (hca ▸ ha) _ hcs))
    wait := fun k h _ _ => h.trans ((same_setPhase _ a _ hb).trans (same_of_eq rfl rfl))
    fresh := fun kk f h hi => h.trans (same_addConn _ _ (hfresh kk f hi))
    done := id
    rearm := flags }

theorem same_step (h : Wf st) (hab : b ≠ some a) (hpts : Points st b sb) (hsep : Sep st a sb)
    (hlive : ∀ x, sb = some x → (findSess st x).isSome)
    (hname : ∀ r x, i = .req r → r.sess = .id x → sb ≠ some x)
    (htun : ∀ kk f, i = .httpPost kk f → b ≠ some f ∧
      ∀ e, st.httpRead.find? (·.2 == kk) = some e → b ≠ some e.1 ∧ Sep st e.1 sb) :
    Same b sb st (step st (.input a i)).1 :=
  ((kept_wf.and (kept_same h.1 hpts ⟨hab, hsep⟩ hlive hname fun kk f hi => (htun kk f hi).1)).input ⟨h, Same.refl ..⟩ ⟨hab, hsep⟩
    fun kk f hi => (htun kk f hi).2).2

end Rtsp.Ledger
