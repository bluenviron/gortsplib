import Rtsp.Proofs.Ledger.Answer
/-
Totality of the per-connection step (C11 `every_input_answered_or_closed`): what a connection gets for an input; the
tear-down of a connection emits its close and takes it out of the table.
-/
namespace Rtsp.Ledger

theorem closeConn_emits (st : State) (c : Conn) : Out.connClose c.id ∈ (closeConn st c).2 :=
  closeConn_ind (P := fun v => Out.connClose c.id ∈ v.2) st c (fun _ => List.mem_cons_self)
    (fun _ _ _ => List.mem_cons_self) (fun _ _ _ _ => List.mem_cons_self)

theorem closeConn_removes (st : State) (c : Conn) : ∀ x ∈ (closeConn st c).1.conns, x.id ≠ c.id :=
  have drop : ∀ st' : State, ∀ x ∈ (dropConn st' c.id).conns, x.id ≠ c.id := fun _ x hx => by
    simpa using (List.mem_filter.mp hx).2
  closeConn_ind (P := fun v => ∀ x ∈ v.1.conns, x.id ≠ c.id) st c (fun _ => drop _) (fun _ _ _ => drop _)
    (fun _ _ _ _ => drop _)

theorem closeById_removes (st : State) (c : ConnId) : ∀ x ∈ (closeById st c).1.conns, x.id ≠ c :=
  closeById_ind (P := fun v => ∀ x ∈ v.1.conns, x.id ≠ c) st c (fun conn _ e => e ▸ closeConn_removes st conn)
    findConn_none

/-- the connection got an answer -/
def Answered (c : ConnId) (outs : List Out) : Prop :=
  (∃ n, Out.rtsp c n ∈ outs) ∨ (∃ n, Out.http c n ∈ outs) ∨ Out.ws c ∈ outs

/-- inputs that are taken without an answer: skipped bytes, frames while the reader is in TCP mode -/
def Consumable (c : Conn) (i : Input) : Prop := i = .skipped ∨ ∃ ch, i = .frame ch ∧ c.phase = .tcp

/-- events the connection cannot see: the deadline is not armed; a GET channel reads nothing -/
def Unseen (st : State) (c : Conn) (i : Input) : Prop :=
  (i = .idle ∧ deadlineArmed st c = false) ∨ (∃ k, c.phase = .httpWait k ∧ i ≠ .idle)

theorem rtspInput_total (st : State) (c : Conn) (i : Input) :
    Answered c.id (rtspInput st c i).2 ∨ Out.connClose c.id ∈ (rtspInput st c i).2 ∨
    (Out.consumed c.id ∈ (rtspInput st c i).2 ∧ Consumable c i) :=
  rtspInput_ind (P := fun v => Answered c.id v.2 ∨ Out.connClose c.id ∈ v.2 ∨ (Out.consumed c.id ∈ v.2 ∧ Consumable c i))
    st c i (fun h => Or.inr (Or.inr ⟨List.mem_cons_self, h⟩)) (Or.inr (Or.inl (closeConn_emits st c)))
    fun _ _ => ⟨Or.inl (Or.inl ⟨_, List.mem_cons_self⟩), fun _ => Or.inl (Or.inl ⟨_, List.mem_cons_self⟩)⟩

theorem connInput0_total (st : State) (c : Conn) (i : Input) :
    Answered c.id (connInput0 st c i).2 ∨ Out.connClose c.id ∈ (connInput0 st c i).2 ∨
    (Out.consumed c.id ∈ (connInput0 st c i).2 ∧ Consumable c i) ∨ ((connInput0 st c i).2 = [] ∧ Unseen st c i) := by
  have http : ∀ n (rest : List Out), Answered c.id (Out.http c.id n :: rest) := fun n _ =>
    Or.inr (Or.inl ⟨n, List.mem_cons_self⟩)
  refine connInput0_ind (P := fun v => Answered c.id v.2 ∨ Out.connClose c.id ∈ v.2 ∨
      (Out.consumed c.id ∈ v.2 ∧ Consumable c i) ∨ (v.2 = [] ∧ Unseen st c i)) st c i
    (fun k hk hi => Or.inr (Or.inr (Or.inr ⟨rfl, Or.inr ⟨k, hk, hi⟩⟩))) (Or.inr (Or.inl (closeConn_emits st c)))
    (fun n => Or.inl (http n _)) ((rtspInput_total st c i).imp_right (·.imp_right Or.inl))
    (fun hi => Or.inr (Or.inr (Or.inl ⟨List.mem_cons_self, Or.inl hi⟩))) (fun hi => ?_)
    (fun _ => Or.inl (http _ _)) (fun _ _ _ _ _ => Or.inl (http _ _)) (Or.inl (Or.inr (Or.inr List.mem_cons_self)))
  -- past `handleTunneling` the reader is not in TCP mode, so only skipped bytes would go unanswered
  rcases rtspInput_total (setConn st { c with phase := .standard }) { c with phase := .standard } i with
    h | h | ⟨_, h | ⟨_, _, h⟩⟩
  · exact Or.inl h
  · exact Or.inr (Or.inl h)
  · exact absurd h hi
  · cases h

theorem connInput_outs (st : State) (c : Conn) (i : Input) (h : i = .idle → deadlineArmed st c = true) :
    (connInput st c i).2 = (connInput0 st c i).2 := by
  unfold connInput
  rw [if_neg fun e => by simp [h (beq_iff_eq.mp (Bool.and_eq_true_iff.mp e).1)] at e]
  split <;> rfl

theorem idle_closes (st : State) (c : Conn) (h : deadlineArmed st c = true) :
    Out.connClose c.id ∈ (connInput st c .idle).2 := by
  rw [connInput_outs st c _ fun _ => h]
  unfold connInput0
  cases hph : c.phase with
  | httpWait k => simp only [beq_self_eq_true, if_true]; exact closeConn_emits st c
  | fresh => simp only [freshInput, rtspInput]; exact closeConn_emits _ _
  | standard => simp only [lateInput, rtspInput]; exact closeConn_emits _ _
  | tcp => simp only [lateInput, rtspInput]; exact closeConn_emits _ _

end Rtsp.Ledger
