import Rtsp.Proofs.Ledger.Answer
/-
One walk through `step st (.input a i)` for everything that is carried through it.  An input is made of seven state
changes; `Kept` has a field for each, `done` (where nothing is acted on, `J` gives `Q`) and `rearm` (the renewed read
deadline keeps `Q`); a predicate they keep is kept by the input (`Kept.input`).  Relations between the state before and after
are carried as predicates of the current state that mention the state the input started from.
-/
namespace Rtsp.Ledger

variable {st : State} {c : Conn} {a : ConnId} {i : Input}

/-- What an input `i` on connection `a` is made of.  `J` holds until the request is acted on: it is kept when the
reader leaves `handleTunneling` (`flags`), when a connection the input may close is closed (`close`; `acts`: `a`, and
the GET channel a tunnel POST claims), when `a` joins the session (`attach`).  The action establishes `Q`, which is
kept when the read deadline is renewed (`rearm`).  `I` is an invariant known to hold throughout; `close`, `attach`,
`touched` and `torn` assume it, the other fields are kept without it. -/
structure Kept (a : ConnId) (i : Input) (acts : ConnId → Prop) (I J Q : State → Prop) : Prop where
  flags : ∀ {st c} (c' : Conn), J st → c ∈ st.conns → c.id = a → c'.id = c.id → c'.session = c.session →
    J (setConn st c')
  close : ∀ {st c}, I st → J st → c ∈ st.conns → acts c.id → J (closeConn st c).1
  attach : ∀ {st c r create st1 s opened}, I st → J st → c ∈ st.conns → c.id = a → i = .req r →
    resolve st c r create = .ok (st1, s, opened) → J (attached st1 s c)
  touched : ∀ {st c s st'}, I st → J st → c ∈ st.conns → c.id = a → c.session = some s.id → s ∈ st.sessions →
    a ∈ s.conns → Touched st a s st' → Q st'
  torn : ∀ {st c sid}, I st → J st → c ∈ st.conns → c.id = a → c.session = some sid → Q (tornDown st c sid).1
  wait : ∀ {st c} (k : Nat), J st → c ∈ st.conns → c.id = a →
    Q { setPhase st a (.httpWait k) with httpRead := st.httpRead ++ [(a, k)] }
  fresh : ∀ {st} (k : Nat) (f : ConnId), J st → i = .httpPost k f →
    Q (addConn st { id := f, tunnel := .http, phase := .standard })
  done : ∀ {st}, J st → Q st
  rearm : ∀ {st c} (c' : Conn), Q st → c ∈ st.conns → c.id = a → c'.id = c.id → c'.session = c.session →
    Q (setConn st c')

namespace Kept
variable {acts : ConnId → Prop} {I J Q : State → Prop}

theorem and (k1 : Kept a i acts (fun _ => True) I I) (k2 : Kept a i acts I J Q) :
    Kept a i acts (fun _ => True) (fun st => I st ∧ J st) (fun st => I st ∧ Q st) where
  flags c' h hc hca hid hs := ⟨k1.flags c' h.1 hc hca hid hs, k2.flags c' h.2 hc hca hid hs⟩
  close _ h hc hy := ⟨k1.close trivial h.1 hc hy, k2.close h.1 h.2 hc hy⟩
  attach _ h hc hca hi hr := ⟨k1.attach trivial h.1 hc hca hi hr, k2.attach h.1 h.2 hc hca hi hr⟩
  touched _ h hc hca hcs hs hl ht := ⟨k1.touched trivial h.1 hc hca hcs hs hl ht, k2.touched h.1 h.2 hc hca hcs hs hl ht⟩
  torn _ h hc hca hcs := ⟨k1.torn trivial h.1 hc hca hcs, k2.torn h.1 h.2 hc hca hcs⟩
  wait k h hc hca := ⟨k1.wait k h.1 hc hca, k2.wait k h.2 hc hca⟩
  fresh k f h hi := ⟨k1.fresh k f h.1 hi, k2.fresh k f h.2 hi⟩
  done h := ⟨h.1, k2.done h.2⟩
  rearm c' h hc hca hid hs := ⟨k1.rearm c' h.1 hc hca hid hs, k2.rearm c' h.2 hc hca hid hs⟩

variable (k : Kept a i acts (fun _ => True) J Q)
include k

theorem closeById (hJ : J st) {y : ConnId} (hy : acts y) : J (closeById st y).1 :=
  closeById_ind (P := fun v => J v.1) st y (fun _ hc hid => k.close trivial hJ hc (hid ▸ hy)) fun _ => hJ

theorem inSession (hJ : J st) (hc : c ∈ st.conns) (hca : c.id = a) {r : Req} (hi : i = .req r) (create : Bool) :
    Q (inSession st c r create).1 := by
  refine inSession_ind (P := fun v => Q v.1) st c r create (fun _ _ => k.done hJ) fun st1 s opened hr v _ => ?_
  have hA : J (attached st1 s c) := k.attach trivial hJ hc hca hi hr
  have hcA : ({ c with session := some s.id } : Conn) ∈ (attached st1 s c).conns :=
    mem_setConn_new (c0 := c) (by rw [setSess_conns, (resolve_ok hr).1]; exact hc) rfl
  exact ⟨fun _ => k.torn trivial hA hcA hca rfl,
    fun _ => hca ▸ k.touched (s := joined s c.id) trivial hA hcA hca rfl
      (mem_setSess_new (resolve_ok hr).2 rfl) (hca ▸ joined_mem s c.id) (hca ▸ applyAction_touched ..)⟩

theorem rtspInput (hJ : J st) (hc : c ∈ st.conns) (hca : c.id = a) (ha : acts a) : Q (rtspInput st c i).1 :=
  rtspInput_ind (P := fun v => Q v.1) st c i (fun _ => k.done hJ) (k.done (k.close trivial hJ hc (hca ▸ ha))) fun r hi =>
    ⟨handleRequest_ind (P := fun v => Q v.1) st c r (fun _ => k.done hJ) (k.inSession hJ hc hca hi), fun he => by
      -- a refused request has changed nothing, or no more than attached the connection
      rcases handleRequest_error he with e | ⟨st1, s, opened, create, hr, e⟩ <;> rw [e]
      · exact k.done (k.closeById hJ (hca ▸ ha))
      · exact k.done (k.closeById (k.attach trivial hJ hc hca hi hr) (hca ▸ ha))⟩

theorem connInput0 (hJ : J st) (hc : c ∈ st.conns) (hca : c.id = a) (ha : acts a)
    (hget : ∀ kk f, i = .httpPost kk f → ∀ e, st.httpRead.find? (·.2 == kk) = some e → acts e.1) :
    Q (connInput0 st c i).1 :=
  have hstd := k.flags { c with phase := .standard } hJ hc hca rfl rfl
  have hclose := k.done (k.close trivial hJ hc (hca ▸ ha))
  connInput0_ind (P := fun v => Q v.1) st c i (fun _ _ _ => k.done hJ) hclose (fun _ => hclose) (k.rtspInput hJ hc hca ha)
    (fun _ => k.done hstd) (fun _ => k.rtspInput hstd (mem_setConn_new hc rfl) hca ha)
    (fun kk => hca ▸ k.wait kk hJ hc hca)
    (fun kk f e hi he => k.fresh kk f (k.closeById (k.closeById hJ (hget kk f hi e he)) (hca ▸ ha)) hi)
    (k.done (k.flags _ hJ hc hca rfl rfl))

theorem input (hJ : J st) (ha : acts a)
    (hget : ∀ kk f, i = .httpPost kk f → ∀ e, st.httpRead.find? (·.2 == kk) = some e → acts e.1) :
    Q (step st (.input a i)).1 :=
  step_input_ind st a i (k.done hJ) fun _ hc hca =>
    have h0 := k.connInput0 hJ hc hca ha hget
    ⟨fun _ => h0, rearm_ind _ _ (fun _ => h0) fun _ hx hxa => k.rearm _ h0 hx hxa rfl rfl⟩

end Kept

end Rtsp.Ledger
