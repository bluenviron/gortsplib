import Rtsp.Model.ServerLedger
import Rtsp.Proofs.Common.Keyed
/-
Frame lemmas: which table each primitive of the ledger model touches (all by unfolding), and what a
successful request touches as a whole (`Touched`).
-/
namespace Rtsp.Ledger

/-- Each of the four record updates as one equation: the fields it does not write are read off by `simp`. -/
@[simp] theorem setSess_eq (st : State) (s : Sess) :
    setSess st s = { st with sessions := st.sessions.map fun x => if x.id == s.id then s else x } := rfl
@[simp] theorem setConn_eq (st : State) (c : Conn) :
    setConn st c = { st with conns := st.conns.map fun x => if x.id == c.id then c else x } := rfl
@[simp] theorem setPhase_eq (st : State) (c : ConnId) (p : Phase) :
    setPhase st c p = { st with conns := st.conns.map fun x => if x.id == c then { x with phase := p } else x } := rfl
@[simp] theorem dropConn_eq (st : State) (c : ConnId) :
    dropConn st c = { st with conns := st.conns.filter (·.id != c), httpRead := st.httpRead.filter (·.1 != c) } := rfl

@[simp] theorem setSess_cfg (st : State) (s : Sess) : (setSess st s).cfg = st.cfg := rfl
@[simp] theorem setSess_conns (st : State) (s : Sess) : (setSess st s).conns = st.conns := rfl
@[simp] theorem setSess_mcast (st : State) (s : Sess) : (setSess st s).mcast = st.mcast := rfl
@[simp] theorem setConn_cfg (st : State) (c : Conn) : (setConn st c).cfg = st.cfg := rfl
@[simp] theorem setConn_sessions (st : State) (c : Conn) : (setConn st c).sessions = st.sessions := rfl
@[simp] theorem setConn_mcast (st : State) (c : Conn) : (setConn st c).mcast = st.mcast := rfl
@[simp] theorem setPhase_cfg (st : State) (c : ConnId) (p : Phase) : (setPhase st c p).cfg = st.cfg := rfl
@[simp] theorem setPhase_nextSess (st : State) (c : ConnId) (p : Phase) : (setPhase st c p).nextSess = st.nextSess := rfl
@[simp] theorem setPhase_udpRtp (st : State) (c : ConnId) (p : Phase) : (setPhase st c p).udpRtp = st.udpRtp := rfl
@[simp] theorem setPhase_udpRtcp (st : State) (c : ConnId) (p : Phase) : (setPhase st c p).udpRtcp = st.udpRtcp := rfl
@[simp] theorem setPhase_readers (st : State) (c : ConnId) (p : Phase) : (setPhase st c p).readers = st.readers := rfl
@[simp] theorem setPhase_active (st : State) (c : ConnId) (p : Phase) : (setPhase st c p).active = st.active := rfl
@[simp] theorem setPhase_writers (st : State) (c : ConnId) (p : Phase) : (setPhase st c p).writers = st.writers := rfl
@[simp] theorem setPhase_mcast (st : State) (c : ConnId) (p : Phase) : (setPhase st c p).mcast = st.mcast := rfl
@[simp] theorem dropConn_cfg (st : State) (c : ConnId) : (dropConn st c).cfg = st.cfg := rfl
@[simp] theorem dropConn_mcast (st : State) (c : ConnId) : (dropConn st c).mcast = st.mcast := rfl
@[simp] theorem stopMedias_cfg (st : State) (s : Sess) : (stopMedias st s).cfg = st.cfg :=
  ite_both (P := fun st' : State => st'.cfg = st.cfg) rfl rfl
@[simp] theorem stopMedias_mcast (st : State) (s : Sess) : (stopMedias st s).mcast = st.mcast :=
  ite_both (P := fun st' : State => st'.mcast = st.mcast) rfl rfl
@[simp] theorem startPlay_cfg (st : State) (s : Sess) : (startPlay st s).cfg = st.cfg :=
  ite_both (P := fun st' : State => st'.cfg = st.cfg) rfl rfl
@[simp] theorem startPlay_mcast (st : State) (s : Sess) : (startPlay st s).mcast = st.mcast :=
  ite_both (P := fun st' : State => st'.mcast = st.mcast) rfl rfl
@[simp] theorem startRecord_cfg (st : State) (s : Sess) : (startRecord st s).cfg = st.cfg :=
  ite_both (P := fun st' : State => st'.cfg = st.cfg) rfl rfl
@[simp] theorem startRecord_mcast (st : State) (s : Sess) : (startRecord st s).mcast = st.mcast :=
  ite_both (P := fun st' : State => st'.mcast = st.mcast) rfl rfl
@[simp] theorem closeSessSt_cfg (st : State) (s : Sess) : (closeSessSt st s).cfg = st.cfg := rfl

@[simp] theorem dropConn_conns' (st : State) (c : ConnId) : (dropConn st c).conns = st.conns.filter (·.id != c) := rfl
@[simp] theorem dropConn_httpRead' (st : State) (c : ConnId) :
    (dropConn st c).httpRead = st.httpRead.filter (·.1 != c) := rfl
@[simp] theorem closeSessSt_conns' (st : State) (s : Sess) :
    (closeSessSt st s).conns = st.conns.filter (fun c => !s.conns.contains c.id) := rfl
@[simp] theorem closeSessSt_sessions' (st : State) (s : Sess) :
    (closeSessSt st s).sessions = st.sessions.filter (·.id != s.id) := rfl
@[simp] theorem closeSessSt_httpRead' (st : State) (s : Sess) :
    (closeSessSt st s).httpRead = st.httpRead.filter (fun e => !s.conns.contains e.1) := rfl
@[simp] theorem closeSessSt_writers' (st : State) (s : Sess) :
    (closeSessSt st s).writers = st.writers.filter (· != s.id) := rfl
@[simp] theorem setSess_sessions' (st : State) (s : Sess) :
    (setSess st s).sessions = st.sessions.map fun x => if x.id == s.id then s else x := rfl
@[simp] theorem setConn_conns' (st : State) (c : Conn) :
    (setConn st c).conns = st.conns.map fun x => if x.id == c.id then c else x := rfl
@[simp] theorem setPhase_conns' (st : State) (c : ConnId) (p : Phase) :
    (setPhase st c p).conns = st.conns.map fun x => if x.id == c then { x with phase := p } else x := rfl

theorem setPhase_keeps (c : ConnId) (p : Phase) (x : Conn) :
    (if x.id == c then { x with phase := p } else x).id = x.id ∧
    (if x.id == c then { x with phase := p } else x).session = x.session ∧
    (if x.id == c then { x with phase := p } else x).armed = x.armed :=
  ite_both (P := fun y : Conn => y.id = x.id ∧ y.session = x.session ∧ y.armed = x.armed) ⟨rfl, rfl, rfl⟩ ⟨rfl, rfl, rfl⟩

theorem armConns_keeps (cs : List ConnId) (x : Conn) :
    (if cs.contains x.id then { x with armed := true } else x).id = x.id ∧
    (if cs.contains x.id then { x with armed := true } else x).session = x.session :=
  ite_both (P := fun y : Conn => y.id = x.id ∧ y.session = x.session) ⟨rfl, rfl⟩ ⟨rfl, rfl⟩

theorem setConn_setSess_comm (st : State) (s : Sess) (c : Conn) :
    setConn (setSess st s) c = setSess (setConn st c) s := rfl

/-- `joinSess` as a record update: only the connection list changes -/
abbrev joined (s : Sess) (c : ConnId) : Sess := { s with conns := if s.conns.contains c then s.conns else s.conns ++ [c] }

theorem joinSess_eq (s : Sess) (c : ConnId) : joinSess s c = joined s c := by
  unfold joinSess joined; split <;> rfl

theorem joined_mem (s : Sess) (c : ConnId) : c ∈ (joined s c).conns :=
  iteInduction (motive := fun l : List ConnId => c ∈ l) List.contains_iff_mem.mp fun _ => List.mem_append_right _ (List.mem_singleton_self c)
theorem joined_conns {s : Sess} {c x : ConnId} (h : x ∈ (joined s c).conns) : x ∈ s.conns ∨ x = c :=
  ite_both (P := fun l : List ConnId => x ∈ l → x ∈ s.conns ∨ x = c) Or.inl
    (fun h => (List.mem_append.mp h).imp_right List.mem_singleton.mp) h
theorem joined_sub (s : Sess) (c : ConnId) {x : ConnId} (h : x ∈ s.conns) : x ∈ (joined s c).conns :=
  ite_both (P := fun l : List ConnId => x ∈ l) h (List.mem_append_left _ h)

theorem findConn_some {st : State} {c : ConnId} {x : Conn} (h : findConn st c = some x) : x ∈ st.conns ∧ x.id = c :=
  Keyed.find?_some Conn.id h

theorem findConn_none {st : State} {c : ConnId} (h : findConn st c = none) : ∀ x ∈ st.conns, x.id ≠ c :=
  (Keyed.find?_none Conn.id).mp h

theorem findSess_some {st : State} {i : SessId} {s : Sess} (h : findSess st i = some s) : s ∈ st.sessions ∧ s.id = i :=
  Keyed.find?_some Sess.id h

theorem findSess_none {st : State} {i : SessId} (h : findSess st i = none) : ∀ s ∈ st.sessions, s.id ≠ i :=
  (Keyed.find?_none Sess.id).mp h

theorem mem_setSess {st : State} {s t : Sess} (ht : t ∈ (setSess st s).sessions) :
    t = s ∨ (t ∈ st.sessions ∧ t.id ≠ s.id) := Keyed.mem_replace Sess.id ht

theorem mem_setSess_new {st : State} {s s0 : Sess} (hs0 : s0 ∈ st.sessions) (hid : s.id = s0.id) :
    s ∈ (setSess st s).sessions := Keyed.mem_replace_new Sess.id hs0 hid

theorem mem_setSess_old {st : State} {s t : Sess} (ht : t ∈ st.sessions) (hne : t.id ≠ s.id) :
    t ∈ (setSess st s).sessions := Keyed.mem_replace_old Sess.id ht hne

theorem mem_setConn {st : State} {c x : Conn} (hx : x ∈ (setConn st c).conns) :
    x = c ∨ (x ∈ st.conns ∧ x.id ≠ c.id) := Keyed.mem_replace Conn.id hx

theorem mem_setConn_new {st : State} {c0 c : Conn} (hc0 : c0 ∈ st.conns) (hid : c.id = c0.id) : c ∈ (setConn st c).conns :=
  Keyed.mem_replace_new Conn.id hc0 hid

theorem mem_setConn_old {st : State} {c x : Conn} (hx : x ∈ st.conns) (hne : x.id ≠ c.id) : x ∈ (setConn st c).conns :=
  Keyed.mem_replace_old Conn.id hx hne

theorem bind_findSess_some {st : State} {c : Conn} {s : Sess} (h : c.session.bind (findSess st) = some s) :
    s ∈ st.sessions ∧ c.session = some s.id := by
  cases hc : c.session with
  | none => simp [hc] at h
  | some sid =>
    obtain ⟨hs, hid⟩ := findSess_some (show findSess st sid = some s by simpa [hc] using h)
    exact ⟨hs, by rw [hid]⟩

theorem startPlay_eq (st : State) (s : Sess) : startPlay st s =
    { st with udpRtcp := if isUdp s then s.medias.foldl (fun t m => addClient t m.rtcp s.id) st.udpRtcp else st.udpRtcp } := by
  unfold startPlay; split <;> rfl

theorem startRecord_eq (st : State) (s : Sess) : startRecord st s =
    { st with udpRtp := if isUdp s then s.medias.foldl (fun t m => addClient t m.rtp s.id) st.udpRtp else st.udpRtp,
              udpRtcp := if isUdp s then s.medias.foldl (fun t m => addClient t m.rtcp s.id) st.udpRtcp else st.udpRtcp } := by
  unfold startRecord; split <;> rfl

theorem stopMedias_eq (st : State) (s : Sess) : stopMedias st s =
    { st with udpRtp := if isUdp s then removePorts st.udpRtp (s.medias.map (·.rtp)) else st.udpRtp,
              udpRtcp := if isUdp s then removePorts st.udpRtcp (s.medias.map (·.rtcp)) else st.udpRtcp } := by
  unfold stopMedias; split <;> rfl

inductive IdStep (ok : Prop) (x : SessId) (T : List SessId) : List SessId → Prop
  | same : IdStep ok x T T
  | push (h : ok) : IdStep ok x T (x :: T)
  | drop : IdStep ok x T (T.filter (· != x))

/-- one step of a UDP listener's client table: unchanged, `sm.start()` of a UDP session, `sm.stop()` -/
inductive PortStep (s : Sess) (f : Media → Nat) (T : List (Nat × SessId)) : List (Nat × SessId) → Prop
  | same : PortStep s f T T
  | start (hu : isUdp s = true) : PortStep s f T (s.medias.foldl (fun t m => addClient t (f m) s.id) T)
  | stop : PortStep s f T (removePorts T (s.medias.map f))

theorem PortStep.start' {s : Sess} {f : Media → Nat} {T : List (Nat × SessId)} :
    PortStep s f T (if isUdp s then s.medias.foldl (fun t m => addClient t (f m) s.id) T else T) :=
  iteInduction .start fun _ => .same

theorem PortStep.stop' {s : Sess} {f : Media → Nat} {T : List (Nat × SessId)} :
    PortStep s f T (if isUdp s then removePorts T (s.medias.map f) else T) :=
  ite_both .stop .same

/-- `st0` is `st` with other resource tables, each changed in one step by session `s` (new record `s'`) -/
structure Tables (st : State) (s s' : Sess) (st0 : State) : Prop where
  conns : st0.conns = st.conns := by rfl
  sessions : st0.sessions = st.sessions := by rfl
  nextSess : st0.nextSess = st.nextSess := by rfl
  httpRead : st0.httpRead = st.httpRead := by rfl
  rtp : PortStep s (·.rtp) st.udpRtp st0.udpRtp := by exact .same
  rtcp : PortStep s (·.rtcp) st.udpRtcp st0.udpRtcp := by exact .same
  readers : IdStep (playMode s' = true) s.id st.readers st0.readers := by exact .same
  active : IdStep (playMode s' = true) s.id st.active st0.active := by exact .same
  writers : IdStep True s.id st.writers st0.writers := by exact .same

/-- the new record `s'` keeps what connections and tables rely on -/
structure Keeps (s s' : Sess) : Prop where
  id : s'.id = s.id := by rfl
  conns : s'.conns = s.conns := by rfl
  udp : isUdp s = true → isUdp s' = true ∧ ∀ m ∈ s.medias, m ∈ s'.medias
  play : playMode s = true → playMode s' = true

/-- what a successful request changes: nothing; or the tables (`st0`), the record of the session, the reader
phase of the requester (`tcp`), the read deadlines of the session's connections (`arm`).  Of the new record `s'` it
says `Keeps s s'` and `rec`, nothing else: a predicate on the contents of a record (its state, medias, transport,
`tcpConn`) does not follow from `Touched`, so it does not pass through `Kept.touched` of `Ledger/Walk`. -/
inductive Touched (st : State) (c : ConnId) (s : Sess) : State → Prop
  | unchanged : Touched st c s st
  | mk (st0 : State) (s' : Sess) (tcp : Bool) (p : Phase) (arm : Bool) (tbl : Tables st s s' st0) (keeps : Keeps s s')
      (rec : arm = false → s.state = .record → s'.state = .record) :
      Touched st c s
        (if arm then armConns (if tcp then setPhase (setSess st0 s') c p else setSess st0 s') s.conns
         else if tcp then setPhase (setSess st0 s') c p else setSess st0 s')

variable {st st0 : State} {c : ConnId} {s s' : Sess}

theorem Touched.phase (tbl : Tables st s s' st0) (keeps : Keeps s s') (rec : s.state = .record → s'.state = .record)
    (tcp : Bool) (p : Phase) : Touched st c s (if tcp then setPhase (setSess st0 s') c p else setSess st0 s') :=
  .mk st0 s' tcp p false tbl keeps fun _ => rec

theorem Touched.sess (tbl : Tables st s s' st0) (keeps : Keeps s s') (rec : s.state = .record → s'.state = .record) :
    Touched st c s (setSess st0 s') :=
  .phase tbl keeps rec false .standard

theorem pauseTo_touched (st : State) (c : ConnId) (s : Sess) (target : SState)
    (hplay : playMode s = true → playMode { s with state := target } = true) :
    Touched st c s (pauseTo st c s target) := by
  unfold pauseTo
  simp only [stopMedias_eq]
  refine .mk _ _ _ _ _ ?_ ?_ fun ha hr => Bool.noConfusion ((beq_iff_eq.mpr hr).symm.trans ha)
  · exact { rtp := .stop', rtcp := .stop', active := .drop, writers := ite_both .same .drop }
  · exact { udp := fun hu => ⟨hu, fun _ hm => hm⟩, play := hplay }

theorem applyAction_touched (st : State) (c : ConnId) (s : Sess) (act : Action) :
    Touched st c s (applyAction st c s act) := by
  have notRec : ∀ {q : SState} {P : Prop}, (s.state == q) = true → q ≠ .record → s.state = .record → P :=
    fun hq hne hr => absurd ((beq_iff_eq.mp hq).symm.trans hr) hne
  have notPlay : ∀ {q : SState} {P : Prop}, (s.state == q) = true → (q == .prePlay || q == .play) = false →
      playMode s = true → P := fun hq hne hp => by rw [playMode, beq_iff_eq.mp hq, hne] at hp; cases hp
  have udp : ∀ {s' : Sess}, s'.proto = s.proto → s'.medias = s.medias →
      isUdp s = true → isUdp s' = true ∧ ∀ m ∈ s.medias, m ∈ s'.medias := fun hp hm hu =>
    ⟨by rwa [isUdp, hp], fun _ h => hm ▸ h⟩
  cases act with
  | nothing => exact .unchanged
  | teardown => exact .unchanged
  | announce path controls =>
    refine iteInduction (fun hst => .sess ?_ ?_ (notRec hst (by decide))) (fun _ => .unchanged)
    · exact {}
    · exact { udp := udp rfl rfl, play := notPlay hst rfl }
  | setup pr secure m path =>
    refine iteInduction (fun _ => .unchanged) fun hg => ?_
    -- the transport of a UDP session is set already, so the SETUP does not change it
    have udp' : ∀ (q : SState) (pa : Nat), isUdp s = true →
        isUdp { s with proto := some (pr, secure), medias := s.medias ++ [m], state := q, path := pa } = true ∧
        ∀ m' ∈ s.medias, m' ∈ s.medias ++ [m] := fun q pa hu => by
      refine ⟨?_, fun _ hm => List.mem_append_left _ hm⟩
      cases hs : s.proto with
      | none => simp [isUdp, hs] at hu
      | some t => simpa [isUdp, hs, show t = (pr, secure) by simpa [hs] using hg] using hu
    refine iteInduction (fun hst => .sess ?_ ?_ (notRec hst (by decide))) (fun _ => .sess ?_ ?_ id)
    · exact { readers := .push rfl }
    · exact { udp := udp' _ _, play := fun _ => rfl }
    · exact {}
    · exact { udp := udp' _ _, play := id }
  | play =>
    refine iteInduction (fun hst => ?_) (fun _ => .unchanged)
    rw [startPlay_eq, show (if isMcast s then st else { st with writers := s.id :: st.writers, active := s.id :: st.active }) =
      { st with writers := if isMcast s then st.writers else s.id :: st.writers,
                active := if isMcast s then st.active else s.id :: st.active } by split <;> rfl]
    refine .phase ?_ ?_ (notRec hst (by decide)) _ _
    · exact { rtcp := .start', active := ite_both .same (.push rfl), writers := ite_both .same (.push trivial) }
    · exact { udp := udp rfl rfl, play := fun _ => rfl }
  | record =>
    refine iteInduction (fun hst => ?_) (fun _ => .unchanged)
    rw [startRecord_eq]
    refine .phase ?_ ?_ (fun _ => rfl) _ _
    · exact { rtp := .start', rtcp := .start', writers := .push trivial }
    · exact { udp := udp rfl rfl, play := notPlay hst rfl }
  | pause =>
    exact ite_both (pauseTo_touched _ _ _ _ fun _ => rfl)
      (iteInduction (fun hst => pauseTo_touched _ _ _ _ (notPlay hst rfl)) fun _ => .unchanged)

end Rtsp.Ledger
