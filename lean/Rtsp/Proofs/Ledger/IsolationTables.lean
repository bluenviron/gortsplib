import Rtsp.Proofs.Ledger.Isolation
/- Non-interference on the resource tables (C11 `other_conns_tables_unaffected`), provided no other session
uses the ports `x` has registered. -/
namespace Rtsp.Ledger

variable {st : State} {c : Conn}

/-- `st` and `st'` agree on what session `x` owns in the resource tables -/
structure SameT (x : SessId) (st st' : State) : Prop where
  rtp : st'.udpRtp.filter (·.2 == x) = st.udpRtp.filter (·.2 == x)
  rtcp : st'.udpRtcp.filter (·.2 == x) = st.udpRtcp.filter (·.2 == x)
  readers : st'.readers.contains x = st.readers.contains x
  active : st'.active.contains x = st.active.contains x
  writers : st'.writers.contains x = st.writers.contains x

theorem SameT.refl (x : SessId) (st : State) : SameT x st st := ⟨rfl, rfl, rfl, rfl, rfl⟩
theorem SameT.trans {x : SessId} {s1 s2 s3 : State} (h1 : SameT x s1 s2) (h2 : SameT x s2 s3) : SameT x s1 s3 :=
  ⟨h2.rtp.trans h1.rtp, h2.rtcp.trans h1.rtcp, h2.readers.trans h1.readers, h2.active.trans h1.active,
   h2.writers.trans h1.writers⟩

theorem sameT_of_eq {x : SessId} {st st' : State} (h1 : st'.udpRtp = st.udpRtp := by rfl)
    (h2 : st'.udpRtcp = st.udpRtcp := by rfl) (h3 : st'.readers = st.readers := by rfl)
    (h4 : st'.active = st.active := by rfl) (h5 : st'.writers = st.writers := by rfl) : SameT x st st' :=
  ⟨by rw [h1], by rw [h2], by rw [h3], by rw [h4], by rw [h5]⟩

/-- the registered ports of `x` are not among the given ports -/
def Clear (tbl : List (Nat × SessId)) (x : SessId) (ports : List Nat) : Prop :=
  ∀ e ∈ tbl, e.2 = x → e.1 ∉ ports

theorem filter_owner (tbl : List (Nat × SessId)) (x : SessId) (q : Nat × SessId → Bool)
    (h : ∀ e ∈ tbl, e.2 = x → q e = true) : (tbl.filter q).filter (·.2 == x) = tbl.filter (·.2 == x) := by
  rw [List.filter_filter]
  refine List.filter_congr fun e he => ?_
  by_cases hx : e.2 = x
  · simp [hx, h e he hx]
  · simp [hx]

theorem filter_removePorts (tbl : List (Nat × SessId)) (x : SessId) (ports : List Nat) (h : Clear tbl x ports) :
    (removePorts tbl ports).filter (·.2 == x) = tbl.filter (·.2 == x) :=
  filter_owner tbl x _ fun e he hx => by simpa using h e he hx

theorem contains_filter_ne (l : List SessId) (x y : SessId) (h : y ≠ x) :
    (l.filter (· != y)).contains x = l.contains x := by
  rw [Bool.eq_iff_iff]
  simp only [List.contains_iff_mem, List.mem_filter]
  constructor
  · exact fun h' => h'.1
  · intro hx; exact ⟨hx, by simpa using Ne.symm h⟩

theorem contains_cons_ne (l : List SessId) (x y : SessId) (h : y ≠ x) : (y :: l).contains x = l.contains x := by
  rw [List.contains_cons, beq_false_of_ne h.symm, Bool.false_or]

theorem filter_foldl_addClient (f : Media → Nat) (y x : SessId) (hxy : y ≠ x) :
    ∀ (ms : List Media) (tbl : List (Nat × SessId)), Clear tbl x (ms.map f) →
      (ms.foldl (fun t m => addClient t (f m) y) tbl).filter (·.2 == x) = tbl.filter (·.2 == x)
  | [], tbl, _ => rfl
  | m :: ms, tbl, h => by
    have hne : ∀ e ∈ tbl, e.2 = x → e.1 ≠ f m ∧ e.1 ∉ ms.map f := fun e he hx => by
      simpa [not_or] using h e he hx
    have hstep : (addClient tbl (f m) y).filter (·.2 == x) = tbl.filter (·.2 == x) := by
      unfold addClient
      rw [List.filter_cons_of_neg (by simpa using hxy)]
      exact filter_owner tbl x _ fun e he hx => by simpa using (hne e he hx).1
    have hclear : Clear (addClient tbl (f m) y) x (ms.map f) := fun e he hx =>
      (List.mem_cons.mp he).elim (fun e' => absurd (by rw [e'] at hx; exact hx) hxy)
        fun he => (hne e (List.mem_filter.mp he).1 hx).2
    rw [List.foldl_cons, filter_foldl_addClient f y x hxy ms _ hclear, hstep]


/-- the registered ports of `x` are not ports of the medias of session record `s` -/
def PortsClear (st : State) (x : SessId) (s : Sess) : Prop :=
  Clear st.udpRtp x (s.medias.map (·.rtp)) ∧ Clear st.udpRtcp x (s.medias.map (·.rtcp))

/-- no other session has a media on a port that `x` has registered -/
def NoCollision (st : State) (x : SessId) : Prop := ∀ t ∈ st.sessions, t.id ≠ x → PortsClear st x t

theorem IdStep.contains {ok : Prop} {x y : SessId} {T T' : List SessId} (h : IdStep ok y T T') (hne : y ≠ x) :
    T'.contains x = T.contains x := by
  cases h with
  | same => rfl
  | push => exact contains_cons_ne _ _ _ hne
  | drop => exact contains_filter_ne _ _ _ hne

theorem PortStep.filter {s : Sess} {f : Media → Nat} {T T' : List (Nat × SessId)} (h : PortStep s f T T') {x : SessId}
    (hne : s.id ≠ x) (hc : Clear T x (s.medias.map f)) : T'.filter (·.2 == x) = T.filter (·.2 == x) := by
  cases h with
  | same => rfl
  | start => exact filter_foldl_addClient _ _ _ hne _ _ hc
  | stop => exact filter_removePorts _ _ _ hc

theorem sameT_closeSessSt (st : State) (s : Sess) (x : SessId) (hne : s.id ≠ x) (hc : PortsClear st x s) :
    SameT x st (closeSessSt st s) :=
  ⟨(PortStep.stop' (f := (·.rtp))).filter hne hc.1, (PortStep.stop' (f := (·.rtcp))).filter hne hc.2,
   ite_both (P := fun l : List SessId => l.contains x = _) (contains_filter_ne _ _ _ hne) rfl,
   ite_both (P := fun l : List SessId => l.contains x = _) (contains_filter_ne _ _ _ hne) rfl,
   contains_filter_ne _ _ _ hne⟩

theorem sameT_touched {st st' : State} {c : ConnId} {s : Sess} {x : SessId} (hne : s.id ≠ x) (hc : PortsClear st x s)
    (ht : Touched st c s st') : SameT x st st' := by
  cases ht with
  | unchanged => exact SameT.refl ..
  | mk st0 s' tcp p arm tbl _ _ =>
    have h0 : SameT x st st0 := ⟨tbl.rtp.filter hne hc.1, tbl.rtcp.filter hne hc.2, tbl.readers.contains hne,
      tbl.active.contains hne, tbl.writers.contains hne⟩
    have h1 : SameT x st (if tcp then setPhase (setSess st0 s') c p else setSess st0 s') :=
      h0.trans (ite_both (sameT_of_eq) (sameT_of_eq))
    exact ite_both (h1.trans (sameT_of_eq)) h1

/-- `SameT`, and every session has no medias (it is new) or those of the session of `st` with its id -/
structure Quiet (x : SessId) (st st' : State) : Prop where
  tbl : SameT x st st'
  med : ∀ t' ∈ st'.sessions, t'.medias = [] ∨ ∃ t ∈ st.sessions, t.id = t'.id ∧ t.medias = t'.medias

theorem Quiet.of_sessions {x : SessId} {st st' : State} (ht : SameT x st st') (hs : st'.sessions = st.sessions) :
    Quiet x st st' :=
  ⟨ht, fun t' ht' => Or.inr ⟨t', hs ▸ ht', rfl, rfl⟩⟩

theorem NoCollision.quiet {st st' : State} {x : SessId} (hn : NoCollision st x) (k : Quiet x st st') : NoCollision st' x := by
  intro t' ht' hne
  have clear : ∀ (tbl tbl' : List (Nat × SessId)) (ports : List Nat),
      tbl'.filter (·.2 == x) = tbl.filter (·.2 == x) → Clear tbl x ports → Clear tbl' x ports := by
    intro tbl tbl' ports he hc e hem hex
    have : e ∈ tbl'.filter (·.2 == x) := List.mem_filter.mpr ⟨hem, by simpa using hex⟩
    rw [he] at this
    exact hc e (List.mem_filter.mp this).1 hex
  rcases k.med t' ht' with hnil | ⟨t, ht, e1, e2⟩
  · constructor <;> (intro e _ _; simp [hnil])
  · have := hn t ht (by rw [e1]; exact hne)
    unfold PortsClear at this ⊢
    rw [← e2]
    exact ⟨clear _ _ _ k.tbl.rtp this.1, clear _ _ _ k.tbl.rtcp this.2⟩

theorem quiet_closeConn (c : Conn) (x : SessId) (hsep : c.session ≠ some x) (hn : NoCollision st x) :
    Quiet x st (closeConn st c).1 := by
  have old : ∀ {st' : State}, (∀ t' ∈ st'.sessions, t' ∈ st.sessions) → ∀ t' ∈ st'.sessions,
      t'.medias = [] ∨ ∃ t ∈ st.sessions, t.id = t'.id ∧ t.medias = t'.medias :=
    fun h t' ht' => Or.inr ⟨t', h t' ht', rfl, rfl⟩
  refine closeConn_ind (P := fun v => Quiet x st v.1) st c (fun _ => .of_sessions sameT_of_eq rfl)
    (fun s hs hcs => ?_) (fun s hs _ _ => ⟨sameT_of_eq, fun t' ht' => Or.inr ?_⟩)
  · have hne : s.id ≠ x := fun e => hsep (e ▸ hcs)
    exact ⟨(sameT_closeSessSt st (leaveSess s c.id) x hne (hn s hs hne)).trans sameT_of_eq,
      old fun _ h => (List.mem_filter.mp h).1⟩
  · rcases mem_setSess ht' with rfl | ⟨h1, _⟩
    · exact ⟨s, hs, rfl, rfl⟩
    · exact ⟨t', h1, rfl, rfl⟩

theorem quiet_attach {r : Req} {create : Bool} {st1 : State} {s : Sess} {opened : List Out} {x : SessId}
    (hr : resolve st c r create = .ok (st1, s, opened)) : Quiet x st (attached st1 s c) := by
  have hfacts : Quiet x st st1 := by
    rcases resolve_cases hr with ⟨rfl, _, _⟩ | ⟨rfl, rfl, _⟩
    · exact .of_sessions (SameT.refl ..) rfl
    · refine ⟨sameT_of_eq, fun t' ht' => ?_⟩
      exact (List.mem_append.mp ht').elim (fun h => Or.inr ⟨t', h, rfl, rfl⟩) fun h => Or.inl (List.mem_singleton.mp h ▸ rfl)
  refine ⟨hfacts.tbl.trans sameT_of_eq, fun t' ht' => ?_⟩
  rcases mem_setSess ht' with rfl | ⟨h1, _⟩
  · exact hfacts.med s (resolve_ok hr).2
  · exact hfacts.med t' h1

theorem sameT_tornDown {x sid : SessId} (hne : sid ≠ x) (hn : NoCollision st x) : SameT x st (tornDown st c sid).1 := by
  refine tornDown_ind (P := fun v => SameT x _ v.1) _ _ _ (fun s' hs' hid' => ?_) (fun _ => sameT_of_eq)
  have hne' : s'.id ≠ x := by rw [hid']; exact hne
  exact (sameT_closeSessSt _ (leaveSess s' c.id) x hne' (hn s' hs' hne')).trans sameT_of_eq

/-- What session `x` owns in the tables is kept by an input that stays clear of `x`, as long as no other session has a
media on a port of `x`: that holds until the request is acted on (a SETUP may claim such a port). -/
theorem kept_tables {st0 : State} {a : ConnId} {i : Input} {b : Option ConnId} {x : SessId}
    (h0 : Inv st0) (ha : Apart st0 b (some x) a) :
    Kept a i (Apart st0 b (some x)) (fun st => Wf st ∧ Same b (some x) st0 st) (fun st => SameT x st0 st ∧ NoCollision st x)
      (SameT x st0) := by
  have sep : ∀ {st c}, Wf st ∧ Same b (some x) st0 st → c ∈ st.conns → Apart st0 b (some x) c.id → c.session ≠ some x :=
    fun hI hc hy e => sep_of_same h0 hI.1 hI.2 hy.2 _ hc rfl x e rfl
  have step : ∀ {st st'}, SameT x st0 st ∧ NoCollision st x → Quiet x st st' → SameT x st0 st' ∧ NoCollision st' x :=
    fun h k => ⟨h.1.trans k.tbl, h.2.quiet k⟩
  exact {
    flags := fun _ h _ _ _ _ => step h (.of_sessions sameT_of_eq rfl)
    close := fun hI h hc hy => step h (quiet_closeConn _ x (sep hI hc hy) h.2)
    attach := fun _ h _ _ _ hr => step h (quiet_attach hr)
    touched := fun hI h hc hca hcs hs _ ht =>
      have hne : _ ≠ x := fun e => sep hI hc (hca ▸ ha) (hcs.trans (congrArg some e))
      h.1.trans (sameT_touched hne (h.2 _ hs hne) ht)
    torn := fun hI h hc hca hcs => h.1.trans (sameT_tornDown (fun e => sep hI hc (hca ▸ ha) (hcs.trans (congrArg some e))) h.2)
    wait := fun _ h _ _ => h.1.trans sameT_of_eq
    fresh := fun _ _ h _ => h.1.trans (ite_both (P := SameT x _) sameT_of_eq sameT_of_eq)
    done := And.left
    rearm := fun _ h _ _ _ _ => h.trans sameT_of_eq }

theorem sameT_step {a : ConnId} {i : Input} {x : SessId} (h : Wf st)
    (hsep : Sep st a (some x)) (hname : ∀ r, i = .req r → r.sess ≠ .id x) (hlive : (findSess st x).isSome)
    (hn : NoCollision st x)
    (htun : ∀ kk f, i = .httpPost kk f → ∀ e, st.httpRead.find? (·.2 == kk) = some e → Sep st e.1 (some x)) :
    SameT x st (step st (.input a i)).1 :=
  (((kept_wf.and (kept_same (b := none) h.1 (fun _ e => nomatch e) ⟨nofun, hsep⟩
      (fun _ e => Option.some.inj e ▸ hlive) (fun r _ hi e e' => hname r hi (e.trans (congrArg _ (Option.some.inj e').symm)))
      fun _ _ _ => nofun)).and
    (kept_tables h.1 ⟨nofun, hsep⟩)).input ⟨⟨h, Same.refl ..⟩, SameT.refl .., hn⟩ ⟨nofun, hsep⟩
      fun kk f hi e he => ⟨nofun, htun kk f hi e he⟩).2

end Rtsp.Ledger
