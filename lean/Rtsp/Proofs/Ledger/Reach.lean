import Rtsp.Proofs.Ledger.Ptr
import Rtsp.Proofs.Ledger.Walk
/- The ownership invariant, and valid session pointers with it, are preserved by every event: they hold
in every reachable state (C11 `invariant_reachable`, `pointers_valid`). -/
namespace Rtsp.Ledger

variable {st : State} {c : Conn}

/-- `chHandleRequest`: a connection joins an existing session -/
theorem inv_attach (h : Inv st) (hc : c ∈ st.conns) {s : Sess} (hs : s ∈ st.sessions)
    (hcs : c.session = some s.id ∨ c.session = none) :
    Inv (attached st s c) := by
  rw [attached, setConn_setSess_comm]
  have h1 : Inv (setConn st { c with session := some s.id }) :=
    inv_setConn h hc _ rfl (hcs.imp Eq.symm fun e _ _ h => nomatch e.symm.trans h)
  refine inv_setSess h1 hs (joined s c.id) rfl (fun x hx => ?_) (fun he => absurd (he ▸ joined_mem s c.id) List.not_mem_nil)
    (fun hu => ⟨hu, fun _ hm => hm⟩) id
  rcases joined_conns hx with hx' | rfl
  · exact h1.attached s hs x hx'
  · exact ⟨_, mem_setConn_new hc rfl, rfl, rfl⟩

/-- `s.sessions[ss.secretID] = ss` -/
theorem inv_addSess (h : Inv st) (s : Sess) (hid : s.id = st.nextSess)
    (hatt : ∀ c ∈ s.conns, ∃ x ∈ st.conns, x.id = c ∧ x.session = some s.id) (hne : s.conns ≠ []) :
    Inv (addSess st s) :=
  have old : ∀ {t : Sess}, t ∈ st.sessions → t ∈ (addSess st s).sessions := List.mem_append_left _
  have mem : ∀ {t : Sess}, t ∈ (addSess st s).sessions → t ∈ st.sessions ∨ t = s := fun ht =>
    (List.mem_append.mp ht).imp_right List.mem_singleton.mp
  { h with
    sessNodup := Keyed.nodup_snoc Sess.id h.sessNodup fun t ht e => Nat.lt_irrefl _ (hid ▸ e ▸ h.sessLt t ht)
    sessLt := fun t ht => (mem ht).elim (fun ht => Nat.lt_succ_of_lt (h.sessLt t ht))
      (fun e => Nat.lt_succ_of_le (Nat.le_of_eq (e ▸ hid)))
    attached := fun t ht => (mem ht).elim (h.attached t) (fun e => e ▸ hatt)
    alive := fun t ht => (mem ht).elim (h.alive t) (fun e he => absurd (e ▸ he) hne)
    rtpOwned := fun e he => (h.rtpOwned e he).imp fun _ ht => ⟨old ht.1, ht.2⟩
    rtcpOwned := fun e he => (h.rtcpOwned e he).imp fun _ ht => ⟨old ht.1, ht.2⟩
    readersOwned := fun e he => (h.readersOwned e he).imp fun _ ht => ⟨old ht.1, ht.2⟩
    activeOwned := fun e he => (h.activeOwned e he).imp fun _ ht => ⟨old ht.1, ht.2⟩
    writersOwned := fun e he => (h.writersOwned e he).imp fun _ ht => ⟨old ht.1, ht.2⟩ }

/-- `findOrCreateSession` creates -/
theorem inv_create (h : Inv st) (hc : c ∈ st.conns) (hcs : c.session = none) :
    Inv (attached (addSess st (newSess st c.id)) (newSess st c.id) c) := by
  have hj : joined (newSess st c.id) c.id = newSess st c.id := by simp [joined, newSess]
  rw [attached, hj, setConn_setSess_comm]
  have h1 : Inv (setConn st { c with session := some (newSess st c.id).id }) :=
    inv_setConn h hc _ rfl (.inr fun _ _ => hcs ▸ nofun)
  have h2 : Inv (addSess (setConn st { c with session := some (newSess st c.id).id }) (newSess st c.id)) :=
    inv_addSess h1 _ rfl (fun x hx => ⟨_, mem_setConn_new hc rfl, (List.mem_singleton.mp hx).symm, rfl⟩) (List.cons_ne_nil _ _)
  have hn : newSess st c.id ∈ (addSess (setConn st { c with session := some (newSess st c.id).id }) (newSess st c.id)).sessions :=
    List.mem_append_right _ (List.mem_singleton_self _)
  exact inv_setSess h2 hn _ rfl (h2.attached _ hn) (h2.alive _ hn) (fun hu => ⟨hu, fun _ hm => hm⟩) id


theorem inv_attached (h : Inv st) (hc : c ∈ st.conns) {r : Req} {create : Bool}
    {st1 : State} {s : Sess} {opened : List Out} (hr : resolve st c r create = .ok (st1, s, opened)) :
    Inv (attached st1 s c) := by
  rcases resolve_cases hr with ⟨rfl, hs, hcs⟩ | ⟨rfl, rfl, hcs⟩
  · exact inv_attach h hc hs (hcs.imp id (·.1))
  · exact inv_create h hc hcs

theorem inv_tornDown (h : Inv st) (hc : c ∈ st.conns) {sid : SessId}
    (hcs : c.session = some sid) : Inv (tornDown st c sid).1 := by
  refine tornDown_ind (P := fun v => Inv v.1) st c sid (fun s hs hid => ?_) (fun hfs => ?_)
  · have h1 : Inv (closeSessSt st (leaveSess s c.id)) := inv_closeSessSt h hs _ fun x hx => (List.mem_filter.mp hx).1
    have hc1 : c ∈ (closeSessSt st (leaveSess s c.id)).conns := List.mem_filter.mpr ⟨hc, by simp [leaveSess]⟩
    refine inv_setConn h1 hc1 _ rfl (.inr fun t ht e => ?_)
    have ht := List.mem_filter.mp ht
    simp [leaveSess, ← Option.some.inj (hcs.symm.trans e), hid] at ht
  · exact inv_setConn h hc _ rfl (.inr fun t ht e => findSess_none hfs t ht (Option.some.inj (hcs.symm.trans e)).symm)

theorem ptr_attach (hp : Ptr st) (h : Inv st) (hc : c ∈ st.conns) {r : Req} {create : Bool}
    {st1 : State} {s : Sess} {opened : List Out} (hr : resolve st c r create = .ok (st1, s, opened)) :
    Ptr (attached st1 s c) := by
  have hs1 := (resolve_ok hr).2
  have hp1 : Ptr st1 := by
    rcases resolve_cases hr with ⟨rfl, _, _⟩ | ⟨rfl, _, _⟩
    · exact hp
    · exact ptr_addSess hp _
  have hu1 : (st1.sessions.map (·.id)).Nodup := by
    have := (inv_attached h hc hr).sessNodup
    rwa [setConn_sessions, setSess_sessions', Keyed.map_key_map Sess.id _ (Keyed.key_replace Sess.id _)] at this
  have hpJ : Ptr (setSess st1 (joined s c.id)) :=
    ptr_setSess hp1 hs1 _ rfl fun x hx hxs => joined_sub s c.id (hp1.listed' hu1 hs1 hx hxs)
  exact ptr_setConn hpJ _ fun sid hsid => ⟨joined s c.id, mem_setSess_new hs1 rfl, Option.some.inj hsid, joined_mem _ _⟩

theorem inv_addConn (h : Inv st) (c : Conn) : Inv (addConn st c) := by
  refine iteInduction (motive := Inv) (fun _ => h) fun hf => ?_
  have hnew : ∀ x ∈ st.conns, x.id ≠ c.id := findConn_none (by simpa using hf)
  exact { h with
    connsNodup := Keyed.nodup_snoc Conn.id h.connsNodup hnew
    attached := fun s hs x hx => (h.attached s hs x hx).imp fun _ hy => ⟨List.mem_append_left _ hy.1, hy.2⟩
    httpOwned := fun e he => (h.httpOwned e he).imp fun _ hy => ⟨List.mem_append_left _ hy.1, hy.2⟩ }

theorem inv_waitPost (h : Inv st) (hc : c ∈ st.conns) (k : Nat) :
    Inv { setPhase st c.id (.httpWait k) with httpRead := st.httpRead ++ [(c.id, k)] } := by
  have h1 := inv_setPhase h c.id (.httpWait k)
  refine { h1 with httpOwned := ?_ }
  intro e he
  rcases List.mem_append.mp he with he | he
  · exact h1.httpOwned e he
  · rw [List.mem_singleton.mp he, setPhase_conns']
    exact ⟨_, List.mem_map.mpr ⟨c, hc, rfl⟩, by simp⟩

section
variable {a : ConnId} {i : Input} {acts : ConnId → Prop}

theorem kept_inv : Kept a i acts (fun _ => True) Inv Inv where
  flags c' h hc _ hid hs := inv_setConn h hc c' hid (.inl hs)
  close _ h hc _ := inv_closeConn h hc
  attach _ h hc _ _ hr := inv_attached h hc hr
  touched _ h _ _ _ hs hl ht := inv_touched h hs (List.ne_nil_of_mem hl) ht
  torn _ h hc _ hcs := inv_tornDown h hc hcs
  wait k h hc hca := hca ▸ inv_waitPost h hc k
  fresh _ _ h _ := inv_addConn h _
  done := id
  rearm c' h hc _ hid hs := inv_setConn h hc c' hid (.inl hs)

theorem kept_ptr : Kept a i acts Inv Ptr Ptr where
  flags c' h hc _ hid hs := ptr_setConn h c' (hid ▸ hs ▸ h _ hc)
  close hI h _ _ := ptr_closeConn h hI _
  attach hI h hc _ _ hr := ptr_attach h hI hc hr
  touched hI h _ _ _ hs _ ht := ptr_touched h hI hs ht
  torn hI h _ _ _ := ptr_tornDown h hI _ _
  wait _ h _ _ := ptr_setPhase h a _
  fresh _ _ h _ := ptr_addConn h _ rfl
  done := id
  rearm c' h hc _ hid hs := ptr_setConn h c' (hid ▸ hs ▸ h _ hc)

/-- the ownership invariant with valid session pointers: together they say that a connection points to a session
exactly when the session lists it (`Inv.listed`, `Ptr.listed`) -/
def Wf (st : State) : Prop := Inv st ∧ Ptr st

theorem kept_wf : Kept a i acts (fun _ => True) Wf Wf := kept_inv.and kept_ptr

end

theorem step_timeout_eq (h : Inv st) {s : Sess} (hs : s ∈ st.sessions) (ha : survivesAlone s = true) :
    step st (.sessTimeout s.id) = closeSess st s := by
  simp only [step, h.findSess_mem hs, ha, if_true]

theorem inv_step (h : Inv st) (e : Event) : Inv (step st e).1 := by
  cases e with
  | accept c => exact ite_both (P := fun v : State × List Out => Inv v.1) h (inv_addConn h _)
  | input a i => exact (kept_inv (acts := fun _ => True)).input h trivial fun _ _ _ _ _ => trivial
  | sessTimeout s =>
    exact step_timeout_ind (P := fun v => Inv v.1) st s h fun ss hs => inv_closeSessSt h hs _ fun _ hx => hx

theorem ptr_step (h : Inv st) (hp : Ptr st) (e : Event) : Ptr (step st e).1 := by
  cases e with
  | accept c => exact ite_both (P := fun v : State × List Out => Ptr v.1) hp (ptr_addConn hp _ rfl)
  | input a i => exact ((kept_wf (acts := fun _ => True)).input ⟨h, hp⟩ trivial fun _ _ _ _ _ => trivial).2
  | sessTimeout s =>
    exact step_timeout_ind (P := fun v => Ptr v.1) st s hp fun ss hs =>
      ptr_closeSessSt hp ss fun c hc hcs => hp.listed h hs hc hcs

theorem wf_run (h : Wf st) (es : List Event) : Wf (run st es).1 := by
  induction es generalizing st with
  | nil => exact h
  | cons e es ih => exact ih ⟨inv_step h.1 e, ptr_step h.1 h.2 e⟩


theorem inv_run (h : Inv st) (es : List Event) : Inv (run st es).1 := by
  induction es generalizing st with
  | nil => exact h
  | cons e es ih => exact ih (inv_step h e)

theorem ptr_run {st : State} (hp : Ptr st) (h : Inv st) (es : List Event) : Ptr (run st es).1 := (wf_run ⟨h, hp⟩ es).2

end Rtsp.Ledger
