import Rtsp.Proofs.Ledger.Reach
import Rtsp.Proofs.Ledger.Total
/-
Every open connection has a time-out that ends it: its own read deadline, or the UDP time-out of the session it waits on
(C11).  The invariant is `Waiting`; through an input it is carried as `UX`, the part of it that valid pointers do not
already give, which speaks of every session a connection points to and so needs no witness kept alive.
-/
namespace Rtsp.Ledger

variable {st : State} {c : Conn} {a : ConnId} {x : Option ConnId}

/-- the one case in which `readFuncStandard` sets no read deadline: the connection belongs to a session
that records over UDP (its `udpCheckStreamTimer` then ends the connection) -/
def Waits (st : State) (c : Conn) : Prop :=
  ∃ s ∈ st.sessions, c.session = some s.id ∧ s.state = .record ∧ isUdp s = true

/-- `Waiting` with `a` exempt: while `a` handles an input its flag is stale, until `rearm` recomputes it -/
def AX (st : State) (a : ConnId) : Prop := ∀ c ∈ st.conns, c.id ≠ a → c.armed = false → Waits st c

/-- the invariant behind `timeout_always_enabled` -/
def Waiting (st : State) : Prop := ∀ c ∈ st.conns, c.armed = false → Waits st c

theorem waiting_init (cfg : Config) : Waiting (init cfg) := by intro c hc; simp [init] at hc

/-- What `Waiting` adds to valid pointers (`Ptr` finds the session): an unarmed connection, `x` exempt, has a session
pointer, and a session it points to records over UDP.  Said of every session instead of some, it is kept by whatever
removes records from either table. -/
def UX (x : Option ConnId) (st : State) : Prop :=
  ∀ c ∈ st.conns, x ≠ some c.id → c.armed = false →
    c.session ≠ none ∧ ∀ s ∈ st.sessions, c.session = some s.id → s.state = .record ∧ isUdp s = true

theorem ux_waits (h : UX x st) (hp : Ptr st) {c : Conn} (hc : c ∈ st.conns) (hx : x ≠ some c.id) (ha : c.armed = false) :
    Waits st c := by
  obtain ⟨h1, h2⟩ := h c hc hx ha
  obtain ⟨sid, hsid⟩ := Option.ne_none_iff_exists'.mp h1
  obtain ⟨s, hs, rfl, _⟩ := hp c hc sid hsid
  exact ⟨s, hs, hsid, h2 s hs hsid⟩

theorem ux_of_waits (h : Inv st) (hw : ∀ c ∈ st.conns, x ≠ some c.id → c.armed = false → Waits st c) : UX x st := by
  intro c hc hx ha
  obtain ⟨s, hs, e, hr⟩ := hw c hc hx ha
  exact ⟨e ▸ nofun, fun t ht et => h.sess_unique hs ht (Option.some.inj (e.symm.trans et)) ▸ hr⟩

theorem ux_sub {st' : State} (h : UX x st) (hc : ∀ c ∈ st'.conns, c ∈ st.conns) (hs : ∀ s ∈ st'.sessions, s ∈ st.sessions) :
    UX x st' := fun c hc' hx ha => ⟨(h c (hc c hc') hx ha).1, fun s hs' => (h c (hc c hc') hx ha).2 s (hs s hs')⟩

theorem ux_dropConn (h : UX x st) (c : ConnId) : UX x (dropConn st c) :=
  ux_sub h (fun _ hy => (List.mem_filter.mp hy).1) fun _ hs => hs

theorem ux_closeSessSt (h : UX x st) (s : Sess) : UX x (closeSessSt st s) :=
  ux_sub h (fun _ hy => (List.mem_filter.mp hy).1) fun _ ht => (List.mem_filter.mp ht).1

theorem ux_setPhase (h : UX x st) (c : ConnId) (p : Phase) : UX x (setPhase st c p) := by
  intro y hy hx ha
  obtain ⟨y0, hy0, rfl⟩ := List.mem_map.mp hy
  obtain ⟨e1, e2, e3⟩ := setPhase_keeps c p y0
  rw [e2]
  exact h y0 hy0 (e1 ▸ hx) (e3 ▸ ha)

theorem ux_setConn (h : UX x st) (c' : Conn)
    (hc : x ≠ some c'.id → c'.armed = false → ∃ c ∈ st.conns, c.id = c'.id ∧ c.session = c'.session ∧ c.armed = false) :
    UX x (setConn st c') := by
  intro y hy hx ha
  rcases mem_setConn hy with rfl | ⟨hy', _⟩
  · obtain ⟨c, hcm, e1, e2, e3⟩ := hc hx ha
    exact e2 ▸ h c hcm (e1 ▸ hx) e3
  · exact h y hy' hx ha

theorem ux_setConn_exempt (h : UX (some a) st) (c' : Conn) (hca : c'.id = a) : UX (some a) (setConn st c') :=
  ux_setConn h c' fun hx => absurd (congrArg some hca.symm) hx

theorem ux_addConn (h : UX x st) (c : Conn) (hc : c.armed = true) : UX x (addConn st c) := by
  refine iteInduction (motive := UX x) (fun _ => h) fun _ y hy hx ha => ?_
  rcases List.mem_append.mp hy with hy | hy
  · exact h y hy hx ha
  · rw [List.mem_singleton.mp hy, hc] at ha; cases ha

/-- no connection points to the id of a session that is not there yet -/
theorem ux_addSess (h : UX x st) (hI : Wf st) (s : Sess) (hid : s.id = st.nextSess) : UX x (addSess st s) := by
  intro y hy hx ha
  refine ⟨(h y hy hx ha).1, fun t ht e => ?_⟩
  rcases List.mem_append.mp ht with ht | ht
  · exact (h y hy hx ha).2 t ht e
  · obtain ⟨t', ht', e', _⟩ := hI.2 y hy _ e
    rw [List.mem_singleton.mp ht, hid] at e'
    exact absurd (e' ▸ hI.1.sessLt t' ht') (Nat.lt_irrefl _)

theorem ux_setSess (h : UX x st) {s : Sess} (hs : s ∈ st.sessions) (s' : Sess) (hid : s'.id = s.id)
    (hk : s.state = .record → isUdp s = true → s'.state = .record ∧ isUdp s' = true) : UX x (setSess st s') := by
  intro y hy hx ha
  refine ⟨(h y hy hx ha).1, fun t ht e => ?_⟩
  rcases mem_setSess ht with rfl | ⟨ht', _⟩
  · have := (h y hy hx ha).2 s hs (hid ▸ e)
    exact hk this.1 this.2
  · exact (h y hy hx ha).2 t ht' e

theorem ux_closeConn (h : UX x st) (c : Conn) : UX x (closeConn st c).1 :=
  closeConn_ind (P := fun v => UX x v.1) st c (fun _ => ux_dropConn h _) (fun _ _ _ => ux_dropConn (ux_closeSessSt h _) _)
    fun s hs _ _ => ux_dropConn (ux_setSess h hs (leaveSess s c.id) rfl fun e1 e2 => ⟨e1, by simpa [isUdp, leaveSess] using e2⟩) _

theorem ux_tornDown (h : UX (some a) st) (c : Conn) (hca : c.id = a) (sid : SessId) : UX (some a) (tornDown st c sid).1 :=
  tornDown_ind (P := fun v => UX (some a) v.1) st c sid
    (fun _ _ _ => ux_setConn_exempt (ux_closeSessSt h _) _ hca) (fun _ => ux_setConn_exempt h _ hca)

theorem ux_attach (h : UX (some a) st) (hI : Wf st) (hca : c.id = a) {r : Req} {create : Bool}
    {st1 : State} {s : Sess} {opened : List Out} (hr : resolve st c r create = .ok (st1, s, opened)) :
    UX (some a) (attached st1 s c) := by
  have h1 : UX (some a) st1 := by
    rcases resolve_cases hr with ⟨rfl, _, _⟩ | ⟨rfl, _, _⟩
    · exact h
    · exact ux_addSess h hI _ rfl
  exact ux_setConn_exempt (ux_setSess h1 (resolve_ok hr).2 (joined s c.id) rfl fun e1 e2 => ⟨e1, e2⟩) _ hca

/-- after the members of session `s` are re-armed, the record of `s` may have changed in any way: who points to it is a member -/
theorem ux_armAfter {stM : State} {s : Sess} (h : UX x st) (hI : Wf st) (hs : s ∈ st.sessions)
    (hconn : ∀ y ∈ stM.conns, ∃ y0 ∈ st.conns, y0.id = y.id ∧ y0.session = y.session ∧ (y.armed = false → y0.armed = false))
    (hsess : ∀ t ∈ stM.sessions, t.id ≠ s.id → t ∈ st.sessions) : UX x (armConns stM s.conns) := by
  intro y hy hx ha
  obtain ⟨y1, hym, rfl⟩ := List.mem_map.mp hy
  by_cases hl : s.conns.contains y1.id = true
  · rw [if_pos hl] at ha; cases ha
  · rw [if_neg hl] at ha hx ⊢
    obtain ⟨y0, hy0, e1, e2, e3⟩ := hconn y1 hym
    obtain ⟨h1, h2⟩ := h y0 hy0 (e1 ▸ hx) (e3 ha)
    refine ⟨e2 ▸ h1, fun t ht e => h2 t (hsess t ht fun et => hl ?_) (e2 ▸ e)⟩
    exact List.contains_iff_mem.mpr (e1 ▸ hI.2.listed hI.1 hs hy0 (e2 ▸ et ▸ e))

theorem ux_touched {st' : State} {c : ConnId} {s : Sess} (h : UX x st) (hI : Wf st) (hs : s ∈ st.sessions)
    (ht : Touched st c s st') : UX x st' := by
  cases ht with
  | unchanged => exact h
  | mk st0 s' tcp p arm tbl k rec =>
    refine iteInduction (motive := UX x) (fun _ => ?_) (fun ha => ?_)
    · -- a recording was paused: its members are re-armed, the others point to other sessions
      refine ux_armAfter h hI hs (fun y hy => ?_) fun t ht hne => ?_
      · rw [← tbl.conns]
        split at hy
        · obtain ⟨y0, hy0, rfl⟩ := List.mem_map.mp hy
          exact ⟨y0, hy0, ((setPhase_keeps c p y0).1).symm, ((setPhase_keeps c p y0).2.1).symm,
            fun e => (setPhase_keeps c p y0).2.2 ▸ e⟩
        · exact ⟨y, hy, rfl, rfl, fun e => e⟩
      · have ht : t ∈ (setSess st0 s').sessions := by split at ht <;> exact ht
        rcases mem_setSess ht with rfl | ⟨ht', _⟩
        · exact absurd k.id hne
        · exact tbl.sessions ▸ ht'
    · have h1 : UX x (setSess st0 s') :=
        ux_setSess (ux_sub h (tbl.conns ▸ fun _ hy => hy) (tbl.sessions ▸ fun _ ht => ht)) (tbl.sessions ▸ hs) s' k.id
          fun e1 e2 => ⟨rec (Bool.eq_false_iff.mpr ha) e1, (k.udp e2).1⟩
      exact ite_both (P := UX x) (ux_setPhase h1 c p) h1

theorem kept_ux {i : Input} {acts : ConnId → Prop} : Kept a i acts Wf (UX (some a)) (UX (some a)) where
  flags c' h _ hca hid _ := ux_setConn_exempt h c' (hid.trans hca)
  close _ h _ _ := ux_closeConn h _
  attach hI h _ hca _ hr := ux_attach h hI hca hr
  touched hI h _ _ _ hs _ ht := ux_touched h hI hs ht
  torn _ h _ hca _ := ux_tornDown h _ hca _
  wait _ h _ _ := ux_sub (ux_setPhase h a _) (fun _ hy => hy) fun _ ht => ht
  fresh _ _ h _ := ux_addConn h _ rfl
  done := id
  rearm c' h _ hca hid _ := ux_setConn_exempt h c' (hid.trans hca)

theorem ax_armConns {st : State} {a : ConnId} (h : AX st a) (cs : List ConnId) : AX (armConns st cs) a := by
  intro y hy hya harm
  obtain ⟨y0, hy0, rfl⟩ := List.mem_map.mp hy
  split at harm
  · cases harm
  · rename_i hl
    rw [if_neg hl] at hya ⊢
    exact h y0 hy0 hya harm

theorem waiting_rearm (hx : AX st a) : Waiting (rearm st a) := by
  refine rearm_ind st a (fun hno y hy harm => hx y hy (hno y hy) harm) fun x _ hxa y hy harm => ?_
  rcases mem_setConn hy with rfl | ⟨hy', hne⟩
  · -- the connection itself: `deadlineFor` says no, so it waits on a UDP recording
    simp only [deadlineFor] at harm
    split at harm
    · split at harm
      · rename_i s hb
        exact ⟨s, (bind_findSess_some hb).1, (bind_findSess_some hb).2, by simpa using harm⟩
      · cases harm
    · cases harm
  · exact hx y hy' (by simpa [hxa] using hne) harm

theorem waiting_step (hA : Waiting st) (hp : Ptr st) (h : Inv st) (e : Event) : Waiting (step st e).1 := by
  have hU : ∀ {x}, UX x st := ux_of_waits h fun y hy _ => hA y hy
  have hW : ∀ {st'}, UX none st' → Ptr st' → Waiting st' := fun hu hp' y hy => ux_waits hu hp' hy nofun
  cases e with
  | accept c =>
    exact hW (ite_both (P := fun v : State × List Out => UX none v.1) hU (ux_addConn hU _ rfl)) (ptr_step h hp _)
  | input c i =>
    refine step_input_ind (P := Waiting) st c i hA fun conn hc hca => ?_
    have := (kept_wf.and kept_ux).connInput0 (i := i) (acts := fun _ => True) ⟨⟨h, hp⟩, hU⟩ hc hca trivial fun _ _ _ _ _ => trivial
    refine ⟨fun hi => hW ?_ this.1.2, waiting_rearm fun z hz hza => ux_waits this.2 this.1.2 hz fun e => hza (Option.some.inj e).symm⟩
    -- skipped bytes: nothing but the phase of a fresh connection changes
    subst hi
    unfold connInput0
    split
    · exact hU
    · exact ux_setConn hU _ fun _ ha => ⟨conn, hc, rfl, rfl, ha⟩
    · exact hU
  | sessTimeout s =>
    exact hW (step_timeout_ind (P := fun v => UX none v.1) st s hU fun ss _ => ux_closeSessSt hU ss) (ptr_step h hp _)

theorem invariants_run (hA : Waiting st) (hp : Ptr st) (h : Inv st) (es : List Event) :
    Waiting (run st es).1 ∧ Ptr (run st es).1 ∧ Inv (run st es).1 := by
  induction es generalizing st with
  | nil => exact ⟨hA, hp, h⟩
  | cons e es ih =>
    simp only [run]
    exact ih (waiting_step hA hp h e) (ptr_step h hp e) (inv_step h e)

theorem timeout_enabled (hA : Waiting st) (hp : Ptr st) (h : Inv st) (hc : c ∈ st.conns) :
    (c.armed = true ∧ Out.connClose c.id ∈ (connInput st c .idle).2) ∨
    (∃ s ∈ st.sessions, c.session = some s.id ∧ c.id ∈ s.conns ∧ survivesAlone s = true ∧
      Out.connClose c.id ∈ (step st (.sessTimeout s.id)).2 ∧
      ∀ x ∈ (step st (.sessTimeout s.id)).1.conns, x.id ≠ c.id) := by
  cases harm : c.armed with
  | true => exact Or.inl ⟨rfl, idle_closes st c harm⟩
  | false =>
    right
    obtain ⟨s, hs, e1, e2, e3⟩ := hA c hc harm
    have hl : c.id ∈ s.conns := hp.listed h hs hc e1
    have hsa : survivesAlone s = true := by
      have : isTcp s = false := by
        unfold isUdp at e3; unfold isTcp
        split at e3 <;> simp_all
      simp [survivesAlone, streaming, e2, this]
    refine ⟨s, hs, e1, hl, hsa, ?_⟩
    rw [step_timeout_eq h hs hsa]
    refine ⟨List.mem_append_left _ (List.mem_map.mpr ⟨c.id, hl, rfl⟩), fun x hx e => ?_⟩
    simp [closeSess, e, hl] at hx

end Rtsp.Ledger
