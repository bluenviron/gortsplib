import Rtsp.Proofs.Sec.Admit
/-
C17, client side: what a SETUP request that is sent looks like (`clientSetupRequest_request`), and the redirect
chain from rtsps — followed up to the first Location that is not rtsps (`followRedirects_rtsps`).
-/
namespace Rtsp.Sec
open Rtsp.Facts

theorem clientPick_snd (scheme : Scheme) (cfgProto : Option SessProto) (mp : Profile) (h264 tunnel : Bool) :
    (clientPick scheme cfgProto mp h264 tunnel).2 = if scheme = .rtsps ∧ mp = .savp then .savp else .avp := by
  simp only [clientPick, isSecure_iff]

theorem clientSetupRequest_request {scheme : Scheme} {cfgProto : Option SessProto} {mp : Profile} {h264 tunnel : Bool}
    {p : SessProto} {pr : Profile} {km : Bool}
    (h : clientSetupRequest scheme cfgProto mp h264 tunnel = .request p pr km) :
    (p, pr) = clientPick scheme cfgProto mp h264 tunnel ∧ km = isSecure pr ∧
      ¬ ((p = .udp ∨ p = .mcast) ∧ scheme = .rtsps ∧ pr = .avp) := by
  unfold clientSetupRequest at h
  generalize clientPick scheme cfgProto mp h264 tunnel = pk at h ⊢
  obtain ⟨p', pr'⟩ := pk
  simp only at h
  split at h
  · cases h
  · rename_i h1
    split at h
    · cases h
    · cases h
      exact ⟨rfl, rfl, by simpa [Sec.clientNoPlainUDPOverTLS, isSecure_false_iff] using h1⟩

theorem ok_of_toOption {ε α} {x : Except ε α} {a : α} (h : x.toOption = some a) : x = .ok a := by
  cases x with
  | error e => cases h
  | ok b => cases h; rfl

theorem followRedirects_rtsps (chain : List Scheme) :
    followRedirects .rtsps chain = (.rtsps, chain.findIdx? (· ≠ .rtsps)) := by
  induction chain with
  | nil => rfl
  | cons loc rest ih =>
    cases loc with
    | rtsp => rfl
    | rtsps => simp [followRedirects, redirectStep, ih, List.findIdx?_cons]

end Rtsp.Sec
