import Rtsp.Model.Secure
import Rtsp.Proofs.Common.Bits
/-
C17, roll-over counter: pion's `nextRolloverCount` / `updateRolloverCount` recover the true
48-bit packet index from the 16-bit sequence number whenever the packet lies within 2^15 of the
highest index processed so far (and use the signalled ROC for the first packet).
-/
namespace Rtsp.Sec
open Rtsp.Facts

def two48 : Nat := 281474976710656

theorem nextRoc_unprocessed (R q : Nat) (hR : R < 4294967296) :
    nextRoc { index := R * 65536, processed := false } q = (R, 0, false) := by
  have e : R * 65536 / 65536 % 4294967296 = R := by
    rw [Nat.mul_div_cancel _ (by decide), Nat.mod_eq_of_lt hR]
  simp only [nextRoc, SsrcState.roc, two16, two32, Sec.maxROC, Bool.false_eq_true, if_false, e, Prod.mk.injEq, true_and,
    Bool.and_eq_false_iff, beq_eq_false_iff_ne]
  omega

theorem updateRoc_unprocessed (R q : Nat) (d : Int) (hq : q < 65536) :
    updateRoc { index := R * 65536, processed := false } q d = { index := R * 65536 + q, processed := true } := by
  simp [updateRoc, show R * 65536 ||| q = R * 65536 + q from Bits.mul_two_pow_or (k := 16) hq]

/-- `nextRoc` on a processed state with the constants of `Facts.Sec` put in (`seqNumMedian` 32768,
`seqNumMax` 65536, `maxROC` 2^32 − 1), in the form `omega` reads -/
theorem nextRoc_processed (i q : Nat) :
    nextRoc { index := i, processed := true } q =
      (let r := i / 65536 % 4294967296
       let l : Int := ((i % 65536 : Nat) : Int)
       let g : Nat × Int :=
         if i > 32768 then
           if l < 32768 then
             if (q : Int) - l > 32768 then ((r + 4294967296 - 1) % 4294967296, (q : Int) - l - 65536) else (r, (q : Int) - l)
           else
             if l - 32768 > (q : Int) then ((r + 1) % 4294967296, (q : Int) - l + 65536) else (r, (q : Int) - l)
         else (r, (q : Int) - l)
       (g.1, g.2, g.1 == 0 && r == 4294967295)) := by
  simp only [nextRoc, SsrcState.roc, SsrcState.seq, Sec.seqNumMedian, Sec.seqNumMax, Sec.maxROC, two16, two32, if_true]
  rfl

theorem nextRoc_window (i j : Nat)
    (hi : i < two48) (hj : j < two48)
    (h1 : (j : Int) - (i : Int) < 32768) (h2 : (i : Int) - (j : Int) < 32768) :
    nextRoc { index := i, processed := true } (j % 65536) = (j / 65536, (j : Int) - (i : Int), false) := by
  simp only [two48] at hi hj
  rw [nextRoc_processed]
  -- with `i = 65536 r + l` and `j = 65536 R + q` each branch is linear arithmetic in `r l R q`
  have ei := Nat.div_add_mod i 65536
  have ej := Nat.div_add_mod j 65536
  have hl := Nat.mod_lt i (show 65536 > 0 by decide)
  have hq := Nat.mod_lt j (show 65536 > 0 by decide)
  generalize i / 65536 = r at *
  generalize i % 65536 = l at *
  generalize j / 65536 = R at *
  generalize j % 65536 = q at *
  subst ei ej
  rw [Nat.mod_eq_of_lt (show r < 4294967296 by omega)]
  simp only [Prod.mk.injEq, Bool.and_eq_false_iff, beq_eq_false_iff_ne]
  split
  · split
    · split <;> omega
    · split <;> omega
  · omega

theorem updateRoc_window (i j : Nat) (hi : i < two48) (hj : j < two48) :
    updateRoc { index := i, processed := true } (j % 65536) ((j : Int) - (i : Int)) = { index := max i j, processed := true } := by
  simp only [two48] at hi hj
  simp only [updateRoc, Bool.not_true, Bool.false_eq_true, if_false, two64]
  split
  · congr 1; omega
  · congr 1; omega

end Rtsp.Sec
