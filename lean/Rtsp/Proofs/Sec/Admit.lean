import Rtsp.Model.Secure
/-
C17, admission: what `isTransportSupported` / `pickFirstSupportedTransport` / the SETUP branch can
let through.
-/
namespace Rtsp.Sec
open Rtsp.Facts

theorem of_ite_ne {α} {c : Prop} [Decidable c] {a b v : α} (h : (if c then a else b) = v) (ha : a ≠ v) :
    ¬ c ∧ b = v := by
  split at h
  · exact absurd h ha
  · exact ⟨‹_›, h⟩

theorem isSecure_iff (p : Profile) : isSecure p = true ↔ p = .savp := by
  simp [isSecure, Sec.isSecureIsSAVP]

theorem isSecure_false_iff (p : Profile) : isSecure p = false ↔ p = .avp := by
  cases p <;> simp [isSecure, Sec.isSecureIsSAVP]

theorem isTransportSupported_iff (cfg : ServerCfg) (tunnel : Bool) (tr : Transport) :
    isTransportSupported cfg tunnel tr = true ↔
      (tr.protocol = .udp → (if tr.multicast then cfg.mcast else cfg.udp) = true ∧ tunnel = false ∧
        (cfg.tls = true → tr.profile = .savp)) ∧
      (tr.profile = .savp → cfg.tls = true) := by
  simp only [isTransportSupported, Sec.ruleNoPlainUDPOverTLS, Sec.ruleNoSecureOverPlain, Bool.true_and]
  cases tr.protocol <;> cases tr.multicast <;> cases cfg.tls <;> simp [← isSecure_iff, and_assoc]

theorem pickFirst_eq_find? (cfg : ServerCfg) (tunnel : Bool) (ts : List Transport) :
    pickFirst cfg tunnel ts = ts.find? (isTransportSupported cfg tunnel) := by
  induction ts with
  | nil => rfl
  | cons t rest ih => rw [pickFirst, List.find?_cons, ih]; cases isTransportSupported cfg tunnel t <;> rfl

theorem pickFirst_supported {cfg : ServerCfg} {tunnel : Bool} {ts : List Transport} {tr : Transport}
    (h : pickFirst cfg tunnel ts = some tr) : tr ∈ ts ∧ isTransportSupported cfg tunnel tr = true := by
  rw [pickFirst_eq_find?] at h
  exact ⟨List.mem_of_find?_eq_some h, List.find?_some h⟩

theorem pickFirst_rules {cfg : ServerCfg} {tunnel : Bool} {ts : List Transport} {tr : Transport}
    (h : pickFirst cfg tunnel ts = some tr) :
    (tr.protocol = .udp → cfg.tls = true → tr.profile = .savp) ∧ (tr.profile = .savp → cfg.tls = true) :=
  have hs := (isTransportSupported_iff cfg tunnel tr).1 (pickFirst_supported h).2
  ⟨fun hu => (hs.1 hu).2.2, hs.2⟩

/-- `pickFirst` returns the FIRST supported transport: everything before it is unsupported. -/
theorem pickFirst_first (cfg : ServerCfg) (tunnel : Bool) (ts : List Transport) (tr : Transport)
    (h : pickFirst cfg tunnel ts = some tr) :
    ∃ pre post, ts = pre ++ tr :: post ∧ ∀ t ∈ pre, isTransportSupported cfg tunnel t = false := by
  rw [pickFirst_eq_find?, List.find?_eq_some_iff_append] at h
  obtain ⟨_, pre, post, e, hp⟩ := h
  exact ⟨pre, post, e, fun t ht => by simpa using hp t ht⟩

theorem pickFirst_none (cfg : ServerCfg) (tunnel : Bool) (ts : List Transport)
    (h : pickFirst cfg tunnel ts = none) : ∀ t ∈ ts, isTransportSupported cfg tunnel t = false := by
  rw [pickFirst_eq_find?, List.find?_eq_none] at h
  exact fun t ht => by simpa using h t ht

theorem serverSetup_ok {cfg : ServerCfg} {tunnel : Bool} {st : SessState} {setupped : Option (SessProto × Profile)}
    {inUse : Nat → Bool} {sc : Option Ctx} {fresh : Ctx} {now : Int} {req : SetupReq} {sm : SessMedia}
    (h : serverSetup cfg tunnel st setupped inUse sc fresh now req = .ok sm) :
    ∃ ts tr, req.transports = some ts ∧ pickFirst cfg tunnel ts = some tr ∧
      sm.protocol = sessProto tr ∧ sm.profile = tr.profile ∧
      (setupped.isSome → setupped = some (sm.protocol, sm.profile)) ∧
      (sm.profile = .avp → sm.srtpIn = none ∧ sm.srtpOut = none) ∧
      (sm.profile = .savp →
        (∃ c m, sm.srtpIn = some c ∧ req.keyMgmt = .msg m ∧ mikeyToContext m now = .ok c) ∧
        sm.srtpOut = if st = .preRecord ∨ req.backChannel then some fresh else sc) := by
  unfold serverSetup at h
  cases hts : req.transports with
  | none => simp only [hts] at h; cases h
  | some ts =>
  cases htr : pickFirst cfg tunnel ts with
  | none => simp only [hts, htr] at h; cases h
  | some tr =>
  refine ⟨ts, tr, rfl, htr, ?_⟩
  simp only [hts, htr] at h
  generalize hin : (if isSecure tr.profile = true then _ else _ : Except Unit (Option Ctx)) = inCtx at h
  cases inCtx with
  | error => cases h
  | ok srtpIn =>
  obtain ⟨hset, h⟩ := of_ite_ne h nofun
  iterate 5 obtain ⟨_, h⟩ := of_ite_ne h nofun
  cases h
  refine ⟨rfl, rfl, fun hs => Decidable.not_not.1 (not_and.1 hset hs), ?_⟩
  cases hsec : isSecure tr.profile with
  | false =>
    rw [hsec] at hin
    cases hin
    exact ⟨fun _ => ⟨rfl, rfl⟩, fun hp => absurd ((isSecure_iff _).2 hp) (by simp [hsec])⟩
  | true =>
    refine ⟨fun hp => absurd ((isSecure_false_iff _).2 hp) (by simp [hsec]), fun _ => ⟨?_, rfl⟩⟩
    simp only [hsec, if_true] at hin
    split at hin
    · cases hin
    · rename_i m hk
      split at hin
      · rename_i c hm
        cases hin
        exact ⟨c, m, rfl, hk, hm⟩
      · cases hin

end Rtsp.Sec
