import Rtsp.Proofs.Sec.Run
/-
C17, the outgoing context a stream shares among its readers: the stream encrypts once whoever listens
(`streamWriteRTP_eq`, `streamWriteRTCP_eq`), so its state after a history is that of a lone sender (`streamRun_eq_sendAll`);
the counter under the exclusive lock (`foldl_turn_atomic`).
-/
namespace Rtsp.Sec
open Rtsp.Facts
open Rtsp.Mikey (Bytes)

theorem streamCtx_tls (cfg : ServerCfg) (c0 : Ctx) (htls : cfg.tls = true) : streamCtx cfg c0 = some c0 := by
  simp [streamCtx, Sec.streamCtxIffTLS, htls]

theorem streamWriteRTP_eq {W WC} (ci : Cipher W WC) (stream : Option Ctx) (rs : List SessMedia) (p : Pkt) :
    streamWriteRTP ci stream rs p = (writeRTP ci stream p).map fun x =>
      (x.1, rs.map fun r => if r.srtpOut.isSome then x.2 else { ssrc := p.ssrc, seq := p.seq, body := .plain p.payload }) := by
  simp only [streamWriteRTP, Sec.streamEncryptsEveryRTP, Bool.true_or, if_true]
  cases writeRTP ci stream p <;> rfl

theorem streamWriteRTCP_eq {W WC} (ci : Cipher W WC) (stream : Option Ctx) (rs : List SessMedia) (ssrc : Nat) (p : Bytes) :
    streamWriteRTCP ci stream rs ssrc p = (writeRTCP ci stream ssrc p).map fun x =>
      (x.1, rs.map fun r => if r.srtpOut.isSome then x.2 else .plain p) := by
  simp only [streamWriteRTCP, Sec.streamEncryptsEveryRTCP, Bool.true_or, if_true]
  cases writeRTCP ci stream ssrc p <;> rfl

theorem streamRun_cons {W WC} (ci : Cipher W WC) (stream : Option Ctx) (rs : List SessMedia) (p : Pkt)
    (rest : List (List SessMedia × Pkt)) :
    streamRun ci stream ((rs, p) :: rest) = (writeRTP ci stream p).bind fun x => streamRun ci x.1 rest := by
  rw [streamRun, streamWriteRTP_eq]
  cases writeRTP ci stream p <;> rfl

theorem streamRun_eq_sendAll {W WC} (ci : Cipher W WC) (out : Option Ctx) (ssrc : Nat) (jps : List (Nat × Bytes)) :
    streamRun ci out (jps.map fun jp => ([], { ssrc := ssrc, seq := jp.1 % 65536, payload := jp.2 })) =
      (sendAll ci out ssrc jps).map (·.1) := by
  induction jps generalizing out with
  | nil => rfl
  | cons jp rest ih =>
    simp only [List.map_cons, streamRun_cons, ih, sendAll]
    cases writeRTP ci out { ssrc := ssrc, seq := jp.1 % 65536, payload := jp.2 } with
    | none => rfl
    | some x => cases h : sendAll ci x.1 ssrc rest <;> simp [h]

theorem foldl_turn_atomic (s : Shared) (sched : List Nat) :
    (sched.foldl (turn true) s).counter = s.counter + sched.length ∧
    (sched.foldl (turn true) s).emitted = s.emitted ++ List.range' (s.counter + 1) sched.length := by
  induction sched generalizing s with
  | nil => simp
  | cons g rest ih =>
    obtain ⟨h1, h2⟩ := ih (turn true s g)
    simp only [List.foldl_cons, List.length_cons]
    refine ⟨by rw [h1]; simp [turn]; omega, ?_⟩
    rw [h2]
    simp [turn, List.range'_succ]

end Rtsp.Sec
