import Rtsp.Proofs.Sec.Pipe
import Rtsp.Proofs.Sec.Admit
import Rtsp.Proofs.Hdr.Mikey
/-
C17, key exchange: what `mikeyToContext` accepts (exactly the policy), and what survives
`contextToMikey` → `mikeyToContext`.  C17 ∘ C09 (`contextToMikey_wf`): the message `contextToMikey` builds is well
formed for the MIKEY wire format, so it survives `Marshal` → `Unmarshal` (theorem of C09) before `mikeyToContext` sees it.
-/
namespace Rtsp.Sec
open Rtsp.Facts
open Rtsp.Mikey (Bytes Message KeyData PolicyParam)

theorem applyROCs_fields (c : Ctx) (ss rs : List Nat) :
    (applyROCs c ss rs).key = c.key ∧ (applyROCs c ss rs).mki = c.mki ∧
    (applyROCs c ss rs).ssrcs = c.ssrcs ∧ (applyROCs c ss rs).startROCs = c.startROCs ∧
    (applyROCs c ss rs).rtcp = c.rtcp := by
  induction ss generalizing c rs with
  | nil => simp [applyROCs]
  | cons a ss ih =>
    cases rs with
    | nil => simp [applyROCs]
    | cons r rs =>
      simp only [applyROCs]
      have := ih (c.setROC a r) rs
      simpa [Ctx.setROC] using this

/-- `ss.map f`: every occurrence of an SSRC is given the same ROC, as `contextToMikey` does -/
theorem applyROCs_state (c : Ctx) (f : Nat → Nat) (ss : List Nat) (s : Nat) :
    (applyROCs c ss (ss.map f)).state s =
      if s ∈ ss then { index := (f s * two16) % two64, processed := false } else c.state s := by
  induction ss generalizing c with
  | nil => simp [applyROCs]
  | cons a ss ih =>
    simp only [List.map_cons, applyROCs]
    rw [ih, Ctx.setROC, state_insert]
    by_cases h1 : s ∈ ss
    · simp [h1]
    · by_cases h2 : a = s
      · subst h2
        simp [h1]
      · simp [h1, h2, Ne.symm h2]

theorem policyBad_false_iff (ps : List PolicyParam) (t x : Nat) :
    policyBad ps t x = false ↔ getPolicy ps t = some [UInt8.ofNat x] := by
  unfold policyBad
  cases getPolicy ps t <;> simp

/-- The policy of `mikeyToContext`, as a predicate on the parsed message. -/
structure Policy (m : Message) (now : Int) (kd : KeyData) : Prop where
  time : ∃ a ts, getT m.payloads = some (a, ts) ∧
    -hourNs ≤ now - Rtsp.Ntp.decode ts ∧ now - Rtsp.Ntp.decode ts ≤ hourNs
  sp : ∃ ps, getSP m.payloads = some ps ∧
    getPolicy ps Sec.ppEncrAlg = some [1] ∧ getPolicy ps Sec.ppSessionEncrKeyLen = some [16] ∧
    getPolicy ps Sec.ppAuthAlg = some [1] ∧ getPolicy ps Sec.ppSRTPEncrOffOn = some [1] ∧
    getPolicy ps Sec.ppSRTCPEncrOffOn = some [1] ∧ getPolicy ps Sec.ppSRTPAuthOffOn = some [1]
  key : getKemac m.payloads = some [kd] ∧ kd.keyData.length = 30

/-- the context `mikeyToContext` builds from an accepted message -/
def ctxOf (m : Message) (kd : KeyData) : Ctx :=
  applyROCs { key := kd.keyData, mki := kd.spi, ssrcs := m.header.csIdMapInfo.map (·.ssrc),
              startROCs := m.header.csIdMapInfo.map (·.roc) }
    (m.header.csIdMapInfo.map (·.ssrc)) (m.header.csIdMapInfo.map (·.roc))

theorem ctxOf_fields (m : Message) (kd : KeyData) :
    (ctxOf m kd).key = kd.keyData ∧ (ctxOf m kd).mki = kd.spi ∧
    (ctxOf m kd).ssrcs = m.header.csIdMapInfo.map (·.ssrc) ∧ (ctxOf m kd).startROCs = m.header.csIdMapInfo.map (·.roc) := by
  obtain ⟨f1, f2, f3, f4, _⟩ := applyROCs_fields
    { key := kd.keyData, mki := kd.spi, ssrcs := m.header.csIdMapInfo.map (·.ssrc),
      startROCs := m.header.csIdMapInfo.map (·.roc) } (m.header.csIdMapInfo.map (·.ssrc)) (m.header.csIdMapInfo.map (·.roc))
  exact ⟨f1, f2, f3, f4⟩

theorem initCtx_30 (key mki : Bytes) (ss rs : List Nat) (h : key.length = 30) :
    initCtx key mki ss rs = some (applyROCs { key, mki, ssrcs := ss, startROCs := rs } ss rs) := by
  simp [initCtx, Sec.masterKeySplit, Sec.masterSaltSplit, h]

theorem mikeyToContext_sound (m : Message) (now : Int) (c : Ctx) (h : mikeyToContext m now = .ok c) :
    ∃ kd, Policy m now kd ∧ c = ctxOf m kd := by
  unfold mikeyToContext at h
  cases hT : getT m.payloads with
  | none => simp only [hT] at h; cases h
  | some ats =>
  obtain ⟨a, ts⟩ := ats
  simp only [hT] at h
  obtain ⟨hwin, h⟩ := of_ite_ne h nofun
  cases hSP : getSP m.payloads with
  | none => simp only [hSP] at h; cases h
  | some ps =>
  simp only [hSP] at h
  obtain ⟨p1, h⟩ := of_ite_ne h nofun
  obtain ⟨p2, h⟩ := of_ite_ne h nofun
  obtain ⟨p3, h⟩ := of_ite_ne h nofun
  obtain ⟨p4, h⟩ := of_ite_ne h nofun
  obtain ⟨p5, h⟩ := of_ite_ne h nofun
  obtain ⟨p6, h⟩ := of_ite_ne h nofun
  cases hK : getKemac m.payloads with
  | none => simp only [hK] at h; cases h
  | some subs =>
  simp only [hK] at h
  obtain _ | ⟨kd, _ | _⟩ := subs
  · cases h
  · simp only at h
    obtain ⟨hlen, h⟩ := of_ite_ne h nofun
    replace hlen : kd.keyData.length = 30 := Decidable.not_not.1 hlen
    rw [initCtx_30 _ _ _ _ hlen] at h
    cases h
    have pb := fun t x (hp : ¬ policyBad ps t x = true) => (policyBad_false_iff ps t x).1 (Bool.not_eq_true _ ▸ hp)
    exact ⟨kd, ⟨⟨a, ts, hT, by omega, by omega⟩,
      ⟨ps, hSP, pb _ _ p1, pb _ _ p2, pb _ _ p3, pb _ _ p4, pb _ _ p5, pb _ _ p6⟩, hK, hlen⟩, rfl⟩
  · cases h

theorem mikeyToContext_complete (m : Message) (now : Int) (kd : KeyData) (h : Policy m now kd) :
    mikeyToContext m now = .ok (ctxOf m kd) := by
  obtain ⟨⟨a, ts, hT, w1, w2⟩, ⟨ps, hSP, q1, q2, q3, q4, q5, q6⟩, hK, hlen⟩ := h
  have pb := fun t x => (policyBad_false_iff ps t x).2
  have hw : ¬(now - Rtsp.Ntp.decode ts < -hourNs ∨ now - Rtsp.Ntp.decode ts > hourNs) := by omega
  simp only [mikeyToContext, hT, hw, if_false, hSP,
    pb _ Sec.reqEncrAlg q1, pb _ Sec.reqSessionEncrKeyLen q2,
    pb _ Sec.reqAuthAlg q3, pb _ Sec.reqSRTPEncrOffOn q4, pb _ Sec.reqSRTCPEncrOffOn q5, pb _ Sec.reqSRTPAuthOffOn q6,
    Bool.false_eq_true, hK, Sec.srtpKeyLength, hlen, ne_eq, not_true_eq_false, initCtx_30 _ _ _ _ hlen]
  rfl

theorem contextToMikey_policy (c : Ctx) (csb : Nat) (rand : Bytes) (ts : Nat) (now : Int)
    (hk : c.key.length = 30)
    (hw : -hourNs ≤ now - Rtsp.Ntp.decode ts ∧ now - Rtsp.Ntp.decode ts ≤ hourNs) :
    Policy (contextToMikey c csb rand ts) now
      { type := Sec.keyTypeTEK, kv := if c.mki.length ≠ 0 then Sec.kvSPI else Sec.kvNull, keyData := c.key, spi := c.mki } := by
  refine ⟨⟨0, ts, rfl, hw.1, hw.2⟩, ⟨announcedPolicy, rfl, ?_, ?_, ?_, ?_, ?_, ?_⟩, rfl, hk⟩ <;> decide

theorem ctxOf_contextToMikey (c : Ctx) (csb : Nat) (rand : Bytes) (ts : Nat) (kd : KeyData) :
    (ctxOf (contextToMikey c csb rand ts) kd).key = kd.keyData ∧ (ctxOf (contextToMikey c csb rand ts) kd).mki = kd.spi ∧
    (ctxOf (contextToMikey c csb rand ts) kd).ssrcs = c.ssrcs ∧
    (ctxOf (contextToMikey c csb rand ts) kd).startROCs = c.ssrcs.map c.roc ∧
    ∀ s, (ctxOf (contextToMikey c csb rand ts) kd).state s =
      if s ∈ c.ssrcs then { index := c.roc s * 65536, processed := false } else {} := by
  have hss : (contextToMikey c csb rand ts).header.csIdMapInfo.map (·.ssrc) = c.ssrcs := by
    simp [contextToMikey, List.map_map, Function.comp_def]
  have hrs : (contextToMikey c csb rand ts).header.csIdMapInfo.map (·.roc) = c.ssrcs.map c.roc := by
    simp [contextToMikey, List.map_map, Function.comp_def]
  obtain ⟨f1, f2, f3, f4⟩ := ctxOf_fields (contextToMikey c csb rand ts) kd
  refine ⟨f1, f2, f3.trans hss, f4.trans hrs, fun s => ?_⟩
  have e : (c.roc s * two16) % two64 = c.roc s * 65536 := by
    have := roc_lt c s
    simp only [two16, two64]; omega
  rw [ctxOf, hss, hrs, applyROCs_state, e]
  rfl

theorem contextToMikey_wf (c : Ctx) (csb : Nat) (rand : Bytes) (ts : Nat)
    (hk : c.key.length = 30) (hm : c.mki.length < 256) (hn : c.ssrcs.length < 256)
    (hs : ∀ s ∈ c.ssrcs, s < 2 ^ 32) (hc : csb < 2 ^ 32) (hr1 : 16 ≤ rand.length) (hr2 : rand.length < 256)
    (ht : ts < 2 ^ 64) : (contextToMikey c csb rand ts).WF := by
  refine ⟨⟨rfl, rfl, rfl, rfl, hc, rfl, by simpa [contextToMikey] using hn, ?_⟩, ?_⟩
  · intro e he
    simp only [contextToMikey, List.mem_map] at he
    obtain ⟨s, hsm, rfl⟩ := he
    exact ⟨by simp, hs s hsm, roc_lt c s⟩
  · intro p hp
    simp only [contextToMikey, List.mem_cons, List.not_mem_nil, or_false] at hp
    rcases hp with rfl | rfl | rfl | rfl
    · exact .t ts ht
    · exact .rand rand hr1 hr2
    · refine .sp 0 announcedPolicy (by decide) ?_ (by decide)
      intro q hq
      simp only [announcedPolicy, List.mem_cons, List.not_mem_nil, or_false] at hq
      rcases hq with rfl | rfl | rfl | rfl | rfl | rfl | rfl | rfl <;> exact ⟨by decide, by decide⟩
    · have kwf : KeyData.WF { type := Sec.keyTypeTEK, kv := if c.mki.length ≠ 0 then Sec.kvSPI else Sec.kvNull, keyData := c.key, spi := c.mki } := by
        refine ⟨rfl, by simp [hk], ?_⟩
        by_cases h0 : c.mki.length = 0
        · left; simp [Sec.kvNull, List.eq_nil_of_length_eq_zero h0]
        · right; simp [h0, Sec.kvSPI, hm]
      refine .kemac _ (by simp) (by simpa using kwf) ?_
      rw [Rtsp.Mikey.marshalSubs, Rtsp.Mikey.KeyData.marshal_length, Rtsp.Mikey.KeyData.marshalSize, hk]
      dsimp only
      generalize (if c.mki.length ≠ 0 then Sec.kvSPI else Sec.kvNull) = kv
      split <;> omega

end Rtsp.Sec
