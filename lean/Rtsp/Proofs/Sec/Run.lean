import Rtsp.Proofs.Sec.Pipe
/-
C17, stream level: a sender context and a receiver context that share key and MKI, over whole
packet histories.
-/
namespace Rtsp.Sec
open Rtsp.Mikey (Bytes)

/-- every packet of the history fits the state it meets -/
def FitsAll : SsrcState → List Nat → Prop
  | _, [] => True
  | s, j :: js => Fits s j ∧ FitsAll (advance s j) js

/-- the frame a sender with key `k`, MKI `m` emits for the packet with true index `j` -/
def frameOf {W WC} (ci : Cipher W WC) (k m : Bytes) (ssrc : Nat) (jp : Nat × Bytes) : Frame W :=
  { ssrc := ssrc, seq := jp.1 % 65536, body := .prot (ci.E k m ssrc (jp.1 / 65536) (jp.1 % 65536) jp.2) }

/-- `writePacketRTP` for a sequence of packets of one SSRC -/
def sendAll {W WC} (ci : Cipher W WC) (out : Option Ctx) (ssrc : Nat) : List (Nat × Bytes) → Option (Option Ctx × List (Frame W))
  | [] => some (out, [])
  | jp :: rest =>
    match writeRTP ci out { ssrc := ssrc, seq := jp.1 % 65536, payload := jp.2 } with
    | none => none
    | some (out', f) =>
      match sendAll ci out' ssrc rest with
      | none => none
      | some (out'', fs) => some (out'', f :: fs)

/-- `readPacketRTP` for a sequence of frames -/
def recvAll {W WC} (ci : Cipher W WC) (r : RecvFmt) : List (Frame W) → RecvFmt × List ReadRes
  | [] => (r, [])
  | f :: rest =>
    let (r', x) := readRTP ci r f
    let (r'', xs) := recvAll ci r' rest
    (r'', x :: xs)

theorem sender_emits {W WC} (ci : Cipher W WC) (c : Ctx) (ssrc : Nat) (jps : List (Nat × Bytes))
    (h : FitsAll (c.state ssrc) (jps.map (·.1))) :
    ∃ c', sendAll ci (some c) ssrc jps = some (some c', jps.map (frameOf ci c.key c.mki ssrc)) ∧
      c'.key = c.key ∧ c'.mki = c.mki ∧ c'.ssrcs = c.ssrcs ∧
      c'.state ssrc = (jps.map (·.1)).foldl advance (c.state ssrc) := by
  induction jps generalizing c with
  | nil => exact ⟨c, rfl, rfl, rfl, rfl, rfl⟩
  | cons jp rest ih =>
    obtain ⟨hf, hrest⟩ := h
    obtain ⟨c1, e1, k1, m1, s1, st1⟩ := encrypt_fits ci c ssrc jp.1 jp.2 hf
    rw [← st1] at hrest
    obtain ⟨c2, e2, k2, m2, s2, f2⟩ := ih c1 hrest
    refine ⟨c2, ?_, k2.trans k1, m2.trans m1, s2.trans s1, ?_⟩
    · simp only [sendAll, writeRTP, e1, e2, List.map_cons, k1, m1, frameOf]
    · rw [f2, st1]; rfl

theorem receiver_delivers {W WC} (ci : Cipher W WC)
    (hDE : ∀ k m s r q p, ci.D k m s r q (ci.E k m s r q p) = some p)
    (c : Ctx) (remote : Option Nat) (ssrc : Nat) (hr : remote = none ∨ remote = some ssrc)
    (arr : List (Nat × Bytes)) (h : FitsAll (c.state ssrc) (arr.map (·.1))) :
    (recvAll ci { inCtx := some c, remoteSSRC := remote } (arr.map (frameOf ci c.key c.mki ssrc))).2 =
      arr.map (fun jp => ReadRes.deliver jp.2) := by
  induction arr generalizing c remote with
  | nil => rfl
  | cons jp rest ih =>
    obtain ⟨hf, hrest⟩ := h
    obtain ⟨c1, e1, k1, m1, st1⟩ := decrypt_fits ci hDE c ssrc jp.1 jp.2 hf
    rw [← st1] at hrest
    have step : readRTP ci { inCtx := some c, remoteSSRC := remote } (frameOf ci c.key c.mki ssrc jp) =
        ({ inCtx := some c1, remoteSSRC := some ssrc }, .deliver jp.2) := by
      rcases hr with hr | hr <;> subst hr <;> simp [readRTP, wrongSSRC, latch, frameOf, e1]
    have := ih c1 (some ssrc) (Or.inr rfl) hrest
    simp only [List.map_cons, recvAll, step]
    rw [← k1, ← m1, this]

theorem range_succ_map_add (j n : Nat) :
    (List.range (n + 1)).map (j + ·) = j :: (List.range n).map (j + 1 + ·) := by
  rw [← List.range'_eq_map_range, List.range'_succ, List.range'_eq_map_range]

theorem fitsAll_consecutive (s : SsrcState) (j n : Nat) (h : Fits s j) (hb : j + n < two48) :
    FitsAll s ((List.range n).map (j + ·)) := by
  induction n generalizing s j with
  | zero => trivial
  | succ n ih =>
    rw [range_succ_map_add]
    exact ⟨h, ih (advance s j) (j + 1) (fits_advance s j (j + 1) h (Nat.le_succ j) (by omega) (by omega)) (by omega)⟩

theorem advance_forward (s : SsrcState) (j : Nat) (hfw : s.processed = true → s.index ≤ j) :
    advance s j = { index := j, processed := true } := by
  unfold advance
  cases hp : s.processed
  · rfl
  · rw [if_pos rfl, Nat.max_eq_right (hfw hp)]

theorem foldl_advance_consecutive (s : SsrcState) (j n : Nat) (hfw : s.processed = true → s.index ≤ j) :
    ((List.range (n + 1)).map (j + ·)).foldl advance s = { index := j + n, processed := true } := by
  induction n generalizing s j with
  | zero => exact advance_forward s j hfw
  | succ n ih =>
    rw [range_succ_map_add, List.foldl_cons, advance_forward s j hfw, ih _ (j + 1) (fun _ => Nat.le_succ j)]
    exact congrArg (SsrcState.mk · true) (by omega)

theorem map_fst_consecutive (j n : Nat) (payload : Nat → Bytes) :
    ((List.range n).map fun k => (j + k, payload k)).map (·.1) = (List.range n).map (j + ·) := by
  rw [List.map_map]
  rfl

theorem sender_consecutive {W WC} (ci : Cipher W WC) (c : Ctx) (ssrc j0 : Nat) (payload : Nat → Bytes) (n : Nat)
    (h0 : Fits (c.state ssrc) j0) (hb : j0 + n < two48) :
    ∃ c', sendAll ci (some c) ssrc ((List.range n).map fun k => (j0 + k, payload k)) =
        some (some c', (List.range n).map fun k => frameOf ci c.key c.mki ssrc (j0 + k, payload k)) ∧
      c'.key = c.key ∧ c'.mki = c.mki ∧ c'.ssrcs = c.ssrcs ∧
      c'.state ssrc = ((List.range n).map (j0 + ·)).foldl advance (c.state ssrc) := by
  have hf := fitsAll_consecutive (c.state ssrc) j0 n h0 hb
  rw [← map_fst_consecutive j0 n payload] at hf
  obtain ⟨c', e, hk, hm, hs, hst⟩ := sender_emits ci c ssrc _ hf
  exact ⟨c', by rw [e, List.map_map]; rfl, hk, hm, hs, by rw [hst, map_fst_consecutive]⟩

/-- `hfw`: the sender goes forward from the highest index it sent; `advance` keeps the maximum. -/
theorem sender_consecutive_roc {W WC} (ci : Cipher W WC) (c : Ctx) (ssrc j0 : Nat) (payload : Nat → Bytes) (n : Nat)
    (h0 : Fits (c.state ssrc) j0) (hfw : (c.state ssrc).processed = true → (c.state ssrc).index ≤ j0)
    (hb : j0 + (n + 1) < two48) :
    ∃ c' fs, sendAll ci (some c) ssrc ((List.range (n + 1)).map fun k => (j0 + k, payload k)) = some (some c', fs) ∧
      c'.key = c.key ∧ c'.ssrcs = c.ssrcs ∧ c'.roc ssrc = (j0 + n) / 65536 := by
  obtain ⟨c', e, hk, _, hs, hst⟩ := sender_consecutive ci c ssrc j0 payload (n + 1) h0 hb
  refine ⟨c', _, e, hk, hs, ?_⟩
  rw [roc_eq_state, hst, foldl_advance_consecutive _ j0 n hfw]
  simp only [SsrcState.roc, two16, two32, two48] at hb ⊢
  omega

theorem readRTP_cases {W WC} (ci : Cipher W WC) (r : RecvFmt) (f : Frame W) :
    readRTP ci r f = (r, .decodeError) ∨
    ∃ r' p, readRTP ci r f = (r', .deliver p) ∧ ∀ c, r.inCtx = some c →
      ∃ w c', f.body = .prot w ∧ c.decryptRTP ci f.ssrc f.seq w = some (c', p) ∧ r'.inCtx = some c' := by
  unfold readRTP
  split
  · exact Or.inl rfl
  · split
    · rename_i h _
      exact Or.inr ⟨_, _, rfl, fun c hc => by rw [h] at hc; cases hc⟩
    · rename_i h _
      exact Or.inr ⟨_, _, rfl, fun c hc => by rw [h] at hc; cases hc⟩
    · exact Or.inl rfl
    · rename_i c w h hb
      split
      · exact Or.inl rfl
      · rename_i c' p hd
        exact Or.inr ⟨_, p, rfl, fun c0 hc => by rw [h] at hc; cases hc; exact ⟨w, c', hb, hd, rfl⟩⟩

theorem readRTP_keeps_key {W WC} (ci : Cipher W WC) (r : RecvFmt) (f : Frame W) (c : Ctx) (hc : r.inCtx = some c) :
    ∃ c', (readRTP ci r f).1.inCtx = some c' ∧ c'.key = c.key ∧ c'.mki = c.mki := by
  obtain e | ⟨r', p, e, h⟩ := readRTP_cases ci r f
  · rw [e]; exact ⟨c, hc, rfl, rfl⟩
  · obtain ⟨w, c', _, hd, hr'⟩ := h c hc
    obtain ⟨_, _, hk, hm⟩ := decryptRTP_some ci hd
    rw [e]; exact ⟨c', hr', hk, hm⟩

/-- `hforged` asks about the one state `c` only: a rejected frame leaves the state as it is (`readRTP_cases`). -/
theorem forged_then_genuine {W WC} (ci : Cipher W WC)
    (hDE : ∀ k m s r q p, ci.D k m s r q (ci.E k m s r q p) = some p)
    (c : Ctx) (remote : Option Nat) (ssrc : Nat) (hr : remote = none ∨ remote = some ssrc)
    (forged : List (Frame W)) (arr : List (Nat × Bytes))
    (hforged : ∀ f ∈ forged, (readRTP ci { inCtx := some c, remoteSSRC := remote } f).2 = .decodeError)
    (h : FitsAll (c.state ssrc) (arr.map (·.1))) :
    (recvAll ci { inCtx := some c, remoteSSRC := remote } (forged ++ arr.map (frameOf ci c.key c.mki ssrc))).2 =
      forged.map (fun _ => ReadRes.decodeError) ++ arr.map (fun jp => ReadRes.deliver jp.2) := by
  induction forged with
  | nil => exact receiver_delivers ci hDE c remote ssrc hr arr h
  | cons f rest ih =>
    have hf := hforged f List.mem_cons_self
    obtain e | ⟨_, _, e, _⟩ := readRTP_cases ci { inCtx := some c, remoteSSRC := remote } f
    · simp only [List.cons_append, recvAll, List.map_cons, e]
      rw [ih fun g hg => hforged g (List.mem_cons_of_mem _ hg)]
    · rw [e] at hf; cases hf

end Rtsp.Sec
