import Rtsp.Proofs.Sec.Roc
/-
C17, packet level: encrypt / decrypt of `wrappedSRTPContext` over the abstract cipher, the
per-SSRC state map, and what sender and receiver agree on.
-/
namespace Rtsp.Sec
open Rtsp.Mikey (Bytes)

theorem lookup_insert {α} (m : List (Nat × α)) (k k2 : Nat) (v : α) :
    lookup (insert m k v) k2 = if k = k2 then some v else lookup m k2 := by
  induction m with
  | nil => simp [insert, lookup]
  | cons kv rest ih =>
    obtain ⟨k', v'⟩ := kv
    by_cases h1 : k' = k
    · subst h1
      by_cases h2 : k' = k2 <;> simp [insert, lookup, h2]
    · by_cases h2 : k' = k2
      · subst h2
        simp [insert, lookup, h1, Ne.symm h1]
      · simp [insert, lookup, h1, h2, ih]

/-- `j` is the first packet after `SetROC` / creation and lies in the signalled ROC epoch, or it is
within 2^15 of the highest index processed so far. -/
def Fits (s : SsrcState) (j : Nat) : Prop :=
  j < two48 ∧
  (if s.processed then s.index < two48 ∧ (j : Int) - (s.index : Int) < 32768 ∧ (s.index : Int) - (j : Int) < 32768
   else s.index = j / 65536 * 65536)

/-- the state after a fitting packet: the highest index seen -/
def advance (s : SsrcState) (j : Nat) : SsrcState :=
  { index := if s.processed then max s.index j else j, processed := true }

theorem fits_nextRoc (s : SsrcState) (j : Nat) (h : Fits s j) :
    ∃ d, nextRoc s (j % 65536) = (j / 65536, d, false) ∧ updateRoc s (j % 65536) d = advance s j := by
  obtain ⟨i, p⟩ := s
  obtain ⟨hj, h⟩ := h
  cases p with
  | true =>
    simp only [if_true] at h
    obtain ⟨hi, h1, h2⟩ := h
    refine ⟨(j : Int) - (i : Int), nextRoc_window i j hi hj h1 h2, ?_⟩
    rw [updateRoc_window i j hi hj]
    simp [advance]
  | false =>
    simp only [Bool.false_eq_true, if_false] at h
    subst h
    have hR : j / 65536 < 4294967296 := by simp only [two48] at hj; omega
    refine ⟨0, nextRoc_unprocessed _ _ hR, ?_⟩
    rw [updateRoc_unprocessed _ _ _ (Nat.mod_lt _ (by decide)), Nat.div_add_mod']
    rfl

theorem advance_processed (s : SsrcState) (j : Nat) : (advance s j).processed = true := rfl

theorem fits_advance (s : SsrcState) (j j' : Nat) (h : Fits s j) (h1 : j ≤ j') (h2 : j' < j + 32768)
    (hb : j' < two48) : Fits (advance s j) j' := by
  obtain ⟨i, p⟩ := s
  obtain ⟨hj, h⟩ := h
  refine ⟨hb, ?_⟩
  simp only [advance, if_true]
  cases p with
  | true =>
    simp only [if_true] at h ⊢
    simp only [two48] at *
    omega
  | false =>
    simp only [Bool.false_eq_true, if_false]
    simp only [two48] at *
    omega

theorem state_insert (c : Ctx) (ssrc : Nat) (s : SsrcState) (k : Nat) :
    ({ c with rtp := insert c.rtp ssrc s } : Ctx).state k = if ssrc = k then s else c.state k := by
  simp only [Ctx.state, lookup_insert]
  split <;> rfl

theorem state_insert_eq (c : Ctx) (ssrc : Nat) (s : SsrcState) :
    ({ c with rtp := insert c.rtp ssrc s } : Ctx).state ssrc = s :=
  (state_insert c ssrc s ssrc).trans (if_pos rfl)

theorem roc_eq_state (c : Ctx) (ssrc : Nat) : c.roc ssrc = (c.state ssrc).roc := by
  unfold Ctx.roc Ctx.state
  cases lookup c.rtp ssrc <;> simp [SsrcState.roc]

theorem roc_lt (c : Ctx) (s : Nat) : c.roc s < 2 ^ 32 := by
  unfold Ctx.roc
  cases lookup c.rtp s with
  | none => simp
  | some st => simp only [SsrcState.roc, two32]; omega

theorem encrypt_fits {W WC} (ci : Cipher W WC) (c : Ctx) (ssrc j : Nat) (p : Rtsp.Mikey.Bytes)
    (h : Fits (c.state ssrc) j) :
    ∃ c', c.encryptRTP ci ssrc (j % 65536) p = some (c', ci.E c.key c.mki ssrc (j / 65536) (j % 65536) p) ∧
      c'.key = c.key ∧ c'.mki = c.mki ∧ c'.ssrcs = c.ssrcs ∧ c'.state ssrc = advance (c.state ssrc) j := by
  obtain ⟨d, h1, h2⟩ := fits_nextRoc _ _ h
  refine ⟨{ c with rtp := insert c.rtp ssrc (advance (c.state ssrc) j) }, ?_, rfl, rfl, rfl, state_insert_eq _ _ _⟩
  simp [Ctx.encryptRTP, h1, h2]

theorem decrypt_fits {W WC} (ci : Cipher W WC)
    (hDE : ∀ k m s r q p, ci.D k m s r q (ci.E k m s r q p) = some p)
    (c : Ctx) (ssrc j : Nat) (p : Rtsp.Mikey.Bytes) (h : Fits (c.state ssrc) j) :
    ∃ c', c.decryptRTP ci ssrc (j % 65536) (ci.E c.key c.mki ssrc (j / 65536) (j % 65536) p) = some (c', p) ∧
      c'.key = c.key ∧ c'.mki = c.mki ∧ c'.state ssrc = advance (c.state ssrc) j := by
  obtain ⟨d, h1, h2⟩ := fits_nextRoc _ _ h
  refine ⟨{ c with rtp := insert c.rtp ssrc (advance (c.state ssrc) j) }, ?_, rfl, rfl, state_insert_eq _ _ _⟩
  simp [Ctx.decryptRTP, h1, h2, hDE]

theorem decryptRTP_some {W WC} (ci : Cipher W WC) {c c' : Ctx} {ssrc seq : Nat} {w : W} {p : Bytes}
    (h : c.decryptRTP ci ssrc seq w = some (c', p)) :
    ∃ roc, ci.D c.key c.mki ssrc roc seq w = some p ∧ c'.key = c.key ∧ c'.mki = c.mki := by
  unfold Ctx.decryptRTP at h
  simp only at h
  split at h
  · cases h
  · rename_i p' hp
    cases h
    exact ⟨_, hp, rfl, rfl⟩

theorem decrypt_sound {W WC} (ci : Cipher W WC)
    (hD : ∀ k m s r q y p, ci.D k m s r q y = some p → y = ci.E k m s r q p)
    (c c' : Ctx) (ssrc seq : Nat) (w : W) (p : Rtsp.Mikey.Bytes)
    (h : c.decryptRTP ci ssrc seq w = some (c', p)) :
    ∃ roc, w = ci.E c.key c.mki ssrc roc seq p := by
  obtain ⟨roc, hd, _⟩ := decryptRTP_some ci h
  exact ⟨roc, hD _ _ _ _ _ _ _ hd⟩

/-- a packet that is no `E` image under the context's key and MKI is not decrypted -/
theorem decrypt_rejects {W WC} (ci : Cipher W WC)
    (hD : ∀ k m s r q y p, ci.D k m s r q y = some p → y = ci.E k m s r q p)
    (c : Ctx) (ssrc seq : Nat) (w : W)
    (hw : ∀ roc p, w ≠ ci.E c.key c.mki ssrc roc seq p) :
    c.decryptRTP ci ssrc seq w = none := by
  cases h : c.decryptRTP ci ssrc seq w with
  | none => rfl
  | some r =>
    obtain ⟨c', p⟩ := r
    obtain ⟨roc, e⟩ := decrypt_sound ci hD c c' ssrc seq w p h
    exact absurd e (hw roc p)

end Rtsp.Sec
