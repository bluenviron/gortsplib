/-
What the proofs about every state machine of the model use.  Following an `if`-tree as a term: `split` traverses the
whole goal, so on the nested `if … else if …` chains of the models each `split` costs about twice the next;
core's `iteInduction` keeps the large state term an opaque argument of the motive.  An invariant of the step along a history.
`filterMap` of two functions that agree on the list (the buffers of the ring and of the receiver are read this way).
A list without repetition stays one when a new element is appended (tables of connections, channels, keys).
-/
namespace Rtsp

theorem ite_both {α : Sort _} {P : α → Prop} {c : Prop} [Decidable c] {a b : α} (ha : P a) (hb : P b) :
    P (if c then a else b) :=
  iteInduction (fun _ => ha) (fun _ => hb)

theorem foldl_inv {σ α : Type} {P : σ → Prop} (f : σ → α → σ) (hf : ∀ s a, P s → P (f s a)) :
    ∀ (l : List α) (s : σ), P s → P (l.foldl f s)
  | [], _, h => h
  | a :: l, s, h => foldl_inv f hf l _ (hf s a h)

theorem filterMap_congr' {α β : Type _} {f g : α → Option β} {l : List α} (h : ∀ x ∈ l, f x = g x) :
    l.filterMap f = l.filterMap g := by
  induction l with
  | nil => rfl
  | cons a l ih =>
    rw [List.filterMap_cons, List.filterMap_cons, h a (List.mem_cons_self ..),
      ih fun x hx => h x (List.mem_cons_of_mem _ hx)]

theorem nodup_snoc {α : Type _} {l : List α} {a : α} (h : l.Nodup) (ha : a ∉ l) : (l ++ [a]).Nodup :=
  List.nodup_append.mpr ⟨h, List.pairwise_singleton _ a, fun _ hx _ hy e => ha (List.mem_singleton.mp hy ▸ e ▸ hx)⟩

end Rtsp
