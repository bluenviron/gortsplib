import Rtsp.Proofs.Common.Steps
/-
Tables as the server models keep them: a list of records with a key projection (`Conn.id`, `Session.id`), looked up
with `find? (key · == k)`, rewritten at a key with `map fun x => if key x == key a then a else x`, pruned with
`filter`, extended with `++ [a]`.  What a lookup sees after each of these, and what they do to membership and to
the list of keys.  Stated over the list and `key`, into any type with a lawful `==`, so that `findSession (putSession srv s) k`
etc. are instances by unfolding the two model functions, and the key / value pairs of a parsed header one with `key := Prod.fst`.
-/
namespace Rtsp.Keyed

variable {α κ : Type} (key : α → κ) {l : List α} {a b x : α} {k : κ}

theorem map_key_map (l : List α) {f : α → α} (hkey : ∀ x, key (f x) = key x) : (l.map f).map key = l.map key := by
  rw [List.map_map]; exact List.map_congr_left fun x _ => hkey x

theorem eq_of_nodup (hn : (l.map key).Nodup) (ha : a ∈ l) (hb : b ∈ l) (e : key a = key b) : a = b := by
  induction l with
  | nil => cases ha
  | cons x xs ih =>
    simp only [List.map_cons, List.nodup_cons, List.mem_map, not_exists, not_and] at hn
    rcases List.mem_cons.mp ha with rfl | ha' <;> rcases List.mem_cons.mp hb with rfl | hb'
    · rfl
    · exact absurd e.symm (hn.1 b hb')
    · exact absurd e (hn.1 a ha')
    · exact ih hn.2 ha' hb'

theorem nodup_filter (p : α → Bool) (hn : (l.map key).Nodup) : ((l.filter p).map key).Nodup :=
  hn.sublist (List.filter_sublist.map key)

theorem nodup_snoc (hn : (l.map key).Nodup) (ha : ∀ x ∈ l, key x ≠ key a) : ((l ++ [a]).map key).Nodup := by
  rw [List.map_append]
  exact _root_.Rtsp.nodup_snoc hn fun h => (List.mem_map.mp h).elim fun x hx => ha x hx.1 hx.2

variable [BEq κ] [LawfulBEq κ]

theorem find?_some (h : l.find? (key · == k) = some a) : a ∈ l ∧ key a = k :=
  ⟨List.mem_of_find?_eq_some h, by simpa using List.find?_some h⟩

theorem find?_none : l.find? (key · == k) = none ↔ ∀ a ∈ l, key a ≠ k := by
  simp [List.find?_eq_none]

omit [LawfulBEq κ] in
theorem find?_map (l : List α) (k : κ) {f : α → α} (hkey : ∀ x, key (f x) = key x) :
    (l.map f).find? (key · == k) = (l.find? (key · == k)).map f := by
  rw [List.find?_map]
  exact congrArg (fun p => Option.map f (List.find? p l)) (funext fun a => by simp only [Function.comp, hkey])

theorem find?_map_fix (l : List α) {f : α → α} (hkey : ∀ x, key (f x) = key x) (hfix : ∀ x, key x = k → f x = x) :
    (l.map f).find? (key · == k) = l.find? (key · == k) := by
  rw [find?_map key l k hkey]
  cases h : l.find? (key · == k) with
  | none => rfl
  | some a => exact congrArg some (hfix a (find?_some key h).2)

theorem find?_filter (l : List α) {q : α → Bool} (b : Bool) (hq : ∀ x, key x = k → q x = b) :
    (l.filter q).find? (key · == k) = if b then l.find? (key · == k) else none := by
  rw [List.find?_filter]
  cases b
  · exact List.find?_eq_none.2 fun a _ => by by_cases hk : key a = k <;> simp [hk, hq]
  · exact congrArg (fun p => List.find? p l) (funext fun a => by by_cases hk : key a = k <;> simp [hk, hq])

theorem find?_snoc [DecidableEq κ] (l : List α) (y : α) (k : κ) :
    (l ++ [y]).find? (key · == k) = (l.find? (key · == k)).or (if key y = k then some y else none) := by
  rw [List.find?_append]
  by_cases e : key y = k <;> simp [e]

theorem find?_snoc_ne [DecidableEq κ] (l : List α) {y : α} (h : key y ≠ k) : (l ++ [y]).find? (key · == k) = l.find? (key · == k) := by
  rw [find?_snoc, if_neg h, Option.or_none]

theorem find?_snoc_some [DecidableEq κ] {y : α} (h : (l ++ [y]).find? (key · == k) = some a) :
    l.find? (key · == k) = some a ∨ (a = y ∧ key y = k) := by
  rw [find?_snoc] at h
  cases ho : l.find? (key · == k) with
  | some o => rw [ho] at h; exact .inl h
  | none =>
    rw [ho, Option.none_or] at h
    split at h
    · next e => exact .inr ⟨(Option.some.inj h).symm, e⟩
    · cases h

theorem key_replace (a x : α) : key (if key x == key a then a else x) = key x :=
  iteInduction (motive := fun y => key y = key x) (fun h => (beq_iff_eq.mp h).symm) fun _ => rfl

theorem find?_of_mem (hn : (l.map key).Nodup) (ha : a ∈ l) : l.find? (key · == key a) = some a := by
  cases h : l.find? (key · == key a) with
  | none => exact absurd rfl ((find?_none key).mp h a ha)
  | some b => rw [eq_of_nodup key hn (find?_some key h).1 ha (find?_some key h).2]

theorem mem_replace (hx : x ∈ l.map fun y => if key y == key a then a else y) : x = a ∨ (x ∈ l ∧ key x ≠ key a) := by
  obtain ⟨y, hy, e⟩ := List.mem_map.mp hx
  by_cases hya : key y = key a
  · rw [if_pos (beq_iff_eq.mpr hya)] at e; exact .inl e.symm
  · rw [if_neg fun h => hya (beq_iff_eq.mp h)] at e; exact .inr (e ▸ ⟨hy, hya⟩)

theorem mem_replace_new {a0 : α} (h0 : a0 ∈ l) (hk : key a = key a0) :
    a ∈ l.map fun y => if key y == key a then a else y :=
  List.mem_map.mpr ⟨a0, h0, if_pos (beq_iff_eq.mpr hk.symm)⟩

theorem mem_replace_old (hx : x ∈ l) (hne : key x ≠ key a) : x ∈ l.map fun y => if key y == key a then a else y :=
  List.mem_map.mpr ⟨x, hx, if_neg fun e => hne (beq_iff_eq.mp e)⟩

theorem forall_replace {P : α → Prop} (h : ∀ x ∈ l, P x) (ha : P a) :
    ∀ x ∈ l.map fun y => if key y == key a then a else y, P x := fun _ hx =>
  (mem_replace key hx).elim (fun e => e ▸ ha) fun e => h _ e.1

theorem filter_ne_map (l : List α) {f : α → α} {c : κ} (hkey : ∀ x, key (f x) = key x)
    (hfix : ∀ x, key x ≠ c → f x = x) : (l.map f).filter (key · != c) = l.filter (key · != c) := by
  induction l with
  | nil => rfl
  | cons x xs ih =>
    rw [List.map_cons, List.filter_cons, List.filter_cons, ih, hkey]
    by_cases h : key x = c
    · rw [if_neg (by simp [h]), if_neg (by simp [h])]
    · rw [if_pos (by simpa using h), if_pos (by simpa using h), hfix x h]

theorem lookup_filter_ne {κ β : Type} [BEq κ] [LawfulBEq κ] (l : List (κ × β)) {k k' : κ} (h : k' ≠ k) :
    (l.filter (fun e => e.1 != k)).lookup k' = l.lookup k' := by
  induction l with
  | nil => rfl
  | cons e t ih =>
    by_cases he : e.1 = k
    · rw [List.filter_cons, if_neg (by simp [he]), ih, List.lookup_cons, he, beq_false_of_ne h]
    · rw [List.filter_cons, if_pos (by simpa using he), List.lookup_cons, List.lookup_cons, ih]

end Rtsp.Keyed
