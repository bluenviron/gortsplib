/-
A run function given by its two equations: `run` feeds a list of inputs to `step`, one after the other, and collects
the answers.  The decoders' `runDec`, the receiver's `run` / `exec` (`exec`: `Proofs/Receiver/Invariant`), the ring's
and the FIFO's `run`, `TimeDec.run` are instances (both equations hold by `rfl`); what holds of every such iteration is
proved here once.
A run that is a `foldl` of the step has `foldl_inv` (`Proofs/Common/Steps`); one in which a step may be
refused and emits at most one event has `IsRun` (`Proofs/Life/System`).
-/
namespace Rtsp

structure Runs {σ α β : Type} (step : σ → α → σ × β) (run : σ → List α → σ × List β) : Prop where
  nil : ∀ s, run s [] = (s, [])
  cons : ∀ s a as, run s (a :: as) = ((run (step s a).1 as).1, (step s a).2 :: (run (step s a).1 as).2)

namespace Runs
variable {σ α β : Type} {step : σ → α → σ × β} {run : σ → List α → σ × List β}

theorem append (h : Runs step run) (s : σ) (as bs : List α) :
    run s (as ++ bs) = ((run (run s as).1 bs).1, (run s as).2 ++ (run (run s as).1 bs).2) := by
  induction as generalizing s with
  | nil => rw [List.nil_append, h.nil]; rfl
  | cons a as ih => rw [List.cons_append, h.cons, ih, h.cons]; rfl

theorem snoc (h : Runs step run) (s : σ) (as : List α) (a : α) :
    run s (as ++ [a]) = ((step (run s as).1 a).1, (run s as).2 ++ [(step (run s as).1 a).2]) := by
  rw [h.append, h.cons, h.nil]

theorem length (h : Runs step run) (s : σ) (as : List α) : (run s as).2.length = as.length := by
  induction as generalizing s with
  | nil => rw [h.nil]; rfl
  | cons a as ih => rw [h.cons, List.length_cons, ih, List.length_cons]

theorem inv (h : Runs step run) {I : σ → Prop} {Q : α → Prop} (hs : ∀ s a, I s → Q a → I (step s a).1)
    (s : σ) (as : List α) (hi : I s) (hq : ∀ a ∈ as, Q a) : I (run s as).1 := by
  induction as generalizing s with
  | nil => rw [h.nil]; exact hi
  | cons a as ih =>
    rw [h.cons]
    exact ih _ (hs s a hi (hq a List.mem_cons_self)) fun b hb => hq b (List.mem_cons_of_mem _ hb)

end Runs
end Rtsp
