/-
Bit fields as arithmetic.  On `Nat`, an `|||` of a multiple of `2^k` and a number below `2^k` is their
sum.  On a `UInt8`, read through `toNat`, a right shift is a division, a low mask a remainder and a
left shift followed by `|||` with a smaller field a sum.  Core Lean only.
-/
namespace Rtsp.Bits

theorem mul_two_pow_or {a b k : Nat} (hb : b < 2 ^ k) : a * 2 ^ k ||| b = a * 2 ^ k + b := by
  rw [← Nat.shiftLeft_eq, ← Nat.shiftLeft_add_eq_or_of_lt hb]

/-- core's `UInt8.toNat_ofNat_of_lt'` with the bound written `256`: `omega` does not see through `UInt8.size` -/
theorem toNat_ofNat_lt {n : Nat} (h : n < 256) : (UInt8.ofNat n).toNat = n :=
  UInt8.toNat_ofNat_of_lt' h

theorem be16_toNat {n : Nat} (h : n < 65536) : (UInt8.ofNat (n / 256)).toNat * 256 + (UInt8.ofNat n).toNat = n := by
  simp only [UInt8.toNat_ofNat']
  omega

theorem toNat_shr (x s : UInt8) (k : Nat) (hs : s.toNat = k) (hk : k < 8) :
    (x >>> s).toNat = x.toNat / 2 ^ k := by
  rw [UInt8.toNat_shiftRight, hs, Nat.mod_eq_of_lt hk, Nat.shiftRight_eq_div_pow]

theorem toNat_mask (x m : UInt8) (k : Nat) (hm : m.toNat = 2 ^ k - 1) :
    (x &&& m).toNat = x.toNat % 2 ^ k := by
  rw [UInt8.toNat_and, hm, Nat.and_two_pow_sub_one_eq_mod]

theorem toNat_nibbles (b : UInt8) : (b >>> 4).toNat = b.toNat / 16 ∧ (b &&& 15).toNat = b.toNat % 16 :=
  ⟨toNat_shr b 4 4 rfl (by decide), toNat_mask b 15 4 rfl⟩

theorem toNat_bit (x b : UInt8) (k : Nat) (hb : b.toNat = 2 ^ k) :
    (x &&& b).toNat / 2 ^ k = x.toNat / 2 ^ k % 2 := by
  rw [UInt8.toNat_and, hb, Nat.and_div_two_pow, Nat.div_self (Nat.two_pow_pos k), Nat.and_one_is_mod]

theorem toNat_shl_or (a b s : UInt8) (k : Nat) (hs : s.toNat = k) (hk : k < 8)
    (ha : a.toNat * 2 ^ k < 256) (hb : b.toNat < 2 ^ k) :
    (a <<< s ||| b).toNat = a.toNat * 2 ^ k + b.toNat := by
  rw [UInt8.toNat_or, UInt8.toNat_shiftLeft, hs, Nat.mod_eq_of_lt hk, Nat.shiftLeft_eq,
    Nat.mod_eq_of_lt ha, mul_two_pow_or hb]

theorem shl_or_read (a b s m : UInt8) (k : Nat) (hs : s.toNat = k) (hk : k < 8) (hm : m.toNat = 2 ^ k - 1)
    (ha : a.toNat * 2 ^ k < 256) (hb : b.toNat < 2 ^ k) :
    (a <<< s ||| b) >>> s = a ∧ (a <<< s ||| b) &&& m = b := by
  have h := toNat_shl_or a b s k hs hk ha hb
  constructor
  · apply UInt8.toNat_inj.mp
    rw [toNat_shr _ _ k hs hk, h, Nat.add_comm, Nat.add_mul_div_right _ _ (Nat.two_pow_pos k),
      Nat.div_eq_of_lt hb, Nat.zero_add]
  · apply UInt8.toNat_inj.mp
    rw [toNat_mask _ _ k hm, h, Nat.mul_add_mod_of_lt hb]

theorem shr_shl_or_mask (x s m : UInt8) (k : Nat) (hs : s.toNat = k) (hk : k < 8) (hm : m.toNat = 2 ^ k - 1) :
    (x >>> s) <<< s ||| (x &&& m) = x := by
  apply UInt8.toNat_inj.mp
  rw [toNat_shl_or _ _ s k hs hk, toNat_shr _ _ k hs hk, toNat_mask _ _ k hm, Nat.div_add_mod']
  · rw [toNat_shr _ _ k hs hk]
    exact Nat.lt_of_le_of_lt (Nat.div_mul_le_self ..) (UInt8.toNat_lt x)
  · rw [toNat_mask _ _ k hm]
    exact Nat.mod_lt _ (Nat.two_pow_pos k)

end Rtsp.Bits
