/-
Reading Lean's fixed-width integer operations (the target of the Go -> Lean translator go/cmd/g2l)
as operations on Int / Nat: an `Int64` operation is the `Int` one when the result is in range;
`Int64.ofNat` commutes with the operations (core: `Int64.ofNat_add`, `_mul` always, `_sub` when the subtrahend is
not larger, `Int64.ofNat_div`, `_mod`, `Int64.ofNat_lt_iff_lt` below 2^63), here the readings of `-` and `/`
through it and `=`; a comparison of two values is the comparison of their readings; the wrapped difference of
two unsigned values read as signed is a balanced residue.  For the bridge theorems (Props/Bridge/*) and
`TimeDec.sdelta`.  Core Lean only.
-/
namespace Rtsp.FixedWidth

/-- the value range of a Go `int64` / `int` -/
def InRange64 (x : Int) : Prop := -(2 ^ 63) ≤ x ∧ x < 2 ^ 63

theorem bmod64_of_inRange {x : Int} (h : InRange64 x) : x.bmod (2 ^ 64) = x :=
  Int.bmod_eq_of_le h.1 h.2

theorem inRange_toInt (a : Int64) : InRange64 a.toInt :=
  ⟨Int64.le_toInt a, Int64.toInt_lt a⟩

theorem inRange_of_nonneg {x : Int} (h0 : 0 ≤ x) (h : x < 2 ^ 63) : InRange64 x :=
  ⟨Int.le_trans (by decide) h0, h⟩

theorem toInt_sub_of_inRange (a b : Int64) (h : InRange64 (a.toInt - b.toInt)) :
    (a - b).toInt = a.toInt - b.toInt := by
  rw [Int64.toInt_sub, bmod64_of_inRange h]

theorem toInt_mul_of_inRange (a b : Int64) (h : InRange64 (a.toInt * b.toInt)) :
    (a * b).toInt = a.toInt * b.toInt := by
  rw [Int64.toInt_mul, bmod64_of_inRange h]

theorem toInt_div_of_inRange (a b : Int64) (h : InRange64 (a.toInt.tdiv b.toInt)) :
    (a / b).toInt = a.toInt.tdiv b.toInt := by
  rw [Int64.toInt_div, bmod64_of_inRange h]

/-- the literal `1` is not syntactically an `Int64.ofNat` -/
theorem succ_ofNat (a : Nat) : Int64.ofNat a + 1 = Int64.ofNat (a + 1) :=
  (Int64.ofNat_add a 1).symm

/-- Go `a - c` on `int` for a literal `c` (`hc` by `rfl`), `k ≤ a`: the truncated subtraction of the models -/
theorem toInt_ofNat_sub (a k : Nat) (c : Int64) (ha : a < 2 ^ 63) (hc : c = Int64.ofNat k) (hk : k ≤ a) :
    (Int64.ofNat a - c).toInt = ((a - k : Nat) : Int) := by
  rw [hc, ← Int64.ofNat_sub a k hk, Int64.toInt_ofNat_of_lt (Nat.lt_of_le_of_lt (Nat.sub_le a k) ha)]

theorem toInt_ofNat_div (a b : Nat) (ha : a < 2 ^ 63) (hb : b < 2 ^ 63) :
    (Int64.ofNat a / Int64.ofNat b).toInt = ((a / b : Nat) : Int) := by
  rw [← Int64.ofNat_div ha hb, Int64.toInt_ofNat_of_lt (Nat.lt_of_le_of_lt (Nat.div_le_self a b) ha)]

theorem ofNat_inj {a b : Nat} (ha : a < 2 ^ 63) (hb : b < 2 ^ 63) : Int64.ofNat a = Int64.ofNat b ↔ a = b := by
  rw [← Int64.toInt_inj, Int64.toInt_ofNat_of_lt ha, Int64.toInt_ofNat_of_lt hb, Int.natCast_inj]

theorem beq_of_inj {α β : Type} [DecidableEq α] [DecidableEq β] {f : α → β}
    (hf : ∀ {a b : α}, f a = f b ↔ a = b) (a b : α) : (a == b) = (f a == f b) := by
  rw [Bool.eq_iff_iff, beq_iff_eq, beq_iff_eq, hf]

theorem eq_ofNat (a b : Nat) (ha : a < 2 ^ 63) (hb : b < 2 ^ 63) :
    (Int64.ofNat a == Int64.ofNat b) = (a == b) := by
  rw [Bool.eq_iff_iff, beq_iff_eq, beq_iff_eq, ofNat_inj ha hb]

/-- Go: `int32(a - b)` on `uint32`, `int64(a - b)` on `uint64` -/
theorem toInt_sub_toNat {w : Nat} (x y : BitVec w) :
    (x - y).toInt = ((x.toNat : Int) - y.toNat).bmod (2 ^ w) := by
  rw [BitVec.toInt_sub, BitVec.toInt_eq_toNat_bmod, BitVec.toInt_eq_toNat_bmod,
    Int.sub_bmod_bmod, Int.bmod_sub_bmod]

theorem toInt_sub_as_i64 (a b : UInt64) (h : InRange64 ((a.toNat : Int) - b.toNat)) :
    (a - b).toInt64.toInt = (a.toNat : Int) - b.toNat :=
  (toInt_sub_toNat a.toBitVec b.toBitVec).trans (bmod64_of_inRange h)

theorem toNat_toUInt64_of_nonneg (x : Int64) (h : 0 ≤ x.toInt) : x.toUInt64.toNat = x.toInt.toNat :=
  Int64.toNat_toUInt64_of_le (Int64.le_iff_toInt_le.mpr h)

theorem toNat_min64 (a b : UInt64) : (min a b).toNat = min a.toNat b.toNat := by
  rw [Nat.min_def]
  exact apply_ite UInt64.toNat (a ≤ b) a b

theorem toInt_u16_as_i32 (x : UInt16) : (x.toUInt32.toInt32).toInt = (x.toNat : Int) := by
  have hs := x.toNat_lt
  rw [← UInt16.toNat_toUInt32] at hs ⊢
  exact BitVec.toInt_eq_toNat_of_lt (x := x.toUInt32.toBitVec) (show 2 * x.toUInt32.toNat < 2 ^ 32 by omega)

theorem toInt_u64_as_i64 (x : UInt64) (h : x.toNat < 2 ^ 63) : x.toInt64.toInt = (x.toNat : Int) :=
  BitVec.toInt_eq_toNat_of_lt (x := x.toBitVec) (show 2 * x.toNat < 2 ^ 64 by omega)

end Rtsp.FixedWidth
