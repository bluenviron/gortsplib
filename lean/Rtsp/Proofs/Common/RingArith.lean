import Rtsp.Proofs.Common.Steps
/-
Index arithmetic for a ring of slots (`(base + i) % size` with a variable modulus; used by the write
queue and by the receiver's reorder buffer) and two list lemmas.  Core Lean only.
-/
namespace Rtsp.Ring

theorem idx_inj {b i j s : Nat} (hi : i < s) (hj : j < s) (h : (b + i) % s = (b + j) % s) : i = j := by
  have h1 := Nat.sub_mod_eq_zero_of_mod_eq h
  have h2 := Nat.sub_mod_eq_zero_of_mod_eq h.symm
  rw [Nat.add_sub_add_left, Nat.mod_eq_of_lt (by omega)] at h1 h2
  omega

theorem idx_succ (b i s : Nat) : ((b + 1) % s + i) % s = (b + (i + 1)) % s := by
  rw [Nat.mod_add_mod]; congr 1; omega

theorem idx_wrap (b s : Nat) : (b + s) % s = b % s := Nat.add_mod_right b s

theorem filterMap_getElem?_range (l : List α) : (List.range l.length).filterMap (fun i => l[i]?) = l := by
  induction l with
  | nil => rfl
  | cons a l ih =>
    rw [List.length_cons, List.range_succ_eq_map, List.filterMap_cons]
    simp only [List.getElem?_cons_zero, List.filterMap_map]
    congr 1

theorem filterMap_range_tail {f : Nat → Option α} {s : Nat} {items : List α} (hns : items.length ≤ s)
    (h1 : ∀ j, j < s - items.length → f j = none)
    (h2 : ∀ j, j < items.length → f (s - items.length + j) = items[j]?) :
    (List.range s).filterMap f = items := by
  have hs : s = (s - items.length) + items.length := by omega
  rw [hs, List.range_add, List.filterMap_append]
  have e1 : (List.range (s - items.length)).filterMap f = [] := by
    rw [List.filterMap_eq_nil_iff]
    intro a ha; exact h1 a (List.mem_range.mp ha)
  rw [e1, List.nil_append, List.filterMap_map]
  conv => rhs; rw [← filterMap_getElem?_range items]
  apply filterMap_congr'
  intro j hj
  have hj' := List.mem_range.mp hj
  simp only [Function.comp]
  exact h2 j hj'

end Rtsp.Ring
