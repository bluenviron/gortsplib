import Rtsp.Proofs.Auth.Kv
import Rtsp.Proofs.Text.B64Std
import Rtsp.Proofs.Common.Keyed
/-
Header text round trips:
  `Authenticate.unmarshal [a.marshal] = some a`      (realm, nonce without `"`)
  `Authorization.unmarshal [a.marshal] = some a`     (Digest: no `"` in any field;
                                                      Basic: no `:` in the user name)
Both Digest texts are `joinKv (pre ++ algKv alg)` with distinct keys; `digest_kvs` says what the
parser and the map lookups return on such a text.
-/
namespace Rtsp.Auth

theorem kvGet_of_mem {kvs : List (Bytes × Bytes)} (hnd : (kvs.map Prod.fst).Nodup) {k v : Bytes}
    (h : (k, v) ∈ kvs) : kvGet kvs k = some v := by
  rw [kvGet, Keyed.find?_of_mem Prod.fst (a := (k, v)) (by rw [List.map_reverse]; exact (List.reverse_perm _).nodup_iff.mpr hnd)
    (List.mem_reverse.mpr h)]

theorem kvGet_of_not_mem {kvs : List (Bytes × Bytes)} {k : Bytes} (h : k ∉ kvs.map Prod.fst) :
    kvGet kvs k = none := by
  unfold kvGet
  rw [List.find?_eq_none.mpr]
  intro p hp e
  exact h (eq_of_beq e ▸ List.mem_map_of_mem (f := Prod.fst) (List.mem_reverse.mp hp))

theorem algKv_keys (alg : Option Alg) : List.Sublist ((algKv alg).map Prod.fst) [b!"algorithm"] := by
  rcases alg with _ | _ | _
  · exact List.nil_sublist _
  · exact List.Sublist.refl _
  · exact List.Sublist.refl _

theorem algKv_noQuote (alg : Option Alg) : ∀ kv ∈ algKv alg, NoQuote kv.2 := by
  unfold NoQuote
  rcases alg with _ | _ | _ <;> decide

theorem digest_kvs (pre : List (Bytes × Bytes)) (alg : Option Alg)
    (hnd : (pre.map Prod.fst ++ [b!"algorithm"]).Nodup)
    (hk : ∀ k ∈ pre.map Prod.fst ++ [b!"algorithm"], KeyOk k) (hv : ∀ kv ∈ pre, NoQuote kv.2) :
    keyValParse (joinKv (pre ++ algKv alg)) cComma = some (pre ++ algKv alg) ∧
    algOf (pre ++ algKv alg) = some alg ∧
    ∀ kv ∈ pre, kvGet (pre ++ algKv alg) kv.1 = some kv.2 := by
  have hsub : List.Sublist ((pre ++ algKv alg).map Prod.fst) (pre.map Prod.fst ++ [b!"algorithm"]) := by
    rw [List.map_append]
    exact (List.Sublist.refl _).append (algKv_keys alg)
  have hnd' := hnd.sublist hsub
  refine ⟨keyValParse_joinKv _ (fun kv h => hk _ (hsub.subset (List.mem_map_of_mem h)))
    (fun kv h => (List.mem_append.mp h).elim (hv kv) (algKv_noQuote alg kv)), ?_,
    fun kv h => kvGet_of_mem hnd' (List.mem_append_left _ h)⟩
  have hpre : b!"algorithm" ∉ pre.map Prod.fst := fun h =>
    (List.nodup_append.mp hnd).2.2 _ h _ (List.mem_singleton_self _) rfl
  rcases alg with _ | _ | _
  · rw [algOf, kvGet_of_not_mem (by rwa [algKv, List.append_nil])]
  · rw [algOf, kvGet_of_mem hnd' (List.mem_append_right _ (List.mem_singleton_self _))]
    rfl
  · rw [algOf, kvGet_of_mem hnd' (List.mem_append_right _ (List.mem_singleton_self _))]
    rfl


theorem cutSpace_append (m x : Bytes) (hm : ∀ c ∈ m, c ≠ cSpace) :
    cutSpace (m ++ cSpace :: x) = some (m, x) := by
  have h := takeWhile_stop (p := fun c => c != cSpace) m cSpace x
    (fun c hc => bne_iff_ne.mpr (hm c hc)) (bne_self_eq_false _)
  rw [cutSpace, h.1, h.2]

theorem cutSpace_digest (x : Bytes) : cutSpace (b!"Digest " ++ x) = some (b!"Digest", x) :=
  cutSpace_append b!"Digest" x (by decide)

theorem cutSpace_basic (x : Bytes) : cutSpace (b!"Basic " ++ x) = some (b!"Basic", x) :=
  cutSpace_append b!"Basic" x (by decide)

/-- a challenge that `Authenticate.Marshal` writes in full and `Unmarshal` reads back: realm and
nonce without `"`, and, for Basic (where only the realm is written), no nonce and no algorithm -/
def Authenticate.Canon (a : Authenticate) : Prop :=
  NoQuote a.realm ∧ NoQuote a.nonce ∧ (a.method = .basic → a.nonce = [] ∧ a.algorithm = none)

theorem authenticate_roundtrip (a : Authenticate) (h : a.Canon) :
    Authenticate.unmarshal [a.marshal] = some a := by
  obtain ⟨hr, hn, hb⟩ := h
  obtain ⟨method, realm, nonce, algorithm⟩ := a
  cases method with
  | basic =>
    obtain ⟨rfl, rfl⟩ := hb rfl
    have hp := keyValParse_joinKv [(b!"realm", realm)]
      (List.forall_mem_singleton.mpr (show KeyOk b!"realm" by unfold KeyOk; decide))
      (List.forall_mem_singleton.mpr hr)
    have hg := kvGet_of_mem (kvs := [(b!"realm", realm)]) (List.pairwise_singleton _ _) (List.mem_singleton_self _)
    simp only [Authenticate.unmarshal, Authenticate.marshal, cutSpace_basic, if_true, hp, hg]
  | digest =>
    obtain ⟨hp, ha, hg⟩ := digest_kvs [(b!"realm", realm), (b!"nonce", nonce)] algorithm
      (by
        simp only [List.map_cons, List.map_nil]
        decide)
      (by
        simp only [List.map_cons, List.map_nil, KeyOk]
        decide)
      (List.forall_mem_cons.mpr ⟨hr, List.forall_mem_singleton.mpr hn⟩)
    have hne : (b!"Digest" = b!"Basic") = False := by decide
    simp only [Authenticate.unmarshal, Authenticate.marshal, cutSpace_digest, hne, if_false, if_true, hp, ha,
      hg (_, realm) (List.mem_cons_self ..), hg (_, nonce) (List.mem_cons_of_mem _ (List.mem_singleton_self _))]


theorem authorization_digest_roundtrip (a : Authorization) (hm : a.method = .digest)
    (hp : a.basicPass = [])
    (hq : NoQuote a.username ∧ NoQuote a.realm ∧ NoQuote a.nonce ∧ NoQuote a.uri ∧ NoQuote a.response) :
    Authorization.unmarshal [a.marshal] = some a := by
  obtain ⟨method, username, basicPass, realm, nonce, uri, response, algorithm⟩ := a
  subst hm hp
  obtain ⟨hparse, ha, hg⟩ := digest_kvs
    [(b!"username", username), (b!"realm", realm), (b!"nonce", nonce), (b!"uri", uri), (b!"response", response)]
    algorithm
    (by
      simp only [List.map_cons, List.map_nil]
      decide)
    (by
      simp only [List.map_cons, List.map_nil, KeyOk]
      decide)
    (by simpa only [List.forall_mem_cons, List.not_mem_nil, false_imp_iff, implies_true, and_true] using hq)
  simp only [List.forall_mem_cons, List.not_mem_nil, false_imp_iff, implies_true, and_true] at hg
  obtain ⟨g1, g2, g3, g4, g5⟩ := hg
  have hne : (b!"Digest" = b!"Basic") = False := by decide
  simp only [Authorization.unmarshal, Authorization.marshal, cutSpace_digest, hne, if_false, if_true, hparse, ha,
    g1, g2, g3, g4, g5]

theorem splitUserPass_join (u p : Bytes) (hu : ∀ c ∈ u, c ≠ cColon) :
    splitUserPass (u ++ [cColon] ++ p) = some (u, p) := by
  have h := takeWhile_stop (p := fun c => c != cColon) u cColon p
    (fun c hc => bne_iff_ne.mpr (hu c hc)) (bne_self_eq_false _)
  rw [List.append_assoc, List.singleton_append, splitUserPass, h.1, h.2]

theorem authorization_basic_roundtrip (u p : Bytes) (hu : ∀ c ∈ u, c ≠ cColon) :
    Authorization.unmarshal [({ method := .basic, username := u, basicPass := p } : Authorization).marshal]
      = some { method := .basic, username := u, basicPass := p } := by
  simp only [Authorization.unmarshal, Authorization.marshal, cutSpace_basic, if_true,
    B64Std.decode_encode, splitUserPass_join u p hu]

end Rtsp.Auth
