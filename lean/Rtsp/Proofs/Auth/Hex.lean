import Rtsp.Proofs.Auth.Kv
import Rtsp.Proofs.Common.Bits
import Rtsp.Model.Hex
import Rtsp.Model.Md5
import Rtsp.Model.Sha256
/-
Lower-case hex text (`Model/Hex`, Go `encoding/hex`): every character is one of the sixteen digits
(so none is `"` or `:`), the digits determine the bytes, and the MD5 / SHA-256 hex digests have
32 / 64 characters.
-/
namespace Rtsp.Auth

def hexDigitVal (c : UInt8) : UInt8 := if c < 58 then c - 48 else c - 87

theorem hex_digit {d : UInt8} (h : d.toNat < 16) :
    Hex.digit d ≠ cQuote ∧ Hex.digit d ≠ cColon ∧ hexDigitVal (Hex.digit d) = d := by
  have := (by decide : ∀ d : Fin 16, Hex.digit (UInt8.ofNat d) ≠ cQuote ∧
    Hex.digit (UInt8.ofNat d) ≠ cColon ∧ hexDigitVal (Hex.digit (UInt8.ofNat d)) = UInt8.ofNat d) ⟨d.toNat, h⟩
  rwa [UInt8.ofNat_toNat] at this

theorem mem_hex_encode {bs : List UInt8} {c : UInt8} (h : c ∈ Hex.encode bs) :
    ∃ d : UInt8, d.toNat < 16 ∧ c = Hex.digit d := by
  induction bs with
  | nil => cases h
  | cons b bs ih =>
    obtain ⟨hi, lo⟩ := Bits.toNat_nibbles b
    have := b.toNat_lt
    rw [Hex.encode, List.mem_cons, List.mem_cons] at h
    rcases h with rfl | rfl | h
    · exact ⟨_, by omega, rfl⟩
    · exact ⟨_, by omega, rfl⟩
    · exact ih h

theorem hex_noQuote (bs : List UInt8) : NoQuote (Hex.encode bs) := by
  intro c hc
  obtain ⟨d, hd, rfl⟩ := mem_hex_encode hc
  exact (hex_digit hd).1

theorem hex_noColon (bs : List UInt8) : ∀ c ∈ Hex.encode bs, c ≠ cColon := by
  intro c hc
  obtain ⟨d, hd, rfl⟩ := mem_hex_encode hc
  exact (hex_digit hd).2.1

theorem hex_encode_injective : ∀ x y : Bytes, Hex.encode x = Hex.encode y → x = y := by
  intro x
  induction x with
  | nil =>
    intro y h
    cases y with
    | nil => rfl
    | cons b bs => cases h
  | cons a as ih =>
    intro y h
    cases y with
    | nil => cases h
    | cons b bs =>
      rw [Hex.encode, Hex.encode, List.cons.injEq, List.cons.injEq] at h
      obtain ⟨h1, h2, h3⟩ := h
      obtain ⟨ahi, alo⟩ := Bits.toNat_nibbles a
      obtain ⟨bhi, blo⟩ := Bits.toNat_nibbles b
      have := a.toNat_lt
      have := b.toNat_lt
      -- equal digits are equal nibbles (read back by `hexDigitVal`), and the nibbles make the byte
      have e1 := congrArg hexDigitVal h1
      have e2 := congrArg hexDigitVal h2
      rw [(hex_digit (by omega)).2.2, (hex_digit (by omega)).2.2] at e1 e2
      have : a = b := UInt8.toNat_inj.mp (by
        have := congrArg UInt8.toNat e1
        have := congrArg UInt8.toNat e2
        omega)
      rw [this, ih bs h3]

theorem md5_hex_length (x : Bytes) : (Rtsp.Md5.hex x).length = 32 := by
  simp only [Md5.hex, Hex.length_encode, Md5.sum, Md5.leBytes, List.length_append, List.length_cons,
    List.length_nil]

theorem sha256_hex_length (x : Bytes) : (Rtsp.Sha256.hex x).length = 64 := by
  simp only [Sha256.hex, Hex.length_encode, Sha256.sum, Sha256.beBytes, List.length_append,
    List.length_cons, List.length_nil]

end Rtsp.Auth
