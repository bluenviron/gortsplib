import Rtsp.Proofs.Auth.Kv
/-
`trackBase`, the model of the control-attribute pattern `^(.+/)trackID=[0-9]+$` of pkg/auth (it runs
on the reversed text), returns `p` exactly when the text is `p ++ "trackID=" ++ digits` with `p` ending
in `/`, at least two bytes long and free of line feeds: `trackBase_iff`, over the predicate `TrackURL`
in which `Props/C10` states the SETUP relaxation.
-/
namespace Rtsp.Auth

/-- `s` is a track URL with base `p`: `p` ends in `/`, has at least one more character before
it and no line feed, and `s = p ++ "trackID=" ++ digits` (at least one digit).  This is the
regular expression `^(.+/)trackID=[0-9]+$` with `p` its capture group. -/
def TrackURL (s p : Bytes) : Prop :=
  ∃ ds, s = p ++ b!"trackID=" ++ ds ∧ ds ≠ [] ∧ (∀ d ∈ ds, isDigit d = true) ∧
    p.getLast? = some cSlash ∧ 2 ≤ p.length ∧ cLF ∉ p

/-- the side conditions of the pattern on its capture group, as `trackBase` tests them on the
reversed text -/
theorem base_ok_iff (p : Bytes) :
    (match p.reverse with
      | c :: q => if c = cSlash ∧ !q.isEmpty ∧ !p.reverse.contains cLF then some p else none
      | [] => none) = some p ↔ p.getLast? = some cSlash ∧ 2 ≤ p.length ∧ cLF ∉ p := by
  rw [← List.length_reverse, ← List.mem_reverse (as := p), List.getLast?_eq_head?_reverse]
  generalize p.reverse = r
  rcases r with _ | ⟨c, _ | ⟨d, q⟩⟩ <;> simp

theorem trackBase_trackURL (p ds : Bytes) (hne : ds ≠ []) (hd : ∀ d ∈ ds, isDigit d = true) :
    trackBase (p ++ b!"trackID=" ++ ds) =
      match p.reverse with
      | c :: q => if c = cSlash ∧ !q.isEmpty ∧ !p.reverse.contains cLF then some p else none
      | [] => none := by
  -- reversed, the text is the digits, then `=` (not a digit) and the rest of `trackID=` backwards
  have hrev : (p ++ b!"trackID=" ++ ds).reverse = ds.reverse ++ 61 :: (b!"DIkcart" ++ p.reverse) := by
    rw [List.reverse_append, List.reverse_append]
    rfl
  have htd := takeWhile_stop (p := isDigit) ds.reverse 61 (b!"DIkcart" ++ p.reverse)
    (fun d h => hd d (List.mem_reverse.mp h)) (by decide)
  have hne' : ds.reverse.isEmpty = false := by simpa using hne
  have hpre : (b!"=DIkcart").isPrefixOf (61 :: (b!"DIkcart" ++ p.reverse)) = true :=
    List.isPrefixOf_iff_prefix.mpr (List.prefix_append b!"=DIkcart" p.reverse)
  have hdrop : (61 :: (b!"DIkcart" ++ p.reverse)).drop 8 = p.reverse :=
    List.drop_left' (l₁ := b!"=DIkcart") rfl
  unfold trackBase
  simp only [hrev, htd.1, htd.2, hne', hpre, hdrop, if_true, Bool.false_eq_true, if_false,
    List.reverse_reverse]
  rfl

theorem trackBase_decomp (s p : Bytes) (h : trackBase s = some p) :
    ∃ ds, ds ≠ [] ∧ (∀ d ∈ ds, isDigit d = true) ∧ s = p ++ b!"trackID=" ++ ds := by
  simp only [trackBase] at h
  split at h
  · cases h
  · rename_i hne
    split at h
    · rename_i hpre
      obtain ⟨t, ht⟩ := List.isPrefixOf_iff_prefix.mp hpre
      have hdrop : (b!"=DIkcart" ++ t).drop 8 = t := List.drop_left' rfl
      rw [← ht, hdrop] at h
      refine ⟨(s.reverse.takeWhile isDigit).reverse, ?_, ?_, ?_⟩
      · intro e
        rw [List.reverse_eq_nil_iff.mp e] at hne
        exact hne rfl
      · intro d hd
        have := List.all_takeWhile (l := s.reverse) (p := isDigit)
        rw [List.all_eq_true] at this
        exact this d (List.mem_reverse.mp hd)
      · have hp : t.reverse = p := by
          split at h
          · split at h
            · exact Option.some.inj h
            · cases h
          · cases h
        have key := congrArg List.reverse (List.takeWhile_append_dropWhile (p := isDigit) (l := s.reverse))
        rw [List.reverse_reverse, List.reverse_append, ← ht, List.reverse_append, hp] at key
        exact key.symm
    · cases h

theorem trackBase_iff (s p : Bytes) : trackBase s = some p ↔ TrackURL s p := by
  constructor
  · intro h
    obtain ⟨ds, hne, hd, rfl⟩ := trackBase_decomp s p h
    rw [trackBase_trackURL p ds hne hd, base_ok_iff] at h
    exact ⟨ds, rfl, hne, hd, h⟩
  · rintro ⟨ds, rfl, hne, hd, h⟩
    rw [trackBase_trackURL p ds hne hd, base_ok_iff]
    exact h

end Rtsp.Auth
