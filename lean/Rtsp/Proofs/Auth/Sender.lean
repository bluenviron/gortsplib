import Rtsp.Proofs.Auth.RoundTrip
/-
Which challenge `Sender.Initialize` selects among those `GenerateWWWAuthenticate` issues:
SHA-256 if it is enabled, else MD5 if it is enabled, else Basic.
-/
namespace Rtsp.Auth

/-- one of the three named `VerifyMethod` values -/
def ValidMethod (m : VerifyMethod) : Prop := m = vmBasic ∨ m = vmMD5 ∨ m = vmSHA256

/-- the challenge the sender ends up with -/
def chosen (realm nonce : Bytes) (ms : List VerifyMethod) : Authenticate :=
  if vmSHA256 ∈ ms then challengeFor realm nonce vmSHA256
  else if vmMD5 ∈ ms then challengeFor realm nonce vmMD5
  else challengeFor realm nonce vmBasic

theorem vm_distinct : vmBasic ≠ vmMD5 ∧ vmBasic ≠ vmSHA256 ∧ vmMD5 ≠ vmSHA256 := by decide

theorem challengeFor_sha (realm nonce : Bytes) :
    challengeFor realm nonce vmSHA256 = { method := .digest, realm, nonce, algorithm := some .sha256 } := rfl

theorem challengeFor_md5 (realm nonce : Bytes) :
    challengeFor realm nonce vmMD5 = { method := .digest, realm, nonce, algorithm := some .md5 } := rfl

theorem challengeFor_basic (realm nonce : Bytes) :
    challengeFor realm nonce vmBasic = { method := .basic, realm } := rfl

theorem prefer_chosen (realm nonce : Bytes) (seen : List VerifyMethod) (m : VerifyMethod) (hm : ValidMethod m) :
    prefer (some (chosen realm nonce seen)) (challengeFor realm nonce m)
      = some (chosen realm nonce (seen ++ [m])) := by
  obtain ⟨d1, d2, d3⟩ := vm_distinct
  rcases hm with rfl | rfl | rfl <;> by_cases hs : vmSHA256 ∈ seen <;> by_cases h5 : vmMD5 ∈ seen <;>
    simp [chosen, prefer, hs, h5, challengeFor_sha, challengeFor_md5, challengeFor_basic,
      d1.symm, d2.symm, d3.symm]

theorem foldl_prefer_chosen (realm nonce : Bytes) (ms : List VerifyMethod) (hv : ∀ m ∈ ms, ValidMethod m)
    (seen : List VerifyMethod) :
    ms.foldl (fun cur m => prefer cur (challengeFor realm nonce m)) (some (chosen realm nonce seen))
      = some (chosen realm nonce (seen ++ ms)) := by
  induction ms generalizing seen with
  | nil => rw [List.append_nil, List.foldl_nil]
  | cons m ms ih =>
    rw [List.foldl_cons, prefer_chosen realm nonce seen m (hv m (List.mem_cons_self ..)),
      ih (fun x hx => hv x (List.mem_cons_of_mem _ hx)), List.append_assoc, List.singleton_append]

theorem challengeFor_canon (realm nonce : Bytes) (hr : NoQuote realm) (hn : NoQuote nonce) (m : VerifyMethod) :
    (challengeFor realm nonce m).Canon := by
  unfold challengeFor
  split
  · exact ⟨hr, by intro c hc; simp at hc, fun _ => ⟨rfl, rfl⟩⟩
  · split
    · exact ⟨hr, hn, by intro h; simp at h⟩
    · exact ⟨hr, hn, by intro h; simp at h⟩

theorem chosen_canon (realm nonce : Bytes) (hr : NoQuote realm) (hn : NoQuote nonce) (ms : List VerifyMethod) :
    (chosen realm nonce ms).Canon := by
  unfold chosen
  split
  · exact challengeFor_canon realm nonce hr hn _
  · split
    · exact challengeFor_canon realm nonce hr hn _
    · exact challengeFor_canon realm nonce hr hn _

theorem senderInit_generate (realm nonce : Bytes) (hr : NoQuote realm) (hn : NoQuote nonce)
    (ms : List VerifyMethod) :
    senderInit (ms.map fun m => (challengeFor realm nonce m).marshal)
      = ms.foldl (fun cur m => prefer cur (challengeFor realm nonce m)) none := by
  unfold senderInit
  rw [List.foldl_map]
  congr 1
  funext cur m
  rw [authenticate_roundtrip _ (challengeFor_canon realm nonce hr hn m)]

theorem senderInit_chosen (realm nonce : Bytes) (hr : NoQuote realm) (hn : NoQuote nonce)
    (ms : List VerifyMethod) (hv : ∀ m ∈ ms, ValidMethod m) (hne : ms ≠ []) :
    senderInit (ms.map fun m => (challengeFor realm nonce m).marshal) = some (chosen realm nonce ms) := by
  obtain ⟨m, ms, rfl⟩ := List.exists_cons_of_ne_nil hne
  -- `none` behaves like the Basic challenge `chosen realm nonce []`: `prefer` replaces both
  have h0 : prefer none (challengeFor realm nonce m)
      = prefer (some (chosen realm nonce [])) (challengeFor realm nonce m) := by
    simp [prefer, chosen, challengeFor_basic]
  rw [senderInit_generate realm nonce hr hn, List.foldl_cons, h0,
    prefer_chosen realm nonce [] m (hv m (List.mem_cons_self ..)),
    foldl_prefer_chosen realm nonce ms (fun x hx => hv x (List.mem_cons_of_mem _ hx))]
  rfl

end Rtsp.Auth
