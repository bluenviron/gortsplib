import Rtsp.Proofs.Auth.Kv
/-
The digest response is one hash `h` applied three times to texts joined by `:` —
`respWith h` = `h (h (user:realm:pass) : nonce : h (method:uri))`.  Read backwards: if two responses
agree, either the three texts agree pairwise — and, methods holding no `:`, password, method and URI
are equal — or one of the three pairs is a collision of `h` (`respWith_eq_or_named_collision`).  The
one step that depends on the hash is reading the two inner digests off the outer text (`hsplit`): it
holds for digests of a fixed length (`split_of_fixed_length`) and for digests without `:`
(`split_of_noColon`).
-/
namespace Rtsp.Auth

/-- the digest response as a function of one hash `h` -/
def respWith (h : Bytes → Bytes) (user realm pass nonce method uri : Bytes) : Bytes :=
  h (h (user ++ [cColon] ++ realm ++ [cColon] ++ pass) ++ [cColon] ++ nonce ++ [cColon] ++
     h (method ++ [cColon] ++ uri))

theorem colon_split_inj (m m' u u' : Bytes) (hm : ∀ c ∈ m, c ≠ cColon) (hm' : ∀ c ∈ m', c ≠ cColon)
    (h : m' ++ cColon :: u' = m ++ cColon :: u) : m' = m ∧ u' = u := by
  have h1 := takeWhile_stop (p := fun c => c != cColon) m cColon u
    (by intro x hx; simpa using hm x hx) (by simp)
  have h2 := takeWhile_stop (p := fun c => c != cColon) m' cColon u'
    (by intro x hx; simpa using hm' x hx) (by simp)
  have t := congrArg (List.takeWhile (fun c => c != cColon)) h
  have d := congrArg (List.dropWhile (fun c => c != cColon)) h
  rw [h1.1, h2.1] at t
  rw [h1.2, h2.2] at d
  exact ⟨t, (List.cons.inj d).2⟩

/-- the three texts the digest response hashes: `user:realm:password`, `method:uri`, and
`digest:nonce:digest` of the first two -/
def credText (user realm pass : Bytes) : Bytes := user ++ [cColon] ++ realm ++ [cColon] ++ pass
def reqText (m uri : Bytes) : Bytes := m ++ [cColon] ++ uri
def outerText (h : Bytes → Bytes) (user realm pass nonce m uri : Bytes) : Bytes :=
  h (credText user realm pass) ++ [cColon] ++ nonce ++ [cColon] ++ h (reqText m uri)

theorem respWith_eq (h : Bytes → Bytes) (user realm pass nonce m uri : Bytes) :
    respWith h user realm pass nonce m uri = h (outerText h user realm pass nonce m uri) := rfl

theorem credText_inj {user realm pass pass' : Bytes} (e : credText user realm pass' = credText user realm pass) :
    pass' = pass :=
  List.append_cancel_left e

theorem reqText_inj {m m' uri uri' : Bytes} (hm : ∀ c ∈ m, c ≠ cColon) (hm' : ∀ c ∈ m', c ≠ cColon)
    (e : reqText m' uri' = reqText m uri) : m' = m ∧ uri' = uri :=
  colon_split_inj m m' uri uri' hm hm' (by simpa only [reqText, List.append_assoc, List.singleton_append] using e)

/-- `x` and `y` are a collision of `h`: two distinct texts with the same digest.  The pair is named
on purpose: for a fixed-length hash a collision exists by counting, so `∃ x y, x ≠ y ∧ h x = h y`
alone says nothing about what was accepted; only a named pair does. -/
def Collide (h : Bytes → Bytes) (x y : Bytes) : Prop := x ≠ y ∧ h x = h y

theorem Collide.exists {h : Bytes → Bytes} {x y : Bytes} (c : Collide h x y) : ∃ x y, x ≠ y ∧ h x = h y :=
  ⟨x, y, c⟩

theorem respWith_eq_or_named_collision (h : Bytes → Bytes) (nonce : Bytes)
    (hsplit : ∀ a a' b b', h a' ++ cColon :: (nonce ++ cColon :: h b') = h a ++ cColon :: (nonce ++ cColon :: h b) →
      h a' = h a ∧ h b' = h b)
    (user realm pass pass' m m' uri uri' : Bytes)
    (hm : ∀ c ∈ m, c ≠ cColon) (hm' : ∀ c ∈ m', c ≠ cColon)
    (hacc : respWith h user realm pass' nonce m' uri' = respWith h user realm pass nonce m uri) :
    (pass' = pass ∧ m' = m ∧ uri' = uri) ∨
    Collide h (credText user realm pass') (credText user realm pass) ∨
    Collide h (reqText m' uri') (reqText m uri) ∨
    Collide h (outerText h user realm pass' nonce m' uri') (outerText h user realm pass nonce m uri) := by
  rw [respWith_eq, respWith_eq] at hacc
  by_cases hO : outerText h user realm pass' nonce m' uri' = outerText h user realm pass nonce m uri
  · obtain ⟨hA, hB⟩ := hsplit _ _ _ _
      (by simpa only [outerText, List.append_assoc, List.cons_append, List.nil_append] using hO)
    by_cases hc : credText user realm pass' = credText user realm pass
    · by_cases hr : reqText m' uri' = reqText m uri
      · exact .inl ⟨credText_inj hc, reqText_inj hm hm' hr⟩
      · exact .inr (.inr (.inl ⟨hr, hB⟩))
    · exact .inr (.inl ⟨hc, hA⟩)
  · exact .inr (.inr (.inr ⟨hO, hacc⟩))

theorem respWith_eq_or_collision (h : Bytes → Bytes) (nonce : Bytes)
    (hsplit : ∀ a a' b b', h a' ++ cColon :: (nonce ++ cColon :: h b') = h a ++ cColon :: (nonce ++ cColon :: h b) →
      h a' = h a ∧ h b' = h b)
    (user realm pass pass' m m' uri uri' : Bytes)
    (hm : ∀ c ∈ m, c ≠ cColon) (hm' : ∀ c ∈ m', c ≠ cColon)
    (hacc : respWith h user realm pass' nonce m' uri' = respWith h user realm pass nonce m uri) :
    (pass' = pass ∧ m' = m ∧ uri' = uri) ∨ ∃ x y, x ≠ y ∧ h x = h y := by
  rcases respWith_eq_or_named_collision h nonce hsplit user realm pass pass' m m' uri uri' hm hm' hacc with
    e | c | c | c
  · exact .inl e
  · exact .inr c.exists
  · exact .inr c.exists
  · exact .inr c.exists

theorem split_of_fixed_length (h : Bytes → Bytes) (hlen : ∀ x y, (h x).length = (h y).length)
    (nonce a a' b b' : Bytes)
    (e : h a' ++ cColon :: (nonce ++ cColon :: h b') = h a ++ cColon :: (nonce ++ cColon :: h b)) :
    h a' = h a ∧ h b' = h b := by
  obtain ⟨hA, hT⟩ := List.append_inj e (hlen _ _)
  exact ⟨hA, (List.cons.inj (List.append_cancel_left (List.cons.inj hT).2)).2⟩

/-- digests contain no `:` (true of hex) -/
def NoColonDigest (h : Bytes → Bytes) : Prop := ∀ x, ∀ c ∈ h x, c ≠ cColon

theorem split_of_noColon (h : Bytes → Bytes) (hnc : NoColonDigest h) (nonce a a' b b' : Bytes)
    (e : h a' ++ cColon :: (nonce ++ cColon :: h b') = h a ++ cColon :: (nonce ++ cColon :: h b)) :
    h a' = h a ∧ h b' = h b := by
  obtain ⟨hA, hT⟩ := colon_split_inj _ _ _ _ (hnc _) (hnc _) e
  exact ⟨hA, (List.cons.inj (List.append_cancel_left hT)).2⟩

end Rtsp.Auth
