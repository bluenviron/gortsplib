import Rtsp.Model.Auth
/-
`keyValParse` inverts the `key="value", key="value"` text built by the `Marshal` functions:
`keyValParse (joinKv kvs) ',' = some kvs` whenever no key contains `=` or `,` or starts with a
space, and no value contains `"`.
-/
namespace Rtsp.Auth

/-- a key the parser reads back unchanged -/
def KeyOk (k : Bytes) : Prop := (∀ c ∈ k, c ≠ cEq ∧ c ≠ cComma) ∧ k.head? ≠ some cSpace

/-- a value that survives `"…"` quoting -/
def NoQuote (v : Bytes) : Prop := ∀ c ∈ v, c ≠ cQuote

theorem takeWhile_stop {p : UInt8 → Bool} (a : Bytes) (c : UInt8) (r : Bytes)
    (ha : ∀ x ∈ a, p x = true) (hc : p c = false) :
    (a ++ c :: r).takeWhile p = a ∧ (a ++ c :: r).dropWhile p = c :: r := by
  induction a with
  | nil => simp [hc]
  | cons x a ih =>
    have hx : p x = true := ha x (by simp)
    have := ih (fun y hy => ha y (by simp [hy]))
    simp [hx, this]

theorem kvStep_kvQ (k v tail : Bytes) (hk : ∀ c ∈ k, c ≠ cEq ∧ c ≠ cComma) (hv : NoQuote v) :
    kvStep (k ++ cEq :: cQuote :: (v ++ cQuote :: tail)) cComma =
      some ((k, v), ((match tail with
        | c :: t => if c = cComma then t else tail
        | [] => []).dropWhile (· == cSpace))) := by
  have hkey := takeWhile_stop (p := fun c => c != cEq && c != cComma) k cEq (cQuote :: (v ++ cQuote :: tail))
    (by intro x hx; have := hk x hx; simp [this.1, this.2]) (by simp)
  have hval := takeWhile_stop (p := fun c => c != cQuote) v cQuote tail
    (by intro x hx; simpa using hv x hx) (by simp)
  simp only [kvStep, readKey, hkey.1, hkey.2, if_true, readValue, hval.1, hval.2]
  rfl

theorem joinKv_cons (kv : Bytes × Bytes) (rest : List (Bytes × Bytes)) :
    joinKv (kv :: rest) = kv.1 ++ cEq :: cQuote :: (kv.2 ++ cQuote ::
      (if rest = [] then [] else cComma :: cSpace :: joinKv rest)) := by
  cases rest <;> simp [joinKv, kvQ]

theorem kvStep_joinKv (kv : Bytes × Bytes) (rest : List (Bytes × Bytes))
    (hk : ∀ x ∈ kv :: rest, KeyOk x.1) (hv : NoQuote kv.2) :
    kvStep (joinKv (kv :: rest)) cComma = some (kv, joinKv rest) := by
  rw [joinKv_cons, kvStep_kvQ _ _ _ (hk kv (List.mem_cons_self ..)).1 hv]
  cases rest with
  | nil => rfl
  | cons kv2 rest2 =>
    -- the next key does not start with a space, so only the one written after `,` is skipped
    have h2 : kv2.1.head? ≠ some cSpace := (hk kv2 (List.mem_cons_of_mem _ (List.mem_cons_self ..))).2
    rw [joinKv_cons]
    cases h : kv2.1 with
    | nil => simp [cEq, cSpace]
    | cons x k =>
      simp [h] at h2
      simp [h2]

theorem joinKv_length_lt (kv : Bytes × Bytes) (rest : List (Bytes × Bytes)) :
    (joinKv rest).length < (joinKv (kv :: rest)).length := by
  rw [joinKv_cons]
  cases rest with
  | nil =>
    simp [joinKv]
    omega
  | cons _ _ =>
    simp
    omega

theorem kvParseF_succ (f : Nat) (s : Bytes) (sep : UInt8) (hs : s ≠ []) :
    kvParseF (f + 1) s sep = match kvStep s sep with
      | none => none
      | some (kv, r) => match kvParseF f r sep with
        | none => none
        | some kvs => some (kv :: kvs) := by
  cases s with
  | nil => exact absurd rfl hs
  | cons _ _ => rfl

theorem kvParseF_joinKv (kvs : List (Bytes × Bytes))
    (hk : ∀ kv ∈ kvs, KeyOk kv.1) (hv : ∀ kv ∈ kvs, NoQuote kv.2) :
    ∀ fuel, (joinKv kvs).length ≤ fuel → kvParseF fuel (joinKv kvs) cComma = some kvs := by
  induction kvs with
  | nil => intro fuel _; simp [joinKv, kvParseF]
  | cons kv rest ih =>
    intro fuel hf
    have hlt := joinKv_length_lt kv rest
    cases fuel with
    | zero => omega
    | succ f =>
      rw [kvParseF_succ _ _ _ (List.ne_nil_of_length_pos (by omega)),
        kvStep_joinKv kv rest hk (hv kv (List.mem_cons_self ..))]
      simp only [ih (fun x hx => hk x (List.mem_cons_of_mem _ hx))
        (fun x hx => hv x (List.mem_cons_of_mem _ hx)) f (by omega)]

theorem keyValParse_joinKv (kvs : List (Bytes × Bytes))
    (hk : ∀ kv ∈ kvs, KeyOk kv.1) (hv : ∀ kv ∈ kvs, NoQuote kv.2) :
    keyValParse (joinKv kvs) cComma = some kvs :=
  kvParseF_joinKv kvs hk hv _ (Nat.le_refl _)

end Rtsp.Auth
