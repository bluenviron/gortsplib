import Rtsp.Proofs.Url.Flow
import Rtsp.Proofs.Url.Wf
import Rtsp.Proofs.Common.Steps
/-
The client's derivations preserve the shape of the URL values the parser returns; hence every request line
of the whole-session flows is the credential-free print of such a value (for the flow-level "no credentials
on the wire" theorem).
-/
namespace Rtsp.Url

theorem Shape.setAuth {u : Url} (h : Shape u) (usr : Option UserInfo) (host : Str) :
    Shape { u with user := usr, host := host } :=
  ⟨h.scheme, h.epath, h.empty⟩

/-- `parse` followed by the replacement of the user-info, as `findBaseURL` does it three times -/
theorem parse_setUser_shape {x : Str} {usr : Option UserInfo} {b : Url}
    (h : (match parse x with | some r => some { r with user := usr } | none => none) = some b) : Shape b := by
  split at h
  · next r hr => cases h; exact (parse_shape hr).setAuth _ _
  · cases h

theorem findBaseURL_shape {c : Option Str} {cb : Option (List Str)} {u b : Url} (hu : Shape u)
    (h : findBaseURL c cb u = some b) : Shape b := by
  unfold findBaseURL at h
  split at h
  · exact parse_setUser_shape h
  · split at h
    · split at h <;> exact parse_setUser_shape h
    · cases h
    · cases h; exact hu

theorem mediaURL_shape {c : Str} {b mu : Url} (hb : Shape b) (h : mediaURL c (some b) = .url mu) : Shape mu := by
  unfold mediaURL at h
  simp only at h
  split at h
  · cases h; exact hb
  · split at h
    · split at h
      · next r hr => cases h; exact (parse_shape hr).setAuth _ _
      · cases h
    · split at h
      · next r hr => cases h; exact parse_shape hr
      · cases h

/-- a request line whose target is the printed, credential-free form of a URL value of the parser's shape -/
def LineOK (l : String × Str) : Prop := ∃ v, Shape v ∧ l.2 = requestTarget (some v)

def Trace.LinesOK (t : Trace) : Prop := ∀ l ∈ t.lines, LineOK l

theorem Trace.LinesOK.fail {t : Trace} (h : t.LinesOK) (s : String) : (t.fail s).LinesOK := h
theorem Trace.LinesOK.ev {t : Trace} (h : t.LinesOK) (e : Ev) : (t.ev e).LinesOK := h
theorem Trace.LinesOK.line {t : Trace} (h : t.LinesOK) (m : String) {v : Url} (hv : Shape v) :
    (t.line m (requestTarget (some v))).LinesOK := by
  intro l hl
  simp only [Trace.line, List.mem_append, List.mem_singleton] at hl
  rcases hl with hl | hl
  · exact h l hl
  · subst hl; exact ⟨v, hv, rfl⟩

theorem authRound_lines {t : Trace} (h : t.LinesOK) (m : String) {v : Url} (hv : Shape v) (su : Url)
    (auth a0 : Bool) (mk : Bool → Ev) :
    (authRound t m (requestTarget (some v)) su auth a0 mk).1.LinesOK := by
  unfold authRound
  split
  · exact h.ev _
  · split
    · exact h.ev _
    · exact (((h.ev _).line m hv).ev _)

theorem ite_setup_linesOK {c : Prop} [Decidable c] {a b : SetupState} (ha : a.t.LinesOK) (hb : b.t.LinesOK) :
    (if c then a else b).t.LinesOK :=
  ite_both (P := fun s : SetupState => s.t.LinesOK) ha hb

theorem playSetups_lines {base : Url} (hb : Shape base) (n : Nat) (auth : Bool) :
    ∀ (rest : List Nat) (s : SetupState), s.t.LinesOK → (playSetups base n auth rest s).t.LinesOK := by
  intro rest
  induction rest with
  | nil => intro s h; simpa [playSetups] using h
  | cons i rest ih =>
    intro s h
    unfold playSetups
    refine ite_setup_linesOK h ?_
    split
    · exact h.fail _
    · next mu hmu =>
      have hmus := mediaURL_shape hb hmu
      have hl := h.line "SETUP" hmus
      have hA := fun su mk => authRound_lines hl "SETUP" hmus su auth s.sender mk
      simp only
      split
      · exact hl.fail _
      · split
        · exact hl.fail _
        · refine ite_setup_linesOK (hl.fail _) (ite_setup_linesOK ((hA _ _).fail _) ?_)
          split
          · exact (hA _ _).fail _
          · exact ite_setup_linesOK ((hA _ _).fail _) (ih _ (hA _ _))

theorem recordSetups_lines {u : Url} (hu : Shape u) (controls : List Str) (p q : Str) (auth : Bool) :
    ∀ (rest : List Nat) (s : SetupState), s.t.LinesOK → (recordSetups u controls p q auth rest s).t.LinesOK := by
  intro rest
  induction rest with
  | nil => intro s h; simpa [recordSetups] using h
  | cons i rest ih =>
    intro s h
    unfold recordSetups
    refine ite_setup_linesOK h ?_
    split
    · exact h.fail _
    · next mu hmu =>
      have hmus := mediaURL_shape hu hmu
      have hl := h.line "SETUP" hmus
      have hA := fun su mk => authRound_lines hl "SETUP" hmus su auth s.sender mk
      simp only
      split
      · exact hl.fail _
      · refine ite_setup_linesOK ((hA _ _).fail _) ?_
        split
        · exact (hA _ _).fail _
        · exact ite_setup_linesOK ((hA _ _).fail _) (ih _ (hA _ _))

theorem sessionRequest_lines {t : Trace} (h : t.LinesOK) (m : String) {v : Url} (hv : Shape v)
    (sp : Option Str) (chk : Bool) (mk : Str → Str → Ev) : (sessionRequest t m v sp chk mk).LinesOK := by
  unfold sessionRequest
  split
  · exact h
  · simp only
    split
    · exact (h.line m hv).fail _
    · split
      · exact (h.line m hv).fail _
      · exact (h.line m hv).ev _

theorem camSetups_lines {base : Url} (hb : Shape base) :
    ∀ (ctls : List Str) (t : Trace), t.LinesOK → (camSetups base ctls t).LinesOK := by
  intro ctls
  induction ctls with
  | nil => intro t h; simpa [camSetups] using h
  | cons c rest ih =>
    intro t h
    unfold camSetups
    split
    · exact h
    · split
      · exact h.fail _
      · next mu hmu => exact ih _ (h.line "SETUP" (mediaURL_shape hb hmu))

theorem nil_linesOK : ({} : Trace).LinesOK := by intro l hl; simp at hl

theorem ite_linesOK {c : Prop} [Decidable c] {a b : Trace} (ha : a.LinesOK) (hb : b.LinesOK) :
    (if c then a else b).LinesOK :=
  ite_both ha hb

theorem closing_lines {t : Trace} (h : t.LinesOK) (m : String) {v : Url} (hv : Shape v) (sp : Option Str)
    (pause : Bool) (mk : Str → Str → Ev) (ms : List Nat) : (closing t m v sp pause mk ms).LinesOK := by
  have h1 := sessionRequest_lines h m hv sp true mk
  have h2 := ite_linesOK (c := pause = true)
    (sessionRequest_lines (sessionRequest_lines h1 "PAUSE" hv sp false fun p q => Ev.pause p q ms) m hv sp true mk) h1
  exact ite_linesOK h2 (h2.line "TEARDOWN" hv)

theorem playFlow_lines (s : Str) (n : Nat) (order : List Nat) (auth pause : Bool) :
    (playFlow s n order auth pause).LinesOK := by
  unfold playFlow
  split
  · exact nil_linesOK.fail _
  · next u hu =>
    have hus := parse_shape hu
    have h0 := (nil_linesOK.line "OPTIONS" hus).line "DESCRIBE" hus
    simp only
    split
    · exact h0.fail _
    · next su _ =>
      have hA := fun mk => authRound_lines h0 "DESCRIBE" hus su auth false mk
      refine ite_linesOK ((hA _).fail _) ?_
      · split
        · exact (hA _).fail _
        · next base hbase =>
          have hbs := findBaseURL_shape hus hbase
          exact closing_lines (playSetups_lines hbs n auth order _ (hA _)) "PLAY" hbs _ pause _ _

theorem recordFlow_lines (s : Str) (n : Nat) (order : List Nat) (auth pause : Bool) :
    (recordFlow s n order auth pause).LinesOK := by
  unfold recordFlow
  split
  · exact nil_linesOK.fail _
  · next u hu =>
    have hus := parse_shape hu
    have h0 := (nil_linesOK.line "OPTIONS" hus).line "ANNOUNCE" hus
    simp only
    split
    · exact h0.fail _
    · next su _ =>
      have hA := fun mk => authRound_lines h0 "ANNOUNCE" hus su auth false mk
      have h1 := fun st hst => recordSetups_lines hus ((List.range n).map control) (getPathAndQuery su true).1
        (getPathAndQuery su true).2 auth order st hst
      exact ite_linesOK ((hA _).fail _)
        (closing_lines (ite_linesOK ((h1 _ (hA _)).fail "record") (h1 _ (hA _))) "RECORD" hus _ pause _ _)

theorem camFlow_lines (s : Str) (cb : Option (List Str)) (sessCtl : Option Str) (controls : List Str) :
    (camFlow s cb sessCtl controls).LinesOK := by
  unfold camFlow
  split
  · exact nil_linesOK.fail _
  · next u hu =>
    have hus := parse_shape hu
    have h0 := (nil_linesOK.line "OPTIONS" hus).line "DESCRIBE" hus
    simp only
    split
    · exact h0.fail _
    · next base hbase =>
      have hbs := findBaseURL_shape hus hbase
      have h1 := camSetups_lines hbs controls _ h0
      split
      · exact h1
      · exact (h1.line "PLAY" hbs).line "TEARDOWN" hbs

/-- what `describeChain` returns: request lines as wanted, and the URL that was answered (if any) of the parser's shape -/
def ChainOK (x : Trace × Option Url) : Prop := x.1.LinesOK ∧ ∀ v, x.2 = some v → Shape v

theorem describeChain_lines : ∀ (locs : List Str) (redirects : Nat) (cs : Str) (u : Url) (t : Trace),
    Shape u → t.LinesOK → ChainOK (describeChain locs redirects cs u t) := by
  intro locs
  induction locs with
  | nil =>
    intro redirects cs u t hu ht
    unfold describeChain
    exact ⟨(ht.line "OPTIONS" hu).line "DESCRIBE" hu, fun v hv => Option.some.inj hv ▸ hu⟩
  | cons l rest ih =>
    intro redirects cs u t hu ht
    have h0 := (ht.line "OPTIONS" hu).line "DESCRIBE" hu
    have hfail : ChainOK (_, none) := ⟨h0.fail "describe", nofun⟩
    unfold describeChain
    simp only
    refine ite_both (P := ChainOK) hfail ?_
    split
    · exact hfail
    · next ru hru =>
      exact ite_both (P := ChainOK) hfail
        (ih _ _ _ _ (ite_both ((parse_shape hru).setAuth _ _) (parse_shape hru)) h0)

theorem switchFlow_lines (s : Str) (locs : List Str) (cb : Option (List Str)) (sessCtl : Option Str)
    (controls : List Str) (sw : Switch) (ka : Bool) : (switchFlow s locs cb sessCtl controls sw ka).LinesOK := by
  unfold switchFlow
  split
  · exact nil_linesOK.fail _
  · next u0 hu0 =>
    obtain ⟨hl, hs⟩ := describeChain_lines locs 0 u0.scheme u0 {} (parse_shape hu0) nil_linesOK
    split
    · next t heq => rw [heq] at hl; exact hl
    · next t u heq =>
      rw [heq] at hl hs
      have hl : t.LinesOK := hl
      have hus : Shape u := hs u rfl
      simp only
      split
      · exact hl.fail _
      · next base hbase =>
        have hbs := findBaseURL_shape hus hbase
        have hfin := fun (t' : Trace) (ht' : t'.LinesOK) => ite_linesOK (c := t'.failed.isSome = true) ht'
          (Trace.LinesOK.line (ite_linesOK (c := ka = true) ((ht'.line "PLAY" hbs).line "OPTIONS" hbs)
            (ht'.line "PLAY" hbs)) "TEARDOWN" hbs)
        have hred := fun (t' : Trace) (ht' : t'.LinesOK) =>
          ((ht'.line "TEARDOWN" hbs).line "OPTIONS" hus).line "DESCRIBE" hus
        have hcam := camSetups_lines hbs controls
        split
        · exact hfin _ (hcam _ hl)
        · split
          · exact hfin _ hl
          · split
            · exact hl.fail _
            · next mu hmu => exact hfin _ (hcam _ (hred _ (hl.line "SETUP" (mediaURL_shape hbs hmu))))
        · split
          · exact hcam _ hl
          · exact hfin _ (hcam _ (hred _ ((hcam _ hl).line "PLAY" hbs)))

end Rtsp.Url
