import Rtsp.Proofs.Url.Parse
import Rtsp.Proofs.Common.Bits
/-
The encoding table of net/url against the byte classes of the parser.  Every byte `escape` writes is `%`,
an upper-case hex digit, or a byte of the input that the table leaves alone, and such a byte is alphanumeric
or one of the punctuation bytes the table names in `hostExtra`, `marks`, `reserved` (`forall_unescaped`).  So a fact
about escaped text (`forall_mem_escape`) needs an argument for alphanumeric bytes and a look at those lists.
-/
namespace Rtsp.Url

theorem isDigit_alnum {c : UInt8} (h : isDigit c = true) : isAlnum c = true := by
  unfold isDigit at h; unfold isAlnum; rw [h]; simp

theorem isHex_alnum {c : UInt8} (h : isHex c = true) : isAlnum c = true := by
  simp [isAlnum, isHex, UInt8.le_iff_toNat_le] at h ⊢
  omega

theorem isAlnum_facts {c : UInt8} (h : isAlnum c = true) :
    authByte c = true ∧ c ≠ 37 ∧ c ≠ 58 ∧ c ≠ 64 := by
  simp [isAlnum, authByte, cleanByte, isCTL, isDelim, UInt8.le_iff_toNat_le, UInt8.lt_iff_toNat_lt,
    ← UInt8.toNat_inj] at h ⊢
  omega

theorem shouldEscape_alnum {c : UInt8} (h : isAlnum c = true) (m : Mode) : shouldEscape c m = false := by
  simp [shouldEscape, h]

theorem authByte_pathByte {c : UInt8} (h : authByte c = true) : pathByte c = true := by
  simp [authByte, isDelim] at h; simp [pathByte, h]

theorem forall_unescaped {m : Mode} {Q : UInt8 → Prop} (ha : ∀ c, isAlnum c = true → Q c)
    (hp : ∀ c ∈ hostExtra ++ marks ++ reserved, shouldEscape c m = false → Q c) :
    ∀ c, shouldEscape c m = false → Q c := by
  intro c h
  by_cases hal : isAlnum c = true
  · exact ha c hal
  · refine hp c (Decidable.by_contra fun hn => ?_) h
    simp only [List.mem_append, not_or] at hn
    simp [shouldEscape, hal, hn.1.1, hn.1.2, hn.2] at h

theorem unhex_upperHex : ∀ k, k < 16 →
    isHex (upperHex (UInt8.ofNat k)) = true ∧ unhex (upperHex (UInt8.ofNat k)) = UInt8.ofNat k := by
  decide

theorem nibbles (c : UInt8) :
    (isHex (upperHex (c >>> 4)) = true ∧ unhex (upperHex (c >>> 4)) = c >>> 4) ∧
    (isHex (upperHex (c &&& 15)) = true ∧ unhex (upperHex (c &&& 15)) = c &&& 15) := by
  have h := c.toNat_lt
  have h1 := unhex_upperHex (c >>> 4).toNat (by rw [(Bits.toNat_nibbles c).1]; omega)
  have h2 := unhex_upperHex (c &&& 15).toNat (by rw [(Bits.toNat_nibbles c).2]; omega)
  rw [UInt8.ofNat_toNat] at h1 h2
  exact ⟨h1, h2⟩

/-- the modes in which `unescape` accepts every `%XY` triple and every other byte (the validation pass of net/url
restricts the host and zone modes only) -/
def Free (m : Mode) : Prop := m = .path ∨ m = .userPassword

theorem plainOK_free {m : Mode} (hm : Free m) (c : UInt8) : plainOK m c = true := by
  rcases hm with rfl | rfl
  · exact plainOK_path c
  · exact plainOK_user c

theorem pctByte_upperHex {m : Mode} (hm : Free m) (c : UInt8) :
    pctByte m (upperHex (c >>> 4)) (upperHex (c &&& 15)) = some c := by
  rcases hm with rfl | rfl <;> simp [pctByte, nibbles c, Bits.shr_shl_or_mask]

theorem upperHex_alnum (c : UInt8) : isAlnum (upperHex (c >>> 4)) = true ∧ isAlnum (upperHex (c &&& 15)) = true :=
  ⟨isHex_alnum (nibbles c).1.1, isHex_alnum (nibbles c).2.1⟩

theorem forall_mem_escape {m : Mode} {Q : UInt8 → Prop} (h37 : Q 37) (ha : ∀ c, isAlnum c = true → Q c)
    (hu : ∀ c, shouldEscape c m = false → Q c) (s : Str) : ∀ x ∈ escape m s, Q x := by
  intro x hx
  unfold escape at hx
  obtain ⟨c, _, hc⟩ := List.mem_flatMap.1 hx
  split at hc
  · simp only [List.mem_cons, List.not_mem_nil, or_false] at hc
    rcases hc with rfl | rfl | rfl
    · exact h37
    · exact ha _ (upperHex_alnum c).1
    · exact ha _ (upperHex_alnum c).2
  · next hc' =>
    rw [List.mem_singleton] at hc
    exact hu x (by simpa [hc] using hc')

theorem not_escaped_path : ∀ c : UInt8, shouldEscape c .path = false → pathByte c = true :=
  forall_unescaped (fun _ h => authByte_pathByte (isAlnum_facts h).1) (by decide)

theorem validByte_pathByte (c : UInt8) (h : (validExtra.contains c || !shouldEscape c .path) = true) :
    pathByte c = true := by
  rw [Bool.or_eq_true] at h
  rcases h with h | h
  · exact (by decide : ∀ c ∈ validExtra, pathByte c = true) c (List.contains_iff_mem.1 h)
  · exact not_escaped_path c (by simpa using h)

theorem unescape_escape {m : Mode} (hm : Free m) (p : Str) : unescape m (escape m p) = some p := by
  induction p with
  | nil => rfl
  | cons c r ih =>
    rw [escape_cons]
    by_cases hc : shouldEscape c m = true
    · rw [if_pos hc]
      exact unescape_pct_some m (pctByte_upperHex hm c) ih
    · rw [if_neg hc]
      exact unescape_plain_some m (fun e => hc (e ▸ shouldEscape_pct m)) (plainOK_free hm c) ih

theorem escape_path_bytes (p : Str) : (escape .path p).all pathByte = true ∧ validEncodedPath (escape .path p) = true := by
  have h : ∀ x ∈ escape .path p, pathByte x = true ∧ (validExtra.contains x || !shouldEscape x .path) = true :=
    forall_mem_escape (by decide)
      (fun c hc => ⟨authByte_pathByte (isAlnum_facts hc).1, by simp [shouldEscape_alnum hc]⟩)
      (fun c hc => ⟨not_escaped_path c hc, by simp [hc]⟩) p
  exact ⟨List.all_eq_true.2 fun x hx => (h x hx).1, List.all_eq_true.2 fun x hx => (h x hx).2⟩

theorem escape_host_bytes (h : Str) : (64 : UInt8) ∉ escape .host h ∧ (escape .host h).all authByte = true :=
  have ha : ∀ c, isAlnum c = true → c ≠ 64 ∧ authByte c = true :=
    fun _ hc => ⟨(isAlnum_facts hc).2.2.2, (isAlnum_facts hc).1⟩
  have hb := forall_mem_escape (by decide) ha (forall_unescaped ha (by decide)) h
  ⟨fun m => (hb 64 m).1 rfl, List.all_eq_true.2 fun c m => (hb c m).2⟩

theorem escapePathOnly_slash (p : Str) : escapePathOnly (47 :: p) = escape .path (47 :: p) := by
  unfold escapePathOnly; rw [if_neg (by simp)]

theorem escapedPathOf_pathOK {r path : Str} (hd : unescape .path (47 :: r) = some path) :
    PathOK (escapedPathOf (47 :: r) path) path := by
  obtain ⟨r', _, _, rfl⟩ := unescape_plain_inv .path (by decide) hd
  unfold escapedPathOf
  by_cases hv : validEncodedPath (47 :: r) = true
  · rw [if_pos hv]
    refine ⟨rfl, ?_, hd, ?_⟩
    · unfold validEncodedPath at hv
      exact all_weaken hv validByte_pathByte
    · unfold escapedPathOf; rw [if_pos hv]
  · rw [if_neg hv]
    rw [escapePathOnly_slash]
    refine ⟨by rw [escape_cons]; rfl, (escape_path_bytes _).1, unescape_escape (.inl rfl) _, ?_⟩
    unfold escapedPathOf
    rw [if_pos (escape_path_bytes _).2]

end Rtsp.Url
