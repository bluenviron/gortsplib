import Rtsp.Model.Url
import Rtsp.Proofs.Text.Digits
/-
Byte-string lemmas for the URL model: the cuts (`strings.Cut`, `LastIndex`), `stringsReverseIndex` of
server_session.go on the track tag, and net/url's `unescape` / `escape` one `%XY` triple or byte at a time.
-/
namespace Rtsp.Url

export Rtsp.Text (mem_all not_mem_of_all all_weaken)

theorem splitFirst_append {c : UInt8} {a b : Str} (h : c ∉ a) :
    splitFirst c (a ++ c :: b) = some (a, b) := by
  induction a with
  | nil => simp [splitFirst]
  | cons x xs ih =>
    rw [List.mem_cons, not_or] at h
    simp [splitFirst, Ne.symm h.1, ih h.2]

theorem splitFirst_spec {c : UInt8} {s a b : Str} (h : splitFirst c s = some (a, b)) :
    s = a ++ c :: b ∧ c ∉ a := by
  induction s generalizing a with
  | nil => simp [splitFirst] at h
  | cons x xs ih =>
    unfold splitFirst at h
    split at h
    · next hx => cases h; simp [hx]
    · next hx =>
      cases hr : splitFirst c xs with
      | none => simp [hr] at h
      | some r =>
        simp only [hr, Option.some.injEq, Prod.mk.injEq] at h
        obtain ⟨rfl, rfl⟩ := h
        obtain ⟨e, hn⟩ := ih hr
        exact ⟨by simp [e], by simp [hn, Ne.symm hx]⟩

theorem splitFirst_none {c : UInt8} {s : Str} (h : c ∉ s) : splitFirst c s = none := by
  cases hs : splitFirst c s with
  | none => rfl
  | some r => exact absurd (by rw [(splitFirst_spec hs).1]; simp) h

theorem not_mem_of_splitFirst_none {c : UInt8} {s : Str} (h : splitFirst c s = none) : c ∉ s := fun m => by
  obtain ⟨a, b, rfl, ha⟩ := List.eq_append_cons_of_mem m
  rw [splitFirst_append ha] at h; cases h

theorem splitLast_append {c : UInt8} {a b : Str} (h : c ∉ b) :
    splitLast c (a ++ c :: b) = some (a, b) := by
  unfold splitLast
  rw [show (a ++ c :: b).reverse = b.reverse ++ c :: a.reverse by simp, splitFirst_append (by simpa using h)]
  simp

theorem splitLast_none {c : UInt8} {s : Str} (h : c ∉ s) : splitLast c s = none := by
  unfold splitLast
  rw [splitFirst_none (by simpa using h)]

theorem revIndexFrom_found (s sub : Str) (k : Nat) :
    ∀ d, sub.isPrefixOf (s.drop k) = true →
      (∀ j, k < j → j ≤ k + d → sub.isPrefixOf (s.drop j) = false) →
      revIndexFrom s sub (k + d) = some k := by
  intro d
  induction d with
  | zero =>
    intro hk _
    cases k with
    | zero => simpa [revIndexFrom] using hk
    | succ k => simp [revIndexFrom, hk]
  | succ d ih =>
    intro hk hno
    rw [← Nat.add_assoc, revIndexFrom, if_neg (by simp [hno (k + d + 1) (by omega) (by omega)])]
    exact ih hk (fun j h1 h2 => hno j h1 (by omega))

theorem revIndexFrom_none (s sub : Str) :
    ∀ k, (∀ j, j ≤ k → sub.isPrefixOf (s.drop j) = false) → revIndexFrom s sub k = none := by
  intro k
  induction k with
  | zero => intro h; have := h 0 (Nat.le_refl _); rw [List.drop_zero] at this; simp [revIndexFrom, this]
  | succ k ih =>
    intro h
    rw [revIndexFrom, if_neg (by simp [h (k + 1) (Nat.le_refl _)])]
    exact ih (fun j hj => h j (by omega))

theorem trackTag_eq : trackTag = [47, 116, 114, 97, 99, 107, 73, 68, 61] := by decide

theorem trackCtl_eq : trackCtl = [116, 114, 97, 99, 107, 73, 68, 61] := by decide

theorem trackTag_length : trackTag.length = 9 := by rw [trackTag_eq]; rfl

theorem tag_prefix_mem {t : Str} (h : trackTag.isPrefixOf t = true) : (47 : UInt8) ∈ t := by
  rw [trackTag_eq] at h
  cases t with
  | nil => simp at h
  | cons y ys => simp only [List.isPrefixOf, Bool.and_eq_true, beq_iff_eq] at h; simp [h.1]

theorem revIndex_appended_tag (q d : Str) (hd : d ≠ []) (hs : (47 : UInt8) ∉ d) :
    revIndex (q ++ (trackTag ++ d)) trackTag = some q.length := by
  have htl := trackTag_length
  have hdl : 0 < d.length := List.length_pos_iff.2 hd
  have hlen : (q ++ (trackTag ++ d)).length = q.length + 9 + d.length := by simp [htl]; omega
  unfold revIndex
  rw [if_neg (by rw [hlen, htl]; omega),
    show (q ++ (trackTag ++ d)).length - 1 - trackTag.length = q.length + (d.length - 1) by rw [hlen, htl]; omega]
  apply revIndexFrom_found
  · rw [List.drop_left]
    exact List.isPrefixOf_iff_prefix.2 (List.prefix_append _ _)
  · -- a position j > |q| lies inside `tail tag ++ d`, which has no '/'
    intro j h1 _
    rw [← Bool.not_eq_true]
    intro hh
    have hm := tag_prefix_mem hh
    rw [List.drop_append, List.drop_eq_nil_of_le (by omega), List.nil_append, trackTag_eq,
      show j - q.length = (j - q.length - 1) + 1 by omega, List.cons_append, List.drop_succ_cons] at hm
    rcases List.mem_append.1 (List.mem_of_mem_drop hm) with hm | hm
    · revert hm; decide
    · exact hs hm

theorem revIndex_no_slash {s : Str} (h : (47 : UInt8) ∉ s) : revIndex s trackTag = none := by
  unfold revIndex
  split
  · rfl
  · apply revIndexFrom_none
    intro j _
    rw [← Bool.not_eq_true]
    exact fun hh => h (List.mem_of_mem_drop (tag_prefix_mem hh))

theorem unescape_nil (m : Mode) : unescape m [] = some [] := rfl

theorem unescape_pct_some (m : Mode) {a b v : UInt8} {rest r : Str}
    (hp : pctByte m a b = some v) (hr : unescape m rest = some r) :
    unescape m (37 :: a :: b :: rest) = some (v :: r) := by
  simp [unescape, hp, hr]

theorem unescape_pct_inv (m : Mode) {a b : UInt8} {rest out : Str}
    (h : unescape m (37 :: a :: b :: rest) = some out) :
    ∃ v r, pctByte m a b = some v ∧ unescape m rest = some r ∧ out = v :: r := by
  simp only [unescape, if_true] at h
  cases hp : pctByte m a b with
  | none => simp [hp] at h
  | some v =>
    cases hr : unescape m rest with
    | none => simp [hp, hr] at h
    | some r => simp [hp, hr] at h; exact ⟨v, r, rfl, rfl, h.symm⟩

theorem unescape_pct_short (m : Mode) {r : Str} (h : r.length < 2) : unescape m (37 :: r) = none := by
  match r with
  | [] | [_] => simp [unescape]
  | _ :: _ :: _ => simp at h; omega

theorem unescape_plain_some (m : Mode) {c : UInt8} {rest r : Str} (hc : c ≠ 37)
    (hk : plainOK m c = true) (hr : unescape m rest = some r) :
    unescape m (c :: rest) = some (c :: r) := by
  rw [unescape.eq_def]; simp [hc, hk, hr]

theorem unescape_plain_inv (m : Mode) {c : UInt8} {rest out : Str} (hc : c ≠ 37)
    (h : unescape m (c :: rest) = some out) :
    ∃ r, plainOK m c = true ∧ unescape m rest = some r ∧ out = c :: r := by
  rw [unescape.eq_def] at h
  simp only [hc, if_false] at h
  by_cases hk : plainOK m c = true
  · rw [if_pos hk] at h
    cases hr : unescape m rest with
    | none => simp [hr] at h
    | some r => simp [hr] at h; exact ⟨r, hk, rfl, h.symm⟩
  · rw [if_neg hk] at h; simp at h

/-- induction along the way `unescape` reads its input: a `%XY` triple or one other byte at a time -/
theorem pctInduction {motive : Str → Prop} (nil : motive [])
    (pct : ∀ a b r, motive r → motive (37 :: a :: b :: r))
    (short : ∀ r, r.length < 2 → motive (37 :: r))
    (plain : ∀ c r, c ≠ 37 → motive r → motive (c :: r)) : ∀ s, motive s
  | [] => nil
  | c :: r =>
    if h : c = 37 then
      match r with
      | a :: b :: r' => h ▸ pct a b r' (pctInduction nil pct short plain r')
      | [] => h ▸ short [] (by simp)
      | [a] => h ▸ short [a] (by simp)
    else plain c r h (pctInduction nil pct short plain r)

theorem unescape_append (m : Mode) {a a' b b' : Str}
    (ha : unescape m a = some a') (hb : unescape m b = some b') :
    unescape m (a ++ b) = some (a' ++ b') := by
  induction a using pctInduction generalizing a' with
  | nil => cases ha; exact hb
  | pct x y r ih =>
    obtain ⟨v, r', hp, hr, rfl⟩ := unescape_pct_inv m ha
    exact unescape_pct_some m hp (ih hr)
  | short r hr => rw [unescape_pct_short m hr] at ha; cases ha
  | plain c r hc ih =>
    obtain ⟨r', hk, hr, rfl⟩ := unescape_plain_inv m hc ha
    exact unescape_plain_some m hc hk (ih hr)

theorem plainOK_path (c : UInt8) : plainOK .path c = true := rfl
theorem plainOK_user (c : UInt8) : plainOK .userPassword c = true := rfl

theorem shouldEscape_pct (m : Mode) : shouldEscape 37 m = true := by cases m <;> rfl

theorem unescape_id {m : Mode} {s : Str} (h : ∀ c ∈ s, shouldEscape c m = false) : unescape m s = some s := by
  induction s with
  | nil => rfl
  | cons c r ih =>
    have hc := h c (by simp)
    exact unescape_plain_some m (fun e => by rw [e, shouldEscape_pct] at hc; cases hc) (by simp [plainOK, hc])
      (ih fun x hx => h x (List.mem_cons_of_mem _ hx))

theorem escape_cons (m : Mode) (c : UInt8) (r : Str) :
    escape m (c :: r) = (if shouldEscape c m then [37, upperHex (c >>> 4), upperHex (c &&& 15)] else [c]) ++ escape m r := by
  unfold escape; simp [List.flatMap_cons]

theorem escape_append (m : Mode) (a b : Str) : escape m (a ++ b) = escape m a ++ escape m b := by
  unfold escape; exact List.flatMap_append

theorem escape_id {m : Mode} {s : Str} (h : ∀ c ∈ s, shouldEscape c m = false) : escape m s = s := by
  induction s with
  | nil => rfl
  | cons c r ih =>
    rw [escape_cons, h c (by simp), ih (fun x hx => h x (List.mem_cons_of_mem _ hx))]
    simp

end Rtsp.Url
