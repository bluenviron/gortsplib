import Rtsp.Proofs.Url.Round
import Rtsp.Proofs.Url.Auth
/-
What every URL value base.ParseURL returns looks like (`parse_inv`): scheme rtsp / rtsps, a query without
control bytes, and a path that is either empty or well-formed together with its printed form.  So of a parse
result with a path and without `OmitHost`, `WF` (`Round`) asks only that the host is printed back the way it parses
(`wf_of_parse`).
-/
namespace Rtsp.Url

theorem getSchemeAux_suffix {x : Str} {first : Bool} {acc sch rest : Str}
    (h : getSchemeAux first acc x = some (sch, rest)) : rest <:+ x := by
  induction first, acc, x using getSchemeAux.induct with
  | case2 _ _ _ _ hc ih => rw [getSchemeAux, if_pos hc] at h; exact (ih h).trans (List.suffix_cons _ _)
  | case4 _ _ _ _ hc hd hf ih =>
    rw [getSchemeAux, if_neg hc, if_pos hd, if_neg hf] at h; exact (ih h).trans (List.suffix_cons _ _)
  | case6 _ _ _ _ hc hd h58 hf =>
    rw [getSchemeAux, if_neg hc, if_neg hd, if_pos h58, if_neg hf] at h
    cases h; exact List.suffix_cons _ _
  | _ => simp_all [getSchemeAux]

theorem isScheme_of_check {scheme : Str} (h : (scheme != schemeRTSP && scheme != schemeRTSPS) = false) :
    IsScheme scheme := by
  simpa [IsScheme, Decidable.or_iff_not_imp_left] using h

theorem parseRest_inv {scheme rest q : Str} {fq : Bool} {u : Url} (h : parseRest scheme rest fq q = some u) :
    u.scheme = scheme ∧ u.rawQuery = q ∧ u.forceQuery = fq ∧ (u.host ≠ [] → u.omitHost = false) ∧
    (u.path = [] ∧ u.epath = [] ∨ PathOK u.epath u.path) := by
  unfold parseRest at h
  split at h
  · simp at h; subst h; exact ⟨rfl, rfl, rfl, fun _ => rfl, Or.inl ⟨rfl, rfl⟩⟩
  · next r =>
    simp only at h
    split at h
    · next user host path hpa hun =>
      simp at h; subst h
      refine ⟨rfl, rfl, rfl, fun _ => rfl, ?_⟩
      split at hun
      · exact Or.inr (escapedPathOf_pathOK hun)
      · simp only [unescape_nil, Option.some.injEq] at hun; subst hun; exact Or.inl ⟨rfl, rfl⟩
    · simp at h
  · split at h
    · next path hun =>
      simp at h; subst h
      exact ⟨rfl, rfl, rfl, fun hh => absurd rfl hh, Or.inr (escapedPathOf_pathOK hun)⟩
    · simp at h
  · simp at h

theorem parseNoFrag_inv {x : Str} {u : Url} (h : parseNoFrag x = some u) :
    ∃ scheme rest q fq, parseRest scheme rest fq q = some u ∧ IsScheme scheme ∧ (fq = true → q = []) ∧ q ⊆ x := by
  unfold parseNoFrag at h
  split at h
  · simp at h
  · next sch rest hg =>
    have hsub : rest ⊆ x := (getSchemeAux_suffix hg).subset
    simp only at h
    split at h
    · simp at h
    · next hsch =>
      have hs := isScheme_of_check (by simpa using hsch)
      split at h
      · exact ⟨_, _, _, _, h, hs, fun _ => rfl, List.nil_subset _⟩
      · split at h
        · next r q hsp =>
          refine ⟨_, _, _, _, h, hs, fun hf => by simp at hf, fun c m => hsub ?_⟩
          rw [(splitFirst_spec hsp).1]; simp [m]
        · exact ⟨_, _, _, _, h, hs, fun hf => by simp at hf, List.nil_subset _⟩

theorem parse_inv {s : Str} {u : Url} (h : parse s = some u) :
    IsScheme u.scheme ∧ u.rawQuery.all cleanByte = true ∧ (u.forceQuery = true → u.rawQuery = []) ∧
    (u.host ≠ [] → u.omitHost = false) ∧ (u.path = [] ∧ u.epath = [] ∨ PathOK u.epath u.path) := by
  obtain ⟨x, hctl, h35, hp⟩ : ∃ x, x.any isCTL = false ∧ (35 : UInt8) ∉ x ∧ parseNoFrag x = some u := by
    unfold parse parseStd at h
    simp only at h
    split at h
    · next a f hsp => simp at h; exact ⟨a, by simpa using h.2.1, (splitFirst_spec hsp).2, h.2.2⟩
    · next hsp =>
      simp only [Bool.not_true, Bool.false_eq_true, if_false] at h
      split at h
      · cases h
      · next hctl => exact ⟨_, by simpa using hctl, not_mem_of_splitFirst_none hsp, h⟩
  have hx : x.all cleanByte = true := List.all_eq_true.2 fun c m => by
    have hc : c ≠ 35 := fun e => h35 (e ▸ m)
    simp [cleanByte, List.any_eq_false.1 hctl c m, hc]
  obtain ⟨scheme, rest, q, fq, hr, hs, hfq, hq⟩ := parseNoFrag_inv hp
  obtain ⟨h1, h2, h3, h4, h5⟩ := parseRest_inv hr
  rw [h1, h2, h3]
  exact ⟨hs, List.all_eq_true.2 fun c m => mem_all hx (hq m), hfq, h4, h5⟩

/-- the shape of every URL value the parser returns (and the client derives from one) -/
structure Shape (u : Url) : Prop where
  scheme : IsScheme u.scheme
  epath : u.epath = [] ∨ u.epath.head? = some 47
  empty : u.path = [] ↔ u.epath = []

theorem parse_shape {s : Str} {u : Url} (h : parse s = some u) : Shape u := by
  obtain ⟨hs, _, _, _, hp | hp⟩ := parse_inv h
  · exact ⟨hs, Or.inl hp.2, iff_of_true hp.1 hp.2⟩
  · obtain ⟨p', hp'⟩ := hp.path_cons
    have he := hp.slash
    exact ⟨hs, Or.inr he, iff_of_false (by rw [hp']; simp) fun e => by simp [e] at he⟩

theorem parse_fields {s : Str} {u : Url} (h : parse s = some u) :
    u.rawQuery.all cleanByte = true ∧ (u.forceQuery = true → u.rawQuery = []) ∧
    (u.path ≠ [] → PathOK u.epath u.path) :=
  let ⟨_, hq, hf, _, hp⟩ := parse_inv h
  ⟨hq, hf, fun hne => hp.resolve_left fun e => hne e.1⟩

theorem parse_omit {s : Str} {u : Url} (h : parse s = some u) (hh : u.host ≠ []) : u.omitHost = false :=
  (parse_inv h).2.2.2.1 hh

/-- The genuine hypothesis concerns the host (how net/url re-prints it — the `net/url` parameter of DESIGN.md);
user-info and the contents of path and query are unrestricted. -/
theorem wf_of_parse {s : Str} {u : Url} (h : parse s = some u) (hp : u.path ≠ []) (ho : u.omitHost = false)
    (hh : HostOK (u.user.isSome = true) u.host) : WF u :=
  let ⟨hq, hf, hpath⟩ := parse_fields h
  { scheme := (parse_shape h).scheme, noOmit := ho, auth := authOK_of_hostOK _ hh,
    authNC := authOK_of_hostOK none ⟨hh.parse, nofun⟩,
    path := hpath hp, query := hq, fq := hf }

end Rtsp.Url
