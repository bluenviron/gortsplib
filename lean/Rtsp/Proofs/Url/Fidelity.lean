import Rtsp.Proofs.Url.Round
import Rtsp.Model.UrlFlow
/-
The server and client sides on URLs of the library's own making: what `getPathAndQuery`,
`getPathAndQueryAndTrackID`, `findBaseURL`, `Media.URL` and the media lookup when recording make of `extend u …`
when the appended text is `/` or the control `trackID=n` (decimal `digits n`, read back by `parseUintAux`).
-/
namespace Rtsp.Url

theorem digitsAux_eq : ∀ (fuel n : Nat) (acc : Str), n < fuel → digitsAux fuel n acc = Text.dec8 n ++ acc
  | 0, _, _, h => absurd h (Nat.not_lt_zero _)
  | f + 1, n, acc, h => by
    rw [digitsAux, Text.dec8_eq_if]
    split
    · rfl
    · rw [digitsAux_eq f _ _ (by omega), List.append_assoc]; rfl

theorem digits_eq (n : Nat) : digits n = Text.dec8 n := by
  rw [digits, digitsAux_eq _ _ _ (Nat.lt_succ_self n), List.append_nil]

theorem digits_all (n : Nat) : (digits n).all isDigit = true := by rw [digits_eq]; exact Text.dec8_all_digit n

theorem digits_ne_nil (n : Nat) : digits n ≠ [] := by rw [digits_eq]; exact Text.dec8_ne_nil n

theorem parseUintAux_eq_val8 : ∀ (s : Str) (a : Nat), s.all isDigit = true → Text.val8 a s ≤ maxTrackID →
    parseUintAux a s = some (Text.val8 a s)
  | [], _, _, _ => rfl
  | c :: r, a, hs, hm => by
    rw [List.all_cons, Bool.and_eq_true] at hs
    have := Text.le_val8 r (a * 10 + (c.toNat - 48))
    rw [parseUintAux, hs.1, Bool.not_true, if_neg Bool.false_ne_true, if_neg (by rw [Text.val8, List.foldl_cons] at hm; unfold Text.val8 at this; omega)]
    exact parseUintAux_eq_val8 r _ hs.2 hm

theorem parseUint_digits {n : Nat} (h : n ≤ maxTrackID) : parseUintAux 0 (digits n) = some n := by
  rw [parseUintAux_eq_val8 _ _ (digits_all n) (by rw [digits_eq, Text.val8_dec8]; exact h), digits_eq, Text.val8_dec8]

/-- **Each SETUP reaches the media it was issued for** (playing): the track id the server wrote into the
control attribute of media `n` selects media `n` of a stream with `k > n` medias. -/
theorem setup_reaches_media {k n : Nat} (hk : n < k) (hn : n ≤ maxTrackID) :
    findMediaByTrackID k (digits n) = some n := by
  unfold findMediaByTrackID
  rw [if_neg (digits_ne_nil n), parseUint_digits hn]
  simp; omega

theorem digits_injective {i j : Nat} (h : digits i = digits j) : i = j :=
  Text.dec8_injective (by rwa [digits_eq, digits_eq] at h)

theorem digits_plain (n : Nat) : (digits n).all plainByte = true :=
  all_weaken (digits_all n) fun _ h => isAlnum_plain (isDigit_alnum h)

theorem digits_no_slash (n : Nat) : (47 : UInt8) ∉ digits n :=
  not_mem_of_all (digits_all n) (by decide)

theorem control_plain (n : Nat) : (control n).all plainByte = true := by
  unfold control
  rw [List.all_append, digits_plain, trackCtl_eq]; decide

theorem control_ne_nil (n : Nat) : control n ≠ [] := by
  unfold control; rw [trackCtl_eq]; simp

theorem slash_control_plain (n : Nat) : (47 :: control n).all plainByte = true := by
  rw [List.all_cons, control_plain]; decide

theorem slash_plain : ([47] : Str).all plainByte = true := by decide

theorem tag_digits (n : Nat) : trackTag ++ digits n = 47 :: control n := by
  rw [trackTag_eq, control, trackCtl_eq]; rfl

theorem control_head (n : Nat) : (control n).head? = some 116 := by
  unfold control; rw [trackCtl_eq]; rfl

theorem isAbsoluteControl_iff {c : Str} :
    isAbsoluteControl c = true ↔ schemeRTSP ++ [58, 47, 47] <+: c ∨ schemeRTSPS ++ [58, 47, 47] <+: c := by
  have h1 : pfxRTSP = schemeRTSP ++ [58, 47, 47] := by decide
  have h2 : pfxRTSPS = schemeRTSPS ++ [58, 47, 47] := by decide
  simp [isAbsoluteControl, hasPrefix, h1, h2]

/-- an absolute control begins with `r` -/
theorem not_absolute_of_head {c : Str} (h : c.head? ≠ some 114) : isAbsoluteControl c = false := by
  rw [← Bool.not_eq_true, isAbsoluteControl_iff, schemeRTSP_eq, schemeRTSPS_eq]
  rintro (⟨t, rfl⟩ | ⟨t, rfl⟩) <;> exact h rfl

theorem control_not_absolute (n : Nat) : isAbsoluteControl (control n) = false :=
  not_absolute_of_head (by rw [control_head]; decide)

theorem endsWithSlash_eq (s : Str) : endsWithSlash s = (s.getLast? == some 47) := by
  rcases List.eq_nil_or_concat s with rfl | ⟨r, x, rfl⟩
  · rfl
  · simp [endsWithSlash, hasSuffix, List.isSuffixOf, List.isPrefixOf, Bool.beq_comm]

theorem endsWithSlash_snoc (s : Str) : endsWithSlash (s ++ [47]) = true := by simp [endsWithSlash_eq]

theorem endsWithSlash_iff {s : Str} : endsWithSlash s = true ↔ ∃ r, s = r ++ [47] := by
  simp [endsWithSlash_eq, List.getLast?_eq_some_iff]

theorem endsWithSlash_append_ne {a b : Str} (hb : b ≠ []) : endsWithSlash (a ++ b) = endsWithSlash b := by
  rw [endsWithSlash_eq, endsWithSlash_eq, List.getLast?_append, List.getLast?_eq_some_getLast hb, Option.some_or]

theorem unescape_snoc_slash (m : Mode) {e p : Str} (h : unescape m (e ++ [47]) = some p) : ∃ p', p = p' ++ [47] := by
  induction e using pctInduction generalizing p with
  | nil =>
    obtain ⟨r, _, hr, rfl⟩ := unescape_plain_inv m (by decide) h
    cases hr; exact ⟨[], rfl⟩
  | pct x y r ih =>
    obtain ⟨v, r', _, hr, rfl⟩ := unescape_pct_inv m h
    obtain ⟨p', rfl⟩ := ih hr
    exact ⟨v :: p', rfl⟩
  | short r hr =>
    match r with
    | [] => rw [show [37] ++ [47] = (37 : UInt8) :: [47] from rfl, unescape_pct_short m (by simp)] at h; cases h
    | [x] =>
      -- `%x/`: `/` is no hex digit
      obtain ⟨v, r, hp, _, _⟩ := unescape_pct_inv m (show unescape m (37 :: x :: 47 :: []) = some p from h)
      simp [pctByte, isHex] at hp
    | _ :: _ :: _ => simp at hr; omega
  | plain c r hc ih =>
    obtain ⟨r', _, hr, rfl⟩ := unescape_plain_inv m hc h
    obtain ⟨p', rfl⟩ := ih hr
    exact ⟨c :: p', rfl⟩

theorem PathOK.no_slash {ep path : Str} (h : PathOK ep path) (hp : endsWithSlash path = false) :
    endsWithSlash ep = false := by
  rw [← Bool.not_eq_true, endsWithSlash_iff] at hp ⊢
  rintro ⟨r, rfl⟩
  exact hp (unescape_snoc_slash .path h.dec)

/-- The property's quantifier: a well-formed URL whose (non-empty) path and whose query do not end in `/`. -/
structure InScope (u : Url) : Prop where
  wf : WF u
  pathNoSlash : endsWithSlash u.path = false
  queryNoSlash : endsWithSlash u.rawQuery = false

theorem assemble_endsWithSlash {scheme a ep path q : Str} {fq : Bool} (hp : PathOK ep path)
    (h1 : endsWithSlash path = false) (h2 : endsWithSlash q = false) :
    endsWithSlash (assemble scheme a ep fq q) = false := by
  have hep : ep ≠ [] := fun e => by have := hp.slash; simp [e] at this
  unfold assemble queryText
  split
  · -- "?q": the last byte is '?' or the last byte of q
    rw [show scheme ++ 58 :: 47 :: 47 :: (a ++ (ep ++ 63 :: q)) = (scheme ++ 58 :: 47 :: 47 :: (a ++ ep) ++ [63]) ++ q by simp]
    cases q with
    | nil => rw [List.append_nil, endsWithSlash_append_ne (by simp)]; rfl
    | cons c r => rw [endsWithSlash_append_ne (by simp)]; exact h2
  · rw [show scheme ++ 58 :: 47 :: 47 :: (a ++ (ep ++ [])) = (scheme ++ 58 :: 47 :: 47 :: a) ++ ep by simp,
      endsWithSlash_append_ne hep]
    exact hp.no_slash h1

theorem InScope.toStr_noSlash {u : Url} (h : InScope u) : endsWithSlash u.toStr = false := by
  rw [toStr_wf h.wf]
  exact assemble_endsWithSlash h.wf.path h.pathNoSlash h.queryNoSlash

theorem tag_digits_plain (i : Nat) : (trackTag ++ digits i).all plainByte = true :=
  tag_digits i ▸ slash_control_plain i

theorem tag_digits_ne (i : Nat) : trackTag ++ digits i ≠ [] := by rw [tag_digits]; simp

/-- the URL the server parses from the SETUP request for media `n` -/
theorem InScope.wf_setup {u : Url} (h : InScope u) (n : Nat) : WF (extend u.withoutCredentials (trackTag ++ digits n)) :=
  h.wf.withoutCredentials.extend (tag_digits_plain n) (tag_digits_ne n)

/-- the server rejects only `*` before parsing, and `*` does not parse -/
theorem serverURL_of_parse {t : Str} {u : Url} (h : parse t = some u) : serverURL t = some u := by
  unfold serverURL
  split
  · next e => rw [e, show parse [42] = none by decide] at h; cases h
  · exact h

theorem serverURL_toStr {u : Url} (h : WF u) : serverURL u.toStr = some u :=
  serverURL_of_parse (parse_toStr h)

theorem requestTarget_some (u : Url) : requestTarget (some u) = u.withoutCredentials.toStr := rfl

theorem serverURL_target {u : Url} (h : WF u) :
    serverURL (requestTarget (some u)) = some u.withoutCredentials := by
  rw [requestTarget_some]; exact serverURL_toStr h.withoutCredentials

/-- DESCRIBE / ANNOUNCE / RECORD / PAUSE / … on the URL itself -/
theorem gpq_self {u : Url} (h : InScope u) (ann : Bool) :
    getPathAndQuery u.withoutCredentials ann = (u.path, u.rawQuery) := by
  unfold getPathAndQuery
  cases ann with
  | true => rfl
  | false => simp [Url.withoutCredentials, h.queryNoSlash, h.pathNoSlash]

theorem gpq_query_slash (u : Url) (fq : Bool) :
    getPathAndQuery { u with forceQuery := fq, rawQuery := u.rawQuery ++ [47] } false = (u.path, u.rawQuery) := by
  simp [getPathAndQuery, endsWithSlash_snoc]

theorem gpq_path_slash (u : Url) (ep : Str) (hp : u.path ≠ []) (hqs : endsWithSlash u.rawQuery = false) :
    getPathAndQuery { u with path := u.path ++ [47], epath := ep } false = (u.path, u.rawQuery) := by
  simp [getPathAndQuery, hqs, endsWithSlash_snoc, hp]

/-- PLAY / PAUSE / TEARDOWN / keep-alive on the Content-Base URL -/
theorem gpq_base {u : Url} (h : InScope u) :
    getPathAndQuery (extend u [47]).withoutCredentials false = (u.path, u.rawQuery) := by
  cases hq : hasQ u with
  | true => rw [extend_query hq]; exact gpq_query_slash u false
  | false =>
    obtain ⟨p', hp'⟩ := h.wf.path.path_cons
    rw [extend_path hq]
    exact gpq_path_slash u (u.epath ++ [47]) (by simp [hp']) (by rw [(hasQ_false hq).2]; rfl)

/-- the library's layout `path?query/trackID=n`: the appended tag is found, whatever the query contains -/
theorem gpqt_query_layout (u : Url) (n : Nat) (fq : Bool) :
    getPathAndQueryAndTrackID { u with forceQuery := fq, rawQuery := u.rawQuery ++ (trackTag ++ digits n) } =
      some (u.path, u.rawQuery, digits n) := by
  have htl := trackTag_length
  unfold getPathAndQueryAndTrackID
  simp only
  rw [revIndex_appended_tag _ _ (digits_ne_nil n) (digits_no_slash n)]
  simp [htl]

/-- the layout `path/trackID=n?query`, when the query itself shows no tag -/
theorem gpqt_path_layout (u : Url) (n : Nat) (ep : Str) (hq : revIndex u.rawQuery trackTag = none) :
    getPathAndQueryAndTrackID { u with path := u.path ++ (trackTag ++ digits n), epath := ep } =
      some (u.path, u.rawQuery, digits n) := by
  have htl := trackTag_length
  unfold getPathAndQueryAndTrackID
  simp only [hq]
  rw [revIndex_appended_tag _ _ (digits_ne_nil n) (digits_no_slash n)]
  simp [htl]

/-- SETUP on `base + "trackID=n"`, as the server receives it -/
theorem gpqt_setup (u : Url) (n : Nat) :
    getPathAndQueryAndTrackID (extend u.withoutCredentials (trackTag ++ digits n)) = some (u.path, u.rawQuery, digits n) := by
  cases hq : hasQ u.withoutCredentials with
  | true => rw [extend_query hq]; exact gpqt_query_layout _ n false
  | false =>
    rw [extend_path hq]
    exact gpqt_path_layout _ n _ (by rw [(hasQ_false hq).2]; exact revIndex_no_slash List.not_mem_nil)

theorem control_inj {i j : Nat} : control i = control j ↔ i = j := by
  unfold control
  rw [List.append_right_inj]
  exact ⟨digits_injective, congrArg digits⟩

theorem contentBase_eq (su : Url) : contentBase su = su.toStr ++ [47] := by
  unfold contentBase
  have : ofString Facts.Url.contentBaseSuffix = [47] := by decide
  rw [this]

theorem restore_user {u : Url} (h : WF u) : { u.withoutCredentials with user := u.user } = u := by
  have ho := h.noOmit
  obtain ⟨sch, usr, hst, pth, ep, fq, q, oh⟩ := u
  simp at ho; subst ho; rfl

/-- the client's base URL when the server answered DESCRIBE with `Content-Base: <request URL>/` -/
theorem findBaseURL_contentBase {u : Url} (h : WF u) :
    findBaseURL none (some [contentBase u.withoutCredentials]) u = some (extend u [47]) := by
  have hw := h.withoutCredentials
  have hpre : hasPrefix [47] (u.withoutCredentials.toStr ++ [47]) = false := by
    rw [toStr_wf hw]; unfold assemble
    rcases hw.scheme with e | e <;> rw [e] <;> rfl
  unfold findBaseURL
  simp only [Option.filter_none, contentBase_eq, hpre, Bool.false_eq_true, if_false,
    parse_toStr_append hw slash_plain (by simp)]
  rw [extend_user, restore_user h]

theorem mediaURL_relative {b : Url} (h : WF b) {ctl : Str} (hp : ctl.all plainByte = true) (hne : ctl ≠ [])
    (hna : isAbsoluteControl ctl = false) :
    mediaURL ctl (some b) =
      .url (extend b ((if ctl.head? != some 47 && !endsWithSlash b.toStr then [47] else []) ++ ctl)) := by
  have h63 : (ctl.head? != some 63) = true := by
    cases ctl with
    | nil => exact absurd rfl hne
    | cons c r =>
      rw [List.all_cons, Bool.and_eq_true] at hp
      have hc : c ≠ 63 := fun e => by rw [e] at hp; exact absurd hp.1 (by decide)
      simp [hc]
  unfold mediaURL
  simp only [hne, if_false, hna, Bool.false_eq_true, h63, Bool.true_and]
  by_cases hsep : (ctl.head? != some 47 && !endsWithSlash b.toStr) = true
  · rw [if_pos hsep, if_pos hsep, List.append_assoc, parse_toStr_append h (by rw [List.all_append, hp]; rfl) (by simp)]
  · rw [if_neg hsep, if_neg hsep, parse_toStr_append h hp hne]; rfl

theorem mediaURL_qmark {b : Url} (h : WF b) (hq : hasQ b = false) {x : Str} (hx : x.all cleanByte = true) :
    mediaURL (63 :: x) (some b) = .url { b with forceQuery := x.isEmpty, rawQuery := x } := by
  unfold mediaURL
  simp only [List.cons_ne_nil, if_false, not_absolute_of_head (c := 63 :: x) (by simp), Bool.false_eq_true,
    List.head?_cons, bne_self_eq_false, Bool.false_and, parse_toStr_append_qmark h hq hx]

theorem mediaURL_contentBase {u : Url} (h : InScope u) (n : Nat) :
    mediaURL (control n) (some (extend u [47])) = .url (extend u (trackTag ++ digits n)) := by
  rw [mediaURL_relative (h.wf.extend slash_plain (by simp)) (control_plain n) (control_ne_nil n) (control_not_absolute n),
    toStr_extend h.wf slash_plain (by simp), endsWithSlash_snoc, extend_extend _ _ (by simp), tag_digits]
  simp

theorem mediaURL_self {u : Url} (h : InScope u) (n : Nat) :
    mediaURL (control n) (some u) = .url (extend u (trackTag ++ digits n)) := by
  rw [mediaURL_relative h.wf (control_plain n) (control_ne_nil n) (control_not_absolute n), h.toStr_noSlash,
    control_head, tag_digits]
  rfl

theorem mediaURL_self_slash {u : Url} (h : InScope u) (n : Nat) :
    mediaURL (47 :: control n) (some u) = .url (extend u (trackTag ++ digits n)) := by
  rw [mediaURL_relative h.wf (slash_control_plain n) (by simp) (not_absolute_of_head (by simp)), tag_digits]
  rfl

/-- which announced control a recording SETUP URL matches: exactly the one it was built from -/
theorem mediaMatches_control {u : Url} (hq : u.forceQuery = false) (i j : Nat) :
    mediaMatches (control j) u.path u.rawQuery (extend u.withoutCredentials (trackTag ++ digits i)) = decide (j = i) := by
  unfold mediaMatches
  simp only [control_not_absolute j, Bool.false_eq_true, if_false]
  by_cases hr : u.rawQuery = []
  · -- no query: the control continues the path
    rw [extend_path (by simp [hasQ, Url.withoutCredentials, hq, hr])]
    rw [Bool.eq_iff_iff]; simp [Url.withoutCredentials, hr, tag_digits, control_inj]
  · rw [extend_query (by simpa [hasQ, Url.withoutCredentials] using Or.inr hr)]
    rw [Bool.eq_iff_iff]; simp [Url.withoutCredentials, hr, tag_digits, control_inj]

theorem findMediaByURL_controls {u : Url} (hq : u.forceQuery = false) {k i : Nat} (hi : i < k) :
    findMediaByURL ((List.range k).map control) u.path u.rawQuery
      (extend u.withoutCredentials (trackTag ++ digits i)) = some i := by
  have hlen : ((List.range k).map control).length = k := by simp
  unfold findMediaByURL
  rw [(List.findIdx_eq (hlen ▸ hi)).2 ⟨by simp [mediaMatches_control hq],
    fun j hj => by simp [mediaMatches_control hq]; omega⟩, hlen, if_pos hi]

theorem isAbsolute_toStr {v : Url} (h : WF v) : isAbsoluteControl v.toStr = true := by
  rw [toStr_wf h, isAbsoluteControl_iff]
  unfold assemble
  rcases h.scheme with e | e <;> simp [e]

end Rtsp.Url
