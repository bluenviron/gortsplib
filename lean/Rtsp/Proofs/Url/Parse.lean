import Rtsp.Proofs.Url.Str
/-
`parse` (base.ParseURL) on text assembled from well-formed components: the central lemma
`parse_assemble` — the parser cuts `scheme://authority path ?query` exactly where the text was put
together, whatever the path and the query contain (within the stated byte classes).
-/
namespace Rtsp.Url

theorem schemeRTSP_eq : schemeRTSP = [114, 116, 115, 112] := by decide
theorem schemeRTSPS_eq : schemeRTSPS = [114, 116, 115, 112, 115] := by decide

def IsScheme (s : Str) : Prop := s = schemeRTSP ∨ s = schemeRTSPS

theorem findSub_scheme {scheme : Str} (hs : IsScheme scheme) (X : Str) :
    findSub [58, 47, 47] (scheme ++ 58 :: 47 :: 47 :: X) = some scheme.length := by
  rcases hs with rfl | rfl
  · rw [schemeRTSP_eq]; simp [findSub, List.isPrefixOf]
  · rw [schemeRTSPS_eq]; simp [findSub, List.isPrefixOf]

theorem getScheme_scheme {scheme : Str} (hs : IsScheme scheme) (X : Str) :
    getScheme (scheme ++ 58 :: X) = some (scheme, X) := by
  rcases hs with rfl | rfl
  · rw [schemeRTSP_eq]; simp [getScheme, getSchemeAux, isAlpha, isDigit]
  · rw [schemeRTSPS_eq]; simp [getScheme, getSchemeAux, isAlpha, isDigit]

theorem scheme_lower {scheme : Str} (hs : IsScheme scheme) : scheme.map toLower = scheme := by
  rcases hs with rfl | rfl <;> decide

theorem scheme_accepted {scheme : Str} (hs : IsScheme scheme) :
    (scheme != schemeRTSP && scheme != schemeRTSPS) = false := by
  rcases hs with rfl | rfl <;> decide

theorem scheme_pos {scheme : Str} (hs : IsScheme scheme) : scheme.length ≠ 0 := by
  rcases hs with rfl | rfl <;> decide

/-- no control byte and no `#` -/
def cleanByte (c : UInt8) : Bool := !isCTL c && c != 35

/-- authority bytes: clean and none of `/ ? #` -/
def authByte (c : UInt8) : Bool := cleanByte c && !isDelim c

/-- path bytes: clean and no `?` -/
def pathByte (c : UInt8) : Bool := cleanByte c && c != 63

theorem scheme_bytes {scheme : Str} (hs : IsScheme scheme) : scheme.all authByte = true := by
  rcases hs with rfl | rfl <;> decide

/-- the authority text `URL.String` writes -/
def authText (user : Option UserInfo) (host : Str) : Str := userText user ++ escape .host host

/-- the IPv6-zone rewrite of base.ParseURL leaves the authority alone -/
def zoneStable (a : Str) : Bool :=
  match splitFirst 64 a with
  | some (_, m3) => fixPct m3 == m3
  | none => true

/-- An authority text that the parser maps to `(user, host)`. -/
structure AuthOK (a : Str) (user : Option UserInfo) (host : Str) : Prop where
  bytes : a.all authByte = true
  parse : parseAuthority a = some (user, host)
  stable : zoneStable a = true

/-- An escaped path `ep` (beginning with `/`) that decodes to `path` and is printed back unchanged. -/
structure PathOK (ep path : Str) : Prop where
  slash : ep.head? = some 47
  bytes : ep.all pathByte = true
  dec : unescape .path ep = some path
  enc : escapedPathOf ep path = ep

/-- the `?query` part as `URL.String` writes it -/
def queryText (fq : Bool) (q : Str) : Str := if fq || !q.isEmpty then 63 :: q else []

/-- `scheme://authority path ?query` -/
def assemble (scheme a ep : Str) (fq : Bool) (q : Str) : Str :=
  scheme ++ 58 :: 47 :: 47 :: (a ++ (ep ++ queryText fq q))

theorem authByte_not_delim {c : UInt8} (h : authByte c = true) : isDelim c = false := by
  simp [authByte] at h; simp [h.2]

theorem takeWhile_noDelim {a rest : Str} (ha : ∀ x ∈ a, isDelim x = false)
    (hr : rest.head?.all isDelim = true) :
    (a ++ rest).takeWhile (fun c => !isDelim c) = a := by
  rw [List.takeWhile_append_of_pos]
  · cases rest with
    | nil => simp
    | cons c t => rw [List.head?_cons, Option.all_some] at hr; simp [hr]
  · intro c m; simp [ha c m]

/-- `h10`: the `.*` of `escapeRegexp`, which guards the rewrite in base.ParseURL, does not match a line feed. -/
theorem rewriteZone_id {scheme a t : Str} (hs : IsScheme scheme) (ha : a.all authByte = true)
    (hst : zoneStable a = true) (h10 : (10 : UInt8) ∉ t) :
    rewriteZone (scheme ++ 58 :: 47 :: 47 :: (a ++ 47 :: t)) = scheme ++ 58 :: 47 :: 47 :: (a ++ 47 :: t) := by
  have hany : scheme.any isDelim = false :=
    List.any_eq_false.2 fun c m => by simp [authByte_not_delim (mem_all (scheme_bytes hs) m)]
  have htw : (a ++ 47 :: t).takeWhile (fun c => !isDelim c) = a :=
    takeWhile_noDelim (fun c m => authByte_not_delim (mem_all ha m)) rfl
  have hm1 : List.take scheme.length (scheme ++ 58 :: 47 :: 47 :: (a ++ 47 :: t)) = scheme := by simp
  have hdrop : List.drop (scheme.length + 3) (scheme ++ 58 :: 47 :: 47 :: (a ++ 47 :: t)) = a ++ 47 :: t := by
    rw [List.drop_append]; simp
  unfold rewriteZone
  rw [findSub_scheme hs]
  simp only
  rw [hm1, hdrop, if_neg (by simp [scheme_pos hs, hany]), htw, List.drop_left]
  simp only
  rw [if_neg (by simpa using h10)]
  cases hsp : splitFirst 64 a with
  | none => rfl
  | some r =>
    have hfix : fixPct r.2 = r.2 := by
      unfold zoneStable at hst; rw [hsp] at hst; simpa using hst
    simp only [hfix]
    rw [(splitFirst_spec hsp).1]; simp

theorem assemble_clean {scheme a ep q : Str} (fq : Bool) (hs : IsScheme scheme) (ha : a.all authByte = true)
    (hp : ep.all pathByte = true) (hq : q.all cleanByte = true) : (assemble scheme a ep fq q).all cleanByte = true := by
  have hac : ∀ {s : Str}, s.all authByte = true → s.all cleanByte = true := fun h =>
    all_weaken h fun c hc => by simp [authByte] at hc; exact hc.1
  have hpc : ep.all cleanByte = true := all_weaken hp fun c hc => by simp [pathByte] at hc; exact hc.1
  have hqc : (queryText fq q).all cleanByte = true := by unfold queryText; split <;> simp [hq]; decide
  simp only [assemble, List.all_append, List.all_cons, hac (scheme_bytes hs), hac ha, hpc, hqc]
  decide

/-- how net/url cuts the query off `R ++ "?" ++ q` (`R` without `?`), for any continuation `k` -/
theorem splitQuery {α : Type} (k : Str → Bool → Str → α) {R q : Str} (hR : (63 : UInt8) ∉ R) (fq : Bool) :
    (if (hasSuffix [63] (R ++ queryText fq q) && (R ++ queryText fq q).count 63 == 1) = true
      then k (R ++ queryText fq q).dropLast true []
      else match splitFirst 63 (R ++ queryText fq q) with
        | some (r, q') => k r false q'
        | none => k (R ++ queryText fq q) false [])
    = k R (fq && q.isEmpty) q := by
  have hcR : R.count 63 = 0 := List.count_eq_zero.2 hR
  unfold queryText
  by_cases hq : q = []
  · subst hq
    cases fq with
    | false => simp [hcR, splitFirst_none hR]
    | true =>
      have h1 : hasSuffix [63] (R ++ [63]) = true := List.isSuffixOf_iff_suffix.2 (List.suffix_append _ _)
      simp [h1, List.count_append, hcR]
  · have hne : (!q.isEmpty) = true := by simpa using hq
    simp only [hne, Bool.or_true, if_true]
    have hcond : (hasSuffix [63] (R ++ 63 :: q) && (R ++ 63 :: q).count 63 == 1) = false := by
      cases hsuf : hasSuffix [63] (R ++ 63 :: q) with
      | false => simp
      | true =>
        -- then q ends with '?', so there are at least two '?'
        obtain ⟨t, ht⟩ := List.isSuffixOf_iff_suffix.1 hsuf
        have hlast : (R ++ 63 :: q).getLast? = some 63 := by rw [← ht]; simp
        rw [show R ++ 63 :: q = (R ++ [63]) ++ q by simp, List.getLast?_append, List.getLast?_eq_some_getLast hq,
          Option.some_or, Option.some.injEq] at hlast
        have : 0 < q.count 63 := List.count_pos_iff.2 (hlast ▸ List.getLast_mem hq)
        simp [List.count_append, hcR]; omega
    have hqe : q.isEmpty = false := by simpa using hq
    rw [hcond, if_neg Bool.false_ne_true, splitFirst_append hR, hqe, Bool.and_false]

theorem parseRest_ok {scheme a ep path q : Str} {user : Option UserInfo} {host : Str} {fq : Bool}
    (ha : AuthOK a user host) (hp : PathOK ep path) :
    parseRest scheme (47 :: 47 :: (a ++ ep)) fq q =
      some { scheme, user, host, path, epath := ep, forceQuery := fq, rawQuery := q } := by
  obtain ⟨ep', rfl⟩ := List.head?_eq_some_iff.1 hp.slash
  have h47 : (47 : UInt8) ∉ a := not_mem_of_all ha.bytes (by decide)
  unfold parseRest
  simp only [splitFirst_append h47, ha.parse, hp.dec, hp.enc]

/-- **The parser inverts the assembly.**  For a scheme `rtsp`/`rtsps`, an authority the parser accepts, an
escaped path beginning with `/`, and any query without control bytes and `#`:
`base.ParseURL("scheme://authority" + path + "?" + query)` has exactly these components. -/
theorem parse_assemble {scheme a ep path q : Str} {user : Option UserInfo} {host : Str} (fq : Bool)
    (hs : IsScheme scheme) (ha : AuthOK a user host) (hp : PathOK ep path) (hq : q.all cleanByte = true) :
    parse (assemble scheme a ep fq q) =
      some { scheme, user, host, path, epath := ep, forceQuery := fq && q.isEmpty, rawQuery := q } := by
  have hall := assemble_clean fq hs ha.bytes hp.bytes hq
  have h35 : (35 : UInt8) ∉ assemble scheme a ep fq q := not_mem_of_all hall (by decide)
  have hctl : (assemble scheme a ep fq q).any isCTL = false :=
    List.any_eq_false.2 fun c m => by have := mem_all hall m; simp [cleanByte] at this; simp [this.1]
  obtain ⟨ep', he⟩ := List.head?_eq_some_iff.1 hp.slash
  have e : assemble scheme a ep fq q = scheme ++ 58 :: 47 :: 47 :: (a ++ 47 :: (ep' ++ queryText fq q)) := by
    rw [he]; rfl
  have h10 : (10 : UInt8) ∉ ep' ++ queryText fq q := fun m =>
    not_mem_of_all hall (c := 10) (by decide) (by rw [e]; simp [List.mem_append.1 m])
  unfold parse parseStd
  rw [e, rewriteZone_id hs ha.bytes ha.stable h10, ← e, splitFirst_none h35]
  simp only [Bool.not_true, Bool.false_eq_true, if_false, hctl]
  unfold parseNoFrag
  have hsch : getScheme (assemble scheme a ep fq q) = some (scheme, 47 :: 47 :: (a ++ (ep ++ queryText fq q))) := by
    unfold assemble; exact getScheme_scheme hs _
  rw [hsch]
  simp only [scheme_lower hs, scheme_accepted hs, Bool.false_eq_true, if_false]
  have hR : (63 : UInt8) ∉ (47 :: 47 :: (a ++ ep)) := by
    simp only [List.mem_cons, List.mem_append, not_or]
    exact ⟨by decide, by decide, not_mem_of_all ha.bytes (by decide), not_mem_of_all hp.bytes (by decide)⟩
  rw [show 47 :: 47 :: (a ++ (ep ++ queryText fq q)) = (47 :: 47 :: (a ++ ep)) ++ queryText fq q by simp]
  exact (splitQuery (parseRest scheme) hR fq).trans (parseRest_ok ha hp)

end Rtsp.Url
