import Rtsp.Proofs.Url.Escape
/-
The authority of a URL value is printed back the way it parses as soon as its host is (`HostOK`,
`authOK_of_hostOK`): the user-info needs no hypothesis, since net/url escapes in it every byte that structures an
authority and `unescape` undoes that (`escUser`); it only decides whether the IPv6-zone rewrite of
base.ParseURL gets to see the host text.  Two classes of hosts satisfy `HostOK`: plain names / IPv4 literals
(`hostOK_plain`) and bracketed IPv6 literals without zone (`hostOK_v6`), each with an optional numeric port.
-/
namespace Rtsp.Url

/-- bytes of a user name / password that net/url prints back unescaped: alnum `- _ . ~ $ & + , ; =` -/
def userPlain (c : UInt8) : Bool := !shouldEscape c .userPassword && c != 37

/-- bytes of a registered name / IPv4 literal that net/url prints back unescaped and that do not structure the
authority: alnum `- _ . ~` and the sub-delims `! $ & ' ( ) * + , ; =` (no `:`, `[`, `]`, `@`, `%`) -/
def hostPlain (c : UInt8) : Bool :=
  !shouldEscape c .host && c != 37 && c != 58 && c != 91 && c != 93 && c != 64 && c < 128 && authByte c && c != 60 && c != 62 && c != 34

/-- what `validUserinfo` asks of one byte -/
abbrev userinfoByte (c : UInt8) : Bool :=
  isAlnum c || [45, 46, 95, 58, 126, 33, 36, 38, 39, 40, 41, 42, 43, 44, 59, 61, 37, 64].contains c

theorem escUser (s : Str) :
    unescape .userPassword (escape .userPassword s) = some s ∧ (58 : UInt8) ∉ escape .userPassword s ∧
    (64 : UInt8) ∉ escape .userPassword s ∧ (escape .userPassword s).all authByte = true ∧
    validUserinfo (escape .userPassword s) = true := by
  have ha : ∀ c, isAlnum c = true → c ≠ 58 ∧ c ≠ 64 ∧ authByte c = true ∧ userinfoByte c = true :=
    fun c hc => ⟨(isAlnum_facts hc).2.2.1, (isAlnum_facts hc).2.2.2, (isAlnum_facts hc).1, by simp [hc]⟩
  have h := forall_mem_escape (m := .userPassword) (by decide) ha (forall_unescaped ha (by decide)) s
  exact ⟨unescape_escape (.inr rfl) s, fun m => (h 58 m).1 rfl, fun m => (h 64 m).2.1 rfl,
    List.all_eq_true.2 fun c m => (h c m).2.2.1, List.all_eq_true.2 fun c m => (h c m).2.2.2⟩

/-- `name[:port]` -/
def hostPort (name : Str) (port : Option Str) : Str :=
  name ++ (match port with | some p => 58 :: p | none => [])

/-- The one hypothesis on the authority of a URL value, on its host: net/url parses the host text it prints back to the
host, and, when user-info stands in front of it (`behindAt`), the IPv6-zone rewrite of base.ParseURL (`%` → `%25` in
what follows the first `@`) leaves that text alone.  Hosts the parser returns can fail it: one with a byte ≥ 128 behind
user-info (printed `%C3`, rewritten to `%25C3`, read back as the three bytes `%C3`), and an IPv6 zone that contains `[` or a
raw non-ASCII byte (the printed text no longer parses). -/
structure HostOK (behindAt : Prop) (h : Str) : Prop where
  parse : parseHost (escape .host h) = some h
  stable : behindAt → fixPct (escape .host h) = escape .host h

theorem unpct25_id {s : Str} (h : (37 : UInt8) ∉ s) : unpct25 s = s := by
  induction s using unpct25.induct with
  | case1 | case2 | case3 => rfl
  | case4 c a b rest hc => simp at hc; exact absurd (by simp [hc.1.1]) h
  | case5 c a b rest hc ih => rw [unpct25, if_neg hc, ih fun m => h (List.mem_cons_of_mem _ m)]

theorem fixPct_id {s : Str} (h : (37 : UInt8) ∉ s) : fixPct s = s := by
  unfold fixPct
  rw [unpct25_id h]
  unfold pct25
  induction s with
  | nil => rfl
  | cons c r ih =>
    rw [List.mem_cons, not_or] at h
    rw [List.flatMap_cons, if_neg (Ne.symm h.1), ih h.2]; rfl

theorem hostOK_of_bytes {p : Prop} {h : Str} (hb : ∀ c ∈ h, shouldEscape c .host = false) (hp : parseHost h = some h) :
    HostOK p h := by
  have he : escape .host h = h := escape_id hb
  exact ⟨he.symm ▸ hp, fun _ => he.symm ▸ fixPct_id fun m => absurd (hb 37 m) (by decide)⟩

theorem hostPlain_unescaped {c : UInt8} (h : hostPlain c = true) : shouldEscape c .host = false := by
  simp [hostPlain] at h; simp [h]

theorem colon_alnum_unescaped {c : UInt8} (h : c = 58 ∨ isAlnum c = true) : shouldEscape c .host = false := by
  rcases h with rfl | h
  · rfl
  · exact shouldEscape_alnum h _

theorem validOptionalPort_cons {c : UInt8} {p : Str} :
    validOptionalPort (c :: p) = true ↔ c = 58 ∧ p.all isDigit = true := by
  simp [validOptionalPort]

theorem portText_bytes {pt : Str} (h : validOptionalPort pt = true) :
    (∀ c ∈ pt, shouldEscape c .host = false) ∧ (91 : UInt8) ∉ pt ∧ (93 : UInt8) ∉ pt := by
  cases pt with
  | nil => simp
  | cons c p =>
    obtain ⟨rfl, hp⟩ := validOptionalPort_cons.1 h
    simp only [List.mem_cons, not_or]
    exact ⟨fun c m => colon_alnum_unescaped (m.imp id fun m => isDigit_alnum (mem_all hp m)),
      ⟨by decide, not_mem_of_all hp (by decide)⟩, by decide, not_mem_of_all hp (by decide)⟩

theorem portText_valid {port : Option Str} (hp : ∀ p, port = some p → p.all isDigit = true) :
    validOptionalPort (match (generalizing := false) port with | some p => 58 :: p | none => []) = true := by
  cases port with
  | none => rfl
  | some p => simp [validOptionalPort, hp p rfl]

theorem hostOK_name_port {p : Prop} {name pt : Str} (hn : name.all hostPlain = true)
    (hpt : validOptionalPort pt = true) : HostOK p (name ++ pt) := by
  obtain ⟨hpb, hp91, _⟩ := portText_bytes hpt
  have hb : ∀ c ∈ name ++ pt, shouldEscape c .host = false := fun c m =>
    (List.mem_append.1 m).elim (fun m => hostPlain_unescaped (mem_all hn m)) (hpb c)
  refine hostOK_of_bytes hb ?_
  have h91 : (name ++ pt).contains 91 = false := by
    simpa using ⟨not_mem_of_all hn (by decide), hp91⟩
  have h58 : (58 : UInt8) ∉ name := not_mem_of_all hn (by decide)
  unfold parseHost
  rw [h91]
  simp only [Bool.false_eq_true, if_false]
  cases pt with
  | nil =>
    rw [List.append_nil, splitFirst_none h58]
    simp only [Bool.not_true, Bool.false_eq_true, if_false]
    exact unescape_id fun c m => hb c (by simpa using m)
  | cons c p =>
    obtain ⟨rfl, hp⟩ := validOptionalPort_cons.1 hpt
    rw [splitFirst_append h58]
    simp only [hp, Bool.not_true, Bool.false_eq_true, if_false]
    exact unescape_id hb

theorem hostOK_plain {b : Prop} {name : Str} {port : Option Str} (hn : name.all hostPlain = true)
    (hp : ∀ p, port = some p → p.all isDigit = true) : HostOK b (hostPort name port) :=
  hostOK_name_port hn (portText_valid hp)

/-- plain user-info: a user name and optionally a password of `userPlain` bytes -/
def UserPlain (u : Option UserInfo) : Prop :=
  match u with
  | none => True
  | some ui => ui.username.all userPlain = true ∧ (∀ p, ui.password = some p → p.all userPlain = true)

/-- By `escUser` the last `@` is the one `URL.String` wrote and the first `:` in front of it separates name and
password; the IPv6-zone rewrite of base.ParseURL then sees only the host text. -/
theorem authOK_of_hostOK (user : Option UserInfo) {host : Str} (hh : HostOK (user.isSome = true) host) :
    AuthOK (authText user host) user host := by
  obtain ⟨h64, hab⟩ := escape_host_bytes host
  obtain ⟨hph, hz⟩ := hh
  unfold authText
  generalize escape .host host = ht at hab h64 hph hz
  cases user with
  | none =>
    refine ⟨hab, ?_, ?_⟩
    · unfold parseAuthority; simp [userText, splitLast_none h64, hph]
    · unfold zoneStable; simp [userText, splitFirst_none h64]
  | some ui =>
    obtain ⟨un, pw⟩ := ui
    obtain ⟨hdu, h58u, h64u, hau, hvu⟩ := escUser un
    cases pw with
    | none =>
      simp only [userText, UserInfo.render, List.append_nil, List.append_assoc, List.singleton_append]
      refine ⟨by rw [List.all_append, hau, List.all_cons, hab]; rfl, ?_, ?_⟩
      · unfold parseAuthority
        simp only [splitLast_append h64, hph, hvu, Bool.not_true, Bool.false_eq_true, if_false, splitFirst_none h58u, hdu]
      · unfold zoneStable; simp [splitFirst_append h64u, hz rfl]
    | some pw =>
      obtain ⟨hdp, _, h64p, hap, hvp⟩ := escUser pw
      have hv : validUserinfo (escape .userPassword un ++ 58 :: escape .userPassword pw) = true := by
        unfold validUserinfo at hvu hvp ⊢
        rw [List.all_append, List.all_cons, hvu, hvp]; decide
      have h64' : (64 : UInt8) ∉ escape .userPassword un ++ 58 :: escape .userPassword pw := by
        simp [h64u, h64p]
      simp only [userText, UserInfo.render, List.append_assoc, List.cons_append, List.nil_append]
      rw [show escape .userPassword un ++ 58 :: (escape .userPassword pw ++ 64 :: ht) =
        (escape .userPassword un ++ 58 :: escape .userPassword pw) ++ 64 :: ht by simp]
      refine ⟨by rw [List.all_append, List.all_append, List.all_cons, List.all_cons, hau, hap, hab]; rfl, ?_, ?_⟩
      · unfold parseAuthority
        simp only [splitLast_append h64, hph, hv, Bool.not_true, Bool.false_eq_true, if_false, splitFirst_append h58u, hdu, hdp]
      · unfold zoneStable; rw [splitFirst_append h64']; simp [hz rfl]

theorem authOK_plain {user : Option UserInfo} {name : Str} {port : Option Str}
    (hn : name.all hostPlain = true) (hp : ∀ p, port = some p → p.all isDigit = true) :
    AuthOK (authText user (hostPort name port)) user (hostPort name port) :=
  authOK_of_hostOK user (hostOK_plain hn hp)

/-- `[v6][:port]` -/
def hostV6 (v6 : Str) (port : Option Str) : Str :=
  91 :: (v6 ++ 93 :: (match port with | some p => 58 :: p | none => []))

def v6Byte (c : UInt8) : Bool := isHex c || c == 58

theorem findSub_none_head {c : UInt8} {t s : Str} (h : c ∉ s) : findSub (c :: t) s = none := by
  induction s with
  | nil => simp [findSub]
  | cons x xs ih =>
    rw [List.mem_cons, not_or] at h
    unfold findSub
    simp [List.isPrefixOf, h.1, ih h.2]

theorem hostOK_brackets {p : Prop} {v6 pt : Str} (hb : v6.all v6Byte = true) (hv : isIPv6 v6 = true)
    (hpt : validOptionalPort pt = true) : HostOK p (91 :: (v6 ++ 93 :: pt)) := by
  obtain ⟨hpb, _, h93⟩ := portText_bytes hpt
  have hv6 : ∀ c ∈ v6, shouldEscape c .host = false := fun c m => colon_alnum_unescaped (by
    have := mem_all hb m
    simp only [v6Byte, Bool.or_eq_true, beq_iff_eq] at this
    exact this.symm.imp id isHex_alnum)
  refine hostOK_of_bytes ?_ ?_
  · intro c m
    simp only [List.mem_cons, List.mem_append] at m
    rcases m with rfl | m | rfl | m
    · rfl
    · exact hv6 c m
    · rfl
    · exact hpb c m
  have h91 : (91 : UInt8) ∉ v6 := not_mem_of_all hb (by decide)
  have h37 : (37 : UInt8) ∉ v6 := not_mem_of_all hb (by decide)
  have hsl : splitLast 93 (91 :: (v6 ++ 93 :: pt)) = some (91 :: v6, pt) :=
    splitLast_append (a := 91 :: v6) h93
  have hsl2 : splitLast 91 (91 :: v6) = some ([], v6) := splitLast_append (a := []) h91
  unfold parseHost
  rw [show (91 :: (v6 ++ 93 :: pt)).contains 91 = true by simp]
  simp only [if_true, hsl, hpt, Bool.not_true, Bool.false_eq_true, if_false, hsl2, findSub_none_head h37,
    unescape_id hv6, hv]
  simp

theorem hostOK_v6 {b : Prop} {v6 : Str} {port : Option Str} (hb : v6.all v6Byte = true) (hv : isIPv6 v6 = true)
    (hp : ∀ p, port = some p → p.all isDigit = true) : HostOK b (hostV6 v6 port) :=
  hostOK_brackets hb hv (portText_valid hp)

theorem authOK_v6 {user : Option UserInfo} {v6 : Str} {port : Option Str}
    (hb : v6.all v6Byte = true) (hv : isIPv6 v6 = true) (hp : ∀ p, port = some p → p.all isDigit = true) :
    AuthOK (authText user (hostV6 v6 port)) user (hostV6 v6 port) :=
  authOK_of_hostOK user (hostOK_v6 hb hv hp)

end Rtsp.Url
