import Rtsp.Proofs.Url.Escape
/-
Well-formed URL values, `String` as assembly, and what happens when text is appended to the printed
URL (Content-Base = URL + "/", Media.URL = base + control): the appended text lands in the query if the
URL has a `?`, otherwise in the path, and the parser reads it back there (`parse_toStr_append`).
-/
namespace Rtsp.Url

/-- printed and parsed unchanged both inside a path and inside a query: not escaped in the path mode,
not `%`, no control byte, not `#`, not `?` -/
def plainByte (c : UInt8) : Bool := !shouldEscape c .path && c != 37 && cleanByte c && c != 63

theorem plainByte_iff {c : UInt8} :
    plainByte c = true ↔ shouldEscape c .path = false ∧ c ≠ 37 ∧ cleanByte c = true ∧ c ≠ 63 := by
  simp [plainByte, and_assoc]

theorem plainByte_pathByte {c : UInt8} (h : plainByte c = true) : pathByte c = true := by
  rw [plainByte_iff] at h; simp [pathByte, h]

theorem plainByte_clean {t : Str} (h : t.all plainByte = true) : t.all cleanByte = true :=
  all_weaken h fun _ hc => (plainByte_iff.1 hc).2.2.1

theorem isAlnum_plain {c : UInt8} (h : isAlnum c = true) : plainByte c = true := by
  have hf := isAlnum_facts h
  have ha := hf.1
  simp [authByte, isDelim] at ha
  simp [plainByte_iff, shouldEscape_alnum h, hf.2.1, ha]

theorem validEncodedPath_append (a b : Str) :
    validEncodedPath (a ++ b) = (validEncodedPath a && validEncodedPath b) := by
  unfold validEncodedPath; exact List.all_append

theorem PathOK.path_cons {ep path : Str} (h : PathOK ep path) : ∃ p', path = 47 :: p' := by
  obtain ⟨t, rfl⟩ := List.head?_eq_some_iff.1 h.slash
  obtain ⟨r, _, _, e⟩ := unescape_plain_inv .path (by decide) h.dec
  exact ⟨r, e⟩

theorem PathOK.append {ep path t : Str} (h : PathOK ep path) (ht : t.all plainByte = true) :
    PathOK (ep ++ t) (path ++ t) := by
  have hpl : ∀ c ∈ t, shouldEscape c .path = false := fun c m => (plainByte_iff.1 (mem_all ht m)).1
  have hvt : validEncodedPath t = true := List.all_eq_true.2 fun c m => by simp [hpl c m]
  refine ⟨?_, ?_, unescape_append .path h.dec (unescape_id hpl), ?_⟩
  · obtain ⟨r, rfl⟩ := List.head?_eq_some_iff.1 h.slash; rfl
  · rw [List.all_append, h.bytes]
    exact all_weaken ht (fun c hc => plainByte_pathByte hc)
  · obtain ⟨p', rfl⟩ := h.path_cons
    have he := h.enc
    unfold escapedPathOf at he ⊢
    rw [validEncodedPath_append, hvt, Bool.and_true]
    split
    · rfl
    · next hv =>
      rw [if_neg hv, escapePathOnly_slash] at he
      rw [List.cons_append, escapePathOnly_slash, ← List.cons_append, escape_append, he, escape_id hpl]

/-- A URL value as base.ParseURL produces it from text that is printed back unchanged (the restriction
"`ParseURL(s).String() == s`" of the harness, component by component), with a non-empty path.  `authNC` is
`auth` for the value without user-info, as the request line prints it (`WF.withoutCredentials`). -/
structure WF (u : Url) : Prop where
  scheme : IsScheme u.scheme
  noOmit : u.omitHost = false
  auth : AuthOK (authText u.user u.host) u.user u.host
  authNC : AuthOK (authText none u.host) none u.host
  path : PathOK u.epath u.path
  query : u.rawQuery.all cleanByte = true
  fq : u.forceQuery = true → u.rawQuery = []

/-- the URL text has a `?` -/
def hasQ (u : Url) : Bool := u.forceQuery || !u.rawQuery.isEmpty

theorem toStr_wf {u : Url} (h : WF u) :
    u.toStr = assemble u.scheme (authText u.user u.host) u.epath u.forceQuery u.rawQuery := by
  obtain ⟨p', hp'⟩ := h.path.path_cons
  obtain ⟨e', he'⟩ := List.head?_eq_some_iff.1 h.path.slash
  unfold Url.toStr assemble authText queryText
  simp [h.noOmit, hp', he']

theorem Url.withoutCredentials_path (u : Url) : u.withoutCredentials.path = u.path := rfl
theorem Url.withoutCredentials_rawQuery (u : Url) : u.withoutCredentials.rawQuery = u.rawQuery := rfl

theorem WF.withoutCredentials {u : Url} (h : WF u) : WF u.withoutCredentials :=
  { scheme := h.scheme, noOmit := rfl, auth := h.authNC, authNC := h.authNC, path := h.path, query := h.query, fq := h.fq }

theorem fq_and {u : Url} (h : WF u) : (u.forceQuery && u.rawQuery.isEmpty) = u.forceQuery := by
  cases hf : u.forceQuery with
  | false => rfl
  | true => simp [h.fq hf]

/-- `ParseURL(u.String()) = u` for a well-formed value. -/
theorem parse_toStr {u : Url} (h : WF u) : parse u.toStr = some u := by
  rw [toStr_wf h, parse_assemble u.forceQuery h.scheme h.auth h.path h.query, fq_and h]
  have ho := h.noOmit
  obtain ⟨sch, usr, hst, pth, ep, fq, q, oh⟩ := u
  simp at ho; subst ho; rfl

theorem hasQ_false {u : Url} (h : hasQ u = false) : u.forceQuery = false ∧ u.rawQuery = [] := by
  simpa [hasQ] using h

/-- what `ParseURL(u.String() + t)` is: `t` continues the query if the text has a `?`, else the path -/
def extend (u : Url) (t : Str) : Url :=
  if hasQ u then { u with forceQuery := false, rawQuery := u.rawQuery ++ t }
  else { u with path := u.path ++ t, epath := u.epath ++ t }

theorem extend_query {u : Url} (h : hasQ u = true) (t : Str) :
    extend u t = { u with forceQuery := false, rawQuery := u.rawQuery ++ t } := by
  unfold Rtsp.Url.extend; rw [if_pos h]

theorem extend_path {u : Url} (h : hasQ u = false) (t : Str) :
    extend u t = { u with path := u.path ++ t, epath := u.epath ++ t } := by
  unfold Rtsp.Url.extend; rw [if_neg (by simp [h])]

theorem WF.setPathQuery {u : Url} (h : WF u) {p ep q : Str} {fq : Bool} (hp : PathOK ep p)
    (hq : q.all cleanByte = true) (hfq : fq = true → q = []) :
    WF { u with path := p, epath := ep, forceQuery := fq, rawQuery := q } :=
  { scheme := h.scheme, noOmit := h.noOmit, auth := h.auth, authNC := h.authNC, path := hp, query := hq, fq := hfq }

theorem WF.appendQuery {u : Url} (h : WF u) {t : Str} (ht : t.all cleanByte = true) :
    WF { u with forceQuery := false, rawQuery := u.rawQuery ++ t } :=
  h.setPathQuery h.path (by rw [List.all_append, h.query, ht]; rfl) (fun hf => by cases hf)

theorem toStr_appendQuery {u : Url} (h : WF u) (hq : hasQ u = true) {t : Str} (ht : t.all cleanByte = true)
    (hne : t ≠ []) : ({ u with forceQuery := false, rawQuery := u.rawQuery ++ t } : Url).toStr = u.toStr ++ t := by
  rw [toStr_wf (h.appendQuery ht), toStr_wf h]
  have hq' : (u.forceQuery || !u.rawQuery.isEmpty) = true := hq
  simp [assemble, queryText, hq', hne]

theorem WF.extend {u : Url} (h : WF u) {t : Str} (ht : t.all plainByte = true) (_hne : t ≠ []) :
    WF (extend u t) := by
  cases hq : hasQ u with
  | true => rw [extend_query hq]; exact h.appendQuery (plainByte_clean ht)
  | false => rw [extend_path hq]; exact h.setPathQuery (h.path.append ht) h.query h.fq

theorem toStr_extend {u : Url} (h : WF u) {t : Str} (ht : t.all plainByte = true) (hne : t ≠ []) :
    (extend u t).toStr = u.toStr ++ t := by
  cases hq : hasQ u with
  | true => rw [extend_query hq]; exact toStr_appendQuery h hq (plainByte_clean ht) hne
  | false =>
    have hw := h.extend ht hne
    rw [extend_path hq] at hw ⊢
    rw [toStr_wf hw, toStr_wf h]
    have hq' : (u.forceQuery || !u.rawQuery.isEmpty) = false := hq
    simp [assemble, queryText, hq']

/-- **Appending to a printed URL.**  `ParseURL(u.String() + t) = extend u t`. -/
theorem parse_toStr_append {u : Url} (h : WF u) {t : Str} (ht : t.all plainByte = true) (hne : t ≠ []) :
    parse (u.toStr ++ t) = some (extend u t) := by
  rw [← toStr_extend h ht hne]
  exact parse_toStr (h.extend ht hne)

/-- appending clean text to a printed URL that has a `?`: the text continues the query -/
theorem parse_toStr_append_query {u : Url} (h : WF u) (hq : hasQ u = true) {t : Str}
    (ht : t.all cleanByte = true) (hne : t ≠ []) :
    parse (u.toStr ++ t) = some { u with forceQuery := false, rawQuery := u.rawQuery ++ t } := by
  rw [← toStr_appendQuery h hq ht hne]; exact parse_toStr (h.appendQuery ht)

theorem WF.setQuery {u : Url} (h : WF u) {x : Str} (hx : x.all cleanByte = true) :
    WF { u with forceQuery := x.isEmpty, rawQuery := x } :=
  h.setPathQuery h.path hx (by simp)

theorem toStr_qmark {u : Url} (h : WF u) (hq : hasQ u = false) {x : Str} (hx : x.all cleanByte = true) :
    ({ u with forceQuery := x.isEmpty, rawQuery := x } : Url).toStr = u.toStr ++ 63 :: x := by
  rw [toStr_wf (h.setQuery hx), toStr_wf h]
  have : (x.isEmpty || !x.isEmpty) = true := by cases x <;> rfl
  simp [assemble, queryText, hasQ_false hq, this]

theorem parse_toStr_append_qmark {u : Url} (h : WF u) (hq : hasQ u = false) {x : Str}
    (hx : x.all cleanByte = true) :
    parse (u.toStr ++ 63 :: x) = some { u with forceQuery := x.isEmpty, rawQuery := x } := by
  rw [← toStr_qmark h hq hx]; exact parse_toStr (h.setQuery hx)

theorem extend_withoutCredentials (u : Url) (t : Str) :
    (extend u t).withoutCredentials = extend u.withoutCredentials t := by
  unfold Rtsp.Url.extend hasQ Url.withoutCredentials
  split <;> simp

theorem extend_user (u : Url) (t : Str) (usr : Option UserInfo) :
    { extend u t with user := usr } = extend { u with user := usr } t := by
  unfold Rtsp.Url.extend hasQ
  split <;> simp

theorem extend_extend (u : Url) {a : Str} (b : Str) (ha : a ≠ []) :
    extend (extend u a) b = extend u (a ++ b) := by
  unfold Rtsp.Url.extend hasQ
  by_cases hq : (u.forceQuery || !u.rawQuery.isEmpty) = true <;> simp [hq, ha]

end Rtsp.Url
