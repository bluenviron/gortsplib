import Rtsp.Proofs.Url.Fidelity
/-
Session-level lemmas for C20: the authentication round, the SETUP loops of the playing and of the
publishing client as loop invariants over the model of `Model/UrlFlow.lean`.
-/
namespace Rtsp.Url

/-- what a handler invocation saw -/
def Ev.pq : Ev → Str × Str
  | .describe p q _ | .announce p q _ | .setup p q _ _ | .play p q _ | .record p q _ | .pause p q _ => (p, q)

/-- the medias of the session when the handler ran -/
def Ev.medias : Ev → List Nat
  | .setup _ _ _ ms | .play _ _ ms | .record _ _ ms | .pause _ _ ms => ms
  | _ => []

/-- PLAY / RECORD / PAUSE handlers -/
def Ev.isSession : Ev → Bool
  | .play .. | .record .. | .pause .. => true
  | _ => false

/-- an event as the property wants it: original path and query; the medias set up so far are the ones the
SETUPs were issued for, in that order (all of them once the session plays / records) -/
def Ev.Good (u : Url) (order : List Nat) (e : Ev) : Prop :=
  e.pq = (u.path, u.rawQuery) ∧ e.medias <+: order ∧ (e.isSession = true → e.medias = order)

@[simp] theorem Trace.line_failed (t : Trace) (m : String) (x : Str) : (t.line m x).failed = t.failed := rfl
@[simp] theorem Trace.line_events (t : Trace) (m : String) (x : Str) : (t.line m x).events = t.events := rfl
@[simp] theorem Trace.ev_failed (t : Trace) (e : Ev) : (t.ev e).failed = t.failed := rfl
@[simp] theorem Trace.ev_events (t : Trace) (e : Ev) : (t.ev e).events = t.events ++ [e] := rfl

theorem authURIOK_target {v : Url} : authURIOK (requestTarget (some v)) v.withoutCredentials = true := by
  unfold authURIOK; rw [requestTarget_some]; simp

theorem authRound_spec (t : Trace) (m : String) {target : Str} {su : Url} (auth a0 : Bool) (mk : Bool → Ev)
    (hok : authURIOK target su = true) {P : Ev → Prop} (ht : ∀ e ∈ t.events, P e) (hmk : ∀ b, P (mk b)) :
    ∃ t' sender, authRound t m target su auth a0 mk = (t', true, sender) ∧ t'.failed = t.failed ∧
      ∀ e ∈ t'.events, P e := by
  have hP : ∀ l : List Ev, (∀ e ∈ l, ∃ b, e = mk b) → ∀ e ∈ t.events ++ l, P e := fun l hl e he =>
    (List.mem_append.1 he).elim (ht e) fun he => by obtain ⟨b, rfl⟩ := hl e he; exact hmk b
  unfold authRound
  cases auth with
  | false => exact ⟨_, _, rfl, rfl, hP [mk true] (by simp)⟩
  | true =>
    cases a0 with
    | true => simp only [hok]; exact ⟨_, _, rfl, rfl, hP [mk true] (by simp)⟩
    | false =>
      simp only [hok]
      refine ⟨_, _, rfl, rfl, ?_⟩
      simp only [Trace.ev_events, Trace.line_events, List.append_assoc]
      exact hP [mk false, mk true] (by simp)

/-- the loop invariant of the playing client's SETUPs after the medias `done` of `order`: nothing failed, the
session holds exactly `done`, the server's `setuppedPath` is the URL's path once a SETUP succeeded, every
handler invocation so far is `Ev.Good` -/
structure PInv (u : Url) (order done : List Nat) (s : SetupState) : Prop where
  ok : s.t.failed = none
  medias : s.medias = done
  path : s.path = if done = [] then none else some u.path
  good : ∀ e ∈ s.t.events, Ev.Good u order e

theorem setupTarget_eq (u : Url) (i : Nat) : requestTarget (some (extend u (trackTag ++ digits i))) =
    (extend u.withoutCredentials (trackTag ++ digits i)).toStr := by
  rw [requestTarget_some, extend_withoutCredentials]

/-- the authentication round of the SETUP for the next media of the order, as both SETUP loops run it -/
theorem setup_authRound {u : Url} {order done rest : List Nat} {i : Nat} (ho : order = done ++ i :: rest)
    {s : SetupState} (hm : s.medias = done) (hg : ∀ e ∈ s.t.events, Ev.Good u order e) (auth : Bool) :
    ∃ t' sender,
      authRound (s.t.line "SETUP" (extend u.withoutCredentials (trackTag ++ digits i)).toStr) "SETUP"
        (extend u.withoutCredentials (trackTag ++ digits i)).toStr (extend u.withoutCredentials (trackTag ++ digits i))
        auth s.sender (fun a => Ev.setup u.path u.rawQuery a s.medias) = (t', true, sender) ∧
      t'.failed = s.t.failed ∧ ∀ e ∈ t'.events, Ev.Good u order e :=
  authRound_spec _ "SETUP" auth s.sender _ (by simp [authURIOK]) hg
    fun b => ⟨rfl, by show s.medias <+: order; rw [hm, ho]; exact List.prefix_append _ _, by simp [Ev.isSession]⟩

theorem not_contains_next {order done rest : List Nat} {i : Nat} (ho : order = done ++ i :: rest)
    (hnd : order.Nodup) : done.contains i = false := by
  rw [ho] at hnd
  simpa using fun hm => (List.nodup_append.1 hnd).2.2 i hm i (by simp) rfl

theorem playSetups_inv {u : Url} (h : InScope u) {n : Nat} {auth : Bool} {order : List Nat} :
    ∀ (rest done : List Nat) (s : SetupState), order = done ++ rest → order.Nodup →
      (∀ i ∈ rest, i < n ∧ i ≤ maxTrackID) → PInv u order done s →
      PInv u order order (playSetups (extend u [47]) n auth rest s) := by
  intro rest
  induction rest with
  | nil =>
    intro done s ho _ _ hinv
    simp at ho; subst ho
    simpa [playSetups] using hinv
  | cons i rest ih =>
    intro done s ho hnd hlt hinv
    have hi := hlt i (by simp)
    have hpath : (s.path.isSome && s.path != some u.path) = false := by
      rw [hinv.path]; split <;> simp
    obtain ⟨t', sender, hA, hf, hg⟩ := setup_authRound ho hinv.medias hinv.good auth
    unfold playSetups
    simp only [hinv.ok, Option.isSome_none, Bool.false_eq_true, if_false, mediaURL_contentBase h i, setupTarget_eq,
      serverURL_toStr (h.wf_setup i), gpqt_setup u i, hpath, hA]
    simp only [Bool.not_true, Bool.false_eq_true, if_false, setup_reaches_media hi.1 hi.2, hinv.medias,
      not_contains_next ho hnd]
    exact ih (done ++ [i]) _ (by rw [ho]; simp) hnd (fun j hj => hlt j (List.mem_cons_of_mem _ hj))
      ⟨hf.trans hinv.ok, rfl, by simp, hg⟩

theorem sessionRequest_ok (t : Trace) (m : String) {v : Url} (hv : WF v) {p q : Str}
    (hpq : getPathAndQuery v.withoutCredentials false = (p, q)) (chk : Bool) (mk : Str → Str → Ev)
    (hf : t.failed = none) {P : Ev → Prop} (ht : ∀ e ∈ t.events, P e) (hmk : P (mk p q)) :
    (sessionRequest t m v (some p) chk mk).failed = none ∧
    ∀ e ∈ (sessionRequest t m v (some p) chk mk).events, P e := by
  unfold sessionRequest
  simp only [hf, Option.isSome_none, Bool.false_eq_true, if_false, serverURL_target hv, hpq, bne_self_eq_false,
    Bool.and_false, Trace.ev_failed, Trace.line_failed, Trace.ev_events, Trace.line_events, List.mem_append,
    List.mem_singleton, true_and]
  rintro e (he | rfl)
  · exact ht e he
  · exact hmk

/-- the closing steps of the play and of the record flow: the request `m` (PLAY / RECORD), optionally PAUSE and
`m` again, then TEARDOWN unless a step failed.  `playFlow` (on the base URL) and `recordFlow` (on the announced URL)
end with this text, so a statement about `closing` closes a goal about their tails by unfolding. -/
def closing (t : Trace) (m : String) (v : Url) (sp : Option Str) (pause : Bool) (mk : Str → Str → Ev)
    (ms : List Nat) : Trace :=
  let t := sessionRequest t m v sp true mk
  let t := if pause then
      let t := sessionRequest t "PAUSE" v sp false (fun p q => Ev.pause p q ms)
      sessionRequest t m v sp true mk
    else t
  if t.failed.isSome then t else t.line "TEARDOWN" (requestTarget (some v))

theorem closing_ok (t : Trace) (m : String) {v : Url} (hv : WF v) {p q : Str}
    (hpq : getPathAndQuery v.withoutCredentials false = (p, q)) (pause : Bool) (mk : Str → Str → Ev)
    (ms : List Nat) (hf : t.failed = none) {P : Ev → Prop} (ht : ∀ e ∈ t.events, P e) (hmk : P (mk p q))
    (hpause : P (Ev.pause p q ms)) :
    (closing t m v (some p) pause mk ms).failed = none ∧ ∀ e ∈ (closing t m v (some p) pause mk ms).events, P e := by
  have h1 := sessionRequest_ok t m hv hpq true mk hf ht hmk
  have h2 := sessionRequest_ok _ "PAUSE" hv hpq false (fun p q => Ev.pause p q ms) h1.1 h1.2 hpause
  have h3 := sessionRequest_ok _ m hv hpq true mk h2.1 h2.2 hmk
  unfold closing
  cases pause with
  | false => simpa only [Bool.false_eq_true, if_false, h1.1, Option.isSome_none, Trace.line_failed, Trace.line_events] using h1
  | true => simpa only [if_true, h3.1, Option.isSome_none, Bool.false_eq_true, if_false, Trace.line_failed, Trace.line_events] using h3

theorem Ev.Good.session {u : Url} {order : List Nat} {e : Ev} (h1 : e.pq = (u.path, u.rawQuery))
    (h2 : e.medias = order) : Ev.Good u order e :=
  ⟨h1, by rw [h2]; exact List.prefix_refl _, fun _ => h2⟩

/-- the same for the publishing client, whose server does not compare paths between SETUPs -/
structure RInv (u : Url) (order done : List Nat) (s : SetupState) : Prop where
  ok : s.t.failed = none
  medias : s.medias = done
  good : ∀ e ∈ s.t.events, Ev.Good u order e

theorem recordSetups_inv {u : Url} (h : InScope u) (hq : u.forceQuery = false) {n : Nat} {auth : Bool} {order : List Nat} :
    ∀ (rest done : List Nat) (s : SetupState), order = done ++ rest → order.Nodup →
      (∀ i ∈ rest, i < n) → RInv u order done s →
      RInv u order order (recordSetups u ((List.range n).map control) u.path u.rawQuery auth rest s) := by
  intro rest
  induction rest with
  | nil =>
    intro done s ho _ _ hinv
    simp at ho; subst ho
    simpa [recordSetups] using hinv
  | cons i rest ih =>
    intro done s ho hnd hlt hinv
    obtain ⟨t', sender, hA, hf, hg⟩ := setup_authRound ho hinv.medias hinv.good auth
    unfold recordSetups
    simp only [hinv.ok, Option.isSome_none, Bool.false_eq_true, if_false, mediaURL_self h i, setupTarget_eq,
      serverURL_toStr (h.wf_setup i), hA, Bool.not_true,
      findMediaByURL_controls hq (hlt i (by simp))]
    simp only [hinv.medias, not_contains_next ho hnd, Bool.false_eq_true, if_false]
    exact ih (done ++ [i]) _ (by rw [ho]; simp) hnd (fun j hj => hlt j (List.mem_cons_of_mem _ hj))
      ⟨hf.trans hinv.ok, rfl, hg⟩

end Rtsp.Url
