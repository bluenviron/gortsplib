import Rtsp.Proofs.Time.SenderReport
/-
Histories of `ProcessPacket` calls (sender) and of processed sender reports (receiver): what a report
made after a history is anchored to, and which report the receiver uses (core Lean only).  The history
form of `packet_ntp_within_tick` (`SenderReport`) is `C15.packet_ntp_history`.
-/
namespace Rtsp.SR

/-- one `ProcessPacket` call with everything it reads -/
structure Pkt where
  ts   : UInt32
  ntp  : Int
  eq   : Bool
  now  : Int
  ssrc : UInt32
  len  : Nat
deriving Repr, DecidableEq

def Sender.step (s : Sender) (p : Pkt) : Sender := s.processPacket p.ts p.ntp p.eq p.now p.ssrc p.len

/-- a history of `ProcessPacket` calls -/
def Sender.feed (s : Sender) : List Pkt → Sender
  | [] => s
  | p :: ps => (s.step p).feed ps

/-- the latest packet with PTS = DTS of a history -/
def lastEq : List Pkt → Option Pkt
  | [] => none
  | p :: ps => match lastEq ps with
    | some q => some q
    | none => if p.eq then some p else none

theorem step_rate (s : Sender) (p : Pkt) : (s.step p).rate = s.rate := by
  unfold Sender.step Sender.processPacket; split <;> rfl

theorem feed_rate (ps : List Pkt) : ∀ s : Sender, (s.feed ps).rate = s.rate := by
  induction ps with
  | nil => intro s; rfl
  | cons p ps ih => intro s; simp only [Sender.feed]; rw [ih, step_rate]

theorem feed_anchor (ps : List Pkt) : ∀ s : Sender,
    match lastEq ps with
    | some p => (s.feed ps).lastRTP = p.ts ∧ (s.feed ps).lastNTP = p.ntp ∧ (s.feed ps).lastSystem = p.now
    | none => (s.feed ps).lastRTP = s.lastRTP ∧ (s.feed ps).lastNTP = s.lastNTP ∧
              (s.feed ps).lastSystem = s.lastSystem := by
  induction ps with
  | nil => intro s; exact ⟨rfl, rfl, rfl⟩
  | cons p ps ih =>
    intro s
    have h := ih (s.step p)
    simp only [lastEq, Sender.feed]
    cases hl : lastEq ps with
    | some q => rw [hl] at h; exact h
    | none =>
      rw [hl] at h
      cases he : p.eq with
      | true => simpa [Sender.step, Sender.processPacket, he] using h
      | false => simpa [Sender.step, Sender.processPacket, he] using h

/-- a history of sender reports reaching the receiver -/
def Recv.feed (r : Recv) : List (Nat × UInt32) → Recv
  | [] => r
  | (n, t) :: rest => (r.processSR n t).feed rest

theorem recv_uses_last_report (srs : List (Nat × UInt32)) (n : Nat) (t : UInt32) : ∀ r : Recv,
    r.feed (srs ++ [(n, t)]) = r.processSR n t := by
  induction srs with
  | nil => intro r; rfl
  | cons a rest ih => intro r; exact ih _

end Rtsp.SR
