import Rtsp.Proofs.Time.TimeDecHist
/-
The leading track's reference point as a function of the history, and the state invariant that
ties `startPTS / startSystem / startPTSClockRate` to it (core Lean only).
-/
namespace Rtsp.TimeDec

/-- the reference point of the leading track: which track leads, its clock rate when it was
elected, and the PTS / wall-clock instant of its latest packet with PTS = DTS -/
structure Ref where
  leader : Nat
  rate   : Int
  pts    : Int
  now    : Int
deriving Repr, DecidableEq

/-- how one `Decode` call and its result move the reference point — defined on the *history*
(operations and returned values) only -/
def refStep (r : Option Ref) (o : Op) (res : Option Int) : Option Ref :=
  match res, r with
  | none, r => r
  | some p, none => some { leader := o.id, rate := o.rate, pts := p, now := o.now }
  | some p, some r =>
    if o.id = r.leader ∧ o.eq = true then some { r with pts := p, now := o.now } else some r

/-- the reference point after a history: `refStep` folded over the `Decode` calls and their results -/
def leaderRef : Option Ref → List Op → List (Option Int) → Option Ref
  | r, o :: os, res :: rs => leaderRef (refStep r o res) os rs
  | r, _, _ => r

/-- the reference point as stored in the decoder state -/
def stateRef (s : State) : Option Ref :=
  match s.leading with
  | none => none
  | some L => some { leader := L, rate := s.startRate, pts := s.startPTS, now := s.startSystem }

/-- state invariant: no leader ⇒ no track yet; the leader's track exists; the leader's rate is not 0 -/
structure Inv (s : State) : Prop where
  noLeader : s.leading = none → ∀ id, s.tracks id = none
  leaderTrack : ∀ L, s.leading = some L → s.tracks L ≠ none
  rateNZ : ∀ L, s.leading = some L → s.startRate ≠ 0

theorem inv_init : Inv init := by
  constructor <;> simp [init]

theorem Inv.of_setTrack {s : State} {f : Nat → Option Track} {id L : Nat} {t : Track}
    (hl : s.leading = some L) (hr : s.startRate ≠ 0) (ht : s.tracks = setTrack f id t)
    (hL : L = id ∨ f L ≠ none) : Inv s := by
  refine ⟨fun h => ?_, fun L' h => ?_, fun _ _ => hr⟩
  · rw [hl] at h; cases h
  · rw [hl] at h; cases h
    rw [ht]
    exact setTrack_ne_none t hL

theorem elect_of_leader {s : State} {L : Nat} (o : Op) (h : s.leading = some L) : elect s o = s := by
  simp only [elect, h]

theorem elect_of_no_leader {s : State} (o : Op) (h : s.leading = none) :
    elect s o = { s with leading := some o.id, startSystem := o.now, startPTS := 0, startRate := o.rate } := by
  simp only [elect, h]

theorem startOf_elect_of_no_leader {s : State} (o : Op) (h : s.leading = none) :
    startOf (elect s o) o = 0 := by
  rw [elect_of_no_leader o h]
  simp [startOf, mulDiv_zero]

theorem decode_ref (s : State) (o : Op) (hI : Inv s) :
    Inv (decode s o).1 ∧ stateRef (decode s o).1 = refStep (stateRef s) o (decode s o).2 := by
  rcases decode_cases s o with hc | ⟨hr, ht, he⟩ | ⟨hr, t, ht⟩
  · rw [decode_refused s o hc]; exact ⟨hI, rfl⟩
  · rw [decode_new s o hr ht he]
    cases hlead : s.leading with
    | none =>
      rw [startOf_elect_of_no_leader o hlead, elect_of_no_leader o hlead]
      exact ⟨Inv.of_setTrack (L := o.id) rfl hr rfl (Or.inl rfl), by simp [stateRef, refStep, hlead]⟩
    | some L =>
      rw [elect_of_leader o hlead]
      have hne : o.id ≠ L := fun e => hI.leaderTrack L hlead (e ▸ ht)
      exact ⟨Inv.of_setTrack hlead (hI.rateNZ L hlead) rfl (Or.inr (hI.leaderTrack L hlead)),
        by simp [stateRef, refStep, hlead, hne]⟩
  · rw [decode_old s o hr t ht]
    by_cases hc : s.leading = some o.id ∧ o.eq = true
    · rw [if_pos hc]
      exact ⟨Inv.of_setTrack (L := o.id) hc.1 (hI.rateNZ _ hc.1) rfl (Or.inl rfl),
        by simp [stateRef, refStep, hc.1, hc.2]⟩
    · rw [if_neg hc]
      cases hlead : s.leading with
      | none => rw [hI.noLeader hlead o.id] at ht; cases ht
      | some L =>
        have hc' : ¬(o.id = L ∧ o.eq = true) := fun h => hc ⟨by rw [hlead, h.1], h.2⟩
        exact ⟨Inv.of_setTrack (L := L) rfl (hI.rateNZ L hlead) rfl (Or.inr (hI.leaderTrack L hlead)),
          by simp [stateRef, refStep, hlead, hc']⟩

theorem run_ref (ops : List Op) : ∀ (s : State), Inv s →
    Inv (run s ops).1 ∧ stateRef (run s ops).1 = leaderRef (stateRef s) ops (run s ops).2 := by
  induction ops with
  | nil => intro s hI; exact ⟨hI, rfl⟩
  | cons o os ih =>
    intro s hI
    have h1 := decode_ref s o hI
    have h2 := ih (decode s o).1 h1.1
    rw [runs.cons]
    refine ⟨h2.1, ?_⟩
    rw [h2.2, h1.2]
    rfl

theorem run_tracks_mono (ops : List Op) : ∀ (s : State) (id : Nat), s.tracks id ≠ none →
    (run s ops).1.tracks id ≠ none := by
  induction ops with
  | nil => intro s id h; exact h
  | cons o os ih =>
    intro s id h
    rw [runs.cons]
    refine ih _ id ?_
    cases hp : (decode s o).2 with
    | none => rw [decode_none_state s o hp]; exact h
    | some p => rw [(decode_some s o p hp).1]; exact setTrack_ne_none _ (Or.inr h)

end Rtsp.TimeDec
