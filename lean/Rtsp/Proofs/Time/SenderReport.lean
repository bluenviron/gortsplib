import Rtsp.Model.SenderReport
import Rtsp.Proofs.Time.Ntp
import Rtsp.Proofs.Time.TimeDec
/-
`PacketNTP` of the receiver after a report of the sender: the exact decomposition of its error
(`C15.packet_ntp_exact`) and the bound of one tick plus 2 ns (`packet_ntp_within_tick`).  Core Lean only.
-/
namespace Rtsp.SR

/-- `int32(ts - sr)` is the decoder's signed delta of `pkg/rtptime` -/
theorem tsDiff_eq_sdelta (ts sr : UInt32) : tsDiff ts sr = TimeDec.sdelta ts sr := rfl

theorem reportWith_rtp_toNat (s : Sender) (now : Int) (e : Nat) :
    ((s.reportWith now e).rtp.toNat : Int) = ((s.lastRTP.toNat : Int) + e) % 4294967296 := by
  simp only [Sender.reportWith, UInt32.toNat_add, UInt32.toNat_ofNat', Nat.add_mod_mod]
  rw [Int.natCast_emod, Int.natCast_add]
  rfl

theorem tsDiff_report (s : Sender) (now : Int) (e : Nat) (ts : UInt32) (k : Int)
    (hts : (ts.toNat : Int) = ((s.lastRTP.toNat : Int) + k) % 4294967296)
    (hlo : -2147483648 ≤ k - e) (hhi : k - e < 2147483648) :
    tsDiff ts (s.reportWith now e).rtp = k - e := by
  rw [tsDiff_eq_sdelta]
  apply TimeDec.sdelta_of_step _ _ _ hlo hhi
  rw [reportWith_rtp_toNat, hts, Int.emod_add_emod]
  congr 1
  omega

theorem packetNTP_processSR (r : Recv) (ntp : Nat) (rtp ts : UInt32) (h : r.rate ≠ 0) :
    (r.processSR ntp rtp).packetNTP ts
      = some (Ntp.decode ntp + (tsDiff ts rtp * 1000000000).tdiv r.rate) := by
  simp [Recv.packetNTP, Recv.processSR, h]

end Rtsp.SR

namespace Rtsp.C15

/-- `PacketNTP` after a sender report, decomposed exactly.  `k` is the signed distance in ticks of
the queried timestamp from the sender's last packet (`ts = lastRTP + k mod 2^32`), `d` the system
time elapsed between that packet and the report, `e` the ticks the report extrapolated.  Then

    rate·(PacketNTP ts − lastNTP) − k·10^9  =  (d·rate − e·10^9) + rate·ε − τ

with `ε ∈ {0, −1}` (NTP encode/decode rounding, ns) and `|τ| < rate` (truncation of ticks → ns). -/
theorem packet_ntp_exact (s : SR.Sender) (r : SR.Recv) (now : Int) (e : Nat) (ts : UInt32) (k : Int)
    (hrate : r.rate = s.rate) (hR : 0 < s.rate)
    (hTlo : -2208988800000000000 ≤ s.lastNTP + (now - s.lastSystem))
    (hThi : s.lastNTP + (now - s.lastSystem) < 2085978496000000000)
    (hts : (ts.toNat : Int) = ((s.lastRTP.toNat : Int) + k) % 4294967296)
    (hlo : -2147483648 ≤ k - e) (hhi : k - e < 2147483648) :
    ∃ P ε τ : Int,
      (r.processSR (s.reportWith now e).ntp (s.reportWith now e).rtp).packetNTP ts = some P ∧
      (ε = 0 ∨ ε = -1) ∧ -s.rate < τ ∧ τ < s.rate ∧
      s.rate * (P - s.lastNTP) - k * 1000000000
        = ((now - s.lastSystem) * s.rate - e * 1000000000) + s.rate * ε - τ := by
  have hd := SR.tsDiff_report s now e ts k hts hlo hhi
  have hrt := ntp_decode_encode (s.lastNTP + (now - s.lastSystem)) hTlo hThi
  have hR' : r.rate ≠ 0 := hrate ▸ Int.ne_of_gt hR
  rw [SR.packetNTP_processSR r _ _ ts hR', hd, hrate]
  simp only [SR.Sender.reportWith]
  generalize Ntp.decode (Ntp.encode (s.lastNTP + (now - s.lastSystem))) = D at hrt ⊢
  have hq := Int.mul_tdiv_self ((k - e) * 1000000000) s.rate
  have h1 := Int.lt_tmod_of_pos ((k - e) * 1000000000) hR
  have h2 := Int.tmod_lt_of_pos ((k - e) * 1000000000) hR
  generalize ((k - e) * 1000000000).tdiv s.rate = Q at hq ⊢
  generalize ((k - e) * 1000000000).tmod s.rate = τ at hq h1 h2
  clear hts hd
  refine ⟨D + Q, D - (s.lastNTP + (now - s.lastSystem)), τ, rfl, by omega, h1, h2, ?_⟩
  -- a ring identity, given `hq`
  grind

end Rtsp.C15

namespace Rtsp.SR

/-- **PacketNTP is within one clock tick plus 2 ns of the writer's time.**  If the ticks `e`
extrapolated by the report are within one tick of the exact `d·rate/10^9` (one tick plus 1 ns of time
on the low side: `−10^9 ≤ d·rate − e·10^9 ≤ 10^9 + rate`), then for every timestamp within 2^31 ticks
of the reported one

    |rate·(PacketNTP ts − lastNTP) − k·10^9| < 10^9 + 2·rate,

i.e. `PacketNTP ts` differs from the writer's time `lastNTP + k/rate s` by less than `1/rate s + 2 ns`. -/
theorem packet_ntp_within_tick (s : Sender) (r : Recv) (now : Int) (e : Nat) (ts : UInt32) (k : Int)
    (hrate : r.rate = s.rate) (hR : 0 < s.rate)
    (hTlo : -2208988800000000000 ≤ s.lastNTP + (now - s.lastSystem))
    (hThi : s.lastNTP + (now - s.lastSystem) < 2085978496000000000)
    (hts : (ts.toNat : Int) = ((s.lastRTP.toNat : Int) + k) % 4294967296)
    (hlo : -2147483648 ≤ k - e) (hhi : k - e < 2147483648)
    (hqlo : -1000000000 ≤ (now - s.lastSystem) * s.rate - e * 1000000000)
    (hqhi : (now - s.lastSystem) * s.rate - e * 1000000000 ≤ 1000000000 + s.rate) :
    ∃ P : Int,
      (r.processSR (s.reportWith now e).ntp (s.reportWith now e).rtp).packetNTP ts = some P ∧
      -(1000000000 + 2 * s.rate) < s.rate * (P - s.lastNTP) - k * 1000000000 ∧
      s.rate * (P - s.lastNTP) - k * 1000000000 < 1000000000 + 2 * s.rate := by
  obtain ⟨P, ε, τ, hP, hε, hτ1, hτ2, heq⟩ := C15.packet_ntp_exact s r now e ts k hrate hR hTlo hThi hts hlo hhi
  refine ⟨P, hP, ?_⟩
  rw [heq]
  -- float product within `[−10^9, 10^9 + rate]`, NTP rounding `rate·ε`, tick truncation `|τ| < rate`
  clear hts heq hP
  rcases hε with rfl | rfl
  · omega
  · omega

end Rtsp.SR
