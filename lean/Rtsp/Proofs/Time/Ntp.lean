import Rtsp.Model.Ntp
import Rtsp.Proofs.Common.Bits
/-
Lemmas about the `Ntp` model (core Lean only).  An instant of NTP era 0 is handled as its number `N` of
nanoseconds from the NTP epoch (`era0`), where `encode` and `decode` are quotient and remainder
arithmetic (`encode_era0`, `decode_eq`) and `encFrac` is the nearest integer of `n·2^32/10^9` (`encFrac_spec`).
-/
namespace Rtsp.Ntp

theorem nanos_eq : nanos = 1000000000 := rfl
theorem off_enc_eq : Facts.Time.ntpEpochOffsetEnc = 2208988800 := rfl
theorem off_dec_eq : Facts.Time.ntpEpochOffsetDec = 2208988800 := rfl

theorem encFrac_spec (n : Nat) :
    2000000000 * encFrac n ≤ 8589934592 * n + 1000000000 ∧
    8589934592 * n + 1000000000 < 2000000000 * (encFrac n + 1) := by
  unfold encFrac roundDiv
  rw [nanos_eq]
  unfold two32
  omega

end Rtsp.Ntp

namespace Rtsp.C15

/-- Encode's fraction never reaches 2^32, so `secs<<32 | fractional` never corrupts the seconds: the `|`
is an addition -/
theorem ntp_fraction_no_carry (n : Nat) (hn : n < 1000000000) : Ntp.encFrac n ≤ 4294967292 := by
  have h := Ntp.encFrac_spec n
  omega

end Rtsp.C15

namespace Rtsp.Ntp

/-- the instants of NTP era 0 (1900-01-01 00:00:00 ≤ t < 2036-02-07 06:28:16 UTC), counted in
nanoseconds from the NTP epoch -/
theorem era0 (t : Int) (hlo : -2208988800000000000 ≤ t) (hhi : t < 2085978496000000000) :
    ∃ N : Nat, N < 4294967296000000000 ∧ t = (N : Int) - 2208988800000000000 :=
  ⟨(t + 2208988800000000000).toNat, by omega, by omega⟩

/-- in era 0 the uint64 addition of the epoch offset does not wrap -/
theorem ntpNanos_era0 (N : Nat) (hN : N < 4294967296000000000) :
    ntpNanos ((N : Int) - 2208988800000000000) = N := by
  apply Int.ofNat_inj.1
  simp only [ntpNanos, toU64, nanos_eq, off_enc_eq, two64]
  rw [Int.natCast_emod, Int.natCast_add, Int.toNat_of_nonneg (Int.emod_nonneg _ (by decide)),
    Int.emod_add_emod]
  omega

theorem encode_era0 (N : Nat) (hN : N < 4294967296000000000) :
    encode ((N : Int) - 2208988800000000000)
      = N / 1000000000 * 4294967296 + encFrac (N % 1000000000) := by
  have hf := C15.ntp_fraction_no_carry (N % 1000000000) (Nat.mod_lt _ (by decide))
  unfold encode
  simp only [ntpNanos_era0 N hN, nanos_eq, two32, two64]
  rw [Nat.mod_eq_of_lt (by omega)]
  exact Bits.mul_two_pow_or (k := 32) (by omega)

theorem decode_eq (v : Nat) :
    decode v = ((v / 4294967296 * 1000000000 + v % 4294967296 * 1000000000 / 4294967296 : Nat) : Int)
      - 2208988800000000000 := by
  unfold decode decSecs decNanos
  rw [nanos_eq, off_dec_eq]
  unfold two32
  omega

end Rtsp.Ntp

namespace Rtsp.C15

/-- **Decode ∘ Encode**: for every instant of NTP era 0 (1900-01-01 ≤ t < 2036-02-07 06:28:16 UTC, Unix
nanoseconds; the property asks for 1970 … 2036) `Decode (Encode t)` is `t` or `t − 1 ns`. -/
theorem ntp_decode_encode (t : Int) (hlo : -2208988800000000000 ≤ t) (hhi : t < 2085978496000000000) :
    t - 1 ≤ Ntp.decode (Ntp.encode t) ∧ Ntp.decode (Ntp.encode t) ≤ t := by
  obtain ⟨N, hN, rfl⟩ := Ntp.era0 t hlo hhi
  rw [Ntp.encode_era0 N hN, Ntp.decode_eq]
  have h := Ntp.encFrac_spec (N % 1000000000)
  omega

end Rtsp.C15
