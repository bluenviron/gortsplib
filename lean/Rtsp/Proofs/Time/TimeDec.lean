import Rtsp.Model.TimeDec
import Rtsp.Proofs.Common.FixedWidth
/-
The two arithmetic primitives of pkg/rtptime/global_decoder.go: `int64(int32(ts - prev))` (`sdelta`)
as a balanced residue modulo 2^32, and `multiplyAndDivide` (`mulDiv`) as a truncated quotient.
Core Lean only.
-/
namespace Rtsp.TimeDec

theorem sdelta_bmod (ts prev : UInt32) :
    sdelta ts prev = ((ts.toNat : Int) - prev.toNat).bmod 4294967296 :=
  FixedWidth.toInt_sub_toNat ts.toBitVec prev.toBitVec

theorem sdelta_range (ts prev : UInt32) : -2147483648 ≤ sdelta ts prev ∧ sdelta ts prev < 2147483648 := by
  rw [sdelta_bmod]
  exact ⟨Int.le_bmod (by decide), Int.bmod_lt (by decide)⟩

theorem sdelta_congr (ts prev : UInt32) :
    (sdelta ts prev - ((ts.toNat : Int) - prev.toNat)) % 4294967296 = 0 := by
  rw [sdelta_bmod]
  exact Int.emod_eq_zero_of_dvd Int.dvd_bmod_sub_self

theorem sdelta_of_step (ts prev : UInt32) (step : Int)
    (hlo : -2147483648 ≤ step) (hhi : step < 2147483648)
    (hts : (ts.toNat : Int) = ((prev.toNat : Int) + step) % 4294967296) :
    sdelta ts prev = step := by
  rw [sdelta_bmod, hts]
  refine (Int.emod_sub_bmod _ 4294967296).trans ?_
  rw [Int.add_comm, Int.add_sub_cancel]
  exact Int.bmod_eq_of_le hlo hhi

/-- the 32-bit RTP timestamp field of a 64-bit (here: unbounded) media clock value -/
def low32 (w : Int) : UInt32 := UInt32.ofNat (w % 4294967296).toNat

theorem low32_toNat (w : Int) : ((low32 w).toNat : Int) = w % 4294967296 := by
  have h1 : 0 ≤ w % 4294967296 := Int.emod_nonneg _ (by decide)
  have h3 : (w % 4294967296).toNat < 4294967296 :=
    (Int.toNat_lt h1).2 (Int.emod_lt_of_pos _ (by decide))
  rw [low32, UInt32.toNat_ofNat_of_lt' h3, Int.toNat_of_nonneg h1]

theorem sdelta_low32 (a b : Int) (h : -2147483648 ≤ b - a ∧ b - a < 2147483648) :
    sdelta (low32 b) (low32 a) = b - a := by
  apply sdelta_of_step _ _ _ h.1 h.2
  rw [low32_toNat, low32_toNat, Int.emod_add_emod, Int.add_comm, Int.sub_add_cancel]

theorem congr_step {p₀ t₀ p t p' t' δ M : Int} (hs : p' = p + δ) (hδ : (δ - (t' - t)) % M = 0)
    (ih : (p - p₀ - (t - t₀)) % M = 0) : (p' - p₀ - (t' - t₀)) % M = 0 := by
  have e : p' - p₀ - (t' - t₀) = (p - p₀ - (t - t₀)) + (δ - (t' - t)) := by omega
  rw [e, Int.add_emod, ih, hδ]
  rfl

theorem mulDiv_neg_v (v m d : Int) : mulDiv (-v) m d = - mulDiv v m d := by
  simp [mulDiv, Int.neg_mul, Int.neg_add]

theorem mulDiv_neg_m (v m d : Int) : mulDiv v (-m) d = - mulDiv v m d := by
  simp [mulDiv, Int.mul_neg, Int.neg_add]

theorem mulDiv_neg_d (v m d : Int) : mulDiv v m (-d) = - mulDiv v m d := by
  simp [mulDiv, Int.neg_mul, Int.neg_add]

theorem eq_of_odd_of_nonneg {f g : Int → Int} (hf : ∀ x, f (-x) = -f x) (hg : ∀ x, g (-x) = -g x)
    (h : ∀ x, 0 ≤ x → f x = g x) (x : Int) : f x = g x := by
  rcases Int.le_total 0 x with hx | hx
  · exact h x hx
  · have := h (-x) (Int.neg_nonneg_of_nonpos hx)
    rw [hf, hg] at this
    exact Int.neg_inj.mp this

theorem mulDiv_zero (m d : Int) : mulDiv 0 m d = 0 := by simp [mulDiv]

end Rtsp.TimeDec

namespace Rtsp.C15
open Rtsp.TimeDec

/-- `multiplyAndDivide v m d = ⌊v·m/d⌋` for non-negative `v`, `m` and positive `d` (exactly, although the
Go code never forms `v·m`) -/
theorem mulDiv_floor {v m d : Int} (hv : 0 ≤ v) (hm : 0 ≤ m) (hd : 0 < d) :
    mulDiv v m d = (v * m) / d := by
  unfold mulDiv
  rw [Int.tdiv_eq_ediv_of_nonneg hv, Int.tmod_eq_emod_of_nonneg hv,
    Int.tdiv_eq_ediv_of_nonneg (Int.mul_nonneg (Int.emod_nonneg _ (Int.ne_of_gt hd)) hm)]
  have h2 : v * m = v % d * m + (v / d * m) * d := by
    rw [Int.mul_right_comm, ← Int.add_mul, Int.emod_add_ediv_mul]
  rw [h2, Int.add_mul_ediv_right _ _ (Int.ne_of_gt hd), Int.add_comm]

/-- the Go comment's claim "avoid an int64 overflow": for `v ≥ 0`, `0 ≤ m < 2^31`, `0 < d < 2^31` (clock
rates and 10^9) every intermediate value is bounded by the result or by 2^62, although `v·m` need not fit -/
theorem mulDiv_no_overflow {v m d : Int} (hv : 0 ≤ v) (hm0 : 0 ≤ m) (hm : m < 2147483648)
    (hd0 : 0 < d) (hd : d < 2147483648) :
    0 ≤ v.tdiv d * m ∧ v.tdiv d * m ≤ mulDiv v m d ∧
    0 ≤ v.tmod d * m ∧ v.tmod d * m < 4611686018427387904 ∧
    0 ≤ (v.tmod d * m).tdiv d ∧ (v.tmod d * m).tdiv d < 2147483648 := by
  have hr0 : 0 ≤ v.tmod d := Int.tmod_nonneg _ hv
  have hr1 : v.tmod d < d := Int.tmod_lt_of_pos _ hd0
  have h2 : 0 ≤ v.tmod d * m := Int.mul_nonneg hr0 hm0
  have h3 : v.tmod d * m ≤ d * 2147483647 :=
    Int.mul_le_mul (Int.le_of_lt hr1) (by omega) hm0 (Int.le_of_lt hd0)
  have h4 : 0 ≤ (v.tmod d * m).tdiv d := Int.tdiv_nonneg h2 (Int.le_of_lt hd0)
  refine ⟨Int.mul_nonneg (Int.tdiv_nonneg hv (Int.le_of_lt hd0)) hm0,
    Int.le_add_of_nonneg_right h4, h2, by omega, h4, ?_⟩
  rw [Int.tdiv_eq_ediv_of_nonneg h2]
  exact Int.ediv_lt_of_lt_mul hd0 (by omega)

end Rtsp.C15

namespace Rtsp.TimeDec

/-- For all signs (and for `d = 0`, where both are 0): both sides are odd in each argument, and on non-negative
arguments both are the floor of the quotient. -/
theorem mulDiv_eq_tdiv (v m d : Int) : mulDiv v m d = (v * m).tdiv d := by
  refine eq_of_odd_of_nonneg (f := fun d => mulDiv v m d) (g := fun d => (v * m).tdiv d)
    (mulDiv_neg_d v m) (fun d => Int.tdiv_neg _ _) (fun d hd => ?_) d
  refine eq_of_odd_of_nonneg (f := fun m => mulDiv v m d) (g := fun m => (v * m).tdiv d)
    (fun m => mulDiv_neg_m v m d) (fun m => by rw [Int.mul_neg, Int.neg_tdiv]) (fun m hm => ?_) m
  refine eq_of_odd_of_nonneg (f := fun v => mulDiv v m d) (g := fun v => (v * m).tdiv d)
    (fun v => mulDiv_neg_v v m d) (fun v => by rw [Int.neg_mul, Int.neg_tdiv]) (fun v hv => ?_) v
  rcases Int.lt_or_eq_of_le hd with hd | rfl
  · exact (C15.mulDiv_floor hv hm hd).trans (Int.tdiv_eq_ediv_of_nonneg (Int.mul_nonneg hv hm)).symm
  · simp [mulDiv]

theorem mulDiv_floor_bounds {v m d : Int} (hv : 0 ≤ v) (hm : 0 ≤ m) (hd : 0 < d) :
    d * mulDiv v m d ≤ v * m ∧ v * m < d * (mulDiv v m d + 1) := by
  rw [C15.mulDiv_floor hv hm hd, Int.mul_add, Int.mul_one]
  exact ⟨Int.mul_ediv_self_le (Int.ne_of_gt hd), Int.lt_mul_ediv_self_add hd⟩

end Rtsp.TimeDec
