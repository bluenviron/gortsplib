import Rtsp.Proofs.Time.TimeDec
import Rtsp.Proofs.Common.Runs
/-
History-level facts about `GlobalDecoder.Decode` (core Lean only): the equations of `decode`,
per-track traces and the chaining invariant.

The index lemmas speak of two entries `i ≤ j`; the bound of `i` follows from that of `j` and is a
defaulted argument (left to `tr[i]`'s own search it is found anew, dearly, in every statement).
-/
namespace Rtsp.TimeDec

/-- the packets of track `id` that were given a PTS by a run, in order: `(timestamp, PTS)` -/
def trace (id : Nat) : List Op → List (Option Int) → List (UInt32 × Int)
  | o :: os, some p :: rs => if o.id = id then (o.ts, p) :: trace id os rs else trace id os rs
  | _ :: os, none :: rs => trace id os rs
  | _, _ => []

/-- consecutive entries `(timestamp, PTS)` differ by the signed 32-bit delta of their timestamps,
and so does the first entry from the track data `start`, if there is one -/
def chain : Option Track → List (UInt32 × Int) → Prop
  | _, [] => True
  | start, a :: rest => (∀ t, start = some t → a.2 = t.overall + sdelta a.1 t.prev) ∧
      chain (some { overall := a.2, prev := a.1 }) rest

/-- Σ of signed 32-bit differences along a list of timestamps that follows `prev` -/
def sumDeltas (prev : UInt32) : List UInt32 → Int
  | [] => 0
  | t :: ts => sdelta t prev + sumDeltas t ts

theorem decode_refused (s : State) (o : Op)
    (h : o.rate = 0 ∨ s.tracks o.id = none ∧ o.eq = false) : decode s o = (s, none) := by
  rcases h with h | ⟨hn, he⟩
  · simp [decode, h]
  · simp [decode, hn, he]

theorem decode_new (s : State) (o : Op) (hr : o.rate ≠ 0) (hn : s.tracks o.id = none)
    (he : o.eq = true) :
    decode s o =
      ({ elect s o with tracks := setTrack s.tracks o.id ⟨startOf (elect s o) o, o.ts⟩ },
       some (startOf (elect s o) o)) := by
  have : (elect s o).tracks = s.tracks := by unfold elect; split <;> rfl
  simp [decode, hr, hn, he, this]

theorem decode_old (s : State) (o : Op) (hr : o.rate ≠ 0) (t : Track) (ht : s.tracks o.id = some t) :
    decode s o =
      (if s.leading = some o.id ∧ o.eq = true then
         { s with tracks := setTrack s.tracks o.id (t.decode o.ts), startSystem := o.now,
                  startPTS := (t.decode o.ts).overall }
       else { s with tracks := setTrack s.tracks o.id (t.decode o.ts) },
       some (t.decode o.ts).overall) := by
  simp only [decode, hr, ht, if_false]

theorem decode_cases (s : State) (o : Op) :
    (o.rate = 0 ∨ s.tracks o.id = none ∧ o.eq = false) ∨
    (o.rate ≠ 0 ∧ s.tracks o.id = none ∧ o.eq = true) ∨ (o.rate ≠ 0 ∧ ∃ t, s.tracks o.id = some t) := by
  by_cases hr : o.rate = 0
  · exact Or.inl (Or.inl hr)
  · cases s.tracks o.id with
    | none =>
      cases o.eq with
      | false => exact Or.inl (Or.inr ⟨rfl, rfl⟩)
      | true => exact Or.inr (Or.inl ⟨hr, rfl, rfl⟩)
    | some t => exact Or.inr (Or.inr ⟨hr, t, rfl⟩)

theorem setTrack_self (f : Nat → Option Track) (id : Nat) (t : Track) : setTrack f id t id = some t :=
  if_pos rfl

theorem setTrack_of_ne (f : Nat → Option Track) (t : Track) {id j : Nat} (h : j ≠ id) :
    setTrack f id t j = f j :=
  if_neg h

theorem setTrack_ne_none {f : Nat → Option Track} {id j : Nat} (t : Track)
    (h : j = id ∨ f j ≠ none) : setTrack f id t j ≠ none := by
  unfold setTrack; split
  · exact nofun
  · exact h.resolve_left ‹_›

theorem decode_none_state (s : State) (o : Op) (h : (decode s o).2 = none) : (decode s o).1 = s := by
  rcases decode_cases s o with hc | ⟨hr, hn, he⟩ | ⟨hr, t, ht⟩
  · rw [decode_refused s o hc]
  · rw [decode_new s o hr hn he] at h; cases h
  · rw [decode_old s o hr t ht] at h; cases h

theorem decode_some (s : State) (o : Op) (p : Int) (h : (decode s o).2 = some p) :
    (decode s o).1.tracks = setTrack s.tracks o.id { overall := p, prev := o.ts } ∧
    ∀ t, s.tracks o.id = some t → p = t.overall + sdelta o.ts t.prev := by
  rcases decode_cases s o with hc | ⟨hr, hn, he⟩ | ⟨hr, t, ht⟩
  · rw [decode_refused s o hc] at h; cases h
  · rw [decode_new s o hr hn he] at h ⊢
    cases h
    exact ⟨rfl, fun t ht => by rw [hn] at ht; cases ht⟩
  · rw [decode_old s o hr t ht] at h ⊢
    cases h
    refine ⟨?_, fun t' ht' => by rw [ht] at ht'; cases ht'; rfl⟩
    split <;> rfl

theorem runs : Runs decode run := ⟨fun _ => rfl, fun _ _ _ => rfl⟩

theorem trace_chain (id : Nat) (ops : List Op) :
    ∀ s : State, chain (s.tracks id) (trace id ops (run s ops).2) := by
  induction ops with
  | nil => intro s; trivial
  | cons o os ih =>
    intro s
    rw [runs.cons]
    cases hp : (decode s o).2 with
    | none => rw [decode_none_state s o hp]; exact ih s
    | some p =>
      have ih' := ih (decode s o).1
      have hs := decode_some s o p hp
      by_cases hid : o.id = id
      · subst hid
        rw [hs.1, setTrack_self] at ih'
        simp only [trace, if_true]
        exact ⟨hs.2, ih'⟩
      · rw [hs.1, setTrack_of_ne _ _ (Ne.symm hid)] at ih'
        simp only [trace, if_neg hid]
        exact ih'

theorem chain_diff {tr : List (UInt32 × Int)} {start : Option Track} (h : chain start tr) (i j : Nat)
    (hij : i ≤ j) (hj : j < tr.length) (hi : i < tr.length := Nat.lt_of_le_of_lt hij hj) :
    tr[j].2 - tr[i].2 = sumDeltas tr[i].1 (((tr.drop (i + 1)).take (j - i)).map Prod.fst) := by
  induction tr generalizing start i j with
  | nil => cases hj
  | cons a rest ih =>
    cases j with
    | zero => cases Nat.le_zero.mp hij; exact Int.sub_self _
    | succ j =>
      cases i with
      | succ i =>
        simpa using ih h.2 i j (Nat.le_of_succ_le_succ hij) (Nat.lt_of_succ_lt_succ hj) (Nat.lt_of_succ_lt_succ hi)
      | zero =>
        cases rest with
        | nil => simp at hj
        | cons b rest =>
          -- first step from `a` to `b`, then `j` steps from `b`
          have h1 := h.2.1 _ rfl
          have h2 := ih h.2 0 j (Nat.zero_le j) (Nat.lt_of_succ_lt_succ hj) (Nat.zero_lt_succ _)
          simp only [Nat.zero_add, List.getElem_cons_succ, List.getElem_cons_zero, List.drop_succ_cons,
            List.drop_zero, List.take_succ_cons, List.map_cons, sumDeltas, Nat.sub_zero] at h1 h2 ⊢
          omega

theorem chain_step {tr : List (UInt32 × Int)} {start : Option Track} (h : chain start tr) (k : Nat)
    (hk : k + 1 < tr.length) (hk' : k < tr.length := Nat.lt_of_succ_lt hk) :
    tr[k + 1].2 = tr[k].2 + sdelta tr[k + 1].1 tr[k].1 := by
  have := chain_diff h k (k + 1) (Nat.le_succ k) hk
  rw [List.drop_eq_getElem_cons hk, Nat.add_sub_cancel_left] at this
  simp only [List.take_succ_cons, List.take_zero, List.map, sumDeltas] at this
  omega

theorem chain_follows {tr : List (UInt32 × Int)} {start : Option Track} (h : chain start tr) (w : Nat → Int)
    (hw : ∀ k (hk : k + 1 < tr.length),
      sdelta tr[k + 1].1 (tr[k]'(Nat.lt_of_succ_lt hk)).1 = w (k + 1) - w k)
    (i j : Nat) (hij : i ≤ j) (hj : j < tr.length) (hi : i < tr.length := Nat.lt_of_le_of_lt hij hj) :
    tr[j].2 - tr[i].2 = w j - w i := by
  induction hij with
  | refl => omega
  | @step j hij ih =>
    have hs := chain_step h j hj
    rw [hw j hj] at hs
    have := ih (Nat.lt_of_succ_lt hj)
    show tr[j + 1].2 - _ = w (j + 1) - w i
    omega

theorem chain_congr {tr : List (UInt32 × Int)} {start : Option Track} (h : chain start tr) (i j : Nat)
    (hij : i ≤ j) (hj : j < tr.length) (hi : i < tr.length := Nat.lt_of_le_of_lt hij hj) :
    (tr[j].2 - tr[i].2 - ((tr[j].1.toNat : Int) - tr[i].1.toNat)) % 4294967296 = 0 := by
  induction hij with
  | refl => simp only [Int.sub_self]; rfl
  | @step j hij ih => exact congr_step (chain_step h j hj) (sdelta_congr _ _) (ih (Nat.lt_of_succ_lt hj))

end Rtsp.TimeDec
