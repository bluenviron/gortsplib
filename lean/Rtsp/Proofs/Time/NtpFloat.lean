import Rtsp.Proofs.Time.F64
import Rtsp.Proofs.Time.Ntp
/-
`ntp.Encode`'s float expression, transcribed onto the binary64 model, equals exact integer rounding
for every nanosecond fraction (core Lean only).
-/
namespace Rtsp.Ntp
open Rtsp.F64

/-- the remainder of `2·n·2^32 + 10^9` modulo `2·10^9` lies between 512 and `2·10^9 − 512` (it is an odd
multiple of 2^9): the exact quotient `n·2^32/10^9` stays `512/(2·10^9) = 1/(2·5^9)` away from every
half-integer -/
theorem frac_gap (n : Nat) :
    512 ≤ (2 * (n * 4294967296) + 1000000000) % 2000000000 ∧
    (2 * (n * 4294967296) + 1000000000) % 2000000000 + 512 ≤ 2000000000 := by
  omega

/-- the rounding argument in numbers: `y/D` within 2^-22 of `X/(10^9·D)`, the latter `R/(2·10^9·D)` above
the half-integer `J/D − 1/2` with `R/D` between 512 and `2·10^9 − 512` -/
theorem round_arith (y D X J R : Nat) (hD : 0 < D)
    (hup : 4194304 * (y * 1000000000) ≤ 4194304 * X + 1000000000 * D)
    (hlo : 4194304 * X ≤ 4194304 * (y * 1000000000) + 1000000000 * D)
    (hid : 2 * X + 1000000000 * D = 2000000000 * J + R)
    (hg1 : 512 * D ≤ R) (hg2 : R + 512 * D ≤ 2000000000 * D) :
    2 * J ≤ 2 * y + D ∧ 2 * y + D < 2 * J + 2 * D := by
  omega

/-- the rounding argument: a float within 2^-22 of `x/10^9`, where `x/10^9` is at least `1/(2·5^9)` away
from every half-integer, rounds (half away from zero) to the nearest integer of `x/10^9` -/
theorem round_core (x : Nat) (B : F) (hB : NearAbs B x 1000000000)
    (hg1 : 512 ≤ (2 * x + 1000000000) % 2000000000)
    (hg2 : (2 * x + 1000000000) % 2000000000 + 512 ≤ 2000000000) :
    roundHalfAway B = (2 * x + 1000000000) / 2000000000 := by
  unfold roundHalfAway
  have hdm := Nat.div_add_mod (2 * x + 1000000000) 2000000000
  generalize (2 * x + 1000000000) / 2000000000 = j at hdm ⊢
  generalize (2 * x + 1000000000) % 2000000000 = ρ at hdm hg1 hg2
  -- the division identity and the gap, multiplied by `B.den`
  have hid : 2 * (x * B.den) + 1000000000 * B.den = 2000000000 * (j * B.den) + ρ * B.den := by
    rw [← Nat.mul_assoc, ← Nat.mul_assoc, ← Nat.add_mul, ← Nat.add_mul, hdm]
  have hg2' : ρ * B.den + 512 * B.den ≤ 2000000000 * B.den := by
    rw [← Nat.add_mul]
    exact Nat.mul_le_mul_right _ hg2
  have h := round_arith B.num B.den (x * B.den) (j * B.den) (ρ * B.den) hB.den_pos hB.upper hB.lower hid
    (Nat.mul_le_mul_right _ hg1) hg2'
  apply Nat.div_eq_of_lt_le
  · rw [Nat.mul_left_comm]
    exact h.1
  · rw [Nat.add_mul, Nat.one_mul, Nat.mul_left_comm]
    exact h.2

/-- **`uint64(math.Round(float64(n·2^32) / 1e9))` on the binary64 model is the nearest integer of
`n·2^32/10^9`** (no tie occurs), for every `n < 10^9` -/
theorem encFracFloat_eq (n : Nat) (hn : n < 1000000000) : encFracFloat n = encFrac n := by
  unfold encFracFloat encFrac roundDiv
  rw [nanos_eq]
  unfold two32
  have hB := div_abs (ofNat_exact_shift n 32 (by unfold two53; omega)) (ofNat_exact 1000000000 (by decide))
    (by decide) (by omega)
  rw [show (2 : Nat) ^ 32 = 4294967296 from rfl] at hB
  generalize div (ofNat (n * 4294967296)) (ofNat 1000000000) = B at hB ⊢
  have hgap := frac_gap n
  exact round_core (n * 4294967296) B hB hgap.1 hgap.2

end Rtsp.Ntp
