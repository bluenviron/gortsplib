import Rtsp.Model.F64
/-
Error analysis of the binary64 model `F64` (core Lean only).  `roundAt` rounds a quotient scaled by a
power of two to an integer (`roundAt_eq`), within half a unit (`sig_half`); at the right exponent the scaled
quotient is at least 2^52 (`scaled_ge`), so every rounding has relative error at most 2^-53 (`Near`), and
absolute error at most 2^-22 for quotients below 2^32 (`NearAbs`).  Integers with at most 53 significant
bits convert exactly (`Exact`).  `ticks_rel` composes the three roundings of `Sender.report`'s float product.
-/
namespace Rtsp.F64

def two53 : Nat := 9007199254740992

/-- `r` is `p/q` rounded with relative error at most 2^-53:
`(1 − 2^-53)·p/q ≤ r ≤ (1 + 2^-53)·p/q`, cross-multiplied. -/
structure Near (r : F) (p q : Nat) : Prop where
  den_pos : 0 < r.den
  upper : two53 * (r.num * q) ≤ (two53 + 1) * (p * r.den)
  lower : (two53 - 1) * (p * r.den) ≤ two53 * (r.num * q)

/-- the significand computed by `roundAt` for the scaled quotient `P / Q` -/
def sig (P Q : Nat) : Nat :=
  if 2 * (P % Q) > Q ∨ (2 * (P % Q) = Q ∧ (P / Q) % 2 = 1) then P / Q + 1 else P / Q

theorem sig_half (P Q : Nat) (hQ : 0 < Q) :
    2 * (sig P Q * Q) ≤ 2 * P + Q ∧ 2 * P ≤ 2 * (sig P Q * Q) + Q := by
  have hdiv : Q * (P / Q) + P % Q = P := Nat.div_add_mod P Q
  have hr : P % Q < Q := Nat.mod_lt P hQ
  unfold sig
  split
  · rw [Nat.add_mul, Nat.one_mul, Nat.mul_comm (P / Q) Q]
    omega
  · rw [Nat.mul_comm (P / Q) Q]
    omega

theorem roundAt_eq (p q : Nat) (e : Int) :
    roundAt p q e = ⟨sig (p * 2 ^ (52 - e).toNat) (q * 2 ^ (-(52 - e)).toNat) * 2 ^ (-(52 - e)).toNat,
      2 ^ (52 - e).toNat⟩ := by
  by_cases h : 52 - e ≥ 0
  · have h0 : (-(52 - e)).toNat = 0 := by omega
    simp only [roundAt, sig, h, if_true, h0, Nat.pow_zero, Nat.mul_one]
  · have h0 : (52 - e).toNat = 0 := by omega
    simp only [roundAt, sig, h, if_false, h0, Nat.pow_zero, Nat.mul_one]

theorem geExp_iff (p q : Nat) (e : Int) :
    geExp p q e = true ↔ q * 2 ^ e.toNat ≤ p * 2 ^ (-e).toNat := by
  unfold geExp
  by_cases h : e ≥ 0
  · have h0 : (-e).toNat = 0 := by omega
    rw [if_pos h, h0, Nat.pow_zero, Nat.mul_one, decide_eq_true_iff]
  · have h0 : e.toNat = 0 := by omega
    rw [if_neg h, h0, Nat.pow_zero, Nat.mul_one, decide_eq_true_iff]

theorem scaled_ge (p q : Nat) (e : Int) (h : geExp p q e = true) :
    2 ^ 52 * (q * 2 ^ (-(52 - e)).toNat) ≤ p * 2 ^ (52 - e).toNat := by
  have hg := (geExp_iff p q e).1 h
  have h1 := Int.toNat_sub_toNat_neg e
  have h2 := Int.toNat_sub_toNat_neg (52 - e)
  generalize e.toNat = b at hg h1
  generalize (-e).toNat = a at hg h1
  generalize (52 - e).toNat = s at h2 ⊢
  generalize (-(52 - e)).toNat = t at h2 ⊢
  have hs : 52 + t + a = b + s := by omega
  have hp : 2 ^ 52 * 2 ^ t * 2 ^ a = 2 ^ b * 2 ^ s := by
    rw [← Nat.pow_add, ← Nat.pow_add, ← Nat.pow_add, hs]
  apply Nat.le_of_mul_le_mul_right _ (Nat.two_pow_pos a)
  calc 2 ^ 52 * (q * 2 ^ t) * 2 ^ a = q * (2 ^ 52 * 2 ^ t * 2 ^ a) := by ac_rfl
    _ = q * 2 ^ b * 2 ^ s := by rw [hp, Nat.mul_assoc]
    _ ≤ p * 2 ^ a * 2 ^ s := Nat.mul_le_mul_right _ hg
    _ = p * 2 ^ s * 2 ^ a := Nat.mul_right_comm _ _ _

/-- half a unit of a significand of at least 2^52 is a relative error of at most 2^-53 -/
theorem roundAt_near (p q : Nat) (e : Int) (hq : 0 < q) (hge : geExp p q e = true) :
    Near (roundAt p q e) p q := by
  have hn := scaled_ge p q e hge
  have hh := sig_half (p * 2 ^ (52 - e).toNat) (q * 2 ^ (-(52 - e)).toNat) (Nat.mul_pos hq (Nat.two_pow_pos _))
  rw [roundAt_eq]
  refine ⟨Nat.two_pow_pos _, ?_, ?_⟩
  · dsimp only
    rw [Nat.mul_assoc (sig _ _), Nat.mul_comm _ q]
    unfold two53
    omega
  · dsimp only
    rw [Nat.mul_assoc (sig _ _), Nat.mul_comm _ q]
    unfold two53
    omega

theorem expo_ge (p q : Nat) (hp : 0 < p) : geExp p q (expo p q) = true := by
  unfold expo
  simp only []
  split
  · assumption
  · have h1 : 2 ^ p.log2 ≤ p := Nat.log2_self_le (by omega)
    have h2 : q < 2 ^ (q.log2 + 1) := Nat.lt_log2_self
    generalize p.log2 = lp at *
    generalize q.log2 = lq at *
    rw [geExp_iff]
    -- `q·2^b < 2^(lq+1+b) = 2^(lp+a) ≤ p·2^a`
    have hab := Int.toNat_sub_toNat_neg ((lp : Int) - (lq : Int) - 1)
    generalize ((lp : Int) - (lq : Int) - 1).toNat = b at hab ⊢
    generalize (-((lp : Int) - (lq : Int) - 1)).toNat = a at hab ⊢
    have ht : lq + 1 + b = lp + a := by omega
    calc q * 2 ^ b ≤ 2 ^ (lq + 1) * 2 ^ b := Nat.mul_le_mul_right _ (Nat.le_of_lt h2)
      _ = 2 ^ lp * 2 ^ a := by rw [← Nat.pow_add, ht, Nat.pow_add]
      _ ≤ p * 2 ^ a := Nat.mul_le_mul_right _ h1

theorem roundQ_zero (q : Nat) : roundQ 0 q = ⟨0, 1⟩ := if_pos (Or.inl rfl)

theorem roundQ_pos (p q : Nat) (hp : 0 < p) (hq : 0 < q) : roundQ p q = roundAt p q (expo p q) :=
  if_neg (by omega)

theorem roundQ_near (p q : Nat) (hq : 0 < q) : Near (roundQ p q) p q := by
  rcases Nat.eq_zero_or_pos p with rfl | hp
  · rw [roundQ_zero]
    exact ⟨Nat.one_pos, by simp, by simp⟩
  · rw [roundQ_pos p q hp hq]
    exact roundAt_near p q _ hq (expo_ge p q hp)

theorem sig_of_dvd (P Q : Nat) (hQ : 0 < Q) (h : Q ∣ P) : sig P Q * Q = P := by
  have hn : ¬ (2 * 0 > Q ∨ (2 * 0 = Q ∧ P / Q % 2 = 1)) := by omega
  unfold sig
  rw [Nat.mod_eq_zero_of_dvd h, if_neg hn, Nat.div_mul_cancel h]

theorem expo_one (x : Nat) (hx : 0 < x) : expo x 1 = (x.log2 : Int) := by
  have hg : geExp x 1 (x.log2 : Int) = true := by
    have h0 : (-(x.log2 : Int)).toNat = 0 := by omega
    rw [geExp_iff, Int.toNat_natCast, h0, Nat.one_mul, Nat.pow_zero, Nat.mul_one]
    exact Nat.log2_self_le (by omega)
  have e : (x.log2 : Int) - ((1 : Nat).log2 : Int) = x.log2 := Int.sub_zero _
  unfold expo
  simp only [e]
  exact if_pos hg

/-- the float `a` is the integer `n` -/
def Exact (a : F) (n : Nat) : Prop := a.num = n * a.den ∧ 0 < a.den

theorem two53_eq : 2 ^ 53 = two53 := by decide

/-- integers with at most 53 significant bits convert exactly -/
theorem ofNat_exact_shift (n j : Nat) (hn : n < two53) : Exact (ofNat (n * 2 ^ j)) (n * 2 ^ j) := by
  generalize hx : n * 2 ^ j = x
  rcases Nat.eq_zero_or_pos x with rfl | h0
  · exact ⟨rfl, Nat.one_pos⟩
  · unfold ofNat
    rw [roundQ_pos x 1 h0 Nat.one_pos, expo_one x h0, roundAt_eq, Nat.one_mul]
    -- `x < 2^(53+j)`: the `log2 x − 52` bits shifted out (none if `log2 x ≤ 52`) are among the `j` zero bits
    have hlt : x < 2 ^ (53 + j) := by
      rw [← hx, Nat.pow_add, two53_eq]
      exact Nat.mul_lt_mul_of_pos_right hn (Nat.two_pow_pos j)
    have hlg : x.log2 < 53 + j := (Nat.log2_lt (by omega)).2 hlt
    have hsj : (-(52 - (x.log2 : Int))).toNat ≤ j := by omega
    have hdvd : 2 ^ (-(52 - (x.log2 : Int))).toNat ∣ x * 2 ^ (52 - (x.log2 : Int)).toNat := by
      subst hx
      exact Nat.dvd_mul_right_of_dvd (Nat.dvd_mul_left_of_dvd (Nat.pow_dvd_pow 2 hsj) n) _
    exact ⟨sig_of_dvd _ _ (Nat.two_pow_pos _) hdvd, Nat.two_pow_pos _⟩

theorem ofNat_exact (n : Nat) (hn : n < two53) : Exact (ofNat n) n := by
  have h := ofNat_exact_shift n 0 hn
  rwa [Nat.pow_zero, Nat.mul_one] at h

theorem pull_factor_right (x n q c : Nat) : x * (n * (q * c)) = x * (n * q) * c := by
  rw [← Nat.mul_assoc n, ← Nat.mul_assoc]

theorem pull_factor_mid (x p c d : Nat) : x * (p * c * d) = x * (p * d) * c := by
  rw [Nat.mul_right_comm p, ← Nat.mul_assoc]

/-- a common factor of numerator and denominator is irrelevant -/
theorem Near.cancel {r : F} {p q c : Nat} (hc : 0 < c) (h : Near r (p * c) (q * c)) : Near r p q := by
  refine ⟨h.den_pos, ?_, ?_⟩
  · have := h.upper
    rw [pull_factor_right, pull_factor_mid] at this
    exact Nat.le_of_mul_le_mul_right this hc
  · have := h.lower
    rw [pull_factor_right, pull_factor_mid] at this
    exact Nat.le_of_mul_le_mul_right this hc

theorem div_exact {a b : F} {n N : Nat} (ha : Exact a n) (hb : Exact b N) :
    div a b = roundQ (n * (a.den * b.den)) (N * (a.den * b.den)) := by
  unfold div
  rw [ha.1, hb.1, Nat.mul_assoc n, Nat.mul_left_comm a.den]

theorem div_near {a b : F} {n N : Nat} (ha : Exact a n) (hb : Exact b N) (hN : 0 < N) :
    Near (div a b) n N := by
  rw [div_exact ha hb]
  exact (roundQ_near _ _ (Nat.mul_pos hN (Nat.mul_pos ha.2 hb.2))).cancel (Nat.mul_pos ha.2 hb.2)

theorem add_near {a : F} (b : F) {s : Nat} (ha : Exact a s) (hbp : 0 < b.den) :
    Near (add a b) (s * b.den + b.num) b.den := by
  have e : add a b = roundQ ((s * b.den + b.num) * a.den) (b.den * a.den) := by
    unfold add
    rw [ha.1, Nat.add_mul, Nat.mul_right_comm, Nat.mul_comm a.den]
  rw [e]
  exact (roundQ_near _ _ (Nat.mul_pos hbp ha.2)).cancel ha.2

theorem mul_near (a : F) {b : F} {t : Nat} (hb : Exact b t) (hap : 0 < a.den) :
    Near (mul a b) (a.num * t) a.den := by
  have e : mul a b = roundQ (a.num * t * b.den) (a.den * b.den) := by
    unfold mul
    rw [hb.1, Nat.mul_assoc]
  rw [e]
  exact (roundQ_near _ _ (Nat.mul_pos hap hb.2)).cancel hb.2

/-- `a/b ≤ (u/t) · c/d`, cross-multiplied; `Near.upper` and `Near.lower` are of this form -/
def LeBy (t u a b c d : Nat) : Prop := t * (a * d) ≤ u * (c * b)

theorem LeBy.trans {t u t' u' a b c d e f : Nat} (hd : 0 < d) (h1 : LeBy t u a b c d)
    (h2 : LeBy t' u' c d e f) : LeBy (t * t') (u * u') a b e f := by
  apply Nat.le_of_mul_le_mul_right _ hd
  calc t * t' * (a * f) * d = t * (a * d) * (t' * f) := by ac_rfl
    _ ≤ u * (c * b) * (t' * f) := Nat.mul_le_mul_right _ h1
    _ = u * b * (t' * (c * f)) := by ac_rfl
    _ ≤ u * b * (u' * (e * d)) := Nat.mul_le_mul_left _ h2
    _ = u * u' * (e * b) * d := by ac_rfl

theorem LeBy.add_int {t u a b c d : Nat} (htu : t ≤ u) (s : Nat) (h : LeBy t u a b c d) :
    LeBy t u (s * b + a) b (s * d + c) d := by
  unfold LeBy
  rw [Nat.add_mul, Nat.add_mul, Nat.mul_add, Nat.mul_add, Nat.mul_right_comm s d b]
  exact Nat.add_le_add (Nat.mul_le_mul_right _ htu) h

theorem LeBy.mul_int {t u a b c d : Nat} (r : Nat) (h : LeBy t u a b c d) :
    LeBy t u (a * r) b (c * r) d := by
  unfold LeBy
  rw [Nat.mul_right_comm a, Nat.mul_right_comm c, ← Nat.mul_assoc, ← Nat.mul_assoc u]
  exact Nat.mul_le_mul_right r h

theorem LeBy.floor_le {t u n d x N : Nat} (hd : 0 < d) (h : LeBy t u n d x N) :
    t * (n / d * N) ≤ u * x := by
  apply Nat.le_of_mul_le_mul_right _ hd
  calc t * (n / d * N) * d = t * (n / d * d * N) := by ac_rfl
    _ ≤ t * (n * N) := Nat.mul_le_mul_left _ (Nat.mul_le_mul_right _ (Nat.div_mul_le_self n d))
    _ ≤ u * (x * d) := h
    _ = u * x * d := (Nat.mul_assoc _ _ _).symm

theorem LeBy.lt_floor {t u n d x N : Nat} (hd : 0 < d) (hu : 0 < u) (hN : 0 < N) (h : LeBy t u x N n d) :
    t * x < u * ((n / d + 1) * N) := by
  apply Nat.lt_of_mul_lt_mul_right (a := d)
  have hn : n < (n / d + 1) * d := by
    rw [Nat.mul_comm]
    exact Nat.lt_mul_div_succ n hd
  calc t * x * d = t * (x * d) := Nat.mul_assoc _ _ _
    _ ≤ u * (n * N) := h
    _ < u * ((n / d + 1) * d * N) :=
      Nat.mul_lt_mul_of_pos_left (Nat.mul_lt_mul_of_pos_right hn hN) hu
    _ = u * ((n / d + 1) * N) * d := by ac_rfl

/-- three roundings (`nsec/1e9`, `sec + ·`, `· × rate`) and a truncation: `ticks d rate` is
`⌊d·rate/10^9⌋` up to a relative error of `(1 ± 2^-53)³`, for every duration whose seconds fit 53 bits -/
theorem ticks_rel (d rate : Nat) (hd : d / 1000000000 < two53) (hr : rate < two53) :
    two53 * (two53 * two53) * (ticks d rate * 1000000000)
      ≤ (two53 + 1) * ((two53 + 1) * (two53 + 1)) * (d * rate) ∧
    (two53 - 1) * (two53 - 1) * (two53 - 1) * (d * rate)
      < two53 * two53 * two53 * ((ticks d rate + 1) * 1000000000) := by
  have hB := div_near (ofNat_exact (d % 1000000000) (Nat.lt_trans (Nat.mod_lt _ (by decide)) (by decide)))
    (ofNat_exact 1000000000 (by decide)) (by decide)
  have hS : Near (seconds d) _ _ := add_near _ (ofNat_exact (d / 1000000000) hd) hB.den_pos
  have hP := mul_near (seconds d) (ofNat_exact rate hr) hS.den_pos
  have hdm : d / 1000000000 * 1000000000 + d % 1000000000 = d := Nat.div_add_mod' d 1000000000
  unfold ticks trunc
  generalize div (ofNat (d % 1000000000)) (ofNat 1000000000) = B at hB hS
  generalize seconds d = S at hS hP ⊢
  generalize mul S (ofNat rate) = P at hP ⊢
  rw [← hdm]
  exact ⟨(LeBy.trans hS.den_pos hP.upper ((LeBy.trans hB.den_pos hS.upper
      (LeBy.add_int (Nat.le_succ _) _ hB.upper)).mul_int rate)).floor_le hP.den_pos,
    (LeBy.trans hS.den_pos ((LeBy.trans hB.den_pos (LeBy.add_int (Nat.sub_le _ _) _ hB.lower)
      hS.lower).mul_int rate) hP.lower).lt_floor hP.den_pos (by decide) (by decide)⟩

/-- absolute rounding error for quotients below 2^32: at most 2^-22 (half an ulp in the top binade) -/
structure NearAbs (r : F) (p q : Nat) : Prop where
  den_pos : 0 < r.den
  upper : 4194304 * (r.num * q) ≤ 4194304 * (p * r.den) + q * r.den
  lower : 4194304 * (p * r.den) ≤ 4194304 * (r.num * q) + q * r.den

/-- below 2^32 the exponent is at most 31: the quotient is scaled up by at least 2^21, so half a unit
of the significand is at most 2^-22 -/
theorem roundAt_abs (p q : Nat) (e : Int) (hq : 0 < q) (hge : geExp p q e = true)
    (hp : p < 4294967296 * q) : NearAbs (roundAt p q e) p q := by
  have hg := (geExp_iff p q e).1 hge
  have he : e < 32 := by
    rcases Nat.eq_zero_or_pos (-e).toNat with ha | ha
    · rw [ha, Nat.pow_zero, Nat.mul_one, Nat.mul_comm] at hg
      have := (Nat.pow_lt_pow_iff_right (a := 2) (m := 32) (by decide)).mp
        (Nat.lt_of_mul_lt_mul_right (Nat.lt_of_le_of_lt hg hp))
      omega
    · omega
  clear hg hp
  have h0 : (-(52 - e)).toNat = 0 := by omega
  have hs : (52 - e).toNat = 21 + (31 - e).toNat := by omega
  have hh := sig_half (p * 2 ^ (52 - e).toNat) (q * 2 ^ (-(52 - e)).toNat) (Nat.mul_pos hq (Nat.two_pow_pos _))
  rw [roundAt_eq]
  rw [h0, Nat.pow_zero, Nat.mul_one] at hh ⊢
  have hA : q * 2097152 ≤ q * 2 ^ (52 - e).toNat := by
    rw [hs, Nat.pow_add]
    exact Nat.mul_le_mul_left _ (Nat.le_mul_of_pos_right _ (Nat.two_pow_pos _))
  refine ⟨Nat.two_pow_pos _, ?_, ?_⟩
  · dsimp only
    rw [Nat.mul_one]
    omega
  · dsimp only
    rw [Nat.mul_one]
    omega

theorem roundQ_abs (p q : Nat) (hq : 0 < q) (hp : p < 4294967296 * q) : NearAbs (roundQ p q) p q := by
  rcases Nat.eq_zero_or_pos p with rfl | hp0
  · rw [roundQ_zero]
    exact ⟨Nat.one_pos, by simp, by simp⟩
  · rw [roundQ_pos p q hp0 hq]
    exact roundAt_abs p q _ hq (expo_ge p q hp0) hp

theorem NearAbs.cancel {r : F} {p q c : Nat} (hc : 0 < c) (h : NearAbs r (p * c) (q * c)) : NearAbs r p q := by
  refine ⟨h.den_pos, ?_, ?_⟩
  · have := h.upper
    rw [pull_factor_right, pull_factor_mid, Nat.mul_right_comm q, ← Nat.add_mul] at this
    exact Nat.le_of_mul_le_mul_right this hc
  · have := h.lower
    rw [pull_factor_right, pull_factor_mid, Nat.mul_right_comm q, ← Nat.add_mul] at this
    exact Nat.le_of_mul_le_mul_right this hc

theorem div_abs {a b : F} {n N : Nat} (ha : Exact a n) (hb : Exact b N) (hN : 0 < N)
    (hlt : n < 4294967296 * N) : NearAbs (div a b) n N := by
  have hc : 0 < a.den * b.den := Nat.mul_pos ha.2 hb.2
  rw [div_exact ha hb]
  apply (roundQ_abs _ _ (Nat.mul_pos hN hc) _).cancel hc
  rw [← Nat.mul_assoc 4294967296]
  exact Nat.mul_lt_mul_of_pos_right hlt hc

end Rtsp.F64
