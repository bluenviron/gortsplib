import Rtsp.Model.ClientSm
import Rtsp.Proofs.Common.Steps
/-
Every helper of the client model is written in continuation-passing style (`retK` = return into the
callers).  For the helpers that several arguments go through, a rule
    (P holds of every way the helper can go on) → P (helper …)
for an arbitrary `P : St → Prop`, so that the model is unfolded once.
-/
namespace Rtsp.ClientSm

/-- the fields that steer the run loop -/
def ctl (s : St) : Bool × Bool × Bool × Option Api := (s.closed, s.mustClose, s.ctxDone, s.pending)

/-- `s'` agrees with `s` on the fields that steer the run loop; `rfl` when `s'` is `s` with other fields
updated -/
def Same (s s' : St) : Prop := ctl s' = ctl s

namespace Same
variable {s s' s'' : St}

theorem trans (h : Same s s') (h' : Same s' s'') : Same s s'' := Eq.trans h' h
theorem closed (h : Same s s') : s'.closed = s.closed := congrArg (·.1) h
theorem mustClose (h : Same s s') : s'.mustClose = s.mustClose := congrArg (·.2.1) h
theorem ctxDone (h : Same s s') : s'.ctxDone = s.ctxDone := congrArg (·.2.2.1) h
theorem pending (h : Same s s') : s'.pending = s.pending := congrArg (·.2.2.2) h

theorem restore (h : Same s s') : Same s { s' with mustClose := s.mustClose } :=
  Prod.ext h.closed (Prod.ext rfl (Prod.ext h.ctxDone h.pending))

end Same

theorem connOpen_same {s s1 : St} (h : connOpen s = some s1) : Same s s1 := by
  unfold connOpen at h
  split at h
  · cases h; exact rfl
  · split at h
    · cases h; exact rfl
    · cases h

theorem sendReq_same (s : St) (m : Meth) (tp : Nat) : Same s (sendReq s m tp) := rfl

theorem closeConn_same (s : St) : Same s (closeConn s) := by
  unfold closeConn
  split <;> exact rfl

theorem clearSession_same (s : St) : Same s (clearSession s) :=
  (closeConn_same s).trans rfl

theorem captureSession_same (s : St) (k : SessK) : Same s (captureSession s k) := by
  cases k <;> exact rfl

theorem closeConn_eq (s : St) :
    ∃ o, closeConn s = { s with conn := false, reader := false, allow := false, out := s.out ++ o } := by
  unfold closeConn
  split
  · exact ⟨[.hangup], rfl⟩
  · exact ⟨[], by rw [List.append_nil]⟩

/-- the courtesy TEARDOWN of `run`, or the OPTIONS it needs first -/
theorem exitSend_ind {P : St → Prop} (s : St) (h0 : P s) (hS : ∀ m, P (sendReq s m)) :
    P (if s.conn && s.baseUrl then
        if s.optionsSent then sendReq s .teardown
        else if stateIn s preStates then sendReq s .options else s
       else s) :=
  iteInduction (fun _ => iteInduction (fun _ => hS _) fun _ => iteInduction (fun _ => hS _) fun _ => h0) fun _ => h0

theorem exitTail_eq (s : St) : ∃ n o,
    closeConn (if s.conn && s.baseUrl then
        if s.optionsSent then sendReq s .teardown
        else if stateIn s preStates then sendReq s .options else s
       else s) = { s with conn := false, reader := false, allow := false, cseq := n, out := s.out ++ o } :=
  exitSend_ind (P := fun x => ∃ n o, closeConn x =
      { s with conn := false, reader := false, allow := false, cseq := n, out := s.out ++ o }) s
    (let ⟨o, h⟩ := closeConn_eq s; ⟨s.cseq, o, h⟩)
    (fun m => let ⟨o, h⟩ := closeConn_eq (sendReq s m)
      ⟨s.cseq + 1, [.sent m (s.cseq + 1) s.session s.sender 0] ++ o, by rw [h, ← List.append_assoc]; rfl⟩)

/-- what is written on the way out (at most one request, a hangup) only shows in `cseq` and `out` -/
theorem runExit_eq (s : St) (e : Res) :
    ∃ w n o, runExit s e =
      { s with closed := true, closeRes := e, stack := [], ctxDone := true, conn := false, reader := false,
               allow := false, writer := w, cseq := n, out := s.out ++ o } ∧
      (s.cst = .play ∨ s.cst = .record → w = false) := by
  unfold runExit
  extract_lets s1 s2 s3
  obtain ⟨w, a, h2, hw⟩ : ∃ w a, s2 = { s1 with writer := w, allow := a } ∧
      (s.cst = .play ∨ s.cst = .record → w = false) :=
    iteInduction (motive := fun x => ∃ w a, x = { s1 with writer := w, allow := a } ∧
        (s.cst = .play ∨ s.cst = .record → w = false))
      (fun _ => ⟨false, false, rfl, fun _ => rfl⟩)
      (fun hp => ⟨s.writer, s.allow, rfl, fun hh => absurd hh (by simpa [s1] using hp)⟩)
  obtain ⟨n, o, h⟩ := exitTail_eq s2
  exact ⟨w, n, o, h.trans (by rw [h2]), hw⟩

/-- `run` after runInner returned: the client is closed with that error latched, connection and reader
are gone, interleaved frames are no longer accepted, the stack is empty. -/
theorem C12.runExit_closed (s : St) (e : Res) :
    (runExit s e).closed = true ∧ (runExit s e).closeRes = e ∧ (runExit s e).conn = false ∧
    (runExit s e).reader = false ∧ (runExit s e).allow = false ∧ (runExit s e).stack = [] ∧
    ((s.cst = .play ∨ s.cst = .record) → (runExit s e).writer = false) := by
  obtain ⟨w, n, o, h, hw⟩ := runExit_eq s e
  rw [h]
  exact ⟨rfl, rfl, rfl, rfl, rfl, rfl, hw⟩

theorem handOver_keeps (s : St) (r : Res) :
    (handOver s r).mustClose = s.mustClose ∧ (handOver s r).ctxDone = s.ctxDone ∧
    (handOver s r).closed = s.closed ∧ (handOver s r).stack = [] := by
  unfold handOver
  cases s.pending <;> exact ⟨rfl, rfl, rfl, rfl⟩

theorem deliver_rule {P : St → Prop} {s : St} {v : Val}
    (hX : ∀ e, s.mustClose = true ∧ e = valRes v ∨ s.mustClose = false ∧ e = some .terminated →
      P (runExit (handOver s (valRes v)) e))
    (hI : s.mustClose = false → s.ctxDone = false → P (handOver s (valRes v))) : P (deliver s v) := by
  have hk := handOver_keeps s (valRes v)
  exact iteInduction (fun hm => hX _ (Or.inl ⟨hk.1 ▸ hm, rfl⟩)) fun hm =>
    have hm := hk.1 ▸ eq_false_of_ne_true hm
    iteInduction (fun _ => hX _ (Or.inr ⟨hm, rfl⟩)) fun hc => hI hm (hk.2.1 ▸ eq_false_of_ne_true hc)

theorem startDo_rule {P : St → Prop} {s : St} {m : Meth} {skip : Bool} {tp : Nat} {fs k : List Fr}
    {onErr : St → Err → St} {onSkip : St → St}
    (hE : ∀ s' e, Same s s' → P (onErr s' e))
    (hT : ∀ s', Same s s' → P (onErr { s' with mustClose := true } .terminated))
    (hS : skip = true → ∀ s', Same s s' → P (onSkip s'))
    (hW : ∀ s' m' n tp' k', Same s s' → s'.ctxDone = false →
      k' = fs ++ k ∨ k' = .optionsK :: .doOpt m skip tp :: (fs ++ k) →
      P { s' with stack := .wait m' n tp' :: k' }) :
    P (startDo s m skip tp fs k onErr onSkip) := by
  refine iteInduction (fun _ => iteInduction (fun _ => ?_) fun _ => hE _ _ rfl) fun _ =>
    have h2 := sendReq_same s m tp
    iteInduction (fun hsk => hS hsk _ h2) fun _ =>
      iteInduction (fun _ => hT _ h2) fun hc => hW _ _ _ _ _ h2 (eq_false_of_ne_true hc) (Or.inl rfl)
  cases h1 : connOpen s with
  | none => exact hE _ _ rfl
  | some s1 =>
    have h2 := (connOpen_same h1).trans (sendReq_same s1 .options 0)
    exact iteInduction (fun _ => hT _ h2) fun hc => hW _ _ _ _ _ h2 (eq_false_of_ne_true hc) (Or.inr rfl)

theorem describeStart_rule {P : St → Prop} {s : St} {rd : Nat} {fs k : List Fr} {retK : St → Val → St}
    (hE : ∀ e, P (retK s (.err e)))
    (hD : ∀ s1, Same s s1 →
      P (startDo s1 .describe false 0 (.describeK rd :: fs) k (fun s e => retK s (.err e)) id)) :
    P (describeStart s rd fs k retK) := by
  refine iteInduction (fun _ => ?_) fun _ => hE _
  cases h1 : connOpen s with
  | none => exact hE _
  | some s1 => exact hD s1 (connOpen_same h1)

/-- no `reset` frame -/
def Calm1 (k : List Fr) : Prop := ∀ f ∈ k, ∀ n b, f ≠ .resetK n b

/-- frames that hand an error of the `do` below them on to their caller (all but `reset`, which ignores
it, and the frames of trySwitchingProtocol, which leave the run loop with it) -/
def Propagating (f : Fr) : Prop :=
  match f with
  | .resetK _ _ | .swDescK _ | .swSetupK _ | .swPlayK => False
  | _ => True

def NoReset (k : List Fr) : Prop := ∀ f ∈ k, Propagating f

theorem calm1_nil : Calm1 [] := fun _ hf => nomatch hf

theorem calm1_cons {f : Fr} {k : List Fr} (hf : ∀ n b, f ≠ .resetK n b) (hk : Calm1 k) : Calm1 (f :: k) := by
  intro g hg
  rcases List.mem_cons.mp hg with rfl | hg
  · exact hf
  · exact hk g hg

theorem calm1_of_noReset {k : List Fr} (h : NoReset k) : Calm1 k := fun f hf _ _ hr => by
  subst hr
  exact h _ hf

theorem afterReset_rule {P : St → Prop} {s : St} {n : AfterReset} {k : List Fr} {retK : St → Val → St}
    (hE : ∀ s1 e, Same s s1 → P (retK s1 (.err e)))
    (hD : ∀ s1 rd fs retK', Same s s1 → Calm1 fs →
      retK' = retK ∨ retK' = swEnd retK → P (describeStart s1 rd fs k retK')) :
    P (afterReset s n k retK) := by
  have hc := clearSession_same s
  unfold afterReset
  cases n with
  | redirect loc n =>
    cases loc
    case unparsable | downgrade => exact hE _ _ hc
    all_goals exact hD _ _ _ _ (hc.trans rfl) calm1_nil (Or.inl rfl)
  | switchTcp a =>
    exact hD _ _ _ _ (hc.trans rfl) (calm1_cons nofun calm1_nil) (Or.inl rfl)
  | switchAll ms =>
    exact hD _ _ _ _ (hc.trans rfl) (calm1_cons nofun calm1_nil) (Or.inr rfl)

theorem frameRet_err_rule {P : St → Prop} {c : Cfg} {f : Fr} {k : List Fr} {retK : St → Val → St}
    {s : St} {e : Err} (hR : ∀ s', Same s s' → P (retK s' (.err e)))
    (hA : ∀ n b, f = .resetK n b → P (afterReset { s with mustClose := b } n k retK))
    (hX : ¬ Propagating f → P (runExit s (some e))) : P (frameRet c f k retK s (.err e)) := by
  cases f
  case resetK => exact hA _ _ rfl
  case swDescK | swSetupK | swPlayK => exact hX id
  all_goals exact hR _ rfl

theorem checkTimeout_rule {P : St → Prop} {c : Cfg} {s : St} {got stale : Bool} (h0 : P s)
    (h1 : P { s with checkInitial := false }) (hU : P (runExit s (some .udpTimeout)))
    (hT : P (runExit s (some .tcpTimeout)))
    (hS : s.cst = .play ∧ (s.tr = some .udp ∨ s.tr = some .mcast) ∧ s.checkInitial = true ∧
      s.backSet = false ∧ c.proto = none ∧ s.lastDesc = true ∧ got = false →
      P (switchStart c { s with checkInitial := false })) :
    P (checkTimeout c s got stale) :=
  iteInduction (fun _ => h0) fun a => iteInduction
    (fun b => iteInduction
      (fun d => iteInduction
        (fun g =>
          have a : s.cst = .play ∧ s.stdSet = true := by simpa using a
          hS ⟨a.1, by simpa [and_assoc] using And.intro b (And.intro d g)⟩)
        fun _ => h1)
      fun _ => iteInduction (fun _ => hU) fun _ => h0)
    fun _ => iteInduction (fun _ => hT) fun _ => h0

theorem step_rule {P : St → Prop} {c : Cfg} {s : St} {e : Ev} (h0 : P s) (hO : ∀ o, P (emit s o))
    (hX : ∀ s' e, P (runExit s' (some e)))
    (hA : ∀ a, s.closed = false → s.stack = [] → P (startApi c s a))
    (hC : ∀ got stale, s.closed = false → P (checkTimeout c s got stale))
    (hT : ∀ m n tp k r, s.closed = false → s.stack = .wait m n tp :: k →
      P (doTail c { s with stack := k } m tp r k (resume c k)))
    (hF : ∀ m n tp k (s' : St) e, s.closed = false → s.stack = .wait m n tp :: k → s'.closed = false →
      s'.pending = s.pending → P (resume c k { s' with mustClose := true } (.err e))) :
    P (step c s e) := by
  unfold step
  refine iteInduction (fun _ => ?_) fun hc => ?_
  · cases e <;> first | exact h0 | exact hO _
  · have hc : s.closed = false := eq_false_of_ne_true hc
    split
    · rename_i hs
      cases e with
      | call a => exact hA a hc hs
      | resp r => exact h0
      | sreq o =>
        cases o
        · exact hX _ _
        · exact hO _
      | frame ch => exact iteInduction (fun _ => h0) fun _ => hX _ _
      | readErr => exact hX _ _
      | timer => exact h0
      | liveness got stale => exact hC got stale hc
      | close => exact hX _ _
    · rename_i m n tp k hs
      cases e with
      | call a => exact h0
      | resp r => exact iteInduction (fun _ => hT m n tp k r hc hs) fun _ => h0
      | sreq o =>
        cases o
        · exact hF m n tp k s _ hc hs hc rfl
        · exact hO _
      | frame ch => exact iteInduction (fun _ => h0) fun _ => hF m n tp k _ _ hc hs hc rfl
      | readErr => exact hF m n tp k _ _ hc hs hc rfl
      | timer => exact hF m n tp k s _ hc hs hc rfl
      | liveness got stale => exact h0
      | close => exact hF m n tp k _ _ hc hs hc rfl
    · exact h0

theorem step_waitFail {c : Cfg} {s : St} {m : Meth} {n tp : Nat} {k : List Fr}
    (hc : s.closed = false) (hs : s.stack = .wait m n tp :: k) :
    step c s .timer = waitFail c s .timeout k ∧
    step c s .readErr = waitFail c { s with reader := false } .other k ∧
    step c s (.sreq false) = waitFail c s .unhandledMethod k ∧
    step c s .close = waitFail c { s with ctxDone := true } .terminated k := by
  simp [step, hc, hs]

theorem run_ind {I : St → Prop} (c : Cfg) (h : ∀ s e, I s → I (step c s e)) (es : List Ev) :
    ∀ s, I s → I (run c s es) := foldl_inv (step c) h es

end Rtsp.ClientSm
