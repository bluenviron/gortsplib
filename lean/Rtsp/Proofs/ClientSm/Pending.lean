import Rtsp.Proofs.ClientSm.Unwind
/-
The run loop only ever waits on behalf of the API call it accepted (`pending`); without the call (`Blocked`): it is
always at a blocking point, `step`'s catch-all branch (an event that nobody consumes) is never reached.
-/
namespace Rtsp.ClientSm

/-- `p` is what is being served (none: the loop acts on its own, e.g. the liveness check) -/
def Pend (p : Option Api) (s : St) : Prop := s.pending = p

/-- idle / closed, or waiting on behalf of `p` -/
def BlockedFor (p : Option Api) (s : St) : Prop :=
  s.stack = [] ∨ (∃ m n tp k, s.stack = .wait m n tp :: k) ∧ s.pending = p

/-- the run loop is at a blocking point -/
def Blocked (s : St) : Prop := s.stack = [] ∨ ∃ m n tp k, s.stack = .wait m n tp :: k

theorem blocked_of_blockedFor {p : Option Api} {s : St} (h : BlockedFor p s) : Blocked s :=
  h.imp id And.left

/-- no helper touches `pending`: where the loop blocks it blocks for `p` -/
def pendScheme (p : Option Api) : Scheme :=
  .ofState (Pend p) (BlockedFor p) (fun hd hs => hs.pending.trans hd) (fun _ hd => hd)
    (fun hd _ => Or.inr ⟨⟨_, _, _, _, rfl⟩, hd⟩)

theorem runExit_blockedFor (p : Option Api) (s : St) (e : Res) : BlockedFor p (runExit s e) :=
  Or.inl (C12.runExit_closed s e).2.2.2.2.2.1

theorem deliver_blockedFor (p : Option Api) (s : St) (v : Val) : BlockedFor p (deliver s v) :=
  deliver_rule (fun _ _ => runExit_blockedFor p _ _) (fun _ _ => Or.inl (handOver_keeps _ _).2.2.2)

theorem resume_pend (c : Cfg) (p : Option Api) (k : List Fr) :
    ∀ s v, Pend p s → BlockedFor p (resume c k s v) :=
  (pendScheme p).resume_inv c (fun s v _ => deliver_blockedFor p s v) (fun _ _ => runExit_blockedFor p _ _) k trivial

theorem startApi_blockedFor (c : Cfg) (s : St) (a : Api) : BlockedFor (some a) (startApi c s a) :=
  (pendScheme (some a)).startApi_inv rfl trivial (fun s v _ => deliver_blockedFor _ s v)
    (fun _ _ => runExit_blockedFor _ _ _)

end Rtsp.ClientSm
