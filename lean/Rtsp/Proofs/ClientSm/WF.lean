import Rtsp.Proofs.ClientSm.Silent
import Rtsp.Proofs.ClientSm.Unwind
/-
Well-formed stacks: a `reset` frame has only non-reset frames below it, and it sits directly under the
frames of its TEARDOWN's implicit OPTIONS (`wait`, `optionsK`, `doOpt`); every other frame sits on a
stack without reset frames.  Invariant of the run loop (`wfScheme`).
-/
namespace Rtsp.ClientSm

def WF : List Fr → Prop
  | [] => True
  | .resetK _ _ :: k => Calm1 k
  | .wait _ _ _ :: k => WF k
  | .optionsK :: k => WF k
  | .doOpt _ _ _ :: k => WF k
  | .describeK _ :: k | .announceK :: k | .setupK _ _ :: k | .playK :: k | .recordK :: k | .pauseK :: k
  | .redescK _ :: k | .swDescK _ :: k | .swSetupK _ :: k | .swPlayK :: k => Calm1 k

theorem wf_of_calm1 : ∀ k, Calm1 k → WF k := by
  intro k
  induction k with
  | nil => intro _; trivial
  | cons f k ih =>
    intro h
    have hk := calm1_tail h
    cases f
    case wait | optionsK | doOpt => exact ih hk
    all_goals exact hk

theorem wf_tail (f : Fr) (k : List Fr) (h : WF (f :: k)) : WF k := by
  cases f
  case wait | optionsK | doOpt => exact h
  all_goals exact wf_of_calm1 _ h

def WFs (s : St) : Prop := WF s.stack

theorem wfs_runExit (s : St) (e : Res) : WFs (runExit s e) := by
  rw [WFs, (C12.runExit_closed s e).2.2.2.2.2.1]
  trivial

theorem wfs_deliver (s : St) (v : Val) : WFs (deliver s v) :=
  deliver_rule (fun _ _ => wfs_runExit _ _) (fun _ _ => by
    rw [WFs, (handOver_keeps s (valRes v)).2.2.2]
    trivial)

/-- `do` blocks on well-formed stacks; the other frames are pushed on stacks without `reset` -/
def wfScheme : Scheme where
  J _ := True
  Q _ _ := True
  K := WF
  K₁ := Calm1
  P := WFs
  same _ _ := trivial
  fail _ _ _ _ := trivial
  pass _ _ _ := trivial
  goOn _ _ := trivial
  sub := wf_of_calm1 _
  light hk := hk
  push := calm1_cons
  pushReset _ hk := hk
  pop := wf_tail _ _
  pop₁ {f _} hk hf := by
    cases f
    case wait | optionsK | doOpt => exact hf.elim
    all_goals exact hk
  popReset _ _ := trivial
  wait _ _ hk := hk

theorem resume_wfs (c : Cfg) (k : List Fr) (hk : WF k) (s : St) (v : Val) : WFs (resume c k s v) :=
  wfScheme.resume_inv c (fun s v _ => wfs_deliver s v) (fun _ _ => wfs_runExit _ _) k hk s v trivial

end Rtsp.ClientSm
