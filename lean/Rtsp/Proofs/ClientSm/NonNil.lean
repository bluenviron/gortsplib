import Rtsp.Proofs.ClientSm.Unwind
/-
The client never terminates with a nil error.  What is handed to a continuation (`Handed`) ties the value
to the state: once mustClose is latched only errors are handed around.
-/
namespace Rtsp.ClientSm

/-- every `reset` frame on the stack remembers mustClose = false -/
def StackOK (k : List Fr) : Prop := ∀ f ∈ k, ∀ n b, f = .resetK n b → b = false

/-- what may be handed to a continuation: the loop is running, and if mustClose is latched the value handed
over is an error (it becomes closeError: `deliver_good`) -/
def Handed (s : St) (v : Val) : Prop :=
  s.closed = false ∧ (s.mustClose = true → ∃ e, v = .err e)

/-- the property of blocking points: closed ⇒ closeError is an error; running ⇒ nothing latched -/
def Good (s : St) : Prop :=
  (s.closed = true → s.closeRes ≠ none) ∧
  (s.closed = false → s.mustClose = false ∧ s.ctxDone = false ∧ StackOK s.stack)

/-- running, nothing latched (the context may be cancelled) -/
def Clean (s : St) : Prop := s.closed = false ∧ s.mustClose = false

theorem clean_same {s s' : St} (hd : Clean s) (hs : Same s s') : Clean s' :=
  ⟨hs.closed.trans hd.1, hs.mustClose.trans hd.2⟩

theorem handed_err {s : St} (e : Err) (h : s.closed = false) : Handed s (.err e) := ⟨h, fun _ => ⟨e, rfl⟩⟩

theorem handed_clean {s : St} (v : Val) (h : Clean s) : Handed s v :=
  ⟨h.1, fun hm => absurd (h.2.symm.trans hm) nofun⟩

theorem clean_of_handed {s : St} {v : Val} (hA : Handed s v) (hv : ∀ e, v ≠ .err e) : Clean s :=
  ⟨hA.1, Bool.eq_false_iff.mpr fun hm => (hA.2 hm).elim hv⟩

theorem handed_same {s s' : St} {v v' : Val} (hA : Handed s v) (hs : Same s s')
    (hv : v' = v ∨ (∃ e, v' = .err e) ∨ v' = .nil ∧ ∀ e, v ≠ .err e) : Handed s' v' := by
  rcases hv with rfl | ⟨e, rfl⟩ | ⟨rfl, hn⟩
  · exact ⟨hs.closed.trans hA.1, fun hm => hA.2 (hs.mustClose ▸ hm)⟩
  · exact handed_err e (hs.closed.trans hA.1)
  · exact handed_clean _ (clean_same (clean_of_handed hA hn) hs)

theorem stackOK_cons {f : Fr} {k : List Fr} (hf : ∀ n b, f = .resetK n b → b = false) (hk : StackOK k) :
    StackOK (f :: k) := by
  intro g hg n b hgb
  rcases List.mem_cons.mp hg with rfl | hg
  · exact hf n b hgb
  · exact hk g hg n b hgb

theorem stackOK_tail {f : Fr} {k : List Fr} (h : StackOK (f :: k)) : StackOK k :=
  fun g hg => h g (List.mem_cons_of_mem _ hg)

theorem stackOK_append {a b : List Fr} (ha : StackOK a) (hb : StackOK b) : StackOK (a ++ b) := by
  intro g hg n bb hgb
  rcases List.mem_append.mp hg with hg | hg
  · exact ha g hg n bb hgb
  · exact hb g hg n bb hgb

theorem stackOK_nil : StackOK [] := fun _ hf => nomatch hf

theorem runExit_good (s : St) (e : Err) : Good (runExit s (some e)) :=
  have h := C12.runExit_closed s (some e)
  ⟨fun _ => by rw [h.2.1]; nofun, fun hc => absurd (h.1.symm.trans hc) (by decide)⟩

/-- helpers start `Clean`, hand over what `Handed` allows, and block `Good` -/
def goodScheme : Scheme where
  J := Clean
  Q := Handed
  K := StackOK
  K₁ := StackOK
  P := Good
  same := clean_same
  fail _ e hd hs := handed_err e (hs.closed.trans hd.1)
  pass := handed_same
  goOn := clean_of_handed
  sub := id
  light hk := stackOK_cons nofun (stackOK_cons nofun hk)
  push hf hk := stackOK_cons (fun n b h => absurd h (hf n b)) hk
  -- the `reset` frame remembers mustClose = false
  pushReset hd hk := stackOK_cons (fun _ _ h => by cases h; exact hd.2) hk
  pop := stackOK_tail
  pop₁ hk _ := stackOK_tail hk
  popReset hA hk := ⟨hA.1, hk _ (List.mem_cons_self ..) _ _ rfl⟩
  wait hd hc hk :=
    ⟨fun h => absurd (hd.1.symm.trans h) (by decide), fun _ => ⟨hd.2, hc, stackOK_cons nofun hk⟩⟩

theorem deliver_good (s : St) (v : Val) (hA : Handed s v) : Good (deliver s v) := by
  have hk := handOver_keeps s (valRes v)
  refine deliver_rule (fun e he => ?_) (fun hm hc => ⟨fun h => ?_, fun _ => ⟨?_, ?_, ?_⟩⟩)
  · -- whichever way the loop is left, it is left with an error
    rcases he with ⟨hm, rfl⟩ | ⟨_, rfl⟩
    · obtain ⟨e, rfl⟩ := hA.2 hm
      exact runExit_good _ e
    · exact runExit_good _ _
  · rw [hk.2.2.1, hA.1] at h; cases h
  · rw [hk.1]; exact hm
  · rw [hk.2.1]; exact hc
  · rw [hk.2.2.2]; exact stackOK_nil

theorem resume_good (c : Cfg) (k : List Fr) (hk : StackOK k) : ∀ s v, Handed s v → Good (resume c k s v) :=
  goodScheme.resume_inv c deliver_good runExit_good k hk

theorem step_good (c : Cfg) (s : St) (e : Ev) (h : Good s) : Good (step c s e) :=
  step_rule h (fun _ => h) runExit_good
    (fun a hc _ => goodScheme.startApi_inv ⟨hc, (h.2 hc).1⟩ stackOK_nil deliver_good runExit_good)
    (fun got stale hc => checkTimeout_rule h h (runExit_good _ _) (runExit_good _ _)
      (fun _ => goodScheme.resetStart_inv (resume_good c [] stackOK_nil) runExit_good c ⟨hc, (h.2 hc).1⟩ stackOK_nil))
    (fun m n tp k r hc hs => by
      have hk : StackOK k := stackOK_tail (hs ▸ (h.2 hc).2.2)
      exact goodScheme.doTail_inv (resume_good c k hk) (handed_clean _ ⟨hc, (h.2 hc).1⟩) hk)
    (fun m n tp k _ _ hc hs hc' _ =>
      resume_good c k (stackOK_tail (hs ▸ (h.2 hc).2.2)) _ _ (handed_err _ hc'))

theorem good_init : Good init := ⟨nofun, fun _ => ⟨rfl, rfl, stackOK_nil⟩⟩

theorem run_good (c : Cfg) (es : List Ev) : ∀ s, Good s → Good (run c s es) := run_ind c (step_good c) es

end Rtsp.ClientSm
