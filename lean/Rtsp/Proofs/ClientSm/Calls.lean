import Rtsp.Proofs.ClientSm.Pending
/-
What becomes of the call being served: Close ends it with an error, any other event keeps it or leaves
the loop idle, an error that arrives in the run loop with mustClose latched is returned to the caller and closes the client.
-/
namespace Rtsp.ClientSm

/-- once the context is cancelled nothing blocks: an error returned into ANY stack closes the client -/
theorem resume_dyingE (c : Cfg) (k : List Fr) (s : St) (e : Err) (hd : Dying s) :
    (resume c k s (.err e)).closed = true ∧ (resume c k s (.err e)).closeRes ≠ none :=
  have hX : ∀ s' e, e ≠ none → (runExit s' e).closed = true ∧ (runExit s' e).closeRes ≠ none :=
    fun s' e he => ⟨(C12.runExit_closed s' e).1, by rw [(C12.runExit_closed s' e).2.1]; exact he⟩
  (dyingScheme fun r => r.closed = true ∧ r.closeRes ≠ none).errors.resume_inv c
    (fun s v ⟨hd, e, he⟩ => deliver_rule
      (fun _ h => hX _ _ (by rcases h with ⟨_, rfl⟩ | ⟨_, rfl⟩ <;> simp [he, valRes]))
      (fun _ hc => absurd (hd.symm.trans hc) (by decide)))
    (fun _ _ => hX _ _ nofun) k trivial s _ ⟨hd, e, rfl⟩

/-- invariant of the run loop: it is always at a blocking point — idle / closed (empty stack) or
inside waitResponse (`wait` on top of the stack) -/
def Inv (s : St) : Prop := Blocked s

theorem step_blockedFor (c : Cfg) (s : St) (e : Ev) (h : Blocked s) :
    BlockedFor s.pending (step c s e) ∨ ∃ a, s.stack = [] ∧ BlockedFor (some a) (step c s e) :=
  have hself : BlockedFor s.pending s := h.imp id fun h => ⟨h, rfl⟩
  have hR := fun k => resume_pend c s.pending k
  have hX := fun s' e => runExit_blockedFor s.pending s' (some e)
  step_rule (P := fun r => BlockedFor s.pending r ∨ ∃ a, s.stack = [] ∧ BlockedFor (some a) r)
    (.inl hself) (fun _ => .inl hself) (fun _ _ => .inl (runExit_blockedFor _ _ _))
    (fun a _ hs => .inr ⟨a, hs, startApi_blockedFor c s a⟩)
    (fun got stale _ => .inl (checkTimeout_rule hself hself (runExit_blockedFor _ _ _)
      (runExit_blockedFor _ _ _) fun _ => (pendScheme _).resetStart_inv (hR []) hX c rfl trivial))
    (fun _ _ _ k _ _ _ => .inl ((pendScheme _).doTail_inv (hR k) rfl trivial))
    (fun _ _ _ k _ _ _ _ _ hp => .inl (hR k _ _ hp))

theorem step_inv (c : Cfg) (s : St) (e : Ev) (h : Inv s) : Inv (step c s e) :=
  (step_blockedFor c s e h).elim blocked_of_blockedFor fun ⟨_, _, h⟩ => blocked_of_blockedFor h

theorem deliver_err_mustClose (s : St) (e : Err) (a : Api) (hm : s.mustClose = true)
    (hp : s.pending = some a) :
    (deliver s (.err e)).closed = true ∧ (deliver s (.err e)).closeRes = some e ∧
    Out.ret a (some e) ∈ (deliver s (.err e)).out ∧ (deliver s (.err e)).stack = [] := by
  have hr : Out.ret a (some e) ∈ (handOver s (some e)).out := by simp [handOver, hp, emit]
  refine deliver_rule
    (P := fun r => r.closed = true ∧ r.closeRes = some e ∧ Out.ret a (some e) ∈ r.out ∧ r.stack = []) (fun e' he => ?_) (fun h _ => absurd (hm.symm.trans h) (by decide))
  rcases he with ⟨_, rfl⟩ | ⟨h, _⟩
  · obtain ⟨w, n, o, h, _⟩ := runExit_eq (handOver s (some e)) (some e)
    rw [show valRes (.err e) = some e from rfl, h]
    exact ⟨rfl, rfl, List.mem_append_left _ hr, rfl⟩
  · exact absurd (hm.symm.trans h) (by decide)

end Rtsp.ClientSm
