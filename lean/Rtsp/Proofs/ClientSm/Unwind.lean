import Rtsp.Proofs.ClientSm.Rules
/-
What `resume` (returning a value into the call stack of the run loop) can lead to.  The invariants of the
run loop all have the same shape, a `Scheme`; each helper is gone through once, for all schemes.
-/
namespace Rtsp.ClientSm

/-- frames of a function that called `do`, as opposed to those of `do` itself -/
def Heavy : Fr → Prop
  | .wait _ _ _ | .optionsK | .doOpt _ _ _ => False
  | .describeK _ | .announceK | .setupK _ _ | .playK | .recordK | .pauseK | .redescK _ | .swDescK _
  | .swSetupK _ | .swPlayK | .resetK _ _ => True

/-- An invariant of the run loop, by its parts.  Two stack predicates: `do` pushes its own frames
(`wait`, `optionsK`, `doOpt`) where a caller frame could not sit, directly above a `reset` frame. -/
structure Scheme where
  /-- a helper may start in this state -/
  J : St → Prop
  /-- this value may be returned in this state -/
  Q : St → Val → Prop
  /-- `do` may block on top of this stack -/
  K : List Fr → Prop
  /-- any frame but `reset` may be pushed on this stack -/
  K₁ : List Fr → Prop
  /-- holds where the loop blocks -/
  P : St → Prop
  /-- helpers touch no control field -/
  same : ∀ {s s'}, J s → Same s s' → J s'
  /-- a helper may fail at once, also with mustClose latched (`do` under a cancelled context) -/
  fail : ∀ {s s'} (b : Bool) {e : Err}, J s → Same s s' → Q { s' with mustClose := b } (.err e)
  /-- a frame hands a value on as it is, replaces it by an error, or by nil when it is no error -/
  pass : ∀ {s s' v v'}, Q s v → Same s s' →
    (v' = v ∨ (∃ e, v' = .err e) ∨ v' = .nil ∧ ∀ e, v ≠ .err e) → Q s' v'
  /-- a frame that got a value, not an error, may start the next helper -/
  goOn : ∀ {s v}, Q s v → (∀ e, v ≠ .err e) → J s
  /-- where a caller frame may sit, `do` may block -/
  sub : ∀ {k}, K₁ k → K k
  /-- `do` may block under the frames of its implicit OPTIONS -/
  light : ∀ {k} {m : Meth} {skip : Bool} {tp : Nat}, K k → K (.optionsK :: .doOpt m skip tp :: k)
  push : ∀ {f k}, (∀ n b, f ≠ .resetK n b) → K₁ k → K₁ (f :: k)
  /-- `reset` pushes a frame that remembers mustClose; only the frames of its TEARDOWN's `do` go above -/
  pushReset : ∀ {s k} {n : AfterReset}, J s → K₁ k → K (.resetK n s.mustClose :: k)
  pop : ∀ {f k}, K (f :: k) → K k
  /-- below a caller frame any frame may be pushed again -/
  pop₁ : ∀ {f k}, K (f :: k) → Heavy f → K₁ k
  /-- back in `reset`, with the mustClose its frame remembers, `afterReset` may start -/
  popReset : ∀ {s v n b k}, Q s v → K (.resetK n b :: k) → J { s with mustClose := b }
  wait : ∀ {s k} {m : Meth} {n tp : Nat}, J s → s.ctxDone = false → K k →
    P { s with stack := .wait m n tp :: k }

namespace Scheme
variable (S : Scheme)

theorem fail' {s s' : St} {e : Err} (hd : S.J s) (hs : Same s s') : S.Q s' (.err e) :=
  S.fail (s' := s') s'.mustClose hd hs

theorem pushAll {fs k : List Fr} (hfs : Calm1 fs) (hk : S.K₁ k) :
    S.K₁ (fs ++ k) := by
  induction fs with
  | nil => exact hk
  | cons f fs ih =>
    exact S.push (hfs f (List.mem_cons_self ..)) (ih fun g hg => hfs g (List.mem_cons_of_mem _ hg))

variable {retK : St → Val → St} (hR : ∀ s' v, S.Q s' v → S.P (retK s' v))
include hR

/-- a `do` whose caller hands its error on, after the undo `u` -/
theorem startDo_inv {s : St} {m : Meth} {tp : Nat} {fs k : List Fr} (u : St → St) (hu : ∀ s, Same s (u s))
    (hd : S.J s) (hk : S.K (fs ++ k)) :
    S.P (startDo s m false tp fs k (fun s e => retK (u s) (.err e)) id) :=
  startDo_rule
    (fun _ _ hs => hR _ _ (S.pass (S.fail' hd hs) (hu _) (.inl rfl)))
    (fun _ hs => hR _ _ (S.pass (S.fail true hd hs) (hu _) (.inl rfl))) nofun
    (fun _ _ _ _ _ hs hc h => S.wait (S.same hd hs) hc (by
      rcases h with rfl | rfl
      · exact hk
      · exact S.light hk))

theorem describeStart_inv {s : St} {rd : Nat} {fs k : List Fr} (hd : S.J s) (hk : S.K₁ (fs ++ k)) :
    S.P (describeStart s rd fs k retK) :=
  describeStart_rule (fun _ => hR _ _ (S.fail' hd rfl))
    (fun _ hs => S.startDo_inv hR id (fun _ => rfl) (S.same hd hs) (S.sub (S.push nofun hk)))

theorem setupStart_inv {c : Cfg} {s : St} {a : SetupArgs} {fs k : List Fr} (hd : S.J s) (hk : S.K₁ (fs ++ k)) :
    S.P (setupStart c s a fs k retK) := by
  have fail : ∀ {s1} e, Same s s1 → S.P (retK s1 (.err e)) := fun e hs => hR _ _ (S.fail' hd hs)
  refine iteInduction (fun _ => ?_) fun _ => fail _ rfl
  cases h1 : connOpen s with
  | none => exact fail _ rfl
  | some s1 =>
    have hs := connOpen_same h1
    exact iteInduction (fun _ => fail _ hs) fun _ => iteInduction (fun _ => fail _ hs) fun _ => iteInduction (fun _ => fail _ hs)
      fun _ => S.startDo_inv hR id (fun _ => rfl) (S.same hd hs) (S.sub (S.push nofun hk))

theorem playStart_inv {s : St} {fs k : List Fr} (hd : S.J s) (hk : S.K₁ (fs ++ k)) :
    S.P (playStart s fs k retK) :=
  iteInduction
    (fun _ => S.startDo_inv hR (playUndo · .prePlay) (fun _ => rfl)
      (S.same hd rfl) (S.sub (S.push nofun hk)))
    fun _ => hR _ _ (S.fail' hd rfl)

variable (hX : ∀ s' e, S.P (runExit s' (some e)))
include hX

theorem swEnd_inv : ∀ s' v, S.Q s' v → S.P (swEnd retK s' v) := by
  intro s' v hA
  cases v
  · exact hR _ _ hA
  · exact hX _ _
  · exact hR _ _ hA

theorem afterReset_inv {s : St} {n : AfterReset} {k : List Fr} (hd : S.J s) (hk : S.K₁ k) :
    S.P (afterReset s n k retK) :=
  afterReset_rule (fun _ _ hs => hR _ _ (S.fail' hd hs)) (fun _ _ _ _ hs hfs h => by
    rcases h with rfl | rfl
    · exact S.describeStart_inv hR (S.same hd hs) (S.pushAll hfs hk)
    · exact S.describeStart_inv (S.swEnd_inv hR hX) (S.same hd hs) (S.pushAll hfs hk))

theorem resetStart_inv (c : Cfg) {s : St} {n : AfterReset} {k : List Fr} (hd : S.J s) (hk : S.K₁ k) :
    S.P (resetStart c s n k retK) :=
  have go : ∀ {s'}, Same s s' → S.P (afterReset { s' with mustClose := s.mustClose } n k retK) :=
    fun hs => S.afterReset_inv hR hX (S.same hd hs.restore) hk
  iteInduction
    (fun _ => startDo_rule (fun _ _ => go) (fun s' hs => go (s' := s') hs) (fun _ _ => go)
      (fun _ _ _ _ _ hs hc h => S.wait (S.same hd hs) hc (by
        rcases h with rfl | rfl
        · exact S.pushReset hd hk
        · exact S.light (S.pushReset hd hk))))
    fun _ => go rfl

theorem setupResp_inv {c : Cfg} {s : St} {a : SetupArgs} {p : Proto} {r : Resp} {k : List Fr}
    (hA : S.Q s (.resp r)) (hk : S.K₁ k) : S.P (setupResp c s a p r k retK) := by
  have hd := S.goOn hA nofun
  unfold setupResp
  split
  · exact hR _ _ (S.pass hA rfl (.inl rfl))
  · exact hR _ _ (S.pass hA rfl (.inr (.inl ⟨_, rfl⟩)))
  · exact S.setupStart_inv hR (S.same hd rfl) hk
  · exact S.resetStart_inv hR hX _ (S.same hd rfl) hk

theorem describeResp_inv {c : Cfg} {s : St} {rd : Nat} {r : Resp} {k : List Fr}
    (hA : S.Q s (.resp r)) (hk : S.K₁ k) : S.P (describeResp c s rd r k retK) :=
  have fail : ∀ e, S.P (retK s (.err e)) := fun _ => hR _ _ (S.pass hA rfl (.inr (.inl ⟨_, rfl⟩)))
  iteInduction
    (fun _ => iteInduction
      (fun _ => iteInduction (fun _ => fail _) fun _ => S.resetStart_inv hR hX _ (S.goOn hA nofun) hk)
      fun _ => fail _)
    fun _ => iteInduction (fun _ => fail _) fun _ => iteInduction (fun _ => fail _) fun _ => iteInduction (fun _ => fail _)
      fun _ => iteInduction (fun _ => fail _) fun _ => hR _ _ (S.pass hA rfl (.inl rfl))

omit hX in
theorem doTail_inv {c : Cfg} {s : St} {m : Meth} {tp : Nat} {r : Resp} {k : List Fr}
    (hA : S.Q s (.resp r)) (hk : S.K k) : S.P (doTail c s m tp r k retK) :=
  have h1 := captureSession_same s r.sess
  have fail : ∀ {s1} e, Same s s1 → S.P (retK s1 (.err e)) :=
    fun _ hs => hR _ _ (S.pass hA hs (.inr (.inl ⟨_, rfl⟩)))
  iteInduction (fun _ => fail _ rfl) fun _ => iteInduction
    (fun _ => iteInduction
      (fun _ => S.startDo_inv hR id (fun _ => rfl) (S.same (S.goOn hA nofun) (h1.trans rfl)) hk)
      fun _ => fail _ h1)
    fun _ => hR _ _ (S.pass hA h1 (.inl rfl))

theorem frameRet_inv {c : Cfg} {f : Fr} {k : List Fr} {s : St} {v : Val} (hA : S.Q s v) (hk : S.K (f :: k)) :
    S.P (frameRet c f k retK s v) := by
  have keep : ∀ {s' v'}, Same s s' → (v' = v ∨ (∃ e, v' = .err e) ∨ v' = .nil ∧ ∀ e, v ≠ .err e) →
      S.P (retK s' v') := fun hs hv => hR _ _ (S.pass hA hs hv)
  have reset : ∀ n b, S.K (.resetK n b :: k) → S.P (afterReset { s with mustClose := b } n k retK) :=
    fun _ _ hk => S.afterReset_inv hR hX (S.popReset hA hk) (S.pop₁ hk trivial)
  -- what the frames of `do` and of the functions that go on do with a value that is no error
  have send : (∀ e, v ≠ .err e) → ∀ m skip tp, S.K (.doOpt m skip tp :: k) →
      S.P (if skip then retK (sendReq s m tp) .nil
        else if (sendReq s m tp).ctxDone then retK { sendReq s m tp with mustClose := true } (.err .terminated)
        else { sendReq s m tp with stack := .wait m (sendReq s m tp).cseq tp :: k }) := fun hn m _ tp hk =>
    have hs := sendReq_same s m tp
    iteInduction (fun _ => keep hs (.inr (.inr ⟨rfl, hn⟩))) fun _ =>
      iteInduction (fun _ => hR _ _ (S.fail true (S.goOn hA hn) hs))
        fun hc => S.wait (S.same (S.goOn hA hn) hs) (eq_false_of_ne_true hc) (S.pop hk)
  have sw : (∀ e, v ≠ .err e) → S.K₁ k → ∀ ms,
      S.P (match ms with
        | [] => playStart s [.swPlayK] k (swEnd retK)
        | a :: rest => setupStart c s a [.swSetupK rest] k (swEnd retK)) := fun hn hk ms => by
    cases ms
    · exact S.playStart_inv (S.swEnd_inv hR hX) (S.goOn hA hn) (S.push nofun hk)
    · exact S.setupStart_inv (S.swEnd_inv hR hX) (S.goOn hA hn) (S.push nofun hk)
  cases v with
  | err e =>
    exact frameRet_err_rule (fun _ hs => keep hs (.inl rfl)) (fun _ _ hf => reset _ _ (hf ▸ hk))
      fun _ => hX _ _
  | nil =>
    cases f with
    | doOpt m skip tp => exact send nofun _ _ _ hk
    | redescK a => exact S.setupStart_inv hR (S.goOn hA nofun) (S.pop₁ hk trivial)
    | resetK n b => exact reset _ _ hk
    | swDescK ms => exact sw nofun (S.pop₁ hk trivial) ms
    | swSetupK ms => exact sw nofun (S.pop₁ hk trivial) ms
    | _ => exact keep rfl (.inl rfl)
  | resp r =>
    have fail : ∀ {s'}, Same s s' → S.P (retK s' (.err .badStatus)) :=
      fun hs => keep hs (.inr (.inl ⟨_, rfl⟩))
    have ok : ∀ {s'}, Same s s' → S.P (retK s' (.resp r)) := fun hs => keep hs (.inl rfl)
    cases f with
    | wait m n tp => exact ok rfl
    | optionsK => exact iteInduction (fun _ => ok rfl) fun _ => iteInduction (fun _ => ok rfl) fun _ => fail rfl
    | doOpt m skip tp => exact send nofun _ _ _ hk
    | describeK rd => exact S.describeResp_inv hR hX hA (S.pop₁ hk trivial)
    | announceK => exact iteInduction (fun _ => fail rfl) fun _ => ok rfl
    | setupK a p => exact S.setupResp_inv hR hX hA (S.pop₁ hk trivial)
    | playK => exact iteInduction (fun _ => fail rfl) fun _ => ok rfl
    | recordK => exact iteInduction (fun _ => fail rfl) fun _ => keep rfl (.inr (.inr ⟨rfl, nofun⟩))
    | pauseK => exact iteInduction (fun _ => fail rfl) fun _ => ok rfl
    | redescK a => exact S.setupStart_inv hR (S.goOn hA nofun) (S.pop₁ hk trivial)
    | resetK n b => exact reset _ _ hk
    | swDescK ms => exact sw nofun (S.pop₁ hk trivial) ms
    | swSetupK ms => exact sw nofun (S.pop₁ hk trivial) ms
    | swPlayK => exact keep rfl (.inr (.inr ⟨rfl, nofun⟩))

end Scheme

theorem Scheme.resume_inv (S : Scheme) (c : Cfg) (hD : ∀ s v, S.Q s v → S.P (deliver s v))
    (hX : ∀ s' e, S.P (runExit s' (some e))) (k : List Fr) (hk : S.K k) :
    ∀ s v, S.Q s v → S.P (resume c k s v) := by
  induction k with
  | nil => exact hD
  | cons f k ih => exact fun s v hA => S.frameRet_inv (ih (S.pop hk)) hX hA hk

theorem Scheme.startApi_inv (S : Scheme) {c : Cfg} {s : St} {a : Api} (hd : S.J { s with pending := some a })
    (h0 : S.K₁ []) (hD : ∀ s v, S.Q s v → S.P (deliver s v)) (hX : ∀ s' e, S.P (runExit s' (some e))) :
    S.P (startApi c s a) := by
  have hR := S.resume_inv c hD hX [] (S.sub h0)
  have fail : ∀ e, S.P (resume c [] { s with pending := some a } (.err e)) :=
    fun _ => hR _ _ (S.fail' hd rfl)
  have go : ∀ {s1} m f (u : St → St), Same { s with pending := some a } s1 → (∀ n b, f ≠ .resetK n b) →
      (∀ s, Same s (u s)) →
      S.P (startDo s1 m false 0 [f] [] (fun s e => resume c [] (u s) (.err e)) id) :=
    fun _ _ u hs hf hu => S.startDo_inv hR u hu (S.same hd hs) (S.sub (S.push hf h0))
  -- a `do` once the connection is open
  have conn : ∀ m f, (∀ n b, f ≠ .resetK n b) →
      S.P (match connOpen { s with pending := some a } with
        | none => resume c [] { s with pending := some a } (.err .other)
        | some s1 => startDo s1 m false 0 [f] [] (fun s e => resume c [] s (.err e)) id) :=
      fun m f hf => by
    cases h1 : connOpen { s with pending := some a } with
    | none => exact fail _
    | some s1 => exact go m f id (connOpen_same h1) hf (fun _ => rfl)
  cases a with
  | options => exact iteInduction (fun _ => conn _ _ nofun) fun _ => fail _
  | describe => exact S.describeStart_inv hR hd h0
  | announce => exact iteInduction (fun _ => iteInduction (fun _ => fail _) fun _ => conn _ _ nofun) fun _ => fail _
  | setup a => exact S.setupStart_inv hR hd h0
  | play => exact S.playStart_inv hR hd h0
  | record =>
    exact iteInduction (fun _ => iteInduction (fun _ => fail _) fun _ =>
      go _ _ (playUndo · .preRecord) rfl nofun fun _ => rfl) fun _ => fail _
  | pause =>
    exact iteInduction (fun _ => go _ _ ({ · with writer := true }) rfl nofun fun _ => rfl)
      fun _ => fail _

/-- a scheme that does not look at the stack: `J` is a property of the control fields other than
mustClose -/
def Scheme.ofState (J P : St → Prop) (same : ∀ {s s'}, J s → Same s s' → J s')
    (latch : ∀ {s} (b : Bool), J s → J { s with mustClose := b })
    (wait : ∀ {s k} {m : Meth} {n tp : Nat}, J s → s.ctxDone = false →
      P { s with stack := .wait m n tp :: k }) :
    Scheme where
  J := J
  Q s _ := J s
  K _ := True
  K₁ _ := True
  P := P
  same := same
  fail b _ hd hs := latch b (same hd hs)
  pass hA hs _ := same hA hs
  goOn hA _ := hA
  sub _ := trivial
  light _ := trivial
  push _ _ := trivial
  pushReset _ _ := trivial
  pop _ := trivial
  pop₁ _ _ := trivial
  popReset hA _ := latch _ hA
  wait hd hc _ := wait hd hc

/-- the same scheme for error values only: what is handed on after an error is an error -/
def Scheme.errors (S : Scheme) : Scheme :=
  { S with
    Q := fun s v => S.Q s v ∧ ∃ e, v = .err e
    fail := fun b e hd hs => ⟨S.fail b hd hs, e, rfl⟩
    pass := by
      rintro s s' v v' ⟨hA, e, rfl⟩ hs (rfl | ⟨e', rfl⟩ | ⟨_, hn⟩)
      · exact ⟨S.pass hA hs (.inl rfl), e, rfl⟩
      · exact ⟨S.pass hA hs (.inr (.inl ⟨e', rfl⟩)), e', rfl⟩
      · exact absurd rfl (hn e)
    goOn := fun ⟨_, e, he⟩ hn => absurd he (hn e)
    popReset := fun hA hk => S.popReset hA.1 hk }

/-- the context is cancelled: the run loop is on its way out, nothing blocks any more -/
def Dying (s : St) : Prop := s.ctxDone = true

def dyingScheme (P : St → Prop) : Scheme :=
  .ofState Dying P (fun hd hs => hs.ctxDone.trans hd) (fun _ hd => hd)
    (fun hd hc => absurd (hd.symm.trans hc) (by decide))

theorem doTail_dying {P : St → Prop} (c : Cfg) (s : St) (m : Meth) (tp : Nat) (r : Resp)
    (k : List Fr) (retK : St → Val → St) (hd : Dying s) (hR : ∀ s' v, Dying s' → P (retK s' v)) :
    P (doTail c s m tp r k retK) :=
  (dyingScheme P).doTail_inv hR hd trivial

end Rtsp.ClientSm
