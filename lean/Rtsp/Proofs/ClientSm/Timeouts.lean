import Rtsp.Proofs.ClientSm.WF
/-
Stack well-formedness is an invariant of the run loop; two timeouts end any wait.
-/
namespace Rtsp.ClientSm

theorem step_wfs (c : Cfg) (s : St) (e : Ev) (h : WFs s) : WFs (step c s e) :=
  have hR := fun k hk s v (_ : True) => resume_wfs c k hk s v
  have hX := fun s e => wfs_runExit s (some e)
  step_rule h (fun _ => h) hX
    (fun a _ _ => wfScheme.startApi_inv trivial calm1_nil (fun s v _ => wfs_deliver s v) hX)
    (fun got stale _ => checkTimeout_rule h h (hX _ _) (hX _ _)
      (fun _ => wfScheme.resetStart_inv (hR [] trivial) hX c trivial calm1_nil))
    (fun m n tp k r _ hs => by
      have hk : WF k := by rw [WFs, hs] at h; exact h
      exact wfScheme.doTail_inv (hR k hk) trivial hk)
    (fun m n tp k _ _ _ hs _ _ => by
      have hk : WF k := by rw [WFs, hs] at h; exact h
      exact resume_wfs c k hk _ _)

/-- The only frame that blocks is `wait`: a waiting state has it on top of its stack. -/
theorem C12.only_wait_blocks (c : Cfg) (s : St) (h : waiting s = true) :
    ∃ m n tp k, s.stack = .wait m n tp :: k := by
  unfold waiting at h
  cases hs : s.stack with
  | nil => simp [hs] at h
  | cons f k =>
    cases f <;> simp [hs] at h
    exact ⟨_, _, _, _, rfl⟩

theorem timer_rule {P : St → Prop} {c : Cfg} {s : St} (h0 : waiting s = false → P s)
    (hF : ∀ m n tp k, waiting s = true → s.stack = .wait m n tp :: k →
      P (resume c k { s with mustClose := true } (.err .timeout))) : P (step c s .timer) := by
  unfold step
  by_cases hc : s.closed = true
  · rw [if_pos hc]
    exact h0 (by rw [waiting, hc]; rfl)
  rw [if_neg hc]
  split
  · rename_i hs
    exact h0 (by rw [waiting, hs]; exact Bool.and_false _)
  · rename_i m n tp k hs
    exact hF m n tp k (by rw [waiting, hs, eq_false_of_ne_true hc]; rfl) hs
  · rename_i h1 h2
    -- neither idle nor waiting: such a state is not reachable, but it is not waiting either
    exact h0 (Bool.eq_false_iff.mpr fun hw => by
      obtain ⟨_, _, _, _, hs⟩ := C12.only_wait_blocks c s hw
      exact h2 _ _ _ _ hs)

/-- an error returned into a well-formed stack: the frames of `do` hand it on; what lies under the first other
frame has no `reset`, so from there on nothing waits again — except `afterReset`, and that on a stack without -/
theorem resume_err_settled (c : Cfg) (k : List Fr) (hk : WF k) :
    ∀ s e, Settled (resume c k s (.err e)) := by
  induction k with
  | nil => exact fun s e => Or.inl (waiting_deliver _ _)
  | cons f k ih =>
    intro s e
    have calm : Calm1 k → ∀ s' e, Settled (resume c k s' (.err e)) :=
      fun hk _ _ => Or.inl (resume_err_not_waiting hk)
    have below : ∀ s', Settled (resume c k s' (.err e)) := by
      cases f
      case wait | optionsK | doOpt => exact fun _ => ih hk _ _
      all_goals exact fun _ => calm hk _ _
    refine frameRet_err_rule (P := Settled) (fun _ _ => below _) ?_ (fun _ => Or.inl (waiting_runExit _ _))
    rintro n b rfl
    exact afterReset_settled _ _ _ _ hk (calm hk)

theorem timer_settles (c : Cfg) (s : St) (h : WFs s) : Settled (step c s .timer) :=
  timer_rule Or.inl fun _ _ _ k _ hs => resume_err_settled c k (by rw [WFs, hs] at h; exact h) _ _

theorem settled_timer (c : Cfg) (s : St) (h : Settled s) : waiting (step c s .timer) = false :=
  timer_rule (P := fun r => waiting r = false) id fun _ _ _ _ hw hs' => by
    rcases h with h | ⟨m, n, tp, k, hs, hk⟩
    · rw [h] at hw; cases hw
    · cases hs.symm.trans hs'
      exact resume_err_not_waiting hk

end Rtsp.ClientSm
