import Rtsp.Proofs.ClientSm.Rules
/-
A silent server: an error returned into a stack travels up through the caller frames; only a `reset`
frame ignores it and goes on, and below a `reset` frame there is no other one.  So the first timeout ends
the call unless a reset was in progress, and the second one ends it in any case.
-/
namespace Rtsp.ClientSm

/-- the loop is not inside waitResponse, or it is and no reset is in progress -/
def Settled (s : St) : Prop := waiting s = false ∨ ∃ m n tp k, s.stack = .wait m n tp :: k ∧ Calm1 k

theorem calm1_tail {f : Fr} {k : List Fr} (h : Calm1 (f :: k)) : Calm1 k :=
  fun g hg => h g (List.mem_cons_of_mem _ hg)

theorem calm1_append {a b : List Fr} (ha : Calm1 a) (hb : Calm1 b) : Calm1 (a ++ b) := by
  intro g hg
  rcases List.mem_append.mp hg with hg | hg
  · exact ha g hg
  · exact hb g hg

theorem waiting_runExit (s : St) (e : Res) : waiting (runExit s e) = false := by
  rw [waiting, (C12.runExit_closed s e).1]
  rfl

theorem waiting_deliver (s : St) (v : Val) : waiting (deliver s v) = false :=
  deliver_rule (P := fun r => waiting r = false) (fun _ _ => waiting_runExit _ _) (fun _ _ => by
    unfold waiting
    rw [(handOver_keeps s (valRes v)).2.2.2]
    exact Bool.and_false _)

/-- an error returned into a stack without `reset` frames arrives in the run loop with the control fields as
they were — unless a frame of the transport switch leaves the loop with it -/
theorem resume_err_rule {P : St → Prop} {c : Cfg} {e : Err} {k : List Fr} (hk : Calm1 k)
    (hX : ¬ NoReset k → ∀ s', P (runExit s' (some e))) :
    ∀ s, (∀ s', Same s s' → P (deliver s' (.err e))) → P (resume c k s (.err e)) := by
  induction k with
  | nil => exact fun s hD => hD s rfl
  | cons f k ih =>
    exact fun s hD => frameRet_err_rule
      (fun s' hs => ih (calm1_tail hk) (fun hn => hX fun h => hn fun g hg => h g (List.mem_cons_of_mem _ hg)) s'
        fun s'' hs' => hD s'' (hs.trans hs'))
      (fun n b hf => absurd hf (hk f (List.mem_cons_self ..) n b))
      (fun hf => hX (fun h => hf (h f (List.mem_cons_self ..))) s)

theorem resume_err_not_waiting {c : Cfg} {k : List Fr} (hk : Calm1 k) {s : St} {e : Err} :
    waiting (resume c k s (.err e)) = false :=
  resume_err_rule (P := fun r => waiting r = false) hk (fun _ _ => waiting_runExit _ _) s
    fun _ _ => waiting_deliver _ _

theorem describeStart_settled (s : St) (rd : Nat) (fs k : List Fr) (retK : St → Val → St)
    (hk : Calm1 (fs ++ k)) (hR : ∀ s' e, Settled (retK s' (.err e))) :
    Settled (describeStart s rd fs k retK) :=
  have hk' : Calm1 (.describeK rd :: fs ++ k) := calm1_cons nofun hk
  describeStart_rule (fun _ => hR _ _) (fun _ _ =>
    startDo_rule (fun _ _ _ => hR _ _) (fun _ _ => hR _ _) nofun
      (fun _ m' n tp' k' _ _ h => Or.inr ⟨m', n, tp', k', rfl, by
        rcases h with rfl | rfl
        · exact hk'
        · exact calm1_cons nofun (calm1_cons nofun hk')⟩))

theorem afterReset_settled (s : St) (n : AfterReset) (k : List Fr) (retK : St → Val → St)
    (hk : Calm1 k) (hR : ∀ s' e, Settled (retK s' (.err e))) :
    Settled (afterReset s n k retK) :=
  afterReset_rule (fun _ _ _ => hR _ _) (fun _ _ _ _ _ hfs h => by
    rcases h with rfl | rfl
    · exact describeStart_settled _ _ _ _ _ (calm1_append hfs hk) hR
    · exact describeStart_settled _ _ _ _ _ (calm1_append hfs hk) (fun _ _ => Or.inl (waiting_runExit _ _)))

end Rtsp.ClientSm
