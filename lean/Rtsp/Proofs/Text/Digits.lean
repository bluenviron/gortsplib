/-
Decimal numerals as ASCII bytes.  The models of RTSP framing, URLs and SDP each write a number with a
printer of their own (`Frame.toDec`, `Url.digits`, `Sdp.dec`) and read it with a fold of their own; each
printer is `dec8` and each fold is `val8`, so what is proved here about the two is proved for all three.
Core's `Nat.toDigits` supplies the recursion equation and the length law.  Last, the three facts about a class of characters
(`s.all p = true`) through which the text areas show that a written field contains no delimiter.
-/
namespace Rtsp.Text

/-- `strconv.FormatUint(n, 10)` as bytes -/
def dec8 (n : Nat) : List UInt8 := (Nat.toDigits 10 n).map fun c => c.toNat.toUInt8

def digit8 (c : UInt8) : Bool := 48 ≤ c && c ≤ 57

/-- the value of a digit string read from the left, continuing from `acc` -/
def val8 (acc : Nat) (s : List UInt8) : Nat := s.foldl (fun a c => a * 10 + (c.toNat - 48)) acc

theorem digit_facts : ∀ d, d < 10 → (Nat.digitChar d).toNat.toUInt8 = (48 + d).toUInt8 ∧
    digit8 (48 + d).toUInt8 = true ∧ (48 + d).toUInt8.toNat - 48 = d := by decide

theorem dec8_eq_if (n : Nat) :
    dec8 n = if n < 10 then [(48 + n).toUInt8] else dec8 (n / 10) ++ [(48 + n % 10).toUInt8] := by
  unfold dec8
  rw [Nat.toDigits_eq_if (by decide)]
  split
  · next h => rw [List.map_singleton, (digit_facts n h).1]
  · rw [List.map_append, List.map_singleton, (digit_facts _ (Nat.mod_lt n (by decide))).1]

theorem dec8_ne_nil (n : Nat) : dec8 n ≠ [] := by
  simp [dec8]

theorem dec8_length_le_iff {n k : Nat} (h : 0 < k) : (dec8 n).length ≤ k ↔ n < 10 ^ k := by
  rw [dec8, List.length_map, Nat.length_toDigits_le_iff (by decide) h]

theorem val8_append (acc : Nat) (s t : List UInt8) : val8 acc (s ++ t) = val8 (val8 acc s) t :=
  List.foldl_append

theorem dec8_spec (n : Nat) : (dec8 n).all digit8 = true ∧ val8 0 (dec8 n) = n := by
  rw [dec8_eq_if]
  split
  · next h => exact ⟨by rw [List.all_cons, (digit_facts n h).2.1]; rfl, by rw [val8, List.foldl_cons, List.foldl_nil, (digit_facts n h).2.2]; omega⟩
  · have hd := digit_facts _ (Nat.mod_lt n (by decide : 0 < 10))
    obtain ⟨h1, h2⟩ := dec8_spec (n / 10)
    refine ⟨by rw [List.all_append, h1, List.all_cons, hd.2.1]; rfl, ?_⟩
    rw [val8_append, h2, val8, List.foldl_cons, List.foldl_nil, hd.2.2]
    omega
termination_by n
decreasing_by omega

theorem dec8_all_digit (n : Nat) : (dec8 n).all digit8 = true := (dec8_spec n).1
theorem val8_dec8 (n : Nat) : val8 0 (dec8 n) = n := (dec8_spec n).2

theorem dec8_injective {i j : Nat} (h : dec8 i = dec8 j) : i = j := by
  rw [← val8_dec8 i, h, val8_dec8]

theorem le_val8 (s : List UInt8) (a : Nat) : a ≤ val8 a s := by
  induction s generalizing a with
  | nil => exact Nat.le_refl _
  | cons c r ih => exact Nat.le_trans (Nat.le_trans (Nat.le_mul_of_pos_right a (by decide : 0 < 10)) (Nat.le_add_right _ _)) (ih _)

theorem val8_lt : ∀ (s : List UInt8) (acc : Nat), s.all digit8 = true → val8 acc s < (acc + 1) * 10 ^ s.length
  | [], acc, _ => by simp [val8]
  | c :: r, acc, h => by
    rw [List.all_cons, Bool.and_eq_true] at h
    have hc : c.toNat ≤ 57 := by
      have := h.1; simp only [digit8, Bool.and_eq_true, decide_eq_true_eq, UInt8.le_iff_toNat_le] at this; exact this.2
    have := val8_lt r (acc * 10 + (c.toNat - 48)) h.2
    rw [val8, List.foldl_cons, List.length_cons, Nat.pow_succ]
    refine Nat.lt_of_lt_of_le this ?_
    rw [Nat.mul_comm (10 ^ r.length) 10, ← Nat.mul_assoc]
    exact Nat.mul_le_mul_right _ (by omega)

theorem mem_all {α : Type} {p : α → Bool} {s : List α} (h : s.all p = true) {c : α} (m : c ∈ s) : p c = true :=
  List.all_eq_true.1 h c m

theorem not_mem_of_all {α : Type} {p : α → Bool} {s : List α} {c : α} (h : s.all p = true) (hc : p c = false) : c ∉ s :=
  fun m => by rw [mem_all h m] at hc; cases hc

theorem all_weaken {α : Type} {p r : α → Bool} {s : List α} (h : s.all p = true) (hpr : ∀ c, p c = true → r c = true) :
    s.all r = true :=
  List.all_eq_true.2 fun c m => hpr c (mem_all h m)

end Rtsp.Text
