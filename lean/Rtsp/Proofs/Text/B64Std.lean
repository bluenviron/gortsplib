import Rtsp.Model.B64Std
/-
Base64 (Go `StdEncoding`) round trip: `decode (encode bs) = some bs` for every byte string.
The alphabet enters through one table fact (`decChar_encChar`); the rest is arithmetic on a
24-bit group `n`, kept in lemmas about plain naturals.
-/
namespace Rtsp.B64Std

theorem decChar_encChar {n : Nat} (h : n < 64) : decChar (encChar n) = some n :=
  (by decide : ∀ n : Fin 64, decChar (encChar n.val) = some n.val) ⟨n, h⟩

theorem encChar_min (n : Nat) : encChar n = encChar (min n 63) := by
  by_cases h : n ≤ 63
  · rw [Nat.min_eq_left h]
  · rw [Nat.min_eq_right (by omega)]
    unfold encChar
    rw [if_neg (by omega), if_neg (by omega), if_neg (by omega), if_neg (by omega)]
    rfl

theorem encChar_ne (n : Nat) {c : UInt8} (hc : decChar c = none) : encChar n ≠ c := by
  intro e
  rw [← e, encChar_min, decChar_encChar (by omega)] at hc
  cases hc

theorem forall_mem_encode {P : UInt8 → Prop} (he : ∀ n, P (encChar n)) (hp : P padc) (bs : List UInt8) :
    ∀ c ∈ encode bs, P c := by
  fun_induction encode bs with
  | case1 a b c rest n ih => exact List.forall_mem_cons.mpr ⟨he _, List.forall_mem_cons.mpr ⟨he _,
      List.forall_mem_cons.mpr ⟨he _, List.forall_mem_cons.mpr ⟨he _, ih⟩⟩⟩⟩
  | case2 a b n => simp only [List.forall_mem_cons]; exact ⟨he _, he _, he _, hp, nofun⟩
  | case3 a n => simp only [List.forall_mem_cons]; exact ⟨he _, he _, hp, hp, nofun⟩
  | case4 => nofun

theorem filter_encode (bs : List UInt8) :
    (encode bs).filter (fun c => c != 10 && c != 13) = encode bs :=
  List.filter_eq_self.mpr (forall_mem_encode (P := fun c => (c != 10 && c != 13) = true)
    (fun n => by simp only [bne_iff_ne, Bool.and_eq_true, ne_eq]; exact ⟨encChar_ne n rfl, encChar_ne n rfl⟩) rfl bs)

theorem ofNat_toNat' (a : UInt8) : UInt8.ofNat a.toNat = a := UInt8.ofNat_toNat

theorem sextets_sum (n : Nat) :
    n / 262144 * 262144 + n / 4096 % 64 * 4096 + n / 64 % 64 * 64 + n % 64 = n := by omega

theorem group_bytes {a b c n : Nat} (ha : a < 256) (hb : b < 256) (hc : c < 256)
    (h : n = a * 65536 + b * 256 + c) :
    n / 262144 < 64 ∧ n / 65536 = a ∧ n / 256 % 256 = b ∧ n % 256 = c := by omega

/- In the padded cases the low sextets of `n` vanish and are removed from `sextets_sum n` by explicit
rewriting: a definitional `x + 0 = x` on these sums makes the kernel unroll `_ * 4096`. -/
theorem decodeClean_encode (bs : List UInt8) : decodeClean (encode bs) = some bs := by
  have h64 (n : Nat) : n % 64 < 64 := Nat.mod_lt _ (Nat.zero_lt_succ 63)
  fun_induction encode bs with
  | case1 a b c rest n ih =>
    obtain ⟨h0, ea, eb, ec⟩ := group_bytes a.toNat_lt b.toNat_lt c.toNat_lt (n := n) rfl
    clear_value n
    rw [decodeClean, if_neg (fun h => encChar_ne _ rfl h.2), decChar_encChar h0,
      decChar_encChar (h64 _), decChar_encChar (h64 _), decChar_encChar (h64 _)]
    simp only [ih, sextets_sum, ea, eb, ec, ofNat_toNat']
  | case2 a b n =>
    obtain ⟨h0, ea, eb, ec⟩ := group_bytes a.toNat_lt b.toNat_lt (Nat.zero_lt_succ 255) (n := n) (Nat.add_zero _).symm
    clear_value n
    have e := sextets_sum n
    rw [show n % 64 = 0 by omega, Nat.add_zero] at e
    rw [decodeClean, if_pos ⟨rfl, rfl⟩, if_neg (encChar_ne _ rfl), decChar_encChar h0,
      decChar_encChar (h64 _), decChar_encChar (h64 _)]
    simp only [e, ea, eb, ofNat_toNat']
  | case3 a n =>
    obtain ⟨h0, ea, eb, ec⟩ := group_bytes a.toNat_lt (Nat.zero_lt_succ 255) (Nat.zero_lt_succ 255) (n := n) (Nat.add_zero _).symm
    clear_value n
    have e := sextets_sum n
    rw [show n % 64 = 0 by omega, Nat.add_zero, show n / 64 % 64 = 0 by omega, Nat.zero_mul, Nat.add_zero] at e
    rw [decodeClean, if_pos ⟨rfl, rfl⟩, if_pos rfl, decChar_encChar h0, decChar_encChar (h64 _)]
    simp only [e, ea, ofNat_toNat']
  | case4 => rfl

theorem decode_encode (bs : List UInt8) : decode (encode bs) = some bs := by
  rw [decode, filter_encode, decodeClean_encode]

end Rtsp.B64Std
