import Rtsp.Proofs.Codec.Av1Parse
import Rtsp.Proofs.Codec.Av1Enc
/-
The AV1 encoder loop against the decoder (C03), as an invariant of the loop state `st` relative to the
decoder state `d0` before the call: fed the packets closed so far, the decoder asked for more each time and
`Holds` (`Av1Parse`) the completed OBUs `comp` and the bytes `pend` of a still open OBU; the current packet holds the
elements `es`.
-/
namespace Rtsp.Codec.Av1
open Rtsp.Rtp Rtsp.Facts

/-- the loop state `st` against the decoder started at `d0`: `es` = elements in the current packet,
`om` = the last of them written without length -/
structure Sim (d0 : Dec) (st : St) (comp : List Bytes) (pend : Bytes) (es : List Bytes) (om : Bool) :
    Prop where
  fed  : ∃ D, runDec d0 st.done = (D, List.replicate st.done.length .more) ∧ Holds D comp pend st.cur.seq
  z    : st.cur.z = !pend.isEmpty
  w    : st.cur.w = wOf es om
  body : st.cur.body = bodyOf es om
  ev   : ∀ x ∈ es, VElem x
  om3  : om = true → es.length ≤ 3
  nxt  : st.nextSeq = st.cur.seq + 1
  cnt  : om = false → st.cur.n = es.length

/-- an element appended to the current packet: the decoder, which has only seen closed packets, is
unaffected -/
theorem Sim.push {d0 : Dec} {st : St} {comp : List Bytes} {pend : Bytes} {es : List Bytes}
    (h : Sim d0 st comp pend es false) (om : Bool) (x : Bytes) (hx : VElem x) (ho : om = true → es.length < 3) :
    Sim d0 { st with cur := st.cur.push om x } comp pend (es ++ [x]) om := by
  have hbody : st.cur.body = sized es := by rw [h.body, bodyOf_false]
  have hw : st.cur.w = 0 := by rw [h.w]; rfl
  have hn := h.cnt rfl
  refine ⟨h.fed, h.z, ?_, ?_, ?_, ?_, h.nxt, ?_⟩
  · cases om <;> simp [Cur.push, wOf, hn, hw]
  · cases om
    · simp only [Cur.push, Bool.false_eq_true, if_false]
      rw [bodyOf_false, sized_append, sized_singleton, hbody, List.append_assoc]
    · simp only [Cur.push, if_true]
      rw [bodyOf_snoc_true, hbody]
  · intro y hy
    simp only [List.mem_append, List.mem_singleton] at hy
    rcases hy with hy | hy
    · exact h.ev y hy
    · subst hy; exact hx
  · intro hom; have := ho hom; simp only [List.length_append, List.length_singleton]; omega
  · intro hom; simp [Cur.push, hom, hn]

theorem Sim.fresh (c : EncCfg) {d0 D D' : Dec} {st : St} (y : Bool) {comp' : List Bytes}
    {pend' : Bytes} (hrun : runDec d0 st.done = (D, List.replicate st.done.length .more))
    (hdec : decode D (mkPkt c st.cur y) = (D', .more)) (hh : Holds D' comp' pend' st.nextSeq)
    (hy : y = !pend'.isEmpty) : Sim d0 (st.closeOpen c y) comp' pend' [] false := by
  refine ⟨⟨D', ?_, hh⟩, hy, rfl, rfl, by simp, by simp, rfl, fun _ => rfl⟩
  simp only [St.closeOpen, runs.append, hrun, runDec, hdec, List.length_append, List.length_singleton,
    List.replicate_succ']

theorem mkPkt_payload (c : EncCfg) {d0 : Dec} {st : St} {comp : List Bytes} {pend : Bytes} {es : List Bytes} {om : Bool}
    (h : Sim d0 st comp pend es om) (y : Bool) :
    (mkPkt c st.cur y).payload = hdrByte (!pend.isEmpty) y (wOf es om) false :: bodyOf es om := by
  simp [mkPkt, h.w, h.body, h.z]

/-- `finalizeCurPacket(false); createNewPacket(false)` seen by the decoder.  The caps are asked for as the callers
know them: on the OBUs completed once the packet is closed. -/
theorem Sim.close0 (c : EncCfg) {d0 : Dec} {st : St} {comp : List Bytes} {pend : Bytes}
    {es : List Bytes} {om : Bool} (h : Sim d0 st comp pend es om) (hne : es ≠ [])
    (hK : (comp ++ glued pend es).length ≤ CodecAv1vp.av1MaxOBUsPerTemporalUnit)
    (hB : totalLen (comp ++ glued pend es) ≤ CodecAv1vp.av1MaxTemporalUnitSize) :
    Sim d0 (st.closeOpen c false) (comp ++ glued pend es) [] [] false := by
  obtain ⟨D, hrun, hH⟩ := h.fed
  have ht := glued_total pend es
  rw [openPre_cons pend es hne, List.length_nil] at ht
  rw [totalLen_append] at hB
  obtain ⟨D1, hd, _, _, hH1⟩ := obus_y0 hH es om hne h.ev h.om3 (by omega) (mkPkt_payload c h false)
  have hemp : (glued pend es).isEmpty = false := by cases es with | nil => exact absurd rfl hne | cons a t => rfl
  obtain ⟨D', hdec, hH'⟩ := decode_more (mkPkt c st.cur false) (glued pend es) (by rw [hemp]; exact hd) hH1 rfl
    (by rw [← List.length_append]; exact hK) hB
  exact Sim.fresh c false hrun hdec (h.nxt ▸ hH') rfl

/-- `finalizeCurPacket(true); createNewPacket(true)` seen by the decoder -/
theorem Sim.close1 (c : EncCfg) {d0 : Dec} {st : St} {comp : List Bytes} {pend : Bytes}
    {ini : List Bytes} {l : Bytes} {om : Bool} (h : Sim d0 st comp pend (ini ++ [l]) om)
    (hK : (comp ++ glued pend ini).length ≤ CodecAv1vp.av1MaxOBUsPerTemporalUnit)
    (hB : totalLen (comp ++ glued pend ini) + (openPre pend ini ++ l).length ≤ CodecAv1vp.av1MaxTemporalUnitSize) :
    Sim d0 (st.closeOpen c true) (comp ++ glued pend ini) (openPre pend ini ++ l) [] false := by
  obtain ⟨D, hrun, hH⟩ := h.fed
  have ht := glued_total pend ini
  rw [totalLen_append, List.length_append] at hB
  obtain ⟨D1, hd, hH1⟩ := obus_y1 hH ini l om h.ev h.om3 (by omega) (mkPkt_payload c h true)
  obtain ⟨D', hdec, hH'⟩ := decode_more (mkPkt c st.cur true) (glued pend ini) hd hH1 rfl
    (by rw [← List.length_append]; exact hK) (by omega)
  refine Sim.fresh c true hrun hdec (h.nxt ▸ hH') ?_
  have := (h.ev l (by simp)).1
  cases l with
  | nil => simp at this
  | cons a t => cases openPre pend ini <;> rfl

theorem obuLoop_sim (c : EncCfg) (hc : ValidCfg c) (d0 : Dec) (last : Bool) (L : List Bytes) (o : Bytes)
    (hK : L.length + 1 ≤ CodecAv1vp.av1MaxOBUsPerTemporalUnit)
    (hB : totalLen L + o.length ≤ CodecAv1vp.av1MaxTemporalUnitSize) :
    ∀ (fuel : Nat) (st : St) (comp : List Bytes) (pend : Bytes) (es : List Bytes) (obu : Bytes),
      Sim d0 st comp pend es false → 0 < obu.length →
      obu.length + (if es.isEmpty then 1 else 2) ≤ fuel →
      comp ++ glued pend es = L → openPre pend es ++ obu = o →
      ∃ comp' pend' es' om', Sim d0 (obuLoop c (lebSize c.max) last fuel st obu) comp' pend' es' om' ∧
        (om' = true → last = true) ∧ es' ≠ [] ∧ comp' ++ glued pend' es' = L ++ [o] := by
  intro fuel
  induction fuel with
  | zero => intro st comp pend es obu _ hpos hfuel; split at hfuel <;> omega
  | succ fuel ih =>
    intro st comp pend es obu hsim hpos hfuel hL hO
    have holen : o.length = (openPre pend es).length + obu.length := by rw [← hO]; simp
    have hobu32 : obu.length < 2 ^ 32 := by
      have : CodecAv1vp.av1MaxTemporalUnitSize < 2 ^ 32 := by decide
      omega
    have hom3 : omits last st.cur = true → last = true ∧ es.length < 3 := by
      intro h; simp only [omits, Bool.and_eq_true, decide_eq_true_eq] at h; exact ⟨h.1, by have := hsim.cnt rfl; omega⟩
    refine obuLoop_round c hc last st obu (motive := fun f => ∃ comp' pend' es' om',
      Sim d0 (f fuel) comp' pend' es' om' ∧ (om' = true → last = true) ∧ es' ≠ [] ∧
        comp' ++ glued pend' es' = L ++ [o]) ?_ ?_ ?_
    · intro _
      exact ⟨comp, pend, es ++ [obu], omits last st.cur, hsim.push _ obu ⟨hpos, hobu32⟩ (fun h => (hom3 h).2),
        fun h => (hom3 h).1, by simp, by rw [glued_snoc, ← List.append_assoc, hL, hO]⟩
    · -- a fragment fills the packet: close with Y, continue in a packet opened with Z
      intro k hk1 hkl _
      have hfl : (obu.take k).length = k := by simp only [List.length_take]; omega
      have hsim1 := hsim.push (omits last st.cur) (obu.take k) ⟨by omega, by omega⟩ (fun h => (hom3 h).2)
      exact ih _ _ _ [] (obu.drop k)
        (hsim1.close1 c (by rw [hL]; omega) (by rw [hL, List.length_append, hfl]; omega))
        (by simp only [List.length_drop]; omega)
        (by simp only [List.length_drop, List.isEmpty_nil, if_true]; split at hfuel <;> omega)
        (by simpa [glued] using hL)
        (by simp only [openPre]; rw [List.append_assoc, List.take_append_drop]; exact hO)
    · -- not even a fragment fits, so the packet holds an element already
      intro hne
      have hesne : es ≠ [] := fun h0 => hne (by rw [hsim.body, h0]; rfl)
      have hes2 : es.isEmpty = false := by cases es with | nil => exact absurd rfl hesne | cons a t => rfl
      rw [openPre_cons pend es hesne] at hO
      exact ih _ _ [] [] obu (hsim.close0 c hesne (by rw [hL]; omega) (by rw [hL]; omega)) hpos
        (by simp only [List.isEmpty_nil, if_true]; rw [hes2] at hfuel; simp at hfuel; omega)
        (by simpa [glued] using hL) (by simpa [openPre] using hO)

end Rtsp.Codec.Av1
