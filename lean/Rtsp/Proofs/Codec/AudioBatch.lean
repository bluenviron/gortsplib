import Rtsp.Model.Codec.AudioCommon
import Rtsp.Proofs.Codec.Common
import Rtsp.Proofs.Common.Runs
import Rtsp.Proofs.Common.Bits
/-
The batching loop shared by the MPEG-4 audio, MPEG-1 audio and AC-3 encoders is "partition the group into
batches (`batches`), then write them one after another (`writeAllOk`)", so per-batch facts lift to the whole
`Encode` call.  The partition is also that of the slices in MPEG-1 video's `Encode`.
-/
namespace Rtsp.Codec.Audio
open Rtsp.Rtp

def batches (fits : List Bytes → Bytes → Bool) : List Bytes → List Bytes → List (List Bytes)
  | [], batch => [batch]
  | au :: rest, batch =>
    if fits batch au then batches fits rest (batch ++ [au])
    else if batch.isEmpty then batches fits rest [au]
    else batch :: batches fits rest [au]

theorem batches_ne_nil (fits) (aus batch : List Bytes) : batches fits aus batch ≠ [] := by
  induction aus generalizing batch with
  | nil => simp [batches]
  | cons au rest ih =>
    simp only [batches]
    split
    · exact ih _
    · split
      · exact ih _
      · simp

theorem batches_flatten (fits) (aus batch : List Bytes) :
    (batches fits aus batch).flatten = batch ++ aus := by
  induction aus generalizing batch with
  | nil => simp [batches]
  | cons au rest ih =>
    simp only [batches]
    split
    · rw [ih]; simp
    · split
      · rename_i h; rw [ih]; simp [List.isEmpty_iff.mp h]
      · simp [ih]

theorem batches_cons_nil (fits) (au : Bytes) (rest : List Bytes) :
    batches fits (au :: rest) [] = batches fits rest [au] := by
  simp only [batches]
  split <;> simp

theorem batches_forall (fits) (P : List Bytes → Prop) (aus batch : List Bytes) (h0 : P batch)
    (hs : ∀ au ∈ aus, P [au])
    (hg : ∀ b au, P b → b ≠ [] → fits b au = true → P (b ++ [au])) (hne : batch ≠ []) :
    ∀ b ∈ batches fits aus batch, P b ∧ b ≠ [] := by
  induction aus generalizing batch with
  | nil => intro b hb; simp [batches] at hb; subst hb; exact ⟨h0, hne⟩
  | cons au rest ih =>
    intro b hb
    simp only [batches] at hb
    have hs' : ∀ a ∈ rest, P [a] := fun a ha => hs a (by simp [ha])
    split at hb
    · rename_i hf
      exact ih (batch ++ [au]) (hg batch au h0 hne hf) hs' (by simp) b hb
    · split at hb
      · exact ih [au] (hs au (by simp)) hs' (by simp) b hb
      · simp only [List.mem_cons] at hb
        rcases hb with hb | hb
        · subst hb; exact ⟨h0, hne⟩
        · exact ih [au] (hs au (by simp)) hs' (by simp) b hb

theorem batches_nil_forall (fits) (P : List Bytes → Prop) (aus : List Bytes) (h0 : aus = [] → P [])
    (hs : ∀ au ∈ aus, P [au]) (hg : ∀ b au, P b → b ≠ [] → fits b au = true → P (b ++ [au])) :
    ∀ b ∈ batches fits aus [], P b ∧ (aus ≠ [] → b ≠ []) := by
  cases aus with
  | nil =>
    intro b hb
    simp only [batches, List.mem_singleton] at hb
    subst hb
    exact ⟨h0 rfl, fun h => absurd rfl h⟩
  | cons f rest =>
    rw [batches_cons_nil]
    intro b hb
    have := batches_forall fits P rest [f] (hs f (by simp)) (fun a ha => hs a (by simp [ha])) hg (by simp) b hb
    exact ⟨this.1, fun _ => this.2⟩

theorem batches_nil_ne_nil (fits) (aus : List Bytes) (hne : aus ≠ []) : ∀ b ∈ batches fits aus [], b ≠ [] :=
  fun b hb => (batches_nil_forall fits (fun _ => True) aus (fun _ => trivial) (fun _ _ => trivial)
    (fun _ _ _ _ _ => trivial) b hb).2 hne

theorem batches_mem (fits) (aus : List Bytes) : ∀ b ∈ batches fits aus [], ∀ au ∈ b, au ∈ aus := by
  intro b hb au hau
  have := batches_flatten fits aus []
  rw [List.nil_append] at this
  rw [← this]
  exact List.mem_flatten.mpr ⟨b, hb, hau⟩

theorem batches_all_fit (fits) (aus batch : List Bytes)
    (h : ∀ pre au post, aus = pre ++ au :: post → fits (batch ++ pre) au = true) :
    batches fits aus batch = [batch ++ aus] := by
  induction aus generalizing batch with
  | nil => simp [batches]
  | cons au rest ih =>
    have h0 := h [] au rest rfl
    simp only [List.append_nil] at h0
    simp only [batches, h0, ↓reduceIte]
    rw [ih]
    · simp
    · intro pre a post hr
      have := h (au :: pre) a post (by simp [hr])
      simpa using this

/-- the packets when every timestamp increment is defined -/
def writeAllOk (w : List Bytes → UInt32 → UInt16 → List Pkt) (inc : List Bytes → UInt32) :
    List (List Bytes) → UInt32 → UInt16 → List Pkt
  | [], _, _ => []
  | b :: bs, ts, sq => w b ts sq ++ writeAllOk w inc bs (ts + inc b) (sq + UInt16.ofNat (w b ts sq).length)

theorem batchLoop_some (o : BatchOps) (aus batch : List Bytes) (ts : UInt32) (sq : UInt16) (ps : List Pkt)
    (h : (batchLoop o aus batch ts sq).1 = some ps) :
    ps = writeAllOk o.write (fun b => (o.tsInc b).getD 0) (batches o.fits aus batch) ts sq ∧
    (batchLoop o aus batch ts sq).2 = sq + UInt16.ofNat ps.length := by
  induction aus generalizing batch ts sq ps with
  | nil =>
    obtain rfl := Option.some.inj h
    simp [batchLoop, batches, writeAllOk]
  | cons au rest ih =>
    rw [batchLoop] at h ⊢
    rw [batches]
    by_cases hf : o.fits batch au = true
    · simp only [if_pos hf] at h ⊢; exact ih _ _ _ _ h
    simp only [if_neg hf] at h ⊢
    by_cases he : batch.isEmpty = true
    · simp only [if_pos he] at h ⊢; exact ih _ _ _ _ h
    simp only [if_neg he] at h ⊢
    cases hi : o.tsInc batch with
    | none => simp [hi] at h
    | some inc =>
      simp only [hi] at h ⊢
      cases hr : batchLoop o rest [au] (ts + inc) (sq + UInt16.ofNat (o.write batch ts sq).length) with
      | mk r s =>
        cases r with
        | none => simp [hr] at h
        | some qs =>
          obtain ⟨h1, h2⟩ := ih [au] _ _ qs (by rw [hr])
          simp only [hr] at h h2 ⊢
          obtain rfl := Option.some.inj h
          rw [writeAllOk, hi, Option.getD_some, ← h1, h2, List.length_append, UInt16.ofNat_add, UInt16.add_assoc]
          exact ⟨rfl, rfl⟩

theorem batchLoop_ok (o : BatchOps) (inc : List Bytes → UInt32) (aus batch : List Bytes) (ts : UInt32)
    (sq : UInt16) (h : ∀ b ∈ batches o.fits aus batch, o.tsInc b = some (inc b)) :
    batchLoop o aus batch ts sq = (some (writeAllOk o.write inc (batches o.fits aus batch) ts sq),
      sq + UInt16.ofNat (writeAllOk o.write inc (batches o.fits aus batch) ts sq).length) := by
  induction aus generalizing batch ts sq with
  | nil => simp [batchLoop, batches, writeAllOk]
  | cons au rest ih =>
    rw [batchLoop]
    rw [batches] at h ⊢
    by_cases hf : o.fits batch au = true
    · simp only [if_pos hf] at h ⊢; exact ih _ _ _ h
    simp only [if_neg hf] at h ⊢
    by_cases he : batch.isEmpty = true
    · simp only [if_pos he] at h ⊢; exact ih _ _ _ h
    simp only [if_neg he] at h ⊢
    simp only [h batch (List.mem_cons_self ..), ih [au] _ _ (fun b hb => h b (List.mem_cons_of_mem _ hb)),
      writeAllOk, List.length_append, UInt16.ofNat_add, UInt16.add_assoc]

theorem writeAllOk_forall (w inc) (Q : Pkt → Prop) (bs : List (List Bytes)) (ts : UInt32) (sq : UInt16)
    (h : ∀ b ∈ bs, ∀ ts sq, ∀ p ∈ w b ts sq, Q p) : ∀ p ∈ writeAllOk w inc bs ts sq, Q p := by
  induction bs generalizing ts sq with
  | nil => simp [writeAllOk]
  | cons b bs ih =>
    intro p hp
    simp only [writeAllOk, List.mem_append] at hp
    rcases hp with hp | hp
    · exact h b (by simp) ts sq p hp
    · exact ih _ _ (fun x hx => h x (by simp [hx])) p hp

theorem writeAllOk_seq (w inc) (bs : List (List Bytes)) (ts : UInt32) (sq : UInt16)
    (h : ∀ b ∈ bs, ∀ ts sq, (w b ts sq).map (·.seq) = seqFrom sq (w b ts sq).length) :
    (writeAllOk w inc bs ts sq).map (·.seq) = seqFrom sq (writeAllOk w inc bs ts sq).length := by
  induction bs generalizing ts sq with
  | nil => simp [writeAllOk, seqFrom]
  | cons b bs ih =>
    simp only [writeAllOk, List.map_append, List.length_append]
    rw [seqFrom_append, h b (by simp), ih _ _ (fun x hx => h x (by simp [hx]))]

theorem writeAllOk_ne_nil (w inc) (bs : List (List Bytes)) (ts : UInt32) (sq : UInt16) (hbs : bs ≠ [])
    (h : ∀ b ∈ bs, ∀ ts sq, w b ts sq ≠ []) : writeAllOk w inc bs ts sq ≠ [] := by
  cases bs with
  | nil => exact absurd rfl hbs
  | cons b bs => simp [writeAllOk, h b (by simp)]

theorem writeAllOk_last (w inc) (bs : List (List Bytes)) (ts : UInt32) (sq : UInt16) (hbs : bs ≠ [])
    (h : ∀ b ∈ bs, ∀ ts sq, ∃ n, (w b ts sq).map (·.marker) = List.replicate n false ++ [true]) :
    ∃ ini lst, writeAllOk w inc bs ts sq = ini ++ [lst] ∧ lst.marker = true := by
  induction bs generalizing ts sq with
  | nil => exact absurd rfl hbs
  | cons b bs ih =>
    by_cases hr : bs = []
    · subst hr
      obtain ⟨n, hn⟩ := h b (by simp) ts sq
      obtain ⟨ini, lst, h1, h2⟩ := last_marked _ n hn
      exact ⟨ini, lst, by simp [writeAllOk, h1], h2⟩
    · obtain ⟨ini, lst, h1, h2⟩ := ih (ts + inc b) (sq + UInt16.ofNat (w b ts sq).length) hr
        (fun x hx => h x (by simp [hx]))
      exact ⟨w b ts sq ++ ini, lst, by simp [writeAllOk, h1], h2⟩

theorem runDecGen_length {δ α : Type} (step : δ → Pkt → δ × DecRes α) (d : δ) (ps : List Pkt) :
    (runDecGen step d ps).2.length = ps.length :=
  Runs.length (step := step) (run := runDecGen step) ⟨fun _ => rfl, fun _ _ _ => rfl⟩ d ps

/-- `C0`: what a batch needs of the decoder on entry; `C`: what it leaves -/
theorem run_writeAllOk {δ : Type} {step : δ → Pkt → δ × DecRes (List Bytes)}
    {run : δ → List Pkt → δ × List (DecRes (List Bytes))} (hr : Runs step run) (C0 C : δ → Prop)
    (hC : ∀ d, C d → C0 d) (w inc) (bs : List (List Bytes)) (ts : UInt32) (sq : UInt16) (d : δ) (hd : C0 d)
    (hb : ∀ b ∈ bs, ∀ ts sq d, C0 d → ∃ d' n, run d (w b ts sq)
        = (d', List.replicate n .more ++ [.ok b]) ∧ C d') :
    ∃ d' outs, run d (writeAllOk w inc bs ts sq) = (d', outs) ∧
      (bs = [] → d' = d) ∧ (bs ≠ [] → C d') ∧ okFrames outs = bs ∧ OnlyOkMore outs := by
  induction bs generalizing ts sq d with
  | nil => exact ⟨d, [], hr.nil d, fun _ => rfl, fun h => absurd rfl h, rfl, by intro r hr; simp at hr⟩
  | cons b bs ih =>
    obtain ⟨d1, n, h1, hc1⟩ := hb b (by simp) ts sq d hd
    obtain ⟨d2, outs, h2, he, hn, hok, hom⟩ :=
      ih (ts + inc b) (sq + UInt16.ofNat (w b ts sq).length) d1 (hC d1 hc1) (fun x hx => hb x (by simp [hx]))
    refine ⟨d2, List.replicate n .more ++ [.ok b] ++ outs, ?_, fun h => absurd h (List.cons_ne_nil b bs), fun _ => ?_, ?_, ?_⟩
    · simp only [writeAllOk]
      rw [hr.append, h1]
      simp only
      rw [h2]
    · by_cases hbs : bs = []
      · rw [he hbs]; exact hc1
      · exact hn hbs
    · rw [frames_frame_append okFrames, hok]
    · exact only_frame_append hom

theorem joinFragments_exact (fs : List Bytes) : joinFragments fs (totalLen fs) = fs.flatten :=
  take_flatten_totalLen fs

theorem joinFragments_snoc (fs : List Bytes) (b : Bytes) (sz : Nat) (h : sz = totalLen fs) :
    joinFragments (fs ++ [b]) (sz + b.length) = fs.flatten ++ b :=
  take_flatten_snoc fs b sz h

theorem be16_read (v : Nat) (h : v < 65536) (rest : Bytes) :
    ((be16 v ++ rest).getD 0 0).toNat * 256 + ((be16 v ++ rest).getD 1 0).toNat = v :=
  Bits.be16_toNat h

theorem joinFragments_length (fs : List Bytes) (n : Nat) : (joinFragments fs n).length = n := by
  simp [joinFragments, List.length_take]; omega

/-- the batches with the timestamp each is written at: the first at `ts`, every following one
`inc` (the sample count) of its predecessor later -/
def pieceTs (inc : List Bytes → UInt32) : List (List Bytes) → UInt32 → List UInt32
  | [], _ => []
  | b :: bs, ts => ts :: pieceTs inc bs (ts + inc b)

/-- `writeAllOk`, piece by piece -/
def piecePkts (w : List Bytes → UInt32 → UInt16 → List Pkt) (inc : List Bytes → UInt32) :
    List (List Bytes) → UInt32 → UInt16 → List (List Pkt)
  | [], _, _ => []
  | b :: bs, ts, sq => w b ts sq :: piecePkts w inc bs (ts + inc b) (sq + UInt16.ofNat (w b ts sq).length)

theorem piecePkts_flatten (w inc) (bs : List (List Bytes)) (ts : UInt32) (sq : UInt16) :
    (piecePkts w inc bs ts sq).flatten = writeAllOk w inc bs ts sq := by
  induction bs generalizing ts sq with
  | nil => rfl
  | cons b bs ih => simp [piecePkts, writeAllOk, ih]

theorem piecePkts_forall (w inc) (Q : List Pkt → Prop) (bs : List (List Bytes)) (ts : UInt32) (sq : UInt16)
    (h : ∀ b ∈ bs, ∀ ts sq, Q (w b ts sq)) : ∀ ps ∈ piecePkts w inc bs ts sq, Q ps := by
  induction bs generalizing ts sq with
  | nil => simp [piecePkts]
  | cons b bs ih =>
    intro ps hps
    simp only [piecePkts, List.mem_cons] at hps
    rcases hps with rfl | hps
    · exact h b (by simp) ts sq
    · exact ih _ _ (fun x hx => h x (by simp [hx])) ps hps

/-- piece `i` consists of packets that all carry timestamp `i` of the list -/
def AllTs : List (List Pkt) → List UInt32 → Prop
  | [], [] => True
  | ps :: pss, t :: ts => (∀ p ∈ ps, p.ts = t) ∧ AllTs pss ts
  | _, _ => False

theorem piecePkts_ts (w inc) (bs : List (List Bytes)) (ts : UInt32) (sq : UInt16)
    (h : ∀ b ∈ bs, ∀ ts sq, ∀ p ∈ w b ts sq, p.ts = ts) :
    AllTs (piecePkts w inc bs ts sq) (pieceTs inc bs ts) := by
  induction bs generalizing ts sq with
  | nil => trivial
  | cons b bs ih =>
    exact ⟨h b (by simp) ts sq, ih _ _ (fun x hx => h x (by simp [hx]))⟩

end Rtsp.Codec.Audio
