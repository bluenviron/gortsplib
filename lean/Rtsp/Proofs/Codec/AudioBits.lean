import Rtsp.Model.Codec.AudioCommon
/-
mediacommon `pkg/bits`, reading: the byte-wise `ReadBitsUnsafe` computes the bit-serial value
(`readBitsGo_eq`), and a field packed MSB-first is read back (`readBits_field`).  A buffer's bits are
spoken of through `bitAt` (a `Bool`; the model's `getBit` is its `toNat`), here and for the writer.
-/
namespace Rtsp.Codec.Audio
open Rtsp.Rtp

/-- the fold is that of `byteOfBits`: `n` binary digits, most significant first -/
theorem foldl_bits (f : Nat → Nat) (hf : ∀ j, f j ≤ 1) (n : Nat) :
    (List.range n).foldl (fun a j => 2 * a + f j) 0 < 2 ^ n ∧
    ∀ i, i < n → (List.range n).foldl (fun a j => 2 * a + f j) 0 / 2 ^ (n - 1 - i) % 2 = f i := by
  induction n with
  | zero => exact ⟨by simp, fun i hi => absurd hi (Nat.not_lt_zero i)⟩
  | succ n ih =>
    obtain ⟨ih1, ih2⟩ := ih
    have hn := hf n
    simp only [List.range_succ, List.foldl_append, List.foldl_cons, List.foldl_nil]
    generalize (List.range n).foldl (fun a j => 2 * a + f j) 0 = v at ih1 ih2
    refine ⟨by rw [Nat.pow_succ]; omega, fun i hi => ?_⟩
    by_cases hin : i = n
    · subst hin
      rw [show i + 1 - 1 - i = 0 by omega, Nat.pow_zero, Nat.div_one]
      omega
    · rw [show n + 1 - 1 - i = (n - 1 - i) + 1 by omega, Nat.pow_succ', ← Nat.div_div_eq_div_mul,
        show (2 * v + f n) / 2 = v by omega]
      exact ih2 i (by omega)

theorem getBit_eq (buf : Bytes) (i : Nat) : getBit buf i = byteAt buf i / 2 ^ (7 - i % 8) % 2 := rfl

/-- bit `i` of a buffer, 0 = most significant bit of byte 0 -/
def bitAt (buf : Bytes) (i : Nat) : Bool := (byteAt buf i).testBit (7 - i % 8)

theorem getBit_bitAt (buf : Bytes) (i : Nat) : getBit buf i = (bitAt buf i).toNat := by
  rw [getBit_eq, bitAt, Nat.toNat_testBit]

theorem toNat_inj (a b : Bool) (h : a.toNat = b.toNat) : a = b := by
  cases a <;> cases b <;> first | rfl | exact absurd h (by decide)

theorem byteOfBits_bit (bs : List Bool) (i : Nat) (hi : i < 8) :
    (byteOfBits bs).toNat.testBit (7 - i) = bs.getD i false := by
  obtain ⟨h1, h2⟩ := foldl_bits (fun j => (bs.getD j false).toNat) (fun j => Bool.toNat_le _) 8
  apply toNat_inj
  rw [Nat.toNat_testBit, byteOfBits, UInt8.toNat_ofNat', Nat.mod_eq_of_lt h1]
  exact h2 i hi

theorem bitAt_cons_lt (x : UInt8) (xs : Bytes) (k : Nat) (hk : k < 8) :
    bitAt (x :: xs) k = x.toNat.testBit (7 - k) := by
  have h0 : k / 8 = 0 := by omega
  have h1 : k % 8 = k := by omega
  simp [bitAt, byteAt, h0, h1]

theorem bitAt_cons_ge (x : UInt8) (xs : Bytes) (i : Nat) : bitAt (x :: xs) (i + 8) = bitAt xs i := by
  have h0 : (i + 8) / 8 = i / 8 + 1 := by omega
  have h1 : (i + 8) % 8 = i % 8 := by omega
  simp [bitAt, byteAt, h0, h1]

theorem ceil8_eq (n : Nat) : ceil8 n = (n + 7) / 8 := by
  unfold ceil8; split <;> omega

theorem packBits_length (f : Nat) (bs : List Bool) (h : bs.length ≤ f) :
    (packBits f bs).length = ceil8 bs.length := by
  induction f generalizing bs with
  | zero =>
    have : bs = [] := List.eq_nil_of_length_eq_zero (by omega)
    subst this; rfl
  | succ f ih =>
    simp only [packBits]
    cases hbs : bs with
    | nil => rfl
    | cons b rest =>
      rw [← hbs]
      have hne : bs.isEmpty = false := by rw [hbs]; rfl
      simp only [hne, Bool.false_eq_true, ↓reduceIte, List.length_cons]
      have hlen : 0 < bs.length := by rw [hbs]; simp
      rw [ih (bs.drop 8) (by simp only [List.length_drop]; omega)]
      simp only [List.length_drop, ceil8_eq]
      omega

theorem pack_length (bs : List Bool) : (pack bs).length = ceil8 bs.length :=
  packBits_length _ _ (Nat.le_refl _)

theorem bitAt_packBits (f : Nat) (bs : List Bool) (i : Nat) (h : bs.length ≤ f) :
    bitAt (packBits f bs) i = bs.getD i false := by
  induction f generalizing bs i with
  | zero =>
    have : bs = [] := List.eq_nil_of_length_eq_zero (by omega)
    subst this; simp [packBits, bitAt, byteAt]
  | succ f ih =>
    cases hbs : bs with
    | nil => simp [packBits, bitAt, byteAt]
    | cons b rest =>
      rw [← hbs]
      have hne : bs.isEmpty = false := by rw [hbs]; rfl
      have hlen : 0 < bs.length := by rw [hbs]; simp
      simp only [packBits, hne, Bool.false_eq_true, ↓reduceIte]
      by_cases h8 : i < 8
      · rw [bitAt_cons_lt _ _ _ h8, byteOfBits_bit _ _ h8]
      · obtain ⟨j, rfl⟩ : ∃ j, i = j + 8 := ⟨i - 8, by omega⟩
        rw [bitAt_cons_ge, ih (bs.drop 8) j (by simp only [List.length_drop]; omega)]
        simp only [List.getD_eq_getElem?_getD, List.getElem?_drop, Nat.add_comm]

theorem bitAt_pack (bs : List Bool) (rest : Bytes) (i : Nat) (hi : i < bs.length) :
    bitAt (pack bs ++ rest) i = bs.getD i false := by
  have hlt : i / 8 < (pack bs).length := by rw [pack_length, ceil8_eq]; omega
  rw [← bitAt_packBits bs.length bs i (Nat.le_refl _)]
  unfold bitAt byteAt
  rw [List.getD_eq_getElem?_getD, List.getD_eq_getElem?_getD, List.getElem?_append_left hlt]
  rfl

theorem bitsOf_length (v n : Nat) : (bitsOf v n).length = n := by
  induction n with
  | zero => rfl
  | succ n ih => simp [bitsOf, ih]

theorem bitsOf_zero (n : Nat) : bitsOf 0 n = List.replicate n false := by
  induction n with
  | zero => rfl
  | succ n ih => simp [bitsOf, ih, List.replicate_succ]

theorem bitsOf_getD (v n m : Nat) (h : m < n) : (bitsOf v n).getD m false = v.testBit (n - 1 - m) := by
  induction n generalizing m with
  | zero => omega
  | succ n ih =>
    cases m with
    | zero => simp [bitsOf]
    | succ m =>
      simp only [bitsOf, List.getD_cons_succ]
      rw [ih m (by omega)]
      congr 1
      omega

theorem readBitsVal_bitsOf (buf : Bytes) (pos n v acc : Nat)
    (h : ∀ k, k < n → bitAt buf (pos + k) = (bitsOf v n).getD k false) :
    readBitsVal buf pos n acc = acc * 2 ^ n + v % 2 ^ n := by
  induction n generalizing pos acc with
  | zero => simp [readBitsVal, Nat.mod_one]
  | succ n ih =>
    have h0 := h 0 (by omega)
    simp only [Nat.add_zero, bitsOf, List.getD_cons_zero] at h0
    rw [readBitsVal, ih (pos + 1) (2 * acc + getBit buf pos)]
    · rw [getBit_bitAt, h0, Nat.mod_pow_succ, Nat.toNat_testBit, Nat.pow_succ]
      have : (2 * acc + v / 2 ^ n % 2) * 2 ^ n = acc * (2 ^ n * 2) + 2 ^ n * (v / 2 ^ n % 2) := by
        rw [Nat.add_mul, Nat.mul_comm (v / 2 ^ n % 2)]
        congr 1
        rw [Nat.mul_comm 2 acc, Nat.mul_assoc, Nat.mul_comm 2]
      omega
    · intro k hk
      have := h (k + 1) (by omega)
      simp only [bitsOf, List.getD_cons_succ] at this
      rw [← this]; congr 1; omega

theorem byteAt_lt (buf : Bytes) (pos : Nat) : byteAt buf pos < 256 := by
  unfold byteAt; exact UInt8.toNat_lt _

theorem readBitsVal_in_byte (buf : Bytes) (pos k acc : Nat) (h : pos % 8 + k ≤ 8) :
    readBitsVal buf pos k acc = acc * 2 ^ k + byteAt buf pos / 2 ^ (8 - pos % 8 - k) % 2 ^ k := by
  refine readBitsVal_bitsOf buf pos k _ acc fun j hj => ?_
  have e : byteAt buf (pos + j) = byteAt buf pos := by unfold byteAt; rw [show (pos + j) / 8 = pos / 8 by omega]
  rw [bitsOf_getD _ _ _ hj, Nat.testBit_div_two_pow, bitAt, e]
  congr 1
  omega

theorem readBitsVal_add (buf : Bytes) (pos a b acc : Nat) :
    readBitsVal buf pos (a + b) acc = readBitsVal buf (pos + a) b (readBitsVal buf pos a acc) := by
  induction a generalizing pos acc with
  | zero => simp [readBitsVal]
  | succ a ih =>
    rw [show a + 1 + b = (a + b) + 1 by omega, readBitsVal, ih, readBitsVal]
    rw [show pos + 1 + a = pos + (a + 1) by omega]

theorem readWhole_eq (buf : Bytes) (fuel pos n v : Nat) (hp : pos % 8 = 0) (hf : n / 8 < fuel) :
    readWhole buf fuel pos n v = readBitsVal buf pos n v := by
  induction fuel generalizing pos n v with
  | zero => omega
  | succ f ih =>
    rw [readWhole]
    have hb := byteAt_lt buf pos
    split
    · rename_i h8
      rw [ih (pos + 8) (n - 8) _ (by omega) (by omega)]
      have := readBitsVal_add buf pos 8 (n - 8) v
      rw [show 8 + (n - 8) = n by omega] at this
      rw [this, readBitsVal_in_byte buf pos 8 v (by omega)]
      congr 1
      rw [hp, show 8 - 0 - 8 = 0 by rfl, Nat.pow_zero, Nat.div_one, Nat.mod_eq_of_lt (by omega)]
    · split
      · rename_i h8 h0
        rw [readBitsVal_in_byte buf pos n v (by omega), hp, show 8 - 0 - n = 8 - n by omega]
        congr 1
        apply (Nat.mod_eq_of_lt _).symm
        apply Nat.div_lt_of_lt_mul
        rw [← Nat.pow_add, show 8 - n + n = 8 by omega]
        omega
      · have : n = 0 := by omega
        subst this; rfl

/-- the three phases of mediacommon's `ReadBitsUnsafe`: the bits left in the current byte, whole bytes,
the leading bits of the last byte -/
theorem readBitsGo_eq (buf : Bytes) (pos n : Nat) : readBitsGo buf pos n = readBitsVal buf pos n 0 := by
  unfold readBitsGo
  dsimp only
  split
  · rename_i hlt
    rw [readBitsVal_in_byte buf pos n 0 (by omega)]
    simp
  · rename_i hge
    have hsplit := readBitsVal_add buf pos (8 - pos % 8) (n - (8 - pos % 8)) 0
    rw [show 8 - pos % 8 + (n - (8 - pos % 8)) = n by omega] at hsplit
    rw [hsplit, readBitsVal_in_byte buf pos (8 - pos % 8) 0 (by omega),
      readWhole_eq buf _ _ _ _ (by omega) (by omega)]
    congr 1
    rw [show 8 - pos % 8 - (8 - pos % 8) = 0 by omega]
    simp

/-- the buffer starts with the bit string `bits` (byte-padded), whatever follows -/
def HoldsBits (buf : Bytes) (bits : List Bool) : Prop :=
  bits.length ≤ buf.length * 8 ∧ ∀ i, i < bits.length → bitAt buf i = bits.getD i false

theorem holdsBits_pack (bits : List Bool) (rest : Bytes) : HoldsBits (pack bits ++ rest) bits := by
  refine ⟨?_, fun i hi => bitAt_pack bits rest i hi⟩
  simp only [List.length_append, pack_length, ceil8_eq]
  omega

theorem readBits_field (buf : Bytes) (pre post : List Bool) (v n : Nat)
    (h : HoldsBits buf (pre ++ bitsOf v n ++ post)) (hv : v < 2 ^ n) (hv64 : v < 2 ^ 64) :
    readBits buf pre.length n = some (v, pre.length + n) := by
  obtain ⟨hlen, hbits⟩ := h
  simp only [List.length_append, bitsOf_length] at hlen
  have hsp : ¬ n > buf.length * 8 - pre.length := by omega
  simp only [readBits, hsp, ↓reduceIte, readBitsGo_eq]
  rw [readBitsVal_bitsOf buf pre.length n v 0]
  · simp [Nat.mod_eq_of_lt hv, Nat.mod_eq_of_lt hv64]
  · intro k hk
    rw [hbits (pre.length + k) (by simp only [List.length_append, bitsOf_length]; omega)]
    simp only [List.getD_eq_getElem?_getD, List.append_assoc]
    rw [List.getElem?_append_right (by omega), Nat.add_sub_cancel_left,
      List.getElem?_append_left (by rw [bitsOf_length]; exact hk)]

end Rtsp.Codec.Audio
