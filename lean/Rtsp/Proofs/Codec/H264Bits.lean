import Rtsp.Model.Codec.H264
import Rtsp.Proofs.Codec.H26xBits
/-
Bit-level facts about the FU-A header (`writeFragmented` builds it, `decodeNALUs` reads it back)
and the decoder's dispatch on the NALU type.
-/
namespace Rtsp.Codec.H264
open Rtsp.Codec.H26x Rtsp.Facts Rtsp.Bits

theorem fuHdr_read (h : UInt8) (st en : Bool) :
    ∃ b0 b1, fuHdr h st en = [b0, b1] ∧ (b0 &&& 0x1F).toNat = CodecH26x.h264TypeFUA ∧
      b1 >>> 7 = (if st then 1 else 0) ∧ (b1 >>> 6) &&& 0x01 = (if en then 1 else 0) ∧
      (h &&& 0x80 = 0 → (((b0 >>> 5) &&& 0x03) <<< 5) ||| (b1 &&& 0x1F) = h) := by
  have hn : ((h >>> 5) &&& 0x03).toNat < 4 := by rw [toNat_mask _ _ 2 rfl]; exact Nat.mod_lt _ (by decide)
  have ht : (h &&& 0x1F).toNat < 32 := by rw [toNat_mask _ _ 5 rfl]; exact Nat.mod_lt _ (by decide)
  -- the indicator byte: NRI above bit 5, type 28 below
  obtain ⟨r5, m5⟩ := shl_or_read ((h >>> 5) &&& 0x03) (UInt8.ofNat CodecH26x.h264TypeFUA) 5 0x1F 5 rfl
    (by omega) rfl (by omega) (by decide)
  obtain ⟨f1, f2, f3⟩ := fuFlags_read (if st then 1 else 0) (if en then 1 else 0) (h &&& 0x1F)
    (flag_toNat_le st) (flag_toNat_le en) (by omega)
  refine ⟨_, _, rfl, by rw [m5]; rfl, f1, f2, fun hz => ?_⟩
  -- forbidden_zero_bit clear: the two NRI bits are all that is above bit 5
  have hnri : (h >>> 5) &&& (0x03 : UInt8) = h >>> (5 : UInt8) := by
    have hz' : h.toNat / 2 ^ 7 % 2 = 0 := by rw [← toNat_bit h 0x80 7 rfl, hz]; rfl
    have hlt := UInt8.toNat_lt h
    apply UInt8.toNat_inj.mp
    rw [toNat_mask _ _ 2 rfl, toNat_shr _ _ 5 rfl (by omega)]
    omega
  have hlow : ∀ b : UInt8, b &&& 0x1F = b &&& 0x3F &&& 0x1F := fun b => by rw [UInt8.and_assoc]; rfl
  rw [r5, hlow, f3, UInt8.and_assoc, UInt8.and_self, UInt8.and_assoc, UInt8.and_self, hnri]
  exact shr_shl_or_mask h 5 0x1F 5 rfl (by omega) rfl

theorem typ_dispatch (h : UInt8) (hv : ¬ (24 ≤ (h &&& 0x1F).toNat ∧ (h &&& 0x1F).toNat ≤ 29)) :
    (h &&& 0x1F).toNat ≠ CodecH26x.h264TypeFUA ∧ (h &&& 0x1F).toNat ≠ CodecH26x.h264TypeSTAPA ∧
    isAggType (h &&& 0x1F).toNat = false := by
  generalize (h &&& 0x1F).toNat = t at hv ⊢
  simp only [isAggType, show CodecH26x.h264TypeFUA = 28 from rfl, show CodecH26x.h264TypeSTAPA = 24 from rfl,
    show CodecH26x.h264TypeSTAPB = 25 from rfl, show CodecH26x.h264TypeMTAP16 = 26 from rfl,
    show CodecH26x.h264TypeMTAP24 = 27 from rfl, show CodecH26x.h264TypeFUB = 29 from rfl,
    Bool.or_eq_false_iff, beq_eq_false_iff_ne]
  omega

theorem stapa_dispatch : ((UInt8.ofNat CodecH26x.h264TypeSTAPA) &&& 0x1F).toNat = CodecH26x.h264TypeSTAPA ∧
    CodecH26x.h264TypeSTAPA ≠ CodecH26x.h264TypeFUA := by decide

end Rtsp.Codec.H264
