import Rtsp.Proofs.Codec.AudioBatch
import Rtsp.Proofs.Codec.FragmentLoop
/-
`writeBatch` of rtpac3, rtpmpeg1audio and rtpmpeg4audio is one function of the payload layout: a batch
goes into one aggregate packet, unless it is a single unit that does not fit, which `frags` (`FragmentLoop`) cuts.
`Writer` holds what differs (the two payload layouts, the sizes, whether every fragment is marked);
what C06 and the timestamp clause of C03 ask of the packets of an `Encode` call is proved here once.
-/
namespace Rtsp.Codec.Audio
open Rtsp.Rtp

theorem packetCount_eq (avail le : Nat) : packetCount avail le = ceilDiv le avail := rfl

theorem packetCount_self (a : Nat) (h : 0 < a) : packetCount a a = 1 :=
  ceilDiv_eq_one a a (Nat.le_refl a) h

structure Writer where
  max   : Nat
  /-- unit bytes per fragment -/
  avail : Nat
  /-- `lenAggregated(batch, nil)` -/
  len   : List Bytes → Nat
  pt    : UInt8
  ssrc  : UInt32
  /-- the marker goes on every fragment (rtpmpeg1audio) instead of the last only -/
  allMarked : Bool
  aggPayload  : List Bytes → Bytes
  /-- arguments: the unit, first fragment?, bytes already sent, the chunk -/
  fragPayload : Bytes → Bool → Nat → Bytes → Bytes

namespace Writer
variable (W : Writer)

def agg (b : List Bytes) (ts : UInt32) (sq : UInt16) : Pkt :=
  { pt := W.pt, seq := sq, ts := ts, ssrc := W.ssrc, marker := true, payload := W.aggPayload b }

/-- in the argument order of `frags`' packet builder -/
def frag (f : Bytes) (ts : UInt32) (first last : Bool) (sq : UInt16) (pos : Nat) (ch : Bytes) : Pkt :=
  { pt := W.pt, seq := sq, ts := ts, ssrc := W.ssrc, marker := W.allMarked || last,
    payload := W.fragPayload f first pos ch }

def write (b : List Bytes) (ts : UInt32) (sq : UInt16) : List Pkt :=
  match b with
  | [f] => if W.len [f] < W.max then [W.agg b ts sq]
           else frags (W.frag f ts) W.avail (packetCount W.avail f.length) true sq 0 f
  | _ => [W.agg b ts sq]

theorem write_cases (b : List Bytes) (ts : UInt32) (sq : UInt16) :
    (W.write b ts sq = [W.agg b ts sq] ∧ (b.length = 1 → W.len b < W.max)) ∨
    ∃ f, b = [f] ∧ ¬ W.len [f] < W.max ∧
      W.write b ts sq = frags (W.frag f ts) W.avail (packetCount W.avail f.length) true sq 0 f := by
  unfold write
  split
  · split
    · exact Or.inl ⟨rfl, fun _ => ‹_›⟩
    · exact Or.inr ⟨_, rfl, ‹_›, rfl⟩
  · rename_i hb
    exact Or.inl ⟨rfl, fun h1 => match b, h1, hb with | [f], _, hb => absurd rfl (hb f)⟩

theorem write_forall (Q : Pkt → Prop) (b : List Bytes) (ts : UInt32) (sq : UInt16)
    (hagg : (b.length = 1 → W.len b < W.max) → Q (W.agg b ts sq))
    (hfrag : ∀ f fi l sq pos ch, (0 < W.avail → ch.length ≤ W.avail) → Q (W.frag f ts fi l sq pos ch)) :
    ∀ p ∈ W.write b ts sq, Q p := by
  rcases W.write_cases b ts sq with ⟨h, h1⟩ | ⟨f, -, -, h⟩ <;> rw [h]
  · intro p hp; rw [List.mem_singleton.mp hp]; exact hagg h1
  · exact frags_forall fun fi l sq pos ch hch =>
      hfrag f fi l sq pos ch fun hav => hch (by rw [packetCount_eq]; exact ceilDiv_upper _ _ hav)

theorem write_seq (b : List Bytes) (ts : UInt32) (sq : UInt16) :
    (W.write b ts sq).map (·.seq) = seqFrom sq (W.write b ts sq).length := by
  rcases W.write_cases b ts sq with ⟨h, _⟩ | ⟨f, _, _, h⟩ <;> rw [h]
  · rfl
  · exact frags_seq

theorem write_markers (hm : W.allMarked = false) (hav : 0 < W.avail)
    (hpos : ∀ f, ¬ W.len [f] < W.max → 0 < f.length) (b : List Bytes) (ts : UInt32) (sq : UInt16) :
    ∃ n, (W.write b ts sq).map (·.marker) = List.replicate n false ++ [true] := by
  rcases W.write_cases b ts sq with ⟨h, _⟩ | ⟨f, _, hge, h⟩ <;> rw [h]
  · exact ⟨0, rfl⟩
  · obtain ⟨k, hk, _⟩ := ceilDiv_eq_succ f.length W.avail hav (hpos f hge)
    rw [packetCount_eq, hk]
    exact ⟨k, frags_markers fun _ _ _ _ _ => by simp [frag, hm]⟩

theorem write_single (b : List Bytes) (ts : UInt32) (sq : UInt16)
    (h : ∀ f, b = [f] → ¬ W.len [f] < W.max → 0 < W.avail ∧ f.length = W.avail) :
    ∃ q, W.write b ts sq = [q] ∧ q.ts = ts ∧ q.marker = true := by
  rcases W.write_cases b ts sq with ⟨h1, _⟩ | ⟨f, hb, hge, h1⟩ <;> rw [h1]
  · exact ⟨_, rfl, rfl, rfl⟩
  · obtain ⟨hav, hl⟩ := h f hb hge
    rw [hl, packetCount_self _ hav]
    exact ⟨_, rfl, rfl, by simp [frag]⟩

variable (fits : List Bytes → Bytes → Bool) (inc : List Bytes → UInt32)

theorem batches_ok (hnil : W.len [] ≤ W.max) (hfits : ∀ b f, fits b f = true ↔ W.len (b ++ [f]) ≤ W.max)
    (fs : List Bytes) : ∀ b ∈ batches fits fs [], b.length = 1 ∨ W.len b ≤ W.max :=
  fun b hb => (batches_nil_forall fits (fun b => b.length = 1 ∨ W.len b ≤ W.max) fs (fun _ => Or.inr hnil)
    (fun _ _ => Or.inl rfl) (fun b f _ _ hf => Or.inr ((hfits b f).mp hf)) b hb).1

theorem payload_le (hnil : W.len [] ≤ W.max) (hfits : ∀ b f, fits b f = true ↔ W.len (b ++ [f]) ≤ W.max)
    (hav : 0 < W.avail) (hagg : ∀ b, (W.aggPayload b).length ≤ W.len b)
    (hfrag : ∀ f fi pos ch, ch.length ≤ W.avail → (W.fragPayload f fi pos ch).length ≤ W.max)
    (fs : List Bytes) (ts : UInt32) (sq : UInt16) :
    ∀ p ∈ writeAllOk W.write inc (batches fits fs []) ts sq, p.payload.length ≤ W.max :=
  writeAllOk_forall _ _ _ _ _ _ fun b hb ts sq => W.write_forall _ b ts sq
    (fun h1 => Nat.le_trans (hagg b) ((W.batches_ok fits hnil hfits fs b hb).elim (fun h => Nat.le_of_lt (h1 h)) id))
    (fun f fi _ _ pos ch hch => hfrag f fi pos ch (hch hav))

theorem seq (bs : List (List Bytes)) (ts : UInt32) (sq : UInt16) :
    (writeAllOk W.write inc bs ts sq).map (·.seq) = seqFrom sq (writeAllOk W.write inc bs ts sq).length :=
  writeAllOk_seq _ _ _ _ _ fun b _ ts sq => W.write_seq b ts sq

theorem pt_ssrc (bs : List (List Bytes)) (ts : UInt32) (sq : UInt16) :
    ∀ p ∈ writeAllOk W.write inc bs ts sq, p.pt = W.pt ∧ p.ssrc = W.ssrc :=
  writeAllOk_forall _ _ _ _ _ _ fun b _ ts sq => W.write_forall _ b ts sq (fun _ => ⟨rfl, rfl⟩)
    (fun _ _ _ _ _ _ _ => ⟨rfl, rfl⟩)

theorem piece_ts (bs : List (List Bytes)) (ts : UInt32) (sq : UInt16) :
    AllTs (piecePkts W.write inc bs ts sq) (pieceTs inc bs ts) :=
  piecePkts_ts _ _ _ _ _ fun b _ ts sq => W.write_forall _ b ts sq (fun _ => rfl) (fun _ _ _ _ _ _ _ => rfl)

theorem piece_markers (hm : W.allMarked = false) (hav : 0 < W.avail)
    (hpos : ∀ f, ¬ W.len [f] < W.max → 0 < f.length) (bs : List (List Bytes)) (ts : UInt32) (sq : UInt16) :
    ∀ ps ∈ piecePkts W.write inc bs ts sq, ∃ n, ps.map (·.marker) = List.replicate n false ++ [true] :=
  piecePkts_forall _ _ _ _ _ _ fun b _ ts sq => W.write_markers hm hav hpos b ts sq

/-- a group within the limit is ONE batch, written as ONE packet (`h1`: a single unit that is not
aggregated is exactly one fragment long); `hr`, `C` in the form the codecs' `run_batch` have them -/
theorem fits_single {δ : Type} {step : δ → Pkt → δ × DecRes (List Bytes)}
    {run : δ → List Pkt → δ × List (DecRes (List Bytes))} (hrun : Runs step run) (C : δ → Prop) (fs : List Bytes)
    (ts : UInt32) (sq : UInt16) (d : δ) (hfits : ∀ b f, fits b f = true ↔ W.len (b ++ [f]) ≤ W.max)
    (hmono : ∀ pre au post, W.len (pre ++ [au]) ≤ W.len (pre ++ au :: post)) (hfit : W.len fs ≤ W.max)
    (h1 : ∀ f, fs = [f] → ¬ W.len [f] < W.max → 0 < W.avail ∧ f.length = W.avail)
    (hr : ∃ d' n, run d (W.write fs ts sq) = (d', List.replicate n .more ++ [.ok fs]) ∧ C d') :
    ∃ q d', writeAllOk W.write inc (batches fits fs []) ts sq = [q] ∧ q.ts = ts ∧ q.marker = true ∧
      run d [q] = (d', [.ok fs]) ∧ C d' := by
  obtain ⟨d', n, hr, hC⟩ := hr
  obtain ⟨q, hq, hts, hm⟩ := W.write_single fs ts sq h1
  rw [batches_all_fit fits fs [] fun pre au post hfs =>
      (hfits pre au).mpr (Nat.le_trans (hmono pre au post) (hfs ▸ hfit)),
    List.nil_append, writeAllOk, writeAllOk, List.append_nil, hq]
  rw [hq] at hr
  -- one packet, one answer
  have hn := hrun.length d [q]
  rw [hr, List.length_append, List.length_replicate] at hn
  obtain rfl : n = 0 := Nat.succ.inj hn
  exact ⟨q, d', rfl, hts, hm, hr, hC⟩

end Writer

/-- from `k + 1` packets to the `packetCount` the writers compute, when the last answer is a frame -/
theorem run_packetCount {δ β : Type} {run : δ → List Pkt → δ × List (DecRes β)}
    (mk : Bool → Bool → UInt16 → Nat → Bytes → Pkt) (avail : Nat) (hav : 0 < avail) (f : Bytes) (hf : 0 < f.length)
    (d : δ) (sq : UInt16) (w : β) (C : δ → Prop)
    (h : ∀ k, k * avail < f.length → f.length ≤ (k + 1) * avail →
      ∃ d' r, run d (frags mk avail (k + 1) true sq 0 f) = (d', List.replicate k .more ++ [r]) ∧ r = .ok w ∧ C d') :
    ∃ d' n, run d (frags mk avail (packetCount avail f.length) true sq 0 f)
      = (d', List.replicate n .more ++ [.ok w]) ∧ C d' := by
  obtain ⟨k, hk, hlo⟩ := ceilDiv_eq_succ f.length avail hav hf
  obtain ⟨d', _, h1, rfl, h3⟩ := h k hlo (hk ▸ ceilDiv_upper _ _ hav)
  exact ⟨d', k, by rw [packetCount_eq, hk]; exact h1, h3⟩

theorem batches_valid (fits) (P : Bytes → Prop) (fs : List Bytes) (hne : fs ≠ []) (hv : ∀ f ∈ fs, P f) :
    ∀ b ∈ batches fits fs [], b ≠ [] ∧ ∀ f ∈ b, P f :=
  fun b hb => ⟨batches_nil_ne_nil _ fs hne b hb, fun f hfb => hv f (batches_mem _ fs b hb f hfb)⟩

/-- round trip of a group from that of one batch (`hb`, in the form the codecs' `run_batch` have it; `C`: what a
batch leaves): the decoder returns exactly the batches, so their concatenation is the group -/
theorem run_group {δ : Type} {step : δ → Pkt → δ × DecRes (List Bytes)}
    {run : δ → List Pkt → δ × List (DecRes (List Bytes))} (hr : Runs step run) (C : δ → Prop) (fits w inc)
    (P : Bytes → Prop) (fs : List Bytes) (hne : fs ≠ []) (hv : ∀ f ∈ fs, P f) (ts : UInt32) (sq : UInt16) (d : δ)
    (hb : ∀ b, b ≠ [] → (∀ f ∈ b, P f) → ∀ ts sq d, ∃ d' n, run d (w b ts sq)
        = (d', List.replicate n .more ++ [.ok b]) ∧ C d') :
    ∃ d' outs, run d (writeAllOk w inc (batches fits fs []) ts sq) = (d', outs) ∧ C d' ∧
      OnlyOkMore outs ∧ okFrames outs = batches fits fs [] ∧ (okFrames outs).flatten = fs := by
  obtain ⟨d', outs, h1, _, hcl, h3, h4⟩ := run_writeAllOk hr (fun _ => True) C (fun _ _ => trivial) w inc _ ts sq d
    trivial fun b hbm ts sq d _ =>
      have ⟨hbn, hbv⟩ := batches_valid fits P fs hne hv b hbm
      hb b hbn hbv ts sq d
  exact ⟨d', outs, h1, hcl (batches_ne_nil _ _ _), h4, h3, by rw [h3, batches_flatten]; rfl⟩

end Rtsp.Codec.Audio
