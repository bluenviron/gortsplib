import Rtsp.Proofs.Codec.Av1Leb
/-
The AV1 decoder on arbitrary packets, one exit of each stage at a time; from that the stages keep the state
invariant (C08), and the independence of the fragment stage and the frame buffer (`Dec.withB`).
-/
namespace Rtsp.Codec.Av1
open Rtsp.Rtp Rtsp.Facts Rtsp.Codec.Av1Vp

theorem lebDecF_consumed (fuel i acc : Nat) (buf : Bytes) (n v : Nat)
    (h : lebDecF fuel i acc buf = some (n, v)) : n ≤ i + buf.length ∧ (0 < fuel → i < n) := by
  induction fuel generalizing i acc buf with
  | zero => simp [lebDecF] at h; omega
  | succ fuel ih =>
    cases buf with
    | nil => simp [lebDecF] at h
    | cons b rest =>
      simp only [lebDecF] at h
      split at h
      · simp at h; simp only [List.length_cons]; omega
      · have := ih _ _ _ h
        simp only [List.length_cons]
        cases fuel with
        | zero => simp [lebDecF] at h; omega
        | succ f => have := this.2 (by omega); omega

theorem lebDec_consumed (buf : Bytes) (n v : Nat) (h : lebDec buf = some (n, v)) : 0 < n ∧ n ≤ buf.length := by
  have := lebDecF_consumed _ _ _ _ _ _ h
  simp only [CodecAv1vp.av1LebUnmarshalMaxBytes] at this
  omega

theorem parseObus_pieces (w fuel : Nat) (payload : Bytes) (acc obus : List Bytes)
    (h : parseObus w fuel payload acc = some obus) :
    ∃ more, obus = acc ++ more ∧ (∀ x ∈ more, 0 < x.length) ∧ totalLen more ≤ payload.length ∧
      (0 < payload.length → 0 < fuel → more ≠ []) := by
  induction fuel generalizing payload acc with
  | zero => cases h; exact ⟨[], by simp, by simp, by simp, fun _ h => absurd h (Nat.lt_irrefl 0)⟩
  | succ fuel ih =>
    rw [parseObus] at h
    by_cases he : payload.isEmpty = true
    · rw [if_pos he] at h; cases h
      rw [List.isEmpty_iff.mp he]
      exact ⟨[], by simp, by simp, by simp, fun h _ => absurd h (Nat.lt_irrefl 0)⟩
    rw [if_neg he] at h
    have hpos : 0 < payload.length := by cases payload with | nil => exact absurd rfl he | cons a t => simp
    by_cases hc : w = 0 ∨ acc.length < w - 1
    · rw [if_pos hc] at h
      cases hd : lebDec payload with
      | none => rw [hd] at h; cases h
      | some r =>
        obtain ⟨n, size⟩ := r
        have hn := lebDec_consumed _ _ _ hd
        rw [hd] at h
        dsimp only at h
        by_cases hb : size = 0 ∨ (payload.drop n).length < size
        · rw [if_pos hb] at h; cases h
        rw [if_neg hb] at h
        obtain ⟨more, h1, h2, h3, _⟩ := ih _ _ h
        refine ⟨(payload.drop n).take size :: more, by rw [h1, List.append_assoc]; rfl, ?_, ?_, fun _ _ => by simp⟩
        · intro x hx
          rcases List.mem_cons.mp hx with hx | hx
          · subst hx; simp only [List.length_take]; omega
          · exact h2 x hx
        · have := totalLen_cons ((payload.drop n).take size) more
          simp only [List.length_drop, List.length_take] at h3 hb this ⊢
          omega
    · rw [if_neg hc] at h; cases h
      exact ⟨[payload], rfl, by simpa using hpos, by simp, fun _ _ => by simp⟩

/-- the loop consumes at least one byte per round -/
theorem parseObus_fuel (w fuel : Nat) (payload : Bytes) (acc : List Bytes) (hf : payload.length ≤ fuel) :
    parseObus w (fuel + 1) payload acc = parseObus w fuel payload acc := by
  induction fuel generalizing payload acc with
  | zero =>
    have : payload = [] := List.eq_nil_of_length_eq_zero (by omega)
    subst this; simp [parseObus]
  | succ fuel ih =>
    conv => lhs; rw [parseObus]
    conv => rhs; rw [parseObus]
    by_cases he : payload.isEmpty = true
    · rw [if_pos he, if_pos he]
    rw [if_neg he, if_neg he]
    by_cases hc : w = 0 ∨ acc.length < w - 1
    · rw [if_pos hc, if_pos hc]
      cases hd : lebDec payload with
      | none => rfl
      | some r =>
        obtain ⟨n, size⟩ := r
        have hn := lebDec_consumed _ _ _ hd
        dsimp only
        by_cases hb : size = 0 ∨ (payload.drop n).length < size
        · rw [if_pos hb, if_pos hb]
        · rw [if_neg hb, if_neg hb]
          exact ih _ _ (by simp only [List.length_drop]; omega)
    · rw [if_neg hc, if_neg hc]
/-- state invariant, relative to a bound `P` on the payload size of the packets of the history.  The
fragment list and the frame buffer are capped separately by the code: the first fragment of an OBU is
stored unchecked (≤ one packet), later ones only while the OBU stays within `MaxTemporalUnitSize`;
the frame buffer never exceeds `MaxTemporalUnitSize` bytes and `MaxOBUsPerTemporalUnit` OBUs. -/
structure Inv (P : Nat) (d : Dec) : Prop where
  frag_eq : d.fragmentsSize = totalLen d.fragments
  frag_le : d.fragmentsSize ≤ CodecAv1vp.av1MaxTemporalUnitSize + P
  fb_eq   : d.frameBufferSize = totalLen d.frameBuffer
  fb_len  : d.frameBufferLen = d.frameBuffer.length
  fb_le   : d.frameBufferSize ≤ CodecAv1vp.av1MaxTemporalUnitSize
  fb_cnt  : d.frameBufferLen ≤ CodecAv1vp.av1MaxOBUsPerTemporalUnit
  frag_ne : ∀ x ∈ d.fragments, 0 < x.length

theorem inv_resetFragments (P : Nat) (d : Dec) (h : Inv P d) : Inv P d.resetFragments :=
  ⟨rfl, by simp [Dec.resetFragments], h.fb_eq, h.fb_len, h.fb_le, h.fb_cnt, by simp [Dec.resetFragments]⟩

theorem inv_resetFrameBuffer (P : Nat) (d : Dec) (h : Inv P d) : Inv P d.resetFrameBuffer :=
  ⟨h.frag_eq, h.frag_le, rfl, rfl, by simp [Dec.resetFrameBuffer], by simp [Dec.resetFrameBuffer], h.frag_ne⟩

theorem inv_first (P : Nat) (d : Dec) (b : Bool) (h : Inv P d) : Inv P { d with firstPacketReceived := b } :=
  ⟨h.frag_eq, h.frag_le, h.fb_eq, h.fb_len, h.fb_le, h.fb_cnt, h.frag_ne⟩

theorem getLastD_mem_or (xs : List Bytes) : xs.getLastD [] = [] ∨ xs.getLastD [] ∈ xs := by
  cases xs with
  | nil => left; rfl
  | cons a t => right; rw [List.getLastD_cons]; exact List.getLastD_mem_cons

theorem holdLast_y0 (d : Dec) (p : Pkt) (obus : List Bytes) : holdLast d p false obus = (d, .ok obus) := rfl

theorem holdLast_y1 (d : Dec) (p : Pkt) (obus : List Bytes) :
    holdLast d p true obus =
      ({ d with fragmentsSize := (obus.getLastD []).length, fragments := d.fragments ++ [obus.getLastD []],
                nextSeq := p.seq + 1 },
       if obus.dropLast.isEmpty then .error .more else .ok obus.dropLast) := by
  unfold holdLast
  rw [if_pos rfl]
  dsimp only
  split <;> rfl

theorem afterParse_z0 (d : Dec) (p : Pkt) (y : Bool) (obus : List Bytes) :
    afterParse d p false y obus = holdLast ({ d with firstPacketReceived := true }).resetFragments p y obus := rfl

theorem afterParse_nofrag (d : Dec) (p : Pkt) (y : Bool) (obus : List Bytes) (h0 : d.fragmentsSize = 0) :
    afterParse d p true y obus = (d, .error (if !d.firstPacketReceived then .nonStart else .err)) := by
  unfold afterParse
  rw [if_pos rfl, if_pos h0]

theorem afterParse_drop (d : Dec) (p : Pkt) (y : Bool) (obus : List Bytes) (h0 : d.fragmentsSize ≠ 0)
    (h : ¬ (p.seq = d.nextSeq ∧
      d.fragmentsSize + (obus.headD []).length ≤ CodecAv1vp.av1MaxTemporalUnitSize)) :
    afterParse d p true y obus = (({ d with firstPacketReceived := true }).resetFragments, .error .err) := by
  unfold afterParse
  rw [if_pos rfl, if_neg h0]
  dsimp only
  by_cases hs : p.seq = d.nextSeq
  · rw [if_neg (fun h => h hs), if_pos (Nat.lt_of_not_le fun hc => h ⟨hs, hc⟩)]
  · rw [if_pos hs]

theorem afterParse_cont (d : Dec) (p : Pkt) (y : Bool) (obus : List Bytes) (h0 : d.fragmentsSize ≠ 0)
    (hs : p.seq = d.nextSeq)
    (hc : d.fragmentsSize + (obus.headD []).length ≤ CodecAv1vp.av1MaxTemporalUnitSize) :
    afterParse d p true y obus =
      if obus.length = 1 ∧ y then
        ({ d with firstPacketReceived := true, fragmentsSize := d.fragmentsSize + (obus.headD []).length,
                  fragments := d.fragments ++ [obus.headD []], nextSeq := d.nextSeq + 1 }, .error .more)
      else
        holdLast { d with firstPacketReceived := true, fragmentsSize := 0, fragments := [], nextSeq := d.nextSeq + 1 }
          p y (joinFragments (d.fragments ++ [obus.headD []]) (d.fragmentsSize + (obus.headD []).length) :: obus.tail) := by
  unfold afterParse
  rw [if_pos rfl, if_neg h0]
  dsimp only
  rw [if_neg (fun h => h hs), if_neg (by omega)]
  rfl
theorem afterParse_elim {motive : Dec × Except Fail (List Bytes) → Prop} (d : Dec) (p : Pkt) (z y : Bool)
    (obus : List Bytes)
    (hz0 : z = false → motive (holdLast ({ d with firstPacketReceived := true }).resetFragments p y obus))
    (hnofrag : z = true → d.fragmentsSize = 0 →
      motive (d, .error (if !d.firstPacketReceived then .nonStart else .err)))
    (hdrop : z = true → d.fragmentsSize ≠ 0 →
      ¬ (p.seq = d.nextSeq ∧ d.fragmentsSize + (obus.headD []).length ≤ CodecAv1vp.av1MaxTemporalUnitSize) →
      motive (({ d with firstPacketReceived := true }).resetFragments, .error .err))
    (hmore : z = true → d.fragmentsSize ≠ 0 → p.seq = d.nextSeq →
      d.fragmentsSize + (obus.headD []).length ≤ CodecAv1vp.av1MaxTemporalUnitSize → obus.length = 1 → y = true →
      motive ({ d with firstPacketReceived := true, fragmentsSize := d.fragmentsSize + (obus.headD []).length,
                       fragments := d.fragments ++ [obus.headD []], nextSeq := d.nextSeq + 1 }, .error .more))
    (hjoin : z = true → d.fragmentsSize ≠ 0 → p.seq = d.nextSeq →
      d.fragmentsSize + (obus.headD []).length ≤ CodecAv1vp.av1MaxTemporalUnitSize → ¬ (obus.length = 1 ∧ y) →
      motive (holdLast { d with firstPacketReceived := true, fragmentsSize := 0, fragments := [],
                                nextSeq := d.nextSeq + 1 } p y
        (joinFragments (d.fragments ++ [obus.headD []]) (d.fragmentsSize + (obus.headD []).length) :: obus.tail))) :
    motive (afterParse d p z y obus) := by
  cases z
  · exact hz0 rfl
  by_cases h0 : d.fragmentsSize = 0
  · rw [afterParse_nofrag d p y obus h0]; exact hnofrag rfl h0
  by_cases h : p.seq = d.nextSeq ∧ d.fragmentsSize + (obus.headD []).length ≤ CodecAv1vp.av1MaxTemporalUnitSize
  · rw [afterParse_cont d p y obus h0 h.1 h.2]
    split
    · rename_i h1; exact hmore rfl h0 h.1 h.2 h1.1 h1.2
    · rename_i h1; exact hjoin rfl h0 h.1 h.2 h1
  · rw [afterParse_drop d p y obus h0 h]; exact hdrop rfl h0 h

/-- `d` with the frame buffer of `b`.  `decodeOBUs` neither reads nor writes the frame buffer, `pushFrame` nothing
else: the `_withB` lemmas say so, stage by stage. -/
def Dec.withB (d b : Dec) : Dec :=
  { d with frameBuffer := b.frameBuffer, frameBufferLen := b.frameBufferLen, frameBufferSize := b.frameBufferSize }

theorem holdLast_withB (d b : Dec) (p : Pkt) (y : Bool) (obus : List Bytes) :
    holdLast (d.withB b) p y obus = ((holdLast d p y obus).1.withB b, (holdLast d p y obus).2) := by
  cases y
  · rfl
  · rw [holdLast_y1, holdLast_y1]; rfl

theorem afterParse_withB (d b : Dec) (p : Pkt) (z y : Bool) (obus : List Bytes) :
    afterParse (d.withB b) p z y obus = ((afterParse d p z y obus).1.withB b, (afterParse d p z y obus).2) := by
  refine afterParse_elim (motive := fun r => afterParse (d.withB b) p z y obus = (r.1.withB b, r.2)) d p z y obus
    ?_ ?_ ?_ ?_ ?_
  · intro hz; subst hz; exact holdLast_withB ({ d with firstPacketReceived := true }).resetFragments b p y obus
  · intro hz h0; subst hz; exact afterParse_nofrag (d.withB b) p y obus h0
  · intro hz h0 hn; subst hz; exact afterParse_drop (d.withB b) p y obus h0 hn
  · intro hz h0 hs hc hl hy; subst hz
    rw [afterParse_cont (d.withB b) p y obus h0 hs hc, if_pos ⟨hl, hy⟩]; rfl
  · intro hz h0 hs hc hl; subst hz
    rw [afterParse_cont (d.withB b) p y obus h0 hs hc, if_neg hl]
    exact holdLast_withB { d with firstPacketReceived := true, fragmentsSize := 0, fragments := [],
                                  nextSeq := d.nextSeq + 1 } b p y _

theorem holdLast_inv (P : Nat) (d : Dec) (p : Pkt) (y : Bool) (obus : List Bytes)
    (h : Inv P d) (hfr : d.fragments = []) (hne : obus ≠ [])
    (hl : ∀ x ∈ obus, 0 < x.length ∧ x.length ≤ CodecAv1vp.av1MaxTemporalUnitSize + P) :
    Inv P (holdLast d p y obus).1 := by
  cases y
  · exact h
  · have hmem : obus.getLastD [] ∈ obus := by
      cases obus with
      | nil => exact absurd rfl hne
      | cons a t => rw [List.getLastD_cons]; exact List.getLastD_mem_cons
    have hlast := hl _ hmem
    rw [holdLast_y1]
    exact ⟨by simp [hfr], hlast.2, h.fb_eq, h.fb_len, h.fb_le, h.fb_cnt,
      by intro x hx; simp only [hfr, List.nil_append, List.mem_singleton] at hx; subst hx; exact hlast.1⟩

theorem afterParse_inv (P : Nat) (d : Dec) (p : Pkt) (z y : Bool) (obus : List Bytes) (h : Inv P d)
    (hne : obus ≠ []) (hall : ∀ x ∈ obus, 0 < x.length ∧ x.length ≤ P) : Inv P (afterParse d p z y obus).1 := by
  have hhead : obus.headD [] ∈ obus := by
    cases obus with
    | nil => exact absurd rfl hne
    | cons a t => simp
  have hreset := inv_resetFragments P _ (inv_first P d true h)
  refine afterParse_elim (motive := fun r => Inv P r.1) d p z y obus ?_ (fun _ _ => h) (fun _ _ _ => hreset) ?_ ?_
  · intro _
    exact holdLast_inv P _ p y obus hreset rfl hne fun x hx => by have := hall x hx; omega
  · intro _ _ _ hc _ _
    exact ⟨by simp [h.frag_eq], by simp only; omega, h.fb_eq, h.fb_len, h.fb_le, h.fb_cnt,
      pos_snoc _ _ h.frag_ne (hall _ hhead).1⟩
  · intro _ _ _ hc _
    refine holdLast_inv P _ p y _ ⟨rfl, Nat.zero_le _, h.fb_eq, h.fb_len, h.fb_le, h.fb_cnt, by simp⟩ rfl (by simp) ?_
    intro x hx
    rcases List.mem_cons.mp hx with hx | hx
    · subst hx; rw [joinFragments_length]; omega
    · have := hall x (List.mem_of_mem_tail hx); omega

/-- which exit of `decodeOBUs` is taken depends on the packet alone: hence a motive over the function of
the decoder state -/
theorem decodeOBUs_elim {motive : (Dec → Dec × Except Fail (List Bytes)) → Prop} (p : Pkt)
    (herr : motive fun d => (d, .error .err))
    (hreset : motive fun d => (d.resetFragments, .error .err))
    (hparsed : ∀ (z y : Bool) (obus : List Bytes), obus ≠ [] → (∀ x ∈ obus, 0 < x.length) →
      totalLen obus + 1 ≤ p.payload.length → motive fun d => afterParse d p z y obus) :
    motive fun d => decodeOBUs d p := by
  by_cases hlen : p.payload.length < 2
  · have e : (fun d => decodeOBUs d p) = fun d => (d, .error .err) := by
      funext d; unfold decodeOBUs; rw [if_pos hlen]
    exact e ▸ herr
  cases hparse : parseObus ((p.payload.headD 0 >>> 4) &&& 3).toNat p.payload.tail.length p.payload.tail [] with
  | none =>
    have e : (fun d => decodeOBUs d p) = fun d => (d.resetFragments, .error .err) := by
      funext d; unfold decodeOBUs; rw [if_neg hlen]; dsimp only; rw [hparse]
    exact e ▸ hreset
  | some obus =>
    by_cases hw : ((p.payload.headD 0 >>> 4) &&& 3).toNat ≠ 0 ∧ obus.length ≠ ((p.payload.headD 0 >>> 4) &&& 3).toNat
    · have e : (fun d => decodeOBUs d p) = fun d => (d, .error .err) := by
        funext d; unfold decodeOBUs; rw [if_neg hlen]; dsimp only; rw [hparse]; dsimp only; rw [if_pos hw]
      exact e ▸ herr
    · have e : (fun d => decodeOBUs d p) =
          fun d => afterParse d p (tb (p.payload.headD 0) 0x80) (tb (p.payload.headD 0) 0x40) obus := by
        funext d; unfold decodeOBUs; rw [if_neg hlen]; dsimp only; rw [hparse]; dsimp only; rw [if_neg hw]
      obtain ⟨more, hobus, hpos, htot, hnn⟩ := parseObus_pieces _ _ _ _ _ hparse
      rw [List.nil_append] at hobus
      subst hobus
      rw [List.length_tail] at htot hnn
      exact e ▸ hparsed _ _ obus (hnn (by omega) (by omega)) hpos (by omega)

theorem decodeOBUs_inv (P : Nat) (d : Dec) (p : Pkt) (h : Inv P d) (hp : p.payload.length ≤ P) :
    Inv P (decodeOBUs d p).1 := by
  refine decodeOBUs_elim (motive := fun f => ∀ d, Inv P d → Inv P (f d).1) p (fun _ h => h)
    (fun d h => inv_resetFragments P d h) ?_ d h
  intro z y obus hne hpos htot d h
  refine afterParse_inv P d p z y obus h hne fun x hx => ⟨hpos x hx, ?_⟩
  have := mem_length_le_totalLen hx
  omega

theorem decodeOBUs_withB (d b : Dec) (p : Pkt) :
    decodeOBUs (d.withB b) p = ((decodeOBUs d p).1.withB b, (decodeOBUs d p).2) :=
  decodeOBUs_elim (motive := fun f => ∀ d b : Dec, f (d.withB b) = ((f d).1.withB b, (f d).2)) p
    (fun _ _ => rfl) (fun _ _ => rfl) (fun z y obus _ _ _ d b => afterParse_withB d b p z y obus) d b

theorem decodeOBUs_fb (d : Dec) (p : Pkt) :
    (decodeOBUs d p).1.frameBuffer = d.frameBuffer ∧ (decodeOBUs d p).1.frameBufferLen = d.frameBufferLen ∧
    (decodeOBUs d p).1.frameBufferSize = d.frameBufferSize := by
  have h : (decodeOBUs d p).1 = (decodeOBUs d p).1.withB d := congrArg Prod.fst (decodeOBUs_withB d d p)
  rw [h]; exact ⟨rfl, rfl, rfl⟩

theorem pushFrame_ok (d : Dec) (m : Bool) (obus : List Bytes)
    (h1 : d.frameBufferLen + obus.length ≤ CodecAv1vp.av1MaxOBUsPerTemporalUnit)
    (h2 : d.frameBufferSize + totalLen obus ≤ CodecAv1vp.av1MaxTemporalUnitSize) :
    pushFrame d m obus =
      if m then ({ d with frameBuffer := [], frameBufferLen := 0, frameBufferSize := 0 }, .ok (d.frameBuffer ++ obus))
      else ({ d with frameBuffer := d.frameBuffer ++ obus, frameBufferLen := d.frameBufferLen + obus.length,
                     frameBufferSize := d.frameBufferSize + totalLen obus }, .more) := by
  have a1 : ¬ d.frameBufferLen + obus.length > CodecAv1vp.av1MaxOBUsPerTemporalUnit := by omega
  have a2 : ¬ d.frameBufferSize + totalLen obus > CodecAv1vp.av1MaxTemporalUnitSize := by omega
  unfold pushFrame
  simp only [a1, a2, if_false, Dec.resetFrameBuffer]
  cases m <;> simp

theorem pushFrame_over (d : Dec) (m : Bool) (obus : List Bytes)
    (h : ¬ (d.frameBufferLen + obus.length ≤ CodecAv1vp.av1MaxOBUsPerTemporalUnit ∧
            d.frameBufferSize + totalLen obus ≤ CodecAv1vp.av1MaxTemporalUnitSize)) :
    pushFrame d m obus = (d.resetFrameBuffer, .err) := by
  unfold pushFrame
  dsimp only
  by_cases h1 : d.frameBufferLen + obus.length > CodecAv1vp.av1MaxOBUsPerTemporalUnit
  · rw [if_pos h1]
  · rw [if_neg h1, if_pos (by omega)]

theorem pushFrame_withB (d b : Dec) (m : Bool) (obus : List Bytes) :
    pushFrame (d.withB b) m obus = (d.withB (pushFrame b m obus).1, (pushFrame b m obus).2) := by
  by_cases hc : b.frameBufferLen + obus.length ≤ CodecAv1vp.av1MaxOBUsPerTemporalUnit ∧
      b.frameBufferSize + totalLen obus ≤ CodecAv1vp.av1MaxTemporalUnitSize
  · rw [pushFrame_ok b m obus hc.1 hc.2, pushFrame_ok (d.withB b) m obus hc.1 hc.2]; cases m <;> rfl
  · rw [pushFrame_over b m obus hc, pushFrame_over (d.withB b) m obus hc]; rfl

/-- the frame-level half of a clean state -/
def FbEmpty (d : Dec) : Prop := d.frameBuffer = [] ∧ d.frameBufferLen = 0 ∧ d.frameBufferSize = 0

theorem pushFrame_frame (d : Dec) (m : Bool) (obus g : List Bytes) (h : (pushFrame d m obus).2 = .ok g) :
    m = true ∧ ∀ d' : Dec, FbEmpty (pushFrame d' true obus).1 := by
  refine ⟨?_, fun d' => ?_⟩
  · by_cases hc : d.frameBufferLen + obus.length ≤ CodecAv1vp.av1MaxOBUsPerTemporalUnit ∧
        d.frameBufferSize + totalLen obus ≤ CodecAv1vp.av1MaxTemporalUnitSize
    · rw [pushFrame_ok d m obus hc.1 hc.2] at h; cases m
      · cases h
      · rfl
    · rw [pushFrame_over d m obus hc] at h; cases h
  · by_cases hc : d'.frameBufferLen + obus.length ≤ CodecAv1vp.av1MaxOBUsPerTemporalUnit ∧
        d'.frameBufferSize + totalLen obus ≤ CodecAv1vp.av1MaxTemporalUnitSize
    · rw [pushFrame_ok d' true obus hc.1 hc.2]; exact ⟨rfl, rfl, rfl⟩
    · rw [pushFrame_over d' true obus hc]; exact ⟨rfl, rfl, rfl⟩

theorem decode_withB (d b : Dec) (p : Pkt) :
    ∃ b', (decode (d.withB b) p).1 = (decode d p).1.withB b' ∧ ((∃ f, (decode d p).2 = .ok f) → FbEmpty b') := by
  unfold decode
  rw [decodeOBUs_withB]
  cases decodeOBUs d p with
  | mk d1 r =>
    cases r with
    | error f => exact ⟨b, rfl, fun ⟨g, hg⟩ => by cases f <;> cases hg⟩
    | ok obus =>
      refine ⟨(pushFrame b p.marker obus).1, ?_, fun ⟨g, hg⟩ => ?_⟩
      · show (pushFrame (d1.withB b) p.marker obus).1 = (pushFrame (d1.withB d1) p.marker obus).1.withB _
        rw [pushFrame_withB, pushFrame_withB]; rfl
      · obtain ⟨hm, hemp⟩ := pushFrame_frame d1 p.marker obus g hg
        rw [hm]; exact hemp b

theorem runs : Runs decode runDec := ⟨fun _ => rfl, fun _ _ _ => rfl⟩

theorem runDec_withB (ps : List Pkt) (d b : Dec) :
    ∃ b', (runDec (d.withB b) ps).1 = (runDec d ps).1.withB b' ∧
      ((∃ f, (runDec d ps).2.getLast? = some (.ok f)) → FbEmpty b') := by
  induction ps generalizing d b with
  | nil => exact ⟨b, rfl, fun ⟨f, h⟩ => by cases h⟩
  | cons p ps ih =>
    obtain ⟨b1, h1, he1⟩ := decode_withB d b p
    cases ps with
    | nil => exact ⟨b1, by simp only [runDec, h1], fun ⟨f, h⟩ => he1 ⟨f, by simpa [runDec] using h⟩⟩
    | cons q t =>
      obtain ⟨b2, h2, he2⟩ := ih (decode d p).1 b1
      refine ⟨b2, by simp only [runDec, h1] at h2 ⊢; exact h2, fun ⟨f, h⟩ => he2 ⟨f, ?_⟩⟩
      simpa [runDec] using h

end Rtsp.Codec.Av1
