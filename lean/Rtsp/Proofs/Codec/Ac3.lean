import Rtsp.Model.Codec.Ac3
import Rtsp.Proofs.Codec.AudioWriter
/-
pkg/format/rtpac3: `frameSize` reads only the first five bytes, so it survives `++` and `take`; the encoder's
`writeBatch` is `Audio.Writer.write` (`AudioWriter`) of the two payload layouts (`writer`); the decoder has one case
rule (`decode_elim`).
-/
namespace Rtsp.Codec.Ac3
open Rtsp.Rtp Rtsp.Facts Rtsp.Codec.Audio

/-- largest frame: 1920 words -/
abbrev maxFrame : Nat := CodecAudio.ac3MaxFrameWords * 2

theorem table_bounds : ∀ code : Fin 38, ∀ fs : Fin 3,
    let row := frameSizes.getD code.val (0, 0, 0)
    let w := if fs.val = 0 then row.1 else if fs.val = 1 then row.2.1 else row.2.2
    64 ≤ w ∧ w ≤ 1920 := by decide

theorem frameSize_bounds (f : Bytes) (n : Nat) (h : frameSize f = some n) :
    5 ≤ f.length ∧ 128 ≤ n ∧ n ≤ maxFrame := by
  simp only [frameSize, Option.ite_none_left_eq_some, Option.some.injEq] at h
  obtain ⟨h5, -, hfs, hcode, rfl⟩ := h
  have hb := table_bounds ⟨_, Nat.not_le.mp hcode⟩ ⟨_, Nat.not_le.mp hfs⟩
  simp only at hb
  refine ⟨by omega, by omega, ?_⟩
  show _ ≤ 1920 * 2
  omega

theorem frameSize_congr (f g : Bytes) (h5 : 5 ≤ f.length) (h5' : 5 ≤ g.length)
    (h : ∀ i, i < 5 → f.getD i 0 = g.getD i 0) : frameSize f = frameSize g := by
  unfold frameSize
  have a : ¬ f.length < 5 := by omega
  have b : ¬ g.length < 5 := by omega
  simp only [a, b, ↓reduceIte, h 0 (by omega), h 1 (by omega), h 4 (by omega)]

theorem frameSize_append (f r : Bytes) (h5 : 5 ≤ f.length) : frameSize (f ++ r) = frameSize f := by
  apply frameSize_congr _ _ (by simp; omega) h5
  intro i hi
  simp [List.getD_eq_getElem?_getD, List.getElem?_append_left (show i < f.length by omega)]

theorem frameSize_take (f : Bytes) (k : Nat) (h5 : 5 ≤ f.length) (hk : 5 ≤ k) :
    frameSize (f.take k) = frameSize f := by
  apply frameSize_congr _ _ (by simp [List.length_take]; omega) h5
  intro i hi
  simp [List.getD_eq_getElem?_getD, show i < k by omega]

/-- the two payload layouts (RFC 4184): FT 0 and the frame count before whole frames; on a fragment
FT 1 / 2 (does the first fragment hold 5/8 of the frame?) or 3, and the fragment count.
`4` is `CodecAudio.ac3FragReserveBytes` (by `rfl`); the literal keeps `omega` usable downstream -/
def writer (c : EncCfg) : Writer where
  max := c.max
  avail := c.max - 4
  len b := lenAggregated b none
  pt := c.pt
  ssrc := c.ssrc
  allMarked := false
  aggPayload b := [0, UInt8.ofNat b.length] ++ b.flatten
  fragPayload f first _ ch :=
    [if first then (if c.max - 4 ≥ f.length * 5 / 8 then 1 else 2) else 3,
     UInt8.ofNat (packetCount (c.max - 4) f.length)] ++ ch

theorem emitFrag_eq (c : EncCfg) (ts : UInt32) (f : Bytes) (n : Nat) (first : Bool) (sq : UInt16) (pos : Nat)
    (rest : Bytes) :
    emitFrag c ts (c.max - 4) (UInt8.ofNat (packetCount (c.max - 4) f.length)) n sq
        (if first then (if c.max - 4 ≥ f.length * 5 / 8 then 1 else 2) else 3) rest =
      frags ((writer c).frag f ts) (c.max - 4) n first sq pos rest := by
  induction n using frags_ind generalizing first sq pos rest with
  | h0 => rfl
  | h1 => rfl
  | h2 n ih => simp only [emitFrag, frags]; rw [← ih false]; rfl

theorem writeBatch_eq (c : EncCfg) : writeBatch c = (writer c).write := by
  funext b ts sq
  match b with
  | [f] => exact ite_congr rfl (fun _ => rfl) (fun _ => emitFrag_eq c ts f _ true sq 0 f)
  | [] => rfl
  | _ :: _ :: _ => rfl

theorem writeBatch_cases (c : EncCfg) (b : List Bytes) (ts : UInt32) (sq : UInt16) :
    (writeBatch c b ts sq = writeAggregated c b ts sq ∧ (b.length = 1 → lenAggregated b none < c.max)) ∨
    ∃ f, b = [f] ∧ ¬ lenAggregated [f] none < c.max ∧ writeBatch c b ts sq = writeFragmented c f ts sq := by
  rw [writeBatch_eq]
  exact ((writer c).write_cases b ts sq).imp id fun ⟨f, hb, hge, h⟩ => ⟨f, hb, hge, h.trans (emitFrag_eq c ts f _ true sq 0 f).symm⟩

theorem splitFrames_cases (d : Dec) (fuel : Nat) (buf : Bytes) (fr : List Bytes)
    (hfr : ∀ f ∈ fr, f.length ≤ maxFrame) :
    splitFrames d fuel buf fr = (d, .err) ∨
    ∃ out, splitFrames d fuel buf fr = (d, .ok out) ∧ ∀ f ∈ out, f.length ≤ maxFrame := by
  induction fuel generalizing buf fr with
  | zero => exact Or.inl rfl
  | succ n ih =>
    rw [splitFrames]
    cases hs : frameSize buf with
    | none => exact Or.inl rfl
    | some size =>
      have hb := frameSize_bounds buf size hs
      simp only
      by_cases hlt : buf.length < size
      · rw [if_pos hlt]; exact Or.inl rfl
      · rw [if_neg hlt]
        have hfr' : ∀ f ∈ fr ++ [buf.take size], f.length ≤ maxFrame := by
          intro f hf
          simp only [List.mem_append, List.mem_singleton] at hf
          rcases hf with hf | rfl
          · exact hfr f hf
          · rw [List.length_take]; omega
        by_cases h0 : (buf.drop size).length = 0
        · rw [if_pos h0]; exact Or.inr ⟨_, rfl, hfr'⟩
        · rw [if_neg h0]; exact ih _ _ hfr'

theorem splitFrames_valid (d : Dec) (fs : List Bytes) (fr : List Bytes) (fuel : Nat) (hne : fs ≠ [])
    (hv : ∀ f ∈ fs, frameSize f = some f.length) (hfuel : fs.flatten.length < fuel) :
    splitFrames d fuel fs.flatten fr = (d, .ok (fr ++ fs)) := by
  induction fs generalizing fr fuel with
  | nil => exact absurd rfl hne
  | cons f rest ih =>
    have hf := hv f (by simp)
    have hb := frameSize_bounds f f.length hf
    have hlen : (f :: rest).flatten.length = f.length + rest.flatten.length := by simp
    match fuel, hfuel with
    | fuel + 1, hfuel =>
      simp only [List.flatten_cons, splitFrames, frameSize_append f _ hb.1, hf]
      have h1 : ¬ (f ++ rest.flatten).length < f.length := by simp
      simp only [h1, ↓reduceIte, List.take_left', List.drop_left']
      by_cases hr : rest = []
      · subst hr; simp
      · have hpos : rest.flatten.length ≠ 0 := by
          cases rest with
          | nil => exact absurd rfl hr
          | cons g rest' =>
            have hg := frameSize_bounds g g.length (hv g (by simp))
            have : (g :: rest').flatten.length = g.length + rest'.flatten.length := by simp
            omega
        simp only [hpos, ↓reduceIte]
        rw [ih (fr ++ [f]) fuel hr (fun x hx => hv x (by simp [hx])) (by omega)]
        simp

/-- one hypothesis per way out of `Decode`; `refuse` covers every error return that drops the
fragments (one of them after `fragmentsExpected` was already lowered, hence `e`; one in the frame loop,
after `firstPacketReceived` was set, hence `b`); `frames` is the other result of that loop (`splitFrames_cases`) -/
theorem decode_elim {motive : Dec × DecRes (List Bytes) → Prop} (d : Dec) (p : Pkt)
    (body : Bytes) (hbody : body = p.payload.drop 2)
    (refuse : ∀ (b : Bool) (e : Int), motive ({ d.reset with first := b, expected := e }, .err))
    (frames : ∀ out : List Bytes, (∀ f ∈ out, f.length ≤ maxFrame) →
      motive ({ d.reset with first := true }, .ok out))
    (start : ∀ size : Nat, frameSize body = some size →
      motive ({ first := true, fragments := [body], size := body.length,
                expected := (size : Int) - body.length, nextSeq := p.seq + 1 }, .more))
    (idle : ∀ r, d.size = 0 → (r = .nonStart ∨ r = .err) → motive (d, r))
    (more : d.size ≠ 0 → body.length ≠ 0 → 0 < d.expected - body.length →
      motive ({ d with fragments := d.fragments ++ [body], size := d.size + body.length,
                       expected := d.expected - body.length, nextSeq := d.nextSeq + 1 }, .more))
    (last : d.size ≠ 0 → body.length ≠ 0 → d.expected - body.length = 0 →
      motive ({ d with fragments := [], size := 0,
                       expected := d.expected - body.length, nextSeq := d.nextSeq + 1 },
              .ok [joinFragments (d.fragments ++ [body]) (d.size + body.length)])) :
    motive (decode d p) := by
  subst hbody
  -- `by_cases` / `rw [if_pos]` rather than `split`, which is slow on a chain of `if`s this deep
  unfold decode
  by_cases h1 : p.payload.length < 2
  · rw [if_pos h1]; exact refuse _ _
  rw [if_neg h1]
  extract_lets b0 ft body _ _ d1 d2
  by_cases h2 : b0 >>> 2 ≠ 0
  · rw [if_pos h2]; exact refuse _ _
  by_cases h3 : ft = 0
  · rw [if_neg h2, if_pos h3]
    rcases splitFrames_cases { d.reset with first := true } (body.length + 1) body [] (by simp) with h | ⟨out, h, hout⟩
    · rw [h]; exact refuse _ _
    · rw [h]; exact frames out hout
  by_cases h4 : ft = 1 ∨ ft = 2
  · rw [if_neg h2, if_neg h3, if_pos h4]
    cases hs : frameSize body with
    | none => exact refuse _ _
    | some size => exact start size hs
  rw [if_neg h2, if_neg h3, if_neg h4]
  by_cases hz : d.size = 0
  · rw [if_pos hz]
    cases d.first
    · exact idle _ hz (Or.inl rfl)
    · exact idle _ hz (Or.inr rfl)
  by_cases hq : p.seq ≠ d.nextSeq
  · rw [if_neg hz, if_pos hq]; exact refuse _ _
  by_cases hb : body.length = 0
  · rw [if_neg hz, if_neg hq, if_pos hb]; exact refuse _ _
  by_cases hn : d1.expected < 0
  · rw [if_neg hz, if_neg hq, if_neg hb, if_pos hn]; exact refuse _ _
  rw [if_neg hz, if_neg hq, if_neg hb, if_neg hn]
  by_cases hp : d2.expected > 0
  · rw [if_pos hp]; exact more hz hb hp
  · rw [if_neg hp]; exact last hz hb (Int.le_antisymm (Int.not_lt.mp hp) (Int.not_lt.mp hn))

end Rtsp.Codec.Ac3
