import Rtsp.Model.Codec.Av1VpCommon
import Rtsp.Proofs.Codec.Common
import Rtsp.Proofs.Common.Runs
/-
Shared by the AV1 / VP8 / VP9 proofs: the functions of the common model, reading a result list, and,
for VP8 / VP9, the round trip of any decoder that collects chunks sent behind per-packet descriptors.
-/
namespace Rtsp.Codec.Av1Vp
open Rtsp.Rtp

theorem joinFragments_exact (fs : List Bytes) : joinFragments fs (totalLen fs) = fs.flatten :=
  take_flatten_totalLen fs

theorem joinFragments_snoc (fs : List Bytes) (c : Bytes) (sz : Nat) (h : sz = totalLen fs) :
    joinFragments (fs ++ [c]) (sz + c.length) = fs.flatten ++ c :=
  take_flatten_snoc fs c sz h

theorem joinFragments_length (fs : List Bytes) (n : Nat) : (joinFragments fs n).length = n := by
  simp only [joinFragments, List.length_append, List.length_take, List.length_replicate]
  omega

theorem isEmpty_of_pos {x : Bytes} (h : 0 < x.length) : x.isEmpty = false := by
  cases x with | nil => simp at h | cons a t => rfl

theorem pos_snoc (xs : List Bytes) (c : Bytes) (h : ∀ x ∈ xs, 0 < x.length) (hc : 0 < c.length) :
    ∀ x ∈ xs ++ [c], 0 < x.length := by
  intro x hx
  rcases List.mem_append.mp hx with hx | hx
  · exact h x hx
  · rw [List.mem_singleton.mp hx]; exact hc

theorem chunks_nil (k fuel : Nat) : chunks k fuel [] = [] := by
  cases fuel <;> rfl

theorem chunks_cons (k fuel : Nat) (rest : Bytes) (h : 0 < rest.length) :
    chunks k (fuel + 1) rest = rest.take k :: chunks k fuel (rest.drop k) := by
  rw [chunks, isEmpty_of_pos h]; rfl

theorem chunks_flatten (k : Nat) (hk : 0 < k) (fuel : Nat) (rest : Bytes) (hf : rest.length ≤ fuel) :
    (chunks k fuel rest).flatten = rest := by
  induction fuel generalizing rest with
  | zero => rw [List.eq_nil_of_length_eq_zero (Nat.le_zero.mp hf)]; rfl
  | succ fuel ih =>
    by_cases h : 0 < rest.length
    · rw [chunks_cons k fuel rest h, List.flatten_cons, ih _ (by simp only [List.length_drop]; omega),
        List.take_append_drop]
    · rw [List.eq_nil_of_length_eq_zero (Nat.eq_zero_of_not_pos h), chunks_nil]; rfl

theorem chunks_mem (k : Nat) (hk : 0 < k) (fuel : Nat) (rest : Bytes) :
    ∀ x ∈ chunks k fuel rest, 0 < x.length ∧ x.length ≤ k := by
  induction fuel generalizing rest with
  | zero => intro x hx; cases hx
  | succ fuel ih =>
    by_cases h : 0 < rest.length
    · intro x hx
      rw [chunks_cons k fuel rest h] at hx
      rcases List.mem_cons.mp hx with hx | hx
      · rw [hx, List.length_take]; omega
      · exact ih _ x hx
    · rw [List.eq_nil_of_length_eq_zero (Nat.eq_zero_of_not_pos h), chunks_nil]; intro x hx; cases hx

theorem chunks_ne_nil (k fuel : Nat) (rest : Bytes) (h : 0 < rest.length) (hf : 0 < fuel) :
    chunks k fuel rest ≠ [] := by
  obtain ⟨fuel, rfl⟩ : ∃ n, fuel = n + 1 := ⟨fuel - 1, by omega⟩
  rw [chunks_cons k fuel rest h]
  exact List.cons_ne_nil _ _

theorem emit_cons (c : EncCfg) (sq : UInt16) (pl : Bytes) (rest : List Bytes) :
    emit c sq (pl :: rest) =
      { pt := c.pt, seq := sq, ssrc := c.ssrc, marker := rest.isEmpty, payload := pl } :: emit c (sq + 1) rest := by
  cases rest <;> rfl

theorem emit_length (c : EncCfg) (sq : UInt16) (pls : List Bytes) : (emit c sq pls).length = pls.length := by
  induction pls generalizing sq with
  | nil => rfl
  | cons a t ih => rw [emit_cons, List.length_cons, ih, List.length_cons]

theorem emit_payloads (c : EncCfg) (sq : UInt16) (pls : List Bytes) :
    (emit c sq pls).map (·.payload) = pls := by
  induction pls generalizing sq with
  | nil => rfl
  | cons a t ih => rw [emit_cons, List.map_cons, ih]

theorem emit_seq (c : EncCfg) (sq : UInt16) (pls : List Bytes) :
    (emit c sq pls).map (·.seq) = seqFrom sq pls.length := by
  induction pls generalizing sq with
  | nil => rfl
  | cons a t ih => rw [emit_cons, List.map_cons, ih, List.length_cons, seqFrom]

theorem emit_pt_ssrc (c : EncCfg) (sq : UInt16) (pls : List Bytes) :
    ∀ p ∈ emit c sq pls, p.pt = c.pt ∧ p.ssrc = c.ssrc := by
  induction pls generalizing sq with
  | nil => intro p hp; cases hp
  | cons a t ih =>
    intro p hp
    rw [emit_cons] at hp
    rcases List.mem_cons.mp hp with hp | hp
    · rw [hp]; exact ⟨rfl, rfl⟩
    · exact ih _ p hp

theorem emit_markers (c : EncCfg) (sq : UInt16) (pls : List Bytes) (h : pls ≠ []) :
    (emit c sq pls).map (·.marker) = List.replicate (pls.length - 1) false ++ [true] := by
  induction pls generalizing sq with
  | nil => exact absurd rfl h
  | cons a t ih =>
    rw [emit_cons, List.map_cons]
    cases t with
    | nil => rfl
    | cons b t => rw [ih (sq + 1) (List.cons_ne_nil _ _)]; rfl

theorem emit_payload_le (c : EncCfg) (sq : UInt16) (pls : List Bytes) (n : Nat)
    (h : ∀ x ∈ pls, x.length ≤ n) : ∀ p ∈ emit c sq pls, p.payload.length ≤ n := by
  intro p hp
  have : p.payload ∈ (emit c sq pls).map (·.payload) := List.mem_map_of_mem hp
  rw [emit_payloads] at this
  exact h _ this

/-- the frames a decoder returned, in order -/
def okFrames {α} : List (DecRes α) → List α
  | [] => []
  | .ok f :: t => f :: okFrames t
  | .more :: t => okFrames t
  | .nonStart :: t => okFrames t
  | .err :: t => okFrames t

/-- every answer is "more packets needed" or a frame: no error of any kind -/
def OnlyMoreOk {α} (rs : List (DecRes α)) : Prop := ∀ r ∈ rs, r = .more ∨ ∃ f, r = .ok f

/-- the payloads of a chunk list: `g first last c` is chunk `c` behind its descriptor -/
def tag (g : Bool → Bool → Bytes → Bytes) : Bool → List Bytes → List Bytes
  | _, [] => []
  | first, c :: cs => g first cs.isEmpty c :: tag g false cs

theorem tag_length (g : Bool → Bool → Bytes → Bytes) (first : Bool) (cs : List Bytes) :
    (tag g first cs).length = cs.length := by
  induction cs generalizing first with
  | nil => rfl
  | cons c cs ih => simp only [tag, List.length_cons, ih]

theorem mem_tag_false (g : Bool → Bool → Bytes → Bytes) (cs : List Bytes) (x : Bytes) (h : x ∈ tag g false cs) :
    ∃ l c, c ∈ cs ∧ x = g false l c := by
  induction cs with
  | nil => cases h
  | cons c cs ih =>
    rcases List.mem_cons.mp h with h | h
    · exact ⟨_, c, List.mem_cons_self, h⟩
    · obtain ⟨l, c', hc, hx⟩ := ih h
      exact ⟨l, c', List.mem_cons_of_mem _ hc, hx⟩

theorem tag_isEmpty (g : Bool → Bool → Bytes → Bytes) (first : Bool) (cs : List Bytes) :
    (tag g first cs).isEmpty = cs.isEmpty := by
  cases cs <;> rfl

/-- A decoder that collects chunks gives the frame back.  `Holds s fs sq`: the state holds the chunks
`fs` of an unfinished frame and expects sequence number `sq`; `hstart`: a first chunk restarts the
decoder from any state; `hcont`: a further chunk is appended. -/
theorem runWith_collect {σ : Type} {dec : σ → Pkt → σ × DecRes Bytes} {run : σ → List Pkt → σ × List (DecRes Bytes)}
    (hr : Runs dec run) (c : EncCfg)
    (g : Bool → Bool → Bytes → Bytes) (Holds : σ → List Bytes → UInt16 → Prop) (Done : σ → Prop) (cap : Nat)
    (hstart : ∀ s sq last x, 0 < x.length → x.length ≤ cap →
      ∃ s', dec s { pt := c.pt, seq := sq, ssrc := c.ssrc, marker := last, payload := g true last x }
          = (s', if last then .ok x else .more) ∧ if last then Done s' else Holds s' [x] (sq + 1))
    (hcont : ∀ s fs sq last x, Holds s fs sq → 0 < x.length → totalLen fs + x.length ≤ cap →
      ∃ s', dec s { pt := c.pt, seq := sq, ssrc := c.ssrc, marker := last, payload := g false last x }
          = (s', if last then .ok (fs.flatten ++ x) else .more) ∧
        if last then Done s' else Holds s' (fs ++ [x]) (sq + 1))
    (cs : List Bytes) (hne : cs ≠ []) (hpos : ∀ x ∈ cs, 0 < x.length) (hcap : totalLen cs ≤ cap)
    (s : σ) (sq : UInt16) :
    ∃ s', run s (emit c sq (tag g true cs))
        = (s', List.replicate (cs.length - 1) .more ++ [.ok cs.flatten]) ∧ Done s' := by
  -- the chunks `cs`, sent first (`fs = []`) or to a decoder that holds the earlier chunks `fs`
  suffices all : ∀ (cs : List Bytes) first (s : σ) (fs : List Bytes) (sq : UInt16), cs ≠ [] → (∀ x ∈ cs, 0 < x.length) →
      totalLen fs + totalLen cs ≤ cap → (if first then fs = [] else Holds s fs sq) →
      ∃ s', run s (emit c sq (tag g first cs))
          = (s', List.replicate (cs.length - 1) .more ++ [.ok (fs.flatten ++ cs.flatten)]) ∧ Done s' from
    all cs true s [] sq hne hpos (by simpa using hcap) rfl
  intro cs
  induction cs with
  | nil => intro _ _ _ _ h; exact absurd rfl h
  | cons x t ih =>
    intro first s fs sq _ hpos hcap hh
    have htl := totalLen_cons x t
    obtain ⟨s1, h1, h2⟩ : ∃ s',
        dec s { pt := c.pt, seq := sq, ssrc := c.ssrc, marker := t.isEmpty, payload := g first t.isEmpty x }
          = (s', if t.isEmpty then .ok (fs.flatten ++ x) else .more) ∧
        if t.isEmpty then Done s' else Holds s' (fs ++ [x]) (sq + 1) := by
      cases first with
      | true => cases hh; exact hstart s sq _ x (hpos x (by simp)) (by simp at hcap; omega)
      | false => exact hcont s fs sq _ x hh (hpos x (by simp)) (by omega)
    rw [tag, emit_cons, tag_isEmpty, hr.cons, h1]
    cases t with
    | nil => exact ⟨s1, by simp [tag, emit, hr.nil], h2⟩
    | cons y t =>
      obtain ⟨s', h3, h4⟩ := ih false s1 (fs ++ [x]) (sq + 1) (by simp) (fun z hz => hpos z (by simp [hz]))
        (by rw [totalLen_append, totalLen_singleton]; omega) h2
      refine ⟨s', ?_, h4⟩
      rw [h3]
      simp [List.replicate_succ]

end Rtsp.Codec.Av1Vp
