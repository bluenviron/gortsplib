import Rtsp.Model.Codec.H26xCommon
import Rtsp.Proofs.Codec.Common
/-
Decoder side of what H264 and H265 share (`splitNALUs`, the aggregation walk, fragment reassembly): what the
loops return, and that their fuel is never exhausted (the `_fuel` lemmas).
-/
namespace Rtsp.Codec.H26x
open Rtsp.Rtp

def AllNonempty (ns : List Bytes) : Prop := ∀ n ∈ ns, n ≠ []

theorem AllNonempty.append {a b : List Bytes} (ha : AllNonempty a) (hb : AllNonempty b) : AllNonempty (a ++ b) :=
  fun n hn => (List.mem_append.mp hn).elim (ha n) (hb n)

theorem AllNonempty.singleton {x : Bytes} (hx : x ≠ []) : AllNonempty [x] :=
  fun _ hn => List.mem_singleton.mp hn ▸ hx

theorem take_ne_nil {b : Bytes} {n : Nat} (h0 : n ≠ 0) (hn : n ≤ b.length) : b.take n ≠ [] :=
  fun h => by have := congrArg List.length h; rw [List.length_take, List.length_nil] at this; omega

theorem AllNonempty.length_le {xs : List Bytes} (h : AllNonempty xs) : xs.length ≤ totalLen xs :=
  length_le_totalLen xs fun x hx => List.length_pos_iff.mpr (h x hx)

theorem startsSC_length (b : Bytes) (h : startsSC b = true) : 3 ≤ b.length := by
  match b with
  | [] | [_] | [_, _] => cases h
  | _ :: _ :: _ :: _ => exact Nat.le_add_left 3 _

theorem findSC_some_le (b : Bytes) (i : Nat) (h : findSC b = some i) : i + 3 ≤ b.length := by
  fun_induction findSC b generalizing i with
  | case1 => cases h
  | case2 x xs hs => cases h; exact startsSC_length _ hs
  | case3 x xs hs ih =>
    obtain ⟨j, hj, rfl⟩ := Option.map_eq_some_iff.mp h
    exact Nat.succ_le_succ (ih j hj)

theorem pieceEnd_le (b : Bytes) (i : Nat) : pieceEnd b i ≤ i := by
  unfold pieceEnd; split <;> omega

theorem startsSC_take (b : Bytes) (k : Nat) (h : startsSC (b.take k) = true) : startsSC b = true := by
  have h3 := startsSC_length _ h
  rw [List.length_take] at h3
  obtain ⟨k, rfl⟩ : ∃ k', k = k' + 3 := ⟨k - 3, by omega⟩
  match b, h3 with
  | _ :: _ :: _ :: _, _ => exact h

theorem findSC_take (b : Bytes) (i : Nat) (h : findSC b = some i) (k : Nat) (hk : k ≤ i) :
    findSC (b.take k) = none := by
  fun_induction findSC b generalizing i k with
  | case1 => cases h
  | case2 x xs hs => cases h; rw [Nat.le_zero.mp hk]; rfl
  | case3 x xs hs ih =>
    obtain ⟨j, hj, rfl⟩ := Option.map_eq_some_iff.mp h
    cases k with
    | zero => rfl
    | succ k =>
      have hs' : ¬ startsSC (x :: xs.take k) = true := fun h' => hs (startsSC_take (x :: xs) (k + 1) h')
      rw [List.take_succ_cons, findSC, if_neg hs', ih j hj k (by omega)]
      rfl

theorem splitNALUsF_nonempty (fuel : Nat) (b : Bytes) : AllNonempty (splitNALUsF fuel b) := by
  fun_induction splitNALUsF fuel b with
  | case1 => nofun
  | case2 => nofun
  | case3 fuel b hlen hf => exact .singleton fun h0 => hlen (h0 ▸ rfl)
  | case4 fuel b hlen idx0 hf rest h0 ih => exact ih
  | case5 fuel b hlen idx0 hf rest h0 ih =>
    have hle := findSC_some_le b idx0 hf
    have hpe := pieceEnd_le b idx0
    exact fun n hn => (List.mem_cons.mp hn).elim (· ▸ take_ne_nil h0 (by omega)) (ih n)

/-- the pieces hold no start code: each ends before the first one of what was left -/
theorem splitNALUsF_noSC (fuel : Nat) (b : Bytes) : ∀ n ∈ splitNALUsF fuel b, findSC n = none := by
  fun_induction splitNALUsF fuel b with
  | case1 => nofun
  | case2 => nofun
  | case3 fuel b hlen hf => exact fun n hn => List.mem_singleton.mp hn ▸ hf
  | case4 fuel b hlen idx0 hf rest h0 ih => exact ih
  | case5 fuel b hlen idx0 hf rest h0 ih =>
    exact fun n hn => (List.mem_cons.mp hn).elim (· ▸ findSC_take b idx0 hf _ (pieceEnd_le b idx0)) (ih n)

theorem splitNALUsF_totalLen (fuel : Nat) (b : Bytes) : totalLen (splitNALUsF fuel b) ≤ b.length := by
  fun_induction splitNALUsF fuel b with
  | case1 => exact Nat.zero_le _
  | case2 => exact Nat.zero_le _
  | case3 => exact Nat.le_of_eq (totalLen_singleton _)
  | case4 fuel b hlen idx0 hf rest h0 ih => exact Nat.le_trans ih (List.length_drop ▸ Nat.sub_le _ _)
  | case5 fuel b hlen idx0 hf rest h0 ih =>
    have hle := findSC_some_le b idx0 hf
    have hpe := pieceEnd_le b idx0
    show (b.take _).length + totalLen (splitNALUsF fuel (b.drop (idx0 + 3))) ≤ _
    rw [List.length_drop] at ih
    rw [List.length_take]
    omega

theorem splitNALUsF_fuel (f1 f2 : Nat) (b : Bytes) (h1 : b.length < f1) (h2 : b.length < f2) :
    splitNALUsF f1 b = splitNALUsF f2 b := by
  induction f1 generalizing f2 b with
  | zero => omega
  | succ f1 ih =>
    cases f2 with
    | zero => omega
    | succ f2 =>
      rw [splitNALUsF, splitNALUsF]
      cases hf : findSC b with
      | none => rfl
      | some i =>
        have hle := findSC_some_le b i hf
        have hd : (b.drop (i + 3)).length < f1 ∧ (b.drop (i + 3)).length < f2 := by
          rw [List.length_drop]; omega
        dsimp only
        rw [ih f2 _ hd.1 hd.2]

theorem splitNALUs_noSC (b : Bytes) (hne : b ≠ []) (h : findSC b = none) : splitNALUs b = [b] := by
  rw [splitNALUs, splitNALUsF, if_neg (mt List.length_eq_zero_iff.mp hne), h]

theorem sliceFrom?_of_le {b : Bytes} {lo : Nat} (h : lo ≤ b.length) : sliceFrom? b lo = some (b.drop lo) :=
  if_pos h

theorem sliceTo?_of_le {b : Bytes} {hi : Nat} (h : hi ≤ b.length) : sliceTo? b hi = some (b.take hi) :=
  if_pos h

theorem idx?_zero_of_ne_nil {b : Bytes} (h : b ≠ []) : idx? b 0 = some (b.headD 0) := by
  cases b with
  | nil => exact absurd rfl h
  | cons x xs => rfl

theorem aggLoop_some (pad : Bool) (fuel : Nat) (payload : Bytes) (acc ns : List Bytes)
    (h : aggLoop pad fuel payload acc = some ns) :
    ∃ more, ns = acc ++ more ∧ AllNonempty more ∧ (pad = false → more ≠ []) := by
  fun_induction aggLoop pad fuel payload acc with
  | case1 => cases h
  | case2 fuel acc hi lo rest size h0 hz =>
    cases h
    exact ⟨[], (List.append_nil _).symm, nofun, fun hp => by simp [hp] at hz⟩
  | case3 => cases h
  | case4 => cases h
  | case5 fuel acc hi lo rest size h0 hle acc' rest' hlen =>
    exact ⟨[_], (Option.some.inj h).symm, .singleton (take_ne_nil h0 (by omega)), fun _ => List.cons_ne_nil _ _⟩
  | case6 fuel acc hi lo rest size h0 hle acc' rest' hlen ih =>
    obtain ⟨more, rfl, hm, _⟩ := ih h
    exact ⟨_ :: more, List.append_assoc .., (AllNonempty.singleton (take_ne_nil h0 (by omega))).append hm,
      fun _ => List.cons_ne_nil _ _⟩
  | case7 => cases h

theorem aggLoop_cons (pad : Bool) (fuel : Nat) (hi lo : UInt8) (rest : Bytes) (acc : List Bytes) :
    aggLoop pad (fuel + 1) (hi :: lo :: rest) acc =
      if hi.toNat * 256 + lo.toNat = 0 then (if pad && isAllZero rest then some acc else none)
      else if hi.toNat * 256 + lo.toNat > rest.length then none
      else if (rest.drop (hi.toNat * 256 + lo.toNat)).length = 0 then
        some (acc ++ [rest.take (hi.toNat * 256 + lo.toNat)])
      else aggLoop pad fuel (rest.drop (hi.toNat * 256 + lo.toNat))
        (acc ++ [rest.take (hi.toNat * 256 + lo.toNat)]) := rfl

theorem aggLoop_fuel (pad : Bool) (f1 f2 : Nat) (payload : Bytes) (acc : List Bytes)
    (h1 : payload.length < f1) (h2 : payload.length < f2) :
    aggLoop pad f1 payload acc = aggLoop pad f2 payload acc := by
  induction f1 generalizing f2 payload acc with
  | zero => omega
  | succ f1 ih =>
    cases f2 with
    | zero => omega
    | succ f2 =>
      match payload with
      | [] | [_] => rfl
      | hi :: lo :: rest =>
        rw [aggLoop_cons, aggLoop_cons, ih f2 (rest.drop _)]
        all_goals simp only [List.length_drop, List.length_cons] at h1 h2 ⊢; omega

theorem aggLoop_acc_prefix (pad : Bool) (fuel : Nat) (payload : Bytes) (acc ns : List Bytes)
    (h : aggLoop pad fuel payload acc = some ns) : acc.length ≤ ns.length := by
  obtain ⟨more, rfl, _⟩ := aggLoop_some pad fuel payload acc ns h
  exact List.length_append ▸ Nat.le_add_right _ _

theorem joinFragments_exact (fs : List Bytes) : joinFragments fs (totalLen fs) = fs.flatten :=
  take_flatten_totalLen fs

theorem pushFrag_flatten (fs : List Bytes) (data : Bytes) : (pushFrag fs data).flatten = fs.flatten ++ data := by
  unfold pushFrag
  split
  · rename_i h; simp [List.length_eq_zero_iff.mp h]
  · simp

theorem pushFrag_totalLen (fs : List Bytes) (data : Bytes) :
    totalLen (pushFrag fs data) = totalLen fs + data.length := by
  rw [← flatten_length, pushFrag_flatten, List.length_append, flatten_length]

/-- the four clauses of the decoders' `FragInv` after a continuation fragment was stored -/
theorem pushFrag_inv (P maxAU : Nat) (fs : List Bytes) (sz : Nat) (data : Bytes)
    (h1 : sz = totalLen fs) (h4 : fs.length ≤ sz + 1) (hz : sz ≠ 0) (hle : ¬ sz + data.length > maxAU) :
    sz + data.length = totalLen (pushFrag fs data) ∧ sz + data.length ≤ maxAU + P ∧
    (sz + data.length = 0 → pushFrag fs data = []) ∧ (pushFrag fs data).length ≤ sz + data.length + 1 := by
  have hl : (pushFrag fs data).length ≤ fs.length + data.length := by
    unfold pushFrag
    split
    · exact Nat.le_add_right _ _
    · rw [List.length_append]; exact Nat.add_le_add_left (by rw [List.length_singleton]; omega) _
  exact ⟨by rw [pushFrag_totalLen, h1], by omega, fun h => absurd h (by omega), by omega⟩

end Rtsp.Codec.H26x
