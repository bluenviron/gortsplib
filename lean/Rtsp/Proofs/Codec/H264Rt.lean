import Rtsp.Proofs.Codec.H264Bits
import Rtsp.Proofs.Codec.H264Enc
import Rtsp.Proofs.Codec.H264Dec
import Rtsp.Proofs.Codec.H26xRoundTrip
/-
What the H264 decoder does with each kind of packet the H264 encoder emits (C03 / C07).
-/
namespace Rtsp.Codec.H264
open Rtsp.Rtp Rtsp.Codec.H26x

theorem startsSC4_tail (x : UInt8) (xs : Bytes) (h : startsSC4 (x :: xs) = true) : startsSC xs = true := by
  match xs, h with
  | a :: b :: c :: _, h =>
    simp only [startsSC4, Bool.and_eq_true] at h
    simp only [startsSC, h.1.1.2, h.1.2, h.2, Bool.and_self]

theorem noSC_noSC4 (b : Bytes) (h : findSC b = none) : containsSC4 b = false := by
  induction b with
  | nil => rfl
  | cons x xs ih =>
    rw [findSC] at h
    split at h
    · cases h
    · have hxs : findSC xs = none := Option.map_eq_none_iff.mp h
      rw [containsSC4, ih hxs, Bool.or_false]
      cases xs with
      | nil => rfl
      | cons a r =>
        rw [findSC] at hxs
        split at hxs
        · cases hxs
        · rename_i hs
          exact Bool.eq_false_iff.mpr fun h4 => hs (startsSC4_tail x _ h4)

theorem finishNALUs_off (d1 : Dec) (ns : List Bytes) (hne : ns ≠ [])
    (hsc : ∀ n, ns = [n] → d1.annexBMode = false ∧ findSC n = none) :
    finishNALUs d1 ns = (d1, .nalus ns) := by
  rw [finishNALUs, if_neg (mt List.length_eq_zero_iff.mp hne)]
  have : removeAnnexB d1.annexBMode ns = (d1.annexBMode, some ns) := by
    unfold removeAnnexB
    split
    · rename_i n
      rw [(hsc n rfl).1, noSC_noSC4 n (hsc n rfl).2]; rfl
    · rfl
  rw [this]

theorem decode_of_nalus {d d1 : Dec} {p : Pkt} {ns : List Bytes} (h0 : decodeNALUs0 d p = (d1, .nalus ns))
    (hne : ns ≠ []) (hsc : ∀ n, ns = [n] → d1.annexBMode = false ∧ findSC n = none) :
    decode d p = addNALUs d1 ns p.ts p.marker := by
  simp only [decode, decodeNALUs, h0, finishNALUs_off d1 ns hne hsc]

/-- state after a packet that completes NALUs by itself (single NALU, STAP-A) -/
def afterWhole (d : Dec) : Dec := { d.resetFragments with firstPacketReceived := true }

theorem decode_single (d : Dec) (p : Pkt) (n : Bytes) (hp : p.payload = n) (hv : ValidNalu n)
    (ha : d.annexBMode = false) : decode d p = addNALUs (afterWhole d) [n] p.ts p.marker := by
  obtain ⟨hne, _, htyp, hsc⟩ := hv
  obtain ⟨b0, tl, rfl⟩ := List.exists_cons_of_ne_nil hne
  obtain ⟨t1, t2, t3⟩ := typ_dispatch b0 htyp
  refine decode_of_nalus ?_ (List.cons_ne_nil _ _) (fun n hn => ⟨ha, List.singleton_inj.mp hn ▸ hsc⟩)
  simp only [decodeNALUs0, hp, t1, t2, t3, if_false, afterWhole]
  rfl

theorem decode_stapa (d : Dec) (p : Pkt) (b : List Bytes) (hp : p.payload = stapPayload b)
    (hb : 2 ≤ b.length) (hn : ∀ n ∈ b, n ≠ [] ∧ n.length < 65536) :
    decode d p = addNALUs (afterWhole d) b p.ts p.marker := by
  have hne : b ≠ [] := fun h => by rw [h] at hb; cases hb
  have hl : b.length ≠ 0 := by omega
  refine decode_of_nalus ?_ hne (fun n h => by subst h; simp at hb)
  simp only [decodeNALUs0, hp, stapPayload, stapa_dispatch.1, stapa_dispatch.2, if_false, if_true, decodeSTAPA,
    aggLoop_aggBody true b [] _ hne hn (Nat.lt_succ_self _), List.nil_append, hl, afterWhole]

/-- state after the start fragment of a NALU with header byte `h` -/
def fuStartState (d : Dec) (seq : UInt16) (h : UInt8) (chunk : Bytes) : Dec :=
  { d with fragmentsSize := chunk.length + 1, fragments := [[h], chunk],
           fragmentNextSeqNum := seq + 1, firstPacketReceived := true }

def fuMidState (d : Dec) (chunk : Bytes) : Dec :=
  { d with fragmentsSize := d.fragmentsSize + chunk.length, fragments := pushFrag d.fragments chunk,
           fragmentNextSeqNum := d.fragmentNextSeqNum + 1 }

/-- state after the end fragment, before the frame-buffer stage -/
def fuEndState (d : Dec) : Dec :=
  { d with fragmentsSize := 0, fragments := [], fragmentNextSeqNum := d.fragmentNextSeqNum + 1 }

theorem decode_fu_start (d : Dec) (p : Pkt) (h : UInt8) (chunk : Bytes) (hz : h &&& 0x80 = 0)
    (hp : p.payload = fuHdr h true false ++ chunk) :
    decode d p = (fuStartState d p.seq h chunk, .more) := by
  obtain ⟨b0, b1, hh, r1, r2, r3, r4⟩ := fuHdr_read h true false
  have h0 : decodeNALUs0 d p = (fuStartState d p.seq h chunk, .more) := by
    simp only [decodeNALUs0, hp, hh, List.cons_append, List.nil_append, r1, decodeFUA, r2, fuaStart, r3]
    simp [r4 hz, fuStartState]
  simp only [decode, decodeNALUs, h0]

theorem decodeNALUs0_fu (d : Dec) (p : Pkt) (h : UInt8) (st en : Bool) (chunk : Bytes)
    (hp : p.payload = fuHdr h st en ++ chunk) :
    ∃ b0 b1 : UInt8, b1 >>> 7 = (if st then 1 else 0) ∧ (b1 >>> 6) &&& 0x01 = (if en then 1 else 0) ∧
      decodeNALUs0 d p = decodeFUA d p.seq b0 (b1 :: chunk) := by
  obtain ⟨b0, b1, hh, r1, r2, r3, _⟩ := fuHdr_read h st en
  exact ⟨b0, b1, r2, r3, by simp only [decodeNALUs0, hp, hh, List.cons_append, List.nil_append, r1, if_true]⟩

theorem decodeNALUs0_cont (d : Dec) (p : Pkt) (h : UInt8) (en : Bool) (chunk : Bytes)
    (hp : p.payload = fuHdr h false en ++ chunk) :
    ∃ b1 : UInt8, (b1 >>> 6) &&& 0x01 = (if en then 1 else 0) ∧ decodeNALUs0 d p = fuaCont d p.seq b1 chunk := by
  obtain ⟨b0, b1, r2, r3, h0⟩ := decodeNALUs0_fu d p h false en chunk hp
  exact ⟨b1, r3, by rw [h0, decodeFUA, r2]; rfl⟩

theorem runDec_nil (d : Dec) : runDec d [] = (d, []) := rfl

theorem stamp_number_nil (c : EncCfg) (ts : UInt32) (sq : UInt16) : stamp ts (number c sq []) = [] := rfl

/-- what a group of packets leaves for the frame-buffer stage: the fragments cleared, the frame buffer
and Annex-B mode as in `d` -/
def Handed (d d1 : Dec) : Prop :=
  d1.fragments = [] ∧ d1.fragmentsSize = 0 ∧ fbPart d1 = fbPart d ∧ d1.annexBMode = d.annexBMode

/-- `d` is reassembling `n`, has everything but `rest` and expects sequence number `sq` -/
structure FuOk (d0 : Dec) (n : Bytes) (d : Dec) (rest : Bytes) (sq : UInt16) : Prop where
  size : d.fragmentsSize = totalLen d.fragments
  ne   : d.fragmentsSize ≠ 0
  next : d.fragmentNextSeqNum = sq
  cat  : d.fragments.flatten ++ rest = n
  fb   : fbPart d = fbPart d0
  mode : d.annexBMode = d0.annexBMode

theorem FuOk.mid {d0 d : Dec} {n rest : Bytes} {sq : UInt16} (h : FuOk d0 n d rest sq) (avail : Nat) :
    FuOk d0 n (fuMidState d (rest.take avail)) (rest.drop avail) (sq + 1) := by
  obtain ⟨o1, o2, o3, o4, o5, o6⟩ := h
  refine ⟨?_, ?_, ?_, ?_, o5, o6⟩
  all_goals unfold fuMidState; dsimp only
  · rw [pushFrag_totalLen, o1]
  · omega
  · rw [o3]
  · rw [pushFrag_flatten, List.append_assoc, List.take_append_drop, o4]

theorem FuOk.length_eq {d0 d : Dec} {n rest : Bytes} {sq : UInt16} (h : FuOk d0 n d rest sq) :
    d.fragmentsSize + rest.length = n.length := by
  rw [← h.cat, List.length_append, flatten_length, h.size]

theorem FuOk.decode_mid {d0 d : Dec} {n rest : Bytes} {sq : UInt16} (ok : FuOk d0 n d rest sq)
    (hau : n.length ≤ maxAU) (h : UInt8) (avail : Nat) (p : Pkt)
    (hp : p.payload = fuHdr h false false ++ rest.take avail) (hq : p.seq = sq) :
    (decode d p).2 = .more ∧ FuOk d0 n (decode d p).1 (rest.drop avail) (sq + 1) := by
  obtain ⟨b1, r3, h0⟩ := decodeNALUs0_cont d p h false _ hp
  have hle : ¬ d.fragmentsSize + (rest.take avail).length > maxAU := by
    have := ok.length_eq
    rw [List.length_take]
    omega
  have h0 : decodeNALUs0 d p = (fuMidState d (rest.take avail), .more) := by
    rw [h0, fuaCont, if_neg ok.ne, if_neg (· (hq.trans ok.next.symm)), if_neg hle, r3]
    rfl
  simp only [decode, decodeNALUs, h0]
  exact ⟨trivial, ok.mid _⟩

theorem FuOk.decode_end {d0 d : Dec} {n rest : Bytes} {sq : UInt16} (ok : FuOk d0 n d rest sq)
    (hau : n.length ≤ maxAU) (hsc : findSC n = none) (ha : d0.annexBMode = false) (h : UInt8) (p : Pkt)
    (hp : p.payload = fuHdr h false true ++ rest) (hq : p.seq = sq) :
    decode d p = addNALUs (fuEndState d) [n] p.ts p.marker := by
  obtain ⟨b1, r3, h0⟩ := decodeNALUs0_cont d p h true rest hp
  have hlen := ok.length_eq
  have hne : n ≠ [] := fun h0 => ok.ne (Nat.eq_zero_of_add_eq_zero_right (h0 ▸ hlen))
  refine decode_of_nalus ?_ (List.cons_ne_nil _ _) (fun n hn => ⟨ok.mode.trans ha, List.singleton_inj.mp hn ▸ hsc⟩)
  rw [h0, fuaCont, if_neg ok.ne, if_neg (· (hq.trans ok.next.symm)), if_neg (by omega), r3]
  show (_, NRes.nalus (splitNALUs (joinFragments (pushFrag d.fragments rest) (d.fragmentsSize + rest.length)))) = _
  rw [ok.size, ← pushFrag_totalLen, joinFragments_exact, pushFrag_flatten, ok.cat, splitNALUs_noSC _ hne hsc]
  rfl

theorem fu_run (c : EncCfg) (ts : UInt32) (max : Nat) (n : Bytes) (m : Bool) (d : Dec) (sq : UInt16)
    (hmax : 3 ≤ max) (hv : ValidNalu n) (hge : ¬ n.length < max) (hau : n.length ≤ maxAU)
    (ha : d.annexBMode = false) :
    ∃ d1, Handed d d1 ∧ runDec d (stamp ts (number c sq (writeFragmented max n m))) =
      ((addNALUs d1 [n] ts m).1,
       List.replicate ((writeFragmented max n m).length - 1) .more ++ [(addNALUs d1 [n] ts m).2]) := by
  obtain ⟨hne, hz, _, hsc⟩ := hv
  obtain ⟨h, data, rfl⟩ := List.exists_cons_of_ne_nil hne
  obtain ⟨j, hj⟩ := fragItems_cons (fuHdr h) 2 1 max (h :: data) m (by omega) (by omega) hge
  rw [show writeFragmented max (h :: data) m = _ from hj, List.length_cons, emitFU_length]
  obtain ⟨d', rest', sq', ok', hrun⟩ := run_emitFU runs (fuHdr h) c ts (max - 2) m
    (FuOk d (h :: data)) (fun d' _ => addNALUs (fuEndState d') [h :: data] ts m)
    (fun _ _ _ ok => ok.decode_mid hau h _ _ rfl rfl) (fun _ _ _ ok => ok.decode_end hau hsc ha h _ rfl rfl)
    j (fuStartState d sq h (data.take (max - 2))) (data.drop (max - 2)) (sq + 1)
    ⟨by show (data.take (max - 2)).length + 1 = totalLen [[h], _]; simp [totalLen]; omega, Nat.succ_ne_zero _, rfl,
      by show h :: (_ ++ []) ++ _ = _; rw [List.append_nil, List.cons_append, List.take_append_drop], rfl, rfl⟩
  refine ⟨fuEndState d', ⟨rfl, rfl, ok'.fb, ok'.mode⟩, ?_⟩
  rw [stamp_number_cons, runs.cons, decode_fu_start d _ h (data.take (max - 2)) hz rfl]
  exact congrArg (fun r => (r.1, DecRes.more :: r.2)) hrun

abbrev Good (max : Nat) (b : List Bytes) : Prop := GoodBatch ValidNalu 1 max maxAU b

/-- one batch, from ANY state with `annexBMode = false`: the last packet hands the batch's NALUs to the
frame-buffer stage (`addNALUs`) with the fragments cleared -/
theorem batch_run (c : EncCfg) (ts : UInt32) (hc : ValidCfg c) (b : List Bytes) (m : Bool) (d : Dec)
    (sq : UInt16) (hb : Good c.max b) (ha : d.annexBMode = false) :
    ∃ d1, Handed d d1 ∧ runDec d (stamp ts (number c sq (writeBatch c.max b m))) =
      ((addNALUs d1 b ts m).1,
       List.replicate ((writeBatch c.max b m).length - 1) .more ++ [(addNALUs d1 b ts m).2]) := by
  match b, hb.ne with
  | [n], _ =>
    have hvn := hb.valid n (List.mem_singleton_self n)
    by_cases hlt : n.length < c.max
    · refine ⟨afterWhole d, ⟨rfl, rfl, rfl, rfl⟩, ?_⟩
      simp only [writeBatch, hlt, if_true, stamp_number_cons, stamp_number_nil, runs.cons, runDec_nil]
      rw [decode_single d _ n rfl hvn ha]
      rfl
    · simp only [writeBatch, hlt, if_false]
      exact fu_run c ts c.max n m d sq hc.1 hvn hlt (totalLen_singleton n ▸ hb.size) ha
  | x :: y :: r, _ =>
    refine ⟨afterWhole d, ⟨rfl, rfl, rfl, rfl⟩, ?_⟩
    simp only [writeBatch, writeAggregated, stamp_number_cons, stamp_number_nil, runs.cons, runDec_nil]
    rw [decode_stapa d _ (x :: y :: r) rfl (Nat.le_add_left 2 _)
      (hb.agg (fun _ h => h.1) (Nat.le_add_left 2 _) hc.2)]
    rfl

/-- the decoder holds nothing, or what it holds carries timestamp `ts` -/
def Synced (ts : UInt32) (d : Dec) : Prop := d.frameBuffer = [] ∨ d.frameBufferTimestamp = ts

/-- whatever the state was: a stale unit has been returned, an overflow has emptied the buffer -/
theorem addNALUs_synced (d1 : Dec) (ns : List Bytes) (ts : UInt32) (m : Bool) :
    Synced ts (addNALUs d1 ns ts m).1 := by
  unfold addNALUs
  split
  · rcases addToFrameBuffer_eq d1.resetFrameBuffer ns ts with ⟨_, _, h⟩ | ⟨_, h⟩ <;> rw [h]
    · exact Or.inr rfl
    · exact Or.inl rfl
  · rcases addToFrameBuffer_eq d1 ns ts with ⟨_, _, h⟩ | ⟨_, h⟩ <;> rw [h]
    · cases m
      · exact Or.inr rfl
      · exact Or.inl rfl
    · exact Or.inl rfl

theorem addNALUs_marker_clears (d1 : Dec) (ns : List Bytes) (ts : UInt32) (hs : Synced ts d1) :
    (addNALUs d1 ns ts true).1.frameBuffer = [] ∧ (addNALUs d1 ns ts true).1.frameBufferLen = 0 ∧
    (addNALUs d1 ns ts true).1.frameBufferSize = 0 := by
  have hcond : ¬ (d1.frameBuffer.length ≠ 0 ∧ ts ≠ d1.frameBufferTimestamp) :=
    fun ⟨h1, h2⟩ => hs.elim (fun h => h1 (h ▸ rfl)) (fun h => h2 h.symm)
  rw [addNALUs, if_neg hcond]
  rcases addToFrameBuffer_eq d1 ns ts with ⟨_, _, h⟩ | ⟨_, h⟩ <;> rw [h] <;> exact ⟨rfl, rfl, rfl⟩

/-- the collecting state of an intact frame: `acc` gathered so far under timestamp `ts` -/
structure Collect (ts : UInt32) (acc : List Bytes) (d : Dec) : Prop where
  fb    : d.frameBuffer = acc
  len   : d.frameBufferLen = acc.length
  size  : d.frameBufferSize = totalLen acc
  ts_eq : acc ≠ [] → d.frameBufferTimestamp = ts

theorem addNALUs_collect (d1 : Dec) (ns acc : List Bytes) (ts : UInt32) (m : Bool)
    (hcol : Collect ts acc d1) (hl : acc.length + ns.length ≤ maxNALUs)
    (hs : totalLen acc + totalLen ns ≤ maxAU) :
    (addNALUs d1 ns ts m).2 = (if m then .ok (acc ++ ns) else .more) ∧
    Collect ts (if m then [] else acc ++ ns) (addNALUs d1 ns ts m).1 := by
  obtain ⟨rfl, h2, h3, h4⟩ := hcol
  have hcond : ¬ (d1.frameBuffer.length ≠ 0 ∧ ts ≠ d1.frameBufferTimestamp) :=
    fun ⟨ha, hb⟩ => hb (h4 fun h0 => ha (by rw [h0]; rfl)).symm
  rw [addNALUs, if_neg hcond]
  rcases addToFrameBuffer_eq d1 ns ts with ⟨_, _, h⟩ | ⟨hno, _⟩
  · rw [h]
    cases m
    · exact ⟨rfl, rfl, by show d1.frameBufferLen + _ = List.length (_ ++ _); rw [List.length_append, h2],
        by show d1.frameBufferSize + _ = totalLen (_ ++ _); rw [totalLen_append, h3], fun _ => rfl⟩
    · exact ⟨rfl, rfl, rfl, rfl, nofun⟩
  · exact absurd ⟨h2 ▸ hl, h3 ▸ hs⟩ hno
end Rtsp.Codec.H264
