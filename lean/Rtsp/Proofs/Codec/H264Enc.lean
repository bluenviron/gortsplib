import Rtsp.Model.Codec.H264
import Rtsp.Proofs.Codec.H26xPacketise
/-
Encoder-side lemmas for pkg/format/rtph264 (C06, and the packet shapes C03 needs): the encoder is
the shared packetiser with a 2-byte FU-A header, a 1-byte NALU header and a 1-byte STAP-A header.
-/
namespace Rtsp.Codec.H264
open Rtsp.Rtp Rtsp.Codec.H26x Rtsp.Facts

theorem fuHdr_length (h : UInt8) (a b : Bool) : (fuHdr h a b).length = 2 := rfl

/-- payload of a STAP-A packet -/
def stapPayload (nalus : List Bytes) : Bytes := UInt8.ofNat CodecH26x.h264TypeSTAPA :: aggBody nalus

theorem writeBatch_eq (max : Nat) (b : List Bytes) (m : Bool) :
    writeBatch max b m = batchItems (fun n => fuHdr (n.headD 0)) 2 1 stapPayload max b m := by
  rcases b with _ | ⟨n, _ | ⟨n2, r⟩⟩ <;> rfl

theorem writeBatches_eq (max : Nat) (bs : List (List Bytes)) :
    writeBatches max bs = itemsOf (writeBatch max) bs := by
  fun_induction writeBatches max bs <;> simp_all [itemsOf]

theorem encodeItems_eq (max : Nat) (au : List Bytes) :
    encodeItems max au = itemsOf (writeBatch max) (splitBatches 1 max [] au) :=
  writeBatches_eq ..

theorem writeBatch_payload_le (max : Nat) (b : List Bytes) (m : Bool) (hmax : 3 ≤ max)
    (hb : BatchOK 1 max b) : ∀ it ∈ writeBatch max b m, it.2.length ≤ max :=
  writeBatch_eq max b m ▸ batchItems_payload_le (fun _ => fuHdr_length _)
    (fun ns => by rw [lenAgg_eq]; exact Nat.add_comm ..) (by omega) (by omega) b m hb

theorem writeBatch_markers (max : Nat) (b : List Bytes) (m : Bool) (hmax : 3 ≤ max) :
    ∃ k, (writeBatch max b m).map (·.1) = List.replicate k false ++ [m] :=
  writeBatch_eq max b m ▸ batchItems_markers (by omega) (by omega) b m

theorem writeBatches_markers (max : Nat) (bs : List (List Bytes)) (hmax : 3 ≤ max) (hne : bs ≠ []) :
    ∃ k, (writeBatches max bs).map (·.1) = List.replicate k false ++ [true] :=
  writeBatches_eq max bs ▸ itemsOf_markers hne (fun b _ m => writeBatch_markers max b m hmax)

end Rtsp.Codec.H264
