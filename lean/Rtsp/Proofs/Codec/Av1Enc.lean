import Rtsp.Proofs.Codec.Av1Leb
/-
The AV1 encoder loop: one round of `obuLoop` is one elimination lemma whose motive ranges over the function of the
remaining fuel (`obuLoop_round`), so that the invariant behind C06 (`StInv`) and the termination of the loop are
instances of it; `encode_shape` is what the invariant says of the packets of one call.
-/
namespace Rtsp.Codec.Av1
open Rtsp.Rtp

/-- The limit must leave room for the aggregation header, a one-byte length and one byte of data
(with 1 or 2 the Go loop can spin forever); it is converted to `uint32` for `LEB128(max)`. -/
def ValidCfg (c : EncCfg) : Prop := 3 ≤ c.max ∧ c.max < 2 ^ 32

instance (c : EncCfg) : Decidable (ValidCfg c) := by unfold ValidCfg; infer_instance

theorem seqFrom_succ' (s : UInt16) (n : Nat) : seqFrom s (n + 1) = seqFrom s n ++ [s + UInt16.ofNat n] := by
  rw [seqFrom_append]; simp [seqFrom]

/-- invariant of the encoder loop state (`s0` = sequence number of the first packet of the call) -/
structure StInv (c : EncCfg) (s0 : UInt16) (st : St) : Prop where
  done_ok : ∀ p ∈ st.done, p.payload.length ≤ c.max ∧ p.pt = c.pt ∧ p.ssrc = c.ssrc ∧ p.marker = false
  cur_le  : 1 + st.cur.body.length ≤ c.max
  seqs    : st.done.map (·.seq) ++ [st.cur.seq] = seqFrom s0 (st.done.length + 1)
  next    : st.nextSeq = s0 + UInt16.ofNat (st.done.length + 1)

theorem mkPkt_payload_length (c : EncCfg) (cur : Cur) (y : Bool) :
    (mkPkt c cur y).payload.length = 1 + cur.body.length := by
  simp [mkPkt]; omega

theorem closeOpen_inv (c : EncCfg) (hc : ValidCfg c) (s0 : UInt16) (st : St) (frag : Bool)
    (h : StInv c s0 st) : StInv c s0 (st.closeOpen c frag) := by
  obtain ⟨h1, h2, h3, h4⟩ := h
  refine ⟨?_, ?_, ?_, ?_⟩
  · intro p hp
    simp only [St.closeOpen, List.mem_append, List.mem_singleton] at hp
    rcases hp with hp | hp
    · exact h1 p hp
    · subst hp; rw [mkPkt_payload_length]; exact ⟨h2, rfl, rfl, rfl⟩
  · simp only [St.closeOpen, List.length_nil]; have := hc.1; omega
  · simp only [St.closeOpen, List.map_append, List.map_cons, List.map_nil, List.length_append,
      List.length_cons, List.length_nil]
    rw [seqFrom_succ' s0 (st.done.length + 1), ← h3, h4]
    simp [mkPkt]
  · simp only [St.closeOpen, List.length_append, List.length_cons, List.length_nil]
    rw [h4, ofNat_succ (st.done.length + 1)]
    ac_rfl

/-! Both layouts of an element (size omitted and counted in W / LEB128 size in front) share the three
outcomes of a round of `obuLoop`: the element fits, a fragment of it fits, nothing fits. -/

/-- `omitSize` -/
def omits (last : Bool) (cur : Cur) : Bool := last && decide (cur.n < 3)

def lenField (om : Bool) (n : Nat) : Nat := if om then 0 else lebSize n

/-- The current packet with `x` appended.  Unlike the Go loop it counts a length-prefixed fragment in
`n`: harmless, a fragment is followed by `closeOpen`, which does not read `n`. -/
def Cur.push (cur : Cur) (om : Bool) (x : Bytes) : Cur :=
  { cur with w := if om then cur.n + 1 else cur.w,
             body := (if om then cur.body else cur.body ++ lebEnc x.length) ++ x,
             n := if om then cur.n else cur.n + 1 }

theorem lenField_mono (om : Bool) (a b : Nat) (hab : a ≤ b) (hb : b < 2 ^ 32) : lenField om a ≤ lenField om b := by
  cases om
  · exact lebSize_mono a b hab hb
  · exact Nat.le_refl _

theorem lenField_lt (om : Bool) (c : EncCfg) (hc : ValidCfg c) : lenField om c.max + 1 < c.max := by
  cases om
  · exact lebSize_lt c.max hc.1
  · have := hc.1; simp only [lenField, if_true]; omega

theorem push_body_length (cur : Cur) (om : Bool) (x : Bytes) :
    (cur.push om x).body.length = cur.body.length + lenField om x.length + x.length := by
  cases om <;> simp [Cur.push, lenField, lebEnc_length, Nat.add_assoc]

/-- `fragmentLen`, resp. `avail` when the size is omitted -/
def fragLen (c : EncCfg) (last : Bool) (cur : Cur) : Nat :=
  c.max - (1 + cur.body.length) - lenField (omits last cur) c.max

theorem fragLen_lt (c : EncCfg) (hc : ValidCfg c) (last : Bool) (cur : Cur) (obu : Bytes)
    (hfit : ¬ obu.length + lenField (omits last cur) obu.length ≤ c.max - (1 + cur.body.length))
    (hav : lenField (omits last cur) c.max < c.max - (1 + cur.body.length)) :
    fragLen c last cur < obu.length := by
  unfold fragLen
  by_cases hbig : obu.length ≤ c.max
  · have := lenField_mono (omits last cur) obu.length c.max hbig hc.2; omega
  · omega

theorem obuLoop_fit (c : EncCfg) (mfl : Nat) (last : Bool) (fuel : Nat) (st : St) (obu : Bytes)
    (hfit : obu.length + lenField (omits last st.cur) obu.length ≤ c.max - (1 + st.cur.body.length)) :
    obuLoop c mfl last (fuel + 1) st obu = { st with cur := st.cur.push (omits last st.cur) obu } := by
  rw [obuLoop]
  cases hom : (last && decide (st.cur.n < 3)) <;>
    simp only [omits, hom, lenField, Bool.false_eq_true, if_false, if_true, Nat.add_zero] at hfit ⊢ <;>
    rw [if_pos hfit] <;> rfl

theorem obuLoop_frag (c : EncCfg) (hc : ValidCfg c) (last : Bool) (fuel : Nat) (st : St) (obu : Bytes)
    (hfit : ¬ obu.length + lenField (omits last st.cur) obu.length ≤ c.max - (1 + st.cur.body.length))
    (hav : lenField (omits last st.cur) c.max < c.max - (1 + st.cur.body.length)) :
    obuLoop c (lebSize c.max) last (fuel + 1) st obu =
      obuLoop c (lebSize c.max) last fuel
        (St.closeOpen c { st with cur := st.cur.push (omits last st.cur) (obu.take (fragLen c last st.cur)) } true)
        (obu.drop (fragLen c last st.cur)) := by
  have hk := fragLen_lt c hc last st.cur obu hfit hav
  rw [obuLoop]
  cases hom : (last && decide (st.cur.n < 3)) <;>
    simp only [fragLen, omits, hom, lenField, Cur.push, Bool.false_eq_true, if_false, if_true, Nat.add_zero,
      Nat.sub_zero] at hfit hav hk ⊢
  · rw [if_neg hfit, if_pos hav, List.length_take, Nat.min_eq_left (Nat.le_of_lt hk)]; rfl
  · rw [if_neg hfit, if_pos hav]

theorem obuLoop_full (c : EncCfg) (last : Bool) (fuel : Nat) (st : St) (obu : Bytes)
    (hfit : ¬ obu.length + lenField (omits last st.cur) obu.length ≤ c.max - (1 + st.cur.body.length))
    (hav : ¬ lenField (omits last st.cur) c.max < c.max - (1 + st.cur.body.length)) :
    obuLoop c (lebSize c.max) last (fuel + 1) st obu =
      obuLoop c (lebSize c.max) last fuel (st.closeOpen c false) obu := by
  rw [obuLoop]
  cases hom : (last && decide (st.cur.n < 3)) <;>
    simp only [omits, hom, lenField, Bool.false_eq_true, if_false, if_true, Nat.add_zero] at hfit hav ⊢ <;>
    rw [if_neg hfit, if_neg hav]

/-- One round of `obuLoop`.  Which way it goes depends on the state and the OBU, not on the fuel: hence a motive
over the function of the remaining fuel.  `frag`: a piece of `k` bytes still fits and is not the whole OBU;
`full`: not even one byte fits, so the packet is not empty. -/
theorem obuLoop_round (c : EncCfg) (hc : ValidCfg c) (last : Bool) (st : St) (obu : Bytes)
    {motive : (Nat → St) → Prop}
    (fit : obu.length + lenField (omits last st.cur) obu.length ≤ c.max - (1 + st.cur.body.length) →
      motive fun _ => { st with cur := st.cur.push (omits last st.cur) obu })
    (frag : ∀ k, 0 < k → k < obu.length →
      1 + (st.cur.push (omits last st.cur) (obu.take k)).body.length ≤ c.max →
      motive fun fuel => obuLoop c (lebSize c.max) last fuel
        (St.closeOpen c { st with cur := st.cur.push (omits last st.cur) (obu.take k) } true) (obu.drop k))
    (full : st.cur.body ≠ [] →
      motive fun fuel => obuLoop c (lebSize c.max) last fuel (st.closeOpen c false) obu) :
    motive fun fuel => obuLoop c (lebSize c.max) last (fuel + 1) st obu := by
  by_cases hfit : obu.length + lenField (omits last st.cur) obu.length ≤ c.max - (1 + st.cur.body.length)
  · rw [funext fun fuel => obuLoop_fit c _ last fuel st obu hfit]; exact fit hfit
  by_cases hav : lenField (omits last st.cur) c.max < c.max - (1 + st.cur.body.length)
  · rw [funext fun fuel => obuLoop_frag c hc last fuel st obu hfit hav]
    have hk := fragLen_lt c hc last st.cur obu hfit hav
    have := lenField_mono (omits last st.cur) (fragLen c last st.cur) c.max (by unfold fragLen; omega) hc.2
    refine frag _ (by unfold fragLen; omega) hk ?_
    rw [push_body_length, List.length_take, Nat.min_eq_left (Nat.le_of_lt hk)]
    unfold fragLen at *; omega
  · rw [funext fun fuel => obuLoop_full c last fuel st obu hfit hav]
    refine full fun h0 => ?_
    have := lenField_lt (omits last st.cur) c hc
    rw [h0] at hav; simp only [List.length_nil] at hav; omega

theorem push_inv (c : EncCfg) (s0 : UInt16) (st : St) (om : Bool) (x : Bytes)
    (h : StInv c s0 st) (hb : 1 + (st.cur.push om x).body.length ≤ c.max) :
    StInv c s0 { st with cur := st.cur.push om x } :=
  ⟨h.done_ok, hb, h.seqs, h.next⟩

theorem obuLoop_inv (c : EncCfg) (hc : ValidCfg c) (s0 : UInt16) (last : Bool) (fuel : Nat) (st : St)
    (obu : Bytes) (h : StInv c s0 st) : StInv c s0 (obuLoop c (lebSize c.max) last fuel st obu) := by
  induction fuel generalizing st obu with
  | zero => exact h
  | succ fuel ih =>
    refine obuLoop_round c hc last st obu (motive := fun f => StInv c s0 (f fuel)) ?_ ?_ ?_
    · intro hfit
      have := h.cur_le
      exact push_inv c s0 st _ obu h (by rw [push_body_length]; omega)
    · intro k _ _ hroom
      exact ih _ _ (closeOpen_inv c hc s0 _ true (push_inv c s0 st _ _ h hroom))
    · intro _
      exact ih _ _ (closeOpen_inv c hc s0 st false h)

/-- fuel beyond `len(obu) + 2` (`+ 1` on a fresh packet) changes nothing: the Go `for { … }` terminates -/
theorem obuLoop_fuel (c : EncCfg) (hc : ValidCfg c) (last : Bool) (fuel : Nat) (st : St) (obu : Bytes)
    (hf : obu.length + (if st.cur.body.isEmpty then 1 else 2) ≤ fuel) :
    obuLoop c (lebSize c.max) last (fuel + 1) st obu = obuLoop c (lebSize c.max) last fuel st obu := by
  induction fuel generalizing st obu with
  | zero => split at hf <;> omega
  | succ fuel ih =>
    refine obuLoop_round c hc last st obu (motive := fun f => f (fuel + 1) = f fuel) (fun _ => rfl) ?_ ?_
    · intro k hk _ _
      exact ih _ _ (by simp only [St.closeOpen, List.isEmpty_nil, if_true, List.length_drop]; split at hf <;> omega)
    · intro hne
      rw [if_neg (by simpa using hne)] at hf
      exact ih _ _ (by simp only [St.closeOpen, List.isEmpty_nil, if_true]; omega)

theorem obuLoop_fuel_add (c : EncCfg) (hc : ValidCfg c) (last : Bool) (st : St) (obu : Bytes) (extra : Nat) :
    obuLoop c (lebSize c.max) last (obu.length + 2 + extra) st obu
      = obuLoop c (lebSize c.max) last (obu.length + 2) st obu := by
  induction extra with
  | zero => rfl
  | succ k ih =>
    rw [← ih, ← Nat.add_assoc]
    exact obuLoop_fuel c hc last _ st obu (by split <;> omega)

theorem encObus_cons (c : EncCfg) (mfl : Nat) (o : Bytes) (t : List Bytes) (st : St) :
    encObus c mfl (o :: t) st = encObus c mfl t (obuLoop c mfl t.isEmpty (o.length + 2) st o) := by
  cases t <;> rfl

theorem encObus_inv (c : EncCfg) (hc : ValidCfg c) (s0 : UInt16) (obus : List Bytes) (st : St)
    (h : StInv c s0 st) : StInv c s0 (encObus c (lebSize c.max) obus st) := by
  induction obus generalizing st with
  | nil => exact h
  | cons o t ih => rw [encObus_cons]; exact ih _ (obuLoop_inv c hc s0 _ _ st o h)

theorem st0_inv (c : EncCfg) (hc : ValidCfg c) (s0 : UInt16) :
    StInv c s0 { done := [], cur := { z := false, seq := s0 }, nextSeq := s0 + 1 } := by
  refine ⟨by simp, ?_, by simp [seqFrom], by simp⟩
  simp only [List.length_nil]; have := hc.1; omega

theorem setN_length (ps : List Pkt) : (setN ps).length = ps.length := by
  cases ps <;> simp [setN]

theorem setN_map {α : Type} (f : Pkt → α)
    (hf : ∀ (p : Pkt) (b : UInt8) (body : Bytes), p.payload = b :: body → f { p with payload := (b ||| 8) :: body } = f p)
    (ps : List Pkt) : (setN ps).map f = ps.map f := by
  cases ps with
  | nil => rfl
  | cons p t =>
    simp only [setN, List.map_cons]
    split
    · rfl
    · rename_i b body hb; rw [hf p b body hb]

theorem setN_map_marker (ps : List Pkt) : (setN ps).map (·.marker) = ps.map (·.marker) :=
  setN_map _ (fun _ _ _ _ => rfl) ps

theorem setN_forall (c : EncCfg) (ps : List Pkt)
    (h : ∀ p ∈ ps, p.payload.length ≤ c.max ∧ p.pt = c.pt ∧ p.ssrc = c.ssrc) :
    ∀ p ∈ setN ps, p.payload.length ≤ c.max ∧ p.pt = c.pt ∧ p.ssrc = c.ssrc := by
  intro p hp
  have hm : (p.payload.length, p.pt, p.ssrc) ∈ (setN ps).map fun p => (p.payload.length, p.pt, p.ssrc) :=
    List.mem_map_of_mem hp
  rw [setN_map _ (fun p b body hb => by simp [hb])] at hm
  obtain ⟨q, hq, he⟩ := List.mem_map.mp hm
  simp only [Prod.mk.injEq] at he
  have := h q hq
  rw [← he.1, ← he.2.1, ← he.2.2]; exact this

theorem setMarkerLast_snoc (ps : List Pkt) (p : Pkt) :
    setMarkerLast (ps ++ [p]) = ps ++ [{ p with marker := true }] := by
  induction ps with
  | nil => simp [setMarkerLast]
  | cons q t ih =>
    cases t with
    | nil => simp [setMarkerLast]
    | cons q2 t2 =>
      simp only [List.cons_append, setMarkerLast] at ih ⊢
      rw [ih]

theorem setMarkerLast_setN (ps : List Pkt) : setMarkerLast (setN ps) = setN (setMarkerLast ps) := by
  cases ps with
  | nil => rfl
  | cons p t =>
    cases t with
    | nil => simp only [setN, setMarkerLast]; split <;> simp_all
    | cons q t => simp [setN, setMarkerLast]

theorem encode_pkts (e : Enc) (obus : List Bytes) (st : St)
    (hst : encObus e.cfg (lebSize e.cfg.max) obus { done := [], cur := { z := false, seq := e.seq }, nextSeq := e.seq + 1 } = st) :
    (encode e obus).2 = (if isRandomAccess obus then setN (st.done ++ [{ mkPkt e.cfg st.cur false with marker := true }])
      else st.done ++ [{ mkPkt e.cfg st.cur false with marker := true }]) := by
  simp only [encode, hst]
  split
  · rw [setMarkerLast_setN, setMarkerLast_snoc]
  · rw [setMarkerLast_snoc]

/-- what C06 says of the packets of one call, before the N bit is set -/
theorem encode_shape (e : Enc) (obus : List Bytes) (hc : ValidCfg e.cfg) :
    ∃ pk, (encode e obus).2 = (if isRandomAccess obus then setN pk else pk) ∧
      pk.map (·.seq) = seqFrom e.seq pk.length ∧ (encode e obus).1.seq = e.seq + UInt16.ofNat pk.length ∧
      pk.map (·.marker) = List.replicate (pk.length - 1) false ++ [true] ∧
      ∀ p ∈ pk, p.payload.length ≤ e.cfg.max ∧ p.pt = e.cfg.pt ∧ p.ssrc = e.cfg.ssrc := by
  generalize hst : encObus e.cfg (lebSize e.cfg.max) obus
      { done := [], cur := { z := false, seq := e.seq }, nextSeq := e.seq + 1 } = st
  have hinv : StInv e.cfg e.seq st := by rw [← hst]; exact encObus_inv _ hc _ _ _ (st0_inv _ hc _)
  refine ⟨_, encode_pkts e obus st hst, ?_, ?_, ?_, ?_⟩
  · simpa [mkPkt] using hinv.seqs
  · have : (encode e obus).1.seq = st.nextSeq := by rw [← hst]; rfl
    rw [this, hinv.next]; simp
  · have : st.done.map (·.marker) = List.replicate st.done.length false :=
      List.eq_replicate_iff.mpr ⟨by simp, fun b hb => by
        obtain ⟨p, hp, rfl⟩ := List.mem_map.mp hb; exact (hinv.done_ok p hp).2.2.2⟩
    simp [this]
  · intro p hp
    rcases List.mem_append.mp hp with hp | hp
    · exact ⟨(hinv.done_ok p hp).1, (hinv.done_ok p hp).2.1, (hinv.done_ok p hp).2.2.1⟩
    · rw [List.mem_singleton.mp hp]; exact ⟨(mkPkt_payload_length e.cfg st.cur false).symm ▸ hinv.cur_le, rfl, rfl⟩

end Rtsp.Codec.Av1
