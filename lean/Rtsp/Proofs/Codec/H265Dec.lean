import Rtsp.Model.Codec.H265
import Rtsp.Proofs.Codec.H26xDepacketise
import Rtsp.Proofs.Common.Runs
/-
Decoder-side invariants for pkg/format/rtph265 (C08; reused by C07).
-/
namespace Rtsp.Codec.H265
open Rtsp.Rtp Rtsp.Codec.H26x

theorem runs : Runs decode runDec := ⟨fun _ => rfl, fun _ _ _ => rfl⟩

/-- the part of the invariant about the NALU being reassembled; `P` bounds the payload size of
the packets of the history -/
structure FragInv (P : Nat) (d : Dec) : Prop where
  size_eq : d.fragmentsSize = totalLen d.fragments
  size_le : d.fragmentsSize ≤ maxAU + P
  empty   : d.fragmentsSize = 0 → d.fragments = []
  /-- every stored fragment but the header (and possibly the first data fragment) is non-empty, so
  the NUMBER of stored fragments is bounded by the byte size (false before /repo commit f1b05d6) -/
  count_le : d.fragments.length ≤ d.fragmentsSize + 1

/-- the part of the invariant about the access unit being collected -/
structure FbInv (d : Dec) : Prop where
  len_eq  : d.frameBufferLen = d.frameBuffer.length
  size_eq : d.frameBufferSize = totalLen d.frameBuffer
  len_le  : d.frameBufferLen ≤ maxNALUs
  size_le : d.frameBufferSize ≤ maxAU
  nonempty : ∀ n ∈ d.frameBuffer, n ≠ []

/-- what `decodeNALUs` does not touch -/
def fbPart (d : Dec) : List Bytes × Nat × Nat := (d.frameBuffer, d.frameBufferLen, d.frameBufferSize)

/-- what the frame-buffer stage does not touch -/
def fragPart (d : Dec) : List Bytes × Nat × UInt16 × Bool :=
  (d.fragments, d.fragmentsSize, d.fragmentNextSeqNum, d.firstPacketReceived)

/-- what every path through `decodeNALUs` guarantees; only the fragment invariant depends on the
state before, hence the implication -/
def NStep (P : Nat) (d : Dec) (r : Dec × NRes) : Prop :=
  (FragInv P d → FragInv P r.1) ∧ fbPart r.1 = fbPart d ∧ ∀ ns, r.2 = .nalus ns → ns ≠ [] ∧ AllNonempty ns

theorem fragInv_reset (P : Nat) (d : Dec) : FragInv P d.resetFragments :=
  ⟨rfl, Nat.zero_le _, fun _ => rfl, Nat.zero_le _⟩

theorem nstep_reset_err (P : Nat) (d : Dec) : NStep P d (d.resetFragments, .err) :=
  ⟨fun _ => fragInv_reset P d, rfl, nofun⟩

theorem fuStart_step (P : Nat) (d : Dec) (seq : UInt16) (b0 b1 b2 : UInt8) (data : Bytes)
    (hp : data.length + 3 ≤ P) : NStep P d (fuStart d seq b0 b1 b2 data) := by
  unfold fuStart
  dsimp only
  split
  · exact nstep_reset_err P d
  · refine ⟨fun _ => ⟨?_, ?_, fun h => absurd h (Nat.succ_ne_zero _), Nat.le_add_left _ _⟩, rfl, nofun⟩
    · show _ = totalLen [[_, _], data]
      simp only [totalLen, List.map_cons, List.map_nil, List.sum_cons, List.sum_nil, List.length_cons,
        List.length_nil]
      omega
    · show data.length + 2 ≤ _
      omega

theorem fuCont_step (P : Nat) (d : Dec) (seq : UInt16) (b2 : UInt8) (data : Bytes) :
    NStep P d (fuCont d seq b2 data) := by
  unfold fuCont
  by_cases hz : d.fragmentsSize = 0
  · rw [if_pos hz]; split <;> exact ⟨id, rfl, nofun⟩
  rw [if_neg hz]
  by_cases hq : seq ≠ d.fragmentNextSeqNum
  · rw [if_pos hq]; exact nstep_reset_err P d
  rw [if_neg hq]
  by_cases hgt : d.fragmentsSize + data.length > maxAU
  · exact (if_pos hgt) ▸ nstep_reset_err P d
  refine (if_neg hgt) ▸ ?_
  split
  · refine ⟨fun hi => ?_, rfl, nofun⟩
    obtain ⟨a, b, c, e⟩ := pushFrag_inv P maxAU d.fragments d.fragmentsSize data hi.1 hi.4 hz hgt
    exact ⟨a, b, c, e⟩
  · dsimp only
    split
    · exact ⟨fun _ => fragInv_reset P _, rfl, nofun⟩
    · rename_i hlen
      refine ⟨fun _ => fragInv_reset P _, rfl, fun ns h => ?_⟩
      cases h
      exact ⟨fun h0 => hlen (by rw [h0]; rfl), splitNALUsF_nonempty _ _⟩

theorem decodeFU_step (P : Nat) (d : Dec) (seq : UInt16) (b0 b1 : UInt8) (tl : Bytes)
    (hp : tl.length + 2 ≤ P) : NStep P d (decodeFU d seq b0 b1 tl) := by
  unfold decodeFU
  split
  · exact nstep_reset_err P d
  · rename_i b2 data
    rw [List.length_cons] at hp
    split
    · exact fuStart_step P d seq b0 b1 b2 data (by omega)
    · exact fuCont_step P d seq b2 data

theorem decodeAP_step (P : Nat) (d : Dec) (tl : Bytes) : NStep P d (decodeAP d tl) := by
  unfold decodeAP
  split
  · exact nstep_reset_err P d
  · rename_i ns hagg
    -- without padding the walk returns only after appending a NALU
    obtain ⟨more, rfl, hm, hne⟩ := aggLoop_some false _ _ [] ns hagg
    refine ⟨fun _ => ⟨rfl, Nat.zero_le _, fun _ => rfl, Nat.zero_le _⟩, rfl, fun ns' h => ?_⟩
    cases h
    exact ⟨hne rfl, hm⟩

theorem decodeNALUs_step (P : Nat) (d : Dec) (p : Pkt) (hp : p.payload.length ≤ P) :
    NStep P d (decodeNALUs d p) := by
  unfold decodeNALUs
  split
  · rename_i b0 b1 tl hpl
    rw [hpl, List.length_cons, List.length_cons] at hp
    dsimp only
    split
    · exact decodeAP_step P d tl
    · split
      · exact decodeFU_step P d p.seq b0 b1 tl (by omega)
      · split
        · exact nstep_reset_err P d
        · refine ⟨fun _ => fragInv_reset P d, rfl, fun ns h => ?_⟩
          cases h
          rw [hpl]
          exact ⟨List.cons_ne_nil _ _, fun n hn => by rw [List.mem_singleton.mp hn]; exact List.cons_ne_nil _ _⟩
  · exact nstep_reset_err P d

theorem fbInv_reset (d : Dec) : FbInv d.resetFrameBuffer :=
  ⟨rfl, rfl, Nat.zero_le _, Nat.zero_le _, fun _ h => absurd h List.not_mem_nil⟩

theorem fbInv_of_fbPart (d d' : Dec) (h : fbPart d' = fbPart d) (hi : FbInv d) : FbInv d' := by
  simp only [fbPart, Prod.mk.injEq] at h
  obtain ⟨h1, h2, h3⟩ := h
  exact ⟨by rw [h2, h1]; exact hi.1, by rw [h3, h1]; exact hi.2, by rw [h2]; exact hi.3,
    by rw [h3]; exact hi.4, by rw [h1]; exact hi.5⟩

theorem fragInv_of_fragPart (P : Nat) (d d' : Dec) (h : fragPart d' = fragPart d) (hi : FragInv P d) :
    FragInv P d' := by
  simp only [fragPart, Prod.mk.injEq] at h
  obtain ⟨h1, h2, _⟩ := h
  exact ⟨by rw [h2, h1]; exact hi.1, by rw [h2]; exact hi.2, by rw [h2, h1]; exact hi.3,
    by rw [h2, h1]; exact hi.4⟩

theorem addNALUs_frag_marker (d1 : Dec) (ns : List Bytes) (m : Bool) :
    fragPart (addNALUs d1 ns m).1 = fragPart d1 ∧
    (m = true → (addNALUs d1 ns m).1.frameBuffer = [] ∧ (addNALUs d1 ns m).1.frameBufferLen = 0 ∧
      (addNALUs d1 ns m).1.frameBufferSize = 0) := by
  unfold addNALUs
  split
  · exact ⟨rfl, fun _ => ⟨rfl, rfl, rfl⟩⟩
  · dsimp only
    split
    · exact ⟨rfl, fun _ => ⟨rfl, rfl, rfl⟩⟩
    · cases m
      · exact ⟨rfl, nofun⟩
      · exact ⟨rfl, fun _ => ⟨rfl, rfl, rfl⟩⟩

/-- what a returned access unit looks like -/
def GoodOut (f : List Bytes) : Prop := f ≠ [] ∧ AllNonempty f ∧ f.length ≤ maxNALUs ∧ totalLen f ≤ maxAU

theorem addNALUs_spec (d1 : Dec) (ns : List Bytes) (m : Bool) (hi : FbInv d1)
    (hne : ns ≠ []) (hall : AllNonempty ns) :
    FbInv (addNALUs d1 ns m).1 ∧ ∀ f, (addNALUs d1 ns m).2 = .ok f → GoodOut f := by
  obtain ⟨h1, h2, h3, h4, h5⟩ := hi
  unfold addNALUs
  by_cases hl : d1.frameBufferLen + ns.length > maxNALUs
  · rw [if_pos hl]; exact ⟨fbInv_reset d1, nofun⟩
  rw [if_neg hl]
  dsimp only
  by_cases hs : d1.frameBufferSize + totalLen ns > maxAU
  · rw [if_pos hs]; exact ⟨fbInv_reset d1, nofun⟩
  rw [if_neg hs]
  have hlen : d1.frameBufferLen + ns.length = (d1.frameBuffer ++ ns).length := by
    rw [List.length_append, h1]
  have hsize : d1.frameBufferSize + totalLen ns = totalLen (d1.frameBuffer ++ ns) := by
    rw [totalLen_append, h2]
  cases m
  · exact ⟨⟨hlen, hsize, Nat.le_of_not_gt hl, Nat.le_of_not_gt hs, AllNonempty.append h5 hall⟩, nofun⟩
  · refine ⟨fbInv_reset _, fun f hf => ?_⟩
    cases hf
    exact ⟨fun h0 => hne (List.append_eq_nil_iff.mp h0).2, AllNonempty.append h5 hall,
      hlen ▸ Nat.le_of_not_gt hl, hsize ▸ Nat.le_of_not_gt hs⟩

structure Inv (P : Nat) (d : Dec) : Prop where
  frag : FragInv P d
  fb   : FbInv d

theorem decode_spec (P : Nat) (d : Dec) (p : Pkt) (hi : Inv P d) (hp : p.payload.length ≤ P) :
    Inv P (decode d p).1 ∧ ∀ f, (decode d p).2 = .ok f → GoodOut f := by
  have hn := decodeNALUs_step P d p hp
  have hfb1 : FbInv (decodeNALUs d p).1 := fbInv_of_fbPart d _ hn.2.1 hi.2
  unfold decode
  split
  · rename_i d1 heq; rw [heq] at hn hfb1; exact ⟨⟨hn.1 hi.1, hfb1⟩, nofun⟩
  · rename_i d1 heq; rw [heq] at hn hfb1; exact ⟨⟨hn.1 hi.1, hfb1⟩, nofun⟩
  · rename_i d1 heq; rw [heq] at hn hfb1; exact ⟨⟨hn.1 hi.1, hfb1⟩, nofun⟩
  · rename_i d1 ns heq
    rw [heq] at hn hfb1
    obtain ⟨hne, hall⟩ := hn.2.2 ns rfl
    have ha := addNALUs_spec d1 ns p.marker hfb1 hne hall
    exact ⟨⟨fragInv_of_fragPart P d1 _ (addNALUs_frag_marker ..).1 (hn.1 hi.1), ha.1⟩, ha.2⟩

end Rtsp.Codec.H265
