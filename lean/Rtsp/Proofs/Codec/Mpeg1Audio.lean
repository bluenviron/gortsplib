import Rtsp.Model.Codec.Mpeg1Audio
import Rtsp.Proofs.Codec.AudioWriter
/-
pkg/format/rtpmpeg1audio: `parseHeader` asks for five bytes and reads the first three, so it survives `++` and `take`;
the encoder's `writeBatch` is `Audio.Writer.write` (`AudioWriter`) of the two payload layouts (`writer`); the decoder
has one case rule (`decode_elim`).
-/
namespace Rtsp.Codec.Mpeg1Audio
open Rtsp.Rtp Rtsp.Codec.Audio

/-- largest frame: 144 · 384000 / 32000 + 1 padding byte -/
abbrev maxFrameLen : Nat := 1729

theorem table_bounds : ∀ (m : Bool) (l : Fin 2) (b : Fin 14) (s : Fin 3),
    48 ≤ 144 * (bitrates m (l.val + 2)).getD b.val 0 / (sampleRates m).getD s.val 1 ∧
    144 * (bitrates m (l.val + 2)).getD b.val 0 / (sampleRates m).getD s.val 1 ≤ 1728 := by decide

theorem parseHeader_bounds (buf : Bytes) (h : Hdr) (hp : parseHeader buf = some h) :
    5 ≤ buf.length ∧ 48 ≤ h.frameLen ∧ h.frameLen ≤ maxFrameLen := by
  simp only [parseHeader, Option.ite_none_left_eq_some, Option.some.injEq] at hp
  obtain ⟨h5, -, hl, hb, hs, rfl⟩ := hp
  generalize 4 - ((buf.getD 1 0 >>> 1) &&& 0x03).toNat = layer at hl
  generalize (buf.getD 2 0 >>> 4).toNat = bi at hb
  generalize ((buf.getD 2 0 >>> 2) &&& 0x03).toNat = si at hs
  have ht := table_bounds (((buf.getD 1 0 >>> 3) &&& 0x01) == 0) ⟨layer - 2, by omega⟩ ⟨bi - 1, by omega⟩
    ⟨si, by omega⟩
  simp only [show layer - 2 + 2 = layer by omega] at ht
  refine ⟨by omega, ?_, ?_⟩
  · show 48 ≤ 144 * _ / _ + _; omega
  · show 144 * _ / _ + _ ≤ 1729; split <;> omega

theorem parseHeader_congr (f g : Bytes) (h5 : 5 ≤ f.length) (h5' : 5 ≤ g.length)
    (h : ∀ i, i < 3 → f.getD i 0 = g.getD i 0) : parseHeader f = parseHeader g := by
  unfold parseHeader
  have a : ¬ f.length < 5 := by omega
  have b : ¬ g.length < 5 := by omega
  simp only [a, b, ↓reduceIte, h 0 (by omega), h 1 (by omega), h 2 (by omega)]

theorem parseHeader_append (f r : Bytes) (h5 : 5 ≤ f.length) : parseHeader (f ++ r) = parseHeader f := by
  apply parseHeader_congr _ _ (by simp; omega) h5
  intro i hi
  simp [List.getD_eq_getElem?_getD, List.getElem?_append_left (show i < f.length by omega)]

theorem parseHeader_take (f : Bytes) (k : Nat) (h5 : 5 ≤ f.length) (hk : 5 ≤ k) :
    parseHeader (f.take k) = parseHeader f := by
  apply parseHeader_congr _ _ (by simp [List.length_take]; omega) h5
  intro i hi
  simp [List.getD_eq_getElem?_getD, show i < k by omega]

/-- the two payload layouts (RFC 2250): a zero word and the byte offset of the chunk in the frame, 0
before whole frames; every packet is marked.  `4` is `CodecAudio.mpeg1audioFragHeaderBytes` (by `rfl`) -/
def writer (c : EncCfg) : Writer where
  max := c.max
  avail := c.max - 4
  len b := lenAggregated b none
  pt := payloadType
  ssrc := c.ssrc
  allMarked := true
  aggPayload b := [0, 0, 0, 0] ++ b.flatten
  fragPayload _ _ pos ch := [0, 0] ++ be16 pos ++ ch

theorem emitFrag_eq (c : EncCfg) (ts : UInt32) (f : Bytes) (avail n : Nat) (first : Bool) (sq : UInt16) (pos : Nat)
    (rest : Bytes) : emitFrag c ts avail n sq pos rest = frags ((writer c).frag f ts) avail n first sq pos rest := by
  induction n using frags_ind generalizing first sq pos rest with
  | h0 => rfl
  | h1 => rfl
  | h2 n ih => simp only [emitFrag, frags]; rw [ih false]; rfl

theorem writeBatch_eq (c : EncCfg) : writeBatch c = (writer c).write := by
  funext b ts sq
  match b with
  | [f] => exact ite_congr rfl (fun _ => rfl) (fun _ => emitFrag_eq c ts f _ _ true sq 0 f)
  | [] => rfl
  | _ :: _ :: _ => rfl

theorem writeBatch_cases (c : EncCfg) (b : List Bytes) (ts : UInt32) (sq : UInt16) :
    (writeBatch c b ts sq = writeAggregated c b ts sq ∧ (b.length = 1 → lenAggregated b none < c.max)) ∨
    ∃ f, b = [f] ∧ ¬ lenAggregated [f] none < c.max ∧ writeBatch c b ts sq = writeFragmented c f ts sq := by
  rw [writeBatch_eq]
  exact ((writer c).write_cases b ts sq).imp id fun ⟨f, hb, hge, h⟩ => ⟨f, hb, hge, h.trans (emitFrag_eq c ts f _ _ true sq 0 f).symm⟩

theorem splitFrames_cases (d : Dec) (fuel : Nat) (buf : Bytes) (fr : List Bytes)
    (hfr : ∀ f ∈ fr, f.length ≤ maxFrameLen) :
    splitFrames d fuel buf fr = (d, .err) ∨
    (∃ out, splitFrames d fuel buf fr = (d, .ok out) ∧ ∀ f ∈ out, f.length ≤ maxFrameLen) ∨
    ∃ hd, fr = [] ∧ parseHeader buf = some hd ∧ buf.length < hd.frameLen ∧
      splitFrames d fuel buf fr = ({ d with fragments := d.fragments ++ [buf], size := buf.length,
                                            expected := (hd.frameLen : Int) - buf.length }, .more) := by
  induction fuel generalizing buf fr with
  | zero => exact Or.inl rfl
  | succ n ih =>
    rw [splitFrames]
    cases hs : parseHeader buf with
    | none => exact Or.inl rfl
    | some hd =>
      have hb := parseHeader_bounds buf hd hs
      simp only
      by_cases hge : buf.length ≥ hd.frameLen
      · rw [if_pos hge]
        have hfr' : ∀ f ∈ fr ++ [buf.take hd.frameLen], f.length ≤ maxFrameLen := by
          intro f hf
          simp only [List.mem_append, List.mem_singleton] at hf
          rcases hf with hf | rfl
          · exact hfr f hf
          · rw [List.length_take]; omega
        by_cases h0 : (buf.drop hd.frameLen).length = 0
        · rw [if_pos h0]; exact Or.inr (Or.inl ⟨_, rfl, hfr'⟩)
        · rw [if_neg h0]
          rcases ih (buf.drop hd.frameLen) _ hfr' with h | h | ⟨_, h, _⟩
          · exact Or.inl h
          · exact Or.inr (Or.inl h)
          · exact absurd h (by simp)
      · rw [if_neg hge]
        by_cases hfr0 : fr.length ≠ 0
        · rw [if_pos hfr0]; exact Or.inl rfl
        · rw [if_neg hfr0]; exact Or.inr (Or.inr ⟨hd, List.eq_nil_of_length_eq_zero (Decidable.not_not.mp hfr0), rfl, by omega, rfl⟩)

theorem splitFrames_valid (d : Dec) (fs : List Bytes) (fr : List Bytes) (fuel : Nat) (hne : fs ≠ [])
    (hv : ∀ f ∈ fs, ∃ h, parseHeader f = some h ∧ h.frameLen = f.length) (hfuel : fs.flatten.length < fuel) :
    splitFrames d fuel fs.flatten fr = (d, .ok (fr ++ fs)) := by
  induction fs generalizing fr fuel with
  | nil => exact absurd rfl hne
  | cons f rest ih =>
    obtain ⟨hd, hf, hfl⟩ := hv f (by simp)
    have hb := parseHeader_bounds f hd hf
    have hlen : (f :: rest).flatten.length = f.length + rest.flatten.length := by simp
    match fuel, hfuel with
    | fuel + 1, hfuel =>
      simp only [List.flatten_cons, splitFrames, parseHeader_append f _ hb.1, hf, hfl]
      have h1 : (f ++ rest.flatten).length ≥ f.length := by simp
      simp only [h1, ↓reduceIte, List.take_left', List.drop_left']
      by_cases hr : rest = []
      · subst hr; simp
      · have hpos : rest.flatten.length ≠ 0 := by
          cases rest with
          | nil => exact absurd rfl hr
          | cons g rest' =>
            obtain ⟨hg, hg1, hg2⟩ := hv g (by simp)
            have hgb := parseHeader_bounds g hg hg1
            have : (g :: rest').flatten.length = g.length + rest'.flatten.length := by simp
            omega
        simp only [hpos, ↓reduceIte]
        rw [ih (fr ++ [f]) fuel hr (fun x hx => hv x (by simp [hx])) (by omega)]
        simp

/-- one hypothesis per way out of `Decode`; `frames` / `start` are the results of the offset-0 loop
(`splitFrames_cases`) -/
theorem decode_elim {motive : Dec × DecRes (List Bytes) → Prop} (d : Dec) (p : Pkt)
    (body : Bytes) (hbody : body = p.payload.drop 4)
    (refuse : ∀ (b : Bool) (e : Int), motive ({ first := b, fragments := [], size := 0, expected := e }, .err))
    (frames : ∀ out : List Bytes, (∀ f ∈ out, f.length ≤ maxFrameLen) →
      motive ({ d.reset with first := true }, .ok out))
    (start : ∀ hd : Hdr, parseHeader body = some hd → body.length < hd.frameLen →
      motive ({ first := true, fragments := [body], size := body.length,
                expected := (hd.frameLen : Int) - body.length }, .more))
    (idle : motive (d, .nonStart))
    (more : d.size ≠ 0 → 0 < body.length → 0 < d.expected - body.length →
      motive ({ d with fragments := d.fragments ++ [body], size := d.size + body.length,
                       expected := d.expected - body.length }, .more))
    (last : d.size ≠ 0 → d.expected - body.length = 0 →
      motive ({ d with fragments := [], size := 0, expected := d.expected - body.length },
              .ok [joinFragments (d.fragments ++ [body]) (d.size + body.length)])) :
    motive (decode d p) := by
  subst hbody
  unfold decode
  by_cases h1 : p.payload.length < 5
  · rw [if_pos h1]; exact refuse _ _
  by_cases h2 : (p.payload.getD 0 0).toNat * 256 + (p.payload.getD 1 0).toNat ≠ 0
  · rw [if_neg h1, if_pos h2]; exact refuse _ _
  rw [if_neg h1, if_neg h2]
  extract_lets offset body _ d0 d1 d2
  by_cases h3 : offset = 0
  · rw [if_pos h3]
    rcases splitFrames_cases d0 (body.length + 1) body [] (by simp) with h | ⟨out, h, hout⟩ | ⟨hd, _, hp, hlt, h⟩
    · rw [h]; exact refuse _ _
    · rw [h]; exact frames out hout
    · rw [h]; exact start hd hp hlt
  rw [if_neg h3]
  by_cases h4 : offset ≠ d.size
  · rw [if_pos h4]
    cases d.first
    · exact idle
    · exact refuse _ _
  rw [if_neg h4]
  have hz : d.size ≠ 0 := fun h => h3 (by rw [Decidable.not_not.mp h4, h])
  by_cases hn : d1.expected < 0
  · rw [if_pos hn]; exact refuse _ _
  rw [if_neg hn]
  by_cases hp : d2.expected > 0
  · rw [if_pos hp]; exact more hz (by simp only [List.length_drop]; omega) hp
  · rw [if_neg hp]; exact last hz (Int.le_antisymm (Int.not_lt.mp hp) (Int.not_lt.mp hn))
end Rtsp.Codec.Mpeg1Audio
