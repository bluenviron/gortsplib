import Rtsp.Proofs.Codec.H265Bits
import Rtsp.Proofs.Codec.H265Enc
import Rtsp.Proofs.Codec.H265Dec
import Rtsp.Proofs.Codec.H26xRoundTrip
/-
What the H265 decoder does with each kind of packet the H265 encoder emits (C03 / C07).
-/
namespace Rtsp.Codec.H265
open Rtsp.Rtp Rtsp.Codec.H26x Rtsp.Facts

theorem decode_single (d : Dec) (p : Pkt) (n : Bytes) (hp : p.payload = n) (hv : ValidNalu n) :
    decode d p = addNALUs d.resetFragments [n] p.marker := by
  obtain ⟨hlen, htyp, hsc⟩ := hv
  match n, hlen with
  | b0 :: b1 :: tl, _ =>
    obtain ⟨t1, t2, t3⟩ := typ_dispatch b0 htyp
    simp only [decode, decodeNALUs, hp, t1, t2, t3, if_false]

/-- state after an aggregation packet -/
def afterAP (d : Dec) : Dec := { d.resetFragments with firstPacketReceived := true }

theorem decode_ap (d : Dec) (p : Pkt) (b : List Bytes) (hp : p.payload = apPayload b) (hb : 2 ≤ b.length)
    (hn : ∀ n ∈ b, n ≠ [] ∧ n.length < 65536) : decode d p = addNALUs (afterAP d) b p.marker := by
  have hne : b ≠ [] := fun h => by rw [h] at hb; cases hb
  simp only [decode, decodeNALUs, hp, apPayload, ap_dispatch, if_true, decodeAP,
    aggLoop_aggBody false b [] _ hne hn (Nat.lt_succ_self _), List.nil_append, afterAP]

/-- state after the start fragment of a NALU with header bytes `h0 h1` -/
def fuStartState (d : Dec) (seq : UInt16) (h0 h1 : UInt8) (chunk : Bytes) : Dec :=
  { d with fragmentsSize := chunk.length + 2, fragments := [[h0, h1], chunk],
           fragmentNextSeqNum := seq + 1, firstPacketReceived := true }

def fuMidState (d : Dec) (chunk : Bytes) : Dec :=
  { d with fragmentsSize := d.fragmentsSize + chunk.length, fragments := pushFrag d.fragments chunk,
           fragmentNextSeqNum := d.fragmentNextSeqNum + 1 }

/-- state after the end fragment, before the frame-buffer stage -/
def fuEndState (d : Dec) : Dec :=
  { d with fragmentsSize := 0, fragments := [], fragmentNextSeqNum := d.fragmentNextSeqNum + 1 }

theorem fu_ne_ap : CodecH26x.h265TypeFU ≠ CodecH26x.h265TypeAP := by decide

theorem decode_fu_start (d : Dec) (p : Pkt) (h0 h1 : UInt8) (chunk : Bytes)
    (hp : p.payload = fuHdr h0 h1 true false ++ chunk) :
    decode d p = (fuStartState d p.seq h0 h1 chunk, .more) := by
  obtain ⟨b0, b2, hh, r1, r2, r3, r4⟩ := fuHdr_read h0 h1 true false
  have h1' : decodeNALUs d p = (fuStartState d p.seq h0 h1 chunk, .more) := by
    simp only [decodeNALUs, hp, hh, List.cons_append, List.nil_append, r1, fu_ne_ap, if_false, if_true, decodeFU,
      r2, fuStart, r3]
    simp [r4, fuStartState, Dec.resetFragments]
  simp only [decode, h1']

theorem decodeNALUs_cont (d : Dec) (p : Pkt) (h0 h1 : UInt8) (en : Bool) (chunk : Bytes)
    (hp : p.payload = fuHdr h0 h1 false en ++ chunk) :
    ∃ b2 : UInt8, (b2 >>> 6) &&& 0x01 = (if en then 1 else 0) ∧ decodeNALUs d p = fuCont d p.seq b2 chunk := by
  obtain ⟨b0, b2, hh, r1, r2, r3, _⟩ := fuHdr_read h0 h1 false en
  refine ⟨b2, r3, ?_⟩
  simp only [decodeNALUs, hp, hh, List.cons_append, List.nil_append, r1, fu_ne_ap, if_false, if_true, decodeFU, r2]
  rfl

theorem runDec_nil (d : Dec) : runDec d [] = (d, []) := rfl

theorem runDec_cons (d : Dec) (p : Pkt) (ps : List Pkt) :
    runDec d (p :: ps) = ((runDec (decode d p).1 ps).1, (decode d p).2 :: (runDec (decode d p).1 ps).2) := rfl

theorem stamp_number_nil (c : EncCfg) (ts : UInt32) (sq : UInt16) : stamp ts (number c sq []) = [] := rfl

@[simp] theorem stamp_length (ts : UInt32) (a : List Pkt) : (stamp ts a).length = a.length :=
  H26x.stamp_length ts a

/-- what a group of packets leaves for the frame-buffer stage: the fragments cleared, the frame buffer
as in `d` -/
def Handed (d d1 : Dec) : Prop := d1.fragments = [] ∧ d1.fragmentsSize = 0 ∧ fbPart d1 = fbPart d

/-- `d` is reassembling `n`, has everything but `rest` and expects sequence number `sq` -/
structure FuOk (d0 : Dec) (n : Bytes) (d : Dec) (rest : Bytes) (sq : UInt16) : Prop where
  size : d.fragmentsSize = totalLen d.fragments
  ne   : d.fragmentsSize ≠ 0
  next : d.fragmentNextSeqNum = sq
  cat  : d.fragments.flatten ++ rest = n
  fb   : fbPart d = fbPart d0

theorem FuOk.mid {d0 d : Dec} {n rest : Bytes} {sq : UInt16} (h : FuOk d0 n d rest sq) (avail : Nat) :
    FuOk d0 n (fuMidState d (rest.take avail)) (rest.drop avail) (sq + 1) := by
  obtain ⟨o1, o2, o3, o4, o5⟩ := h
  refine ⟨?_, ?_, ?_, ?_, o5⟩
  all_goals unfold fuMidState; dsimp only
  · rw [pushFrag_totalLen, o1]
  · omega
  · rw [o3]
  · rw [pushFrag_flatten, List.append_assoc, List.take_append_drop, o4]

theorem FuOk.length_eq {d0 d : Dec} {n rest : Bytes} {sq : UInt16} (h : FuOk d0 n d rest sq) :
    d.fragmentsSize + rest.length = n.length := by
  rw [← h.cat, List.length_append, flatten_length, h.size]

theorem FuOk.decode_mid {d0 d : Dec} {n rest : Bytes} {sq : UInt16} (ok : FuOk d0 n d rest sq)
    (hau : n.length ≤ maxAU) (h0 h1 : UInt8) (avail : Nat) (p : Pkt)
    (hp : p.payload = fuHdr h0 h1 false false ++ rest.take avail) (hq : p.seq = sq) :
    (decode d p).2 = .more ∧ FuOk d0 n (decode d p).1 (rest.drop avail) (sq + 1) := by
  obtain ⟨b2, r3, h0'⟩ := decodeNALUs_cont d p h0 h1 false _ hp
  have hle : ¬ d.fragmentsSize + (rest.take avail).length > maxAU := by
    have := ok.length_eq
    rw [List.length_take]
    omega
  have h1' : decodeNALUs d p = (fuMidState d (rest.take avail), .more) := by
    rw [h0', fuCont, if_neg ok.ne, if_neg (· (hq.trans ok.next.symm)), if_neg hle, r3]
    rfl
  simp only [decode, h1']
  exact ⟨trivial, ok.mid _⟩

theorem FuOk.decode_end {d0 d : Dec} {n rest : Bytes} {sq : UInt16} (ok : FuOk d0 n d rest sq)
    (hau : n.length ≤ maxAU) (hsc : findSC n = none) (h0 h1 : UInt8) (p : Pkt)
    (hp : p.payload = fuHdr h0 h1 false true ++ rest) (hq : p.seq = sq) :
    decode d p = addNALUs (fuEndState d) [n] p.marker := by
  obtain ⟨b2, r3, h0'⟩ := decodeNALUs_cont d p h0 h1 true rest hp
  have hlen := ok.length_eq
  have hne : n ≠ [] := fun h0 => ok.ne (Nat.eq_zero_of_add_eq_zero_right (h0 ▸ hlen))
  have h1' : decodeNALUs d p = (fuEndState d, .nalus [n]) := by
    rw [h0', fuCont, if_neg ok.ne, if_neg (· (hq.trans ok.next.symm)), if_neg (by omega), r3]
    dsimp only
    rw [ok.size, ← pushFrag_totalLen, joinFragments_exact, pushFrag_flatten, ok.cat, splitNALUs_noSC _ hne hsc]
    rfl
  simp only [decode, h1']

theorem fu_run (c : EncCfg) (ts : UInt32) (max : Nat) (n : Bytes) (m : Bool) (d : Dec) (sq : UInt16)
    (hmax : 4 ≤ max) (hv : ValidNalu n) (hge : ¬ n.length < max) (hau : n.length ≤ maxAU) :
    ∃ d1, Handed d d1 ∧ runDec d (stamp ts (number c sq (writeFragmentationUnits max n m))) =
      ((addNALUs d1 [n] m).1,
       List.replicate ((writeFragmentationUnits max n m).length - 1) .more ++ [(addNALUs d1 [n] m).2]) := by
  obtain ⟨hlen, _, hsc⟩ := hv
  match n, hlen with
  | h0 :: h1 :: data, _ =>
  obtain ⟨j, hj⟩ := fragItems_cons (fuHdr h0 h1) 3 2 max (h0 :: h1 :: data) m (by omega) (by omega) hge
  rw [show writeFragmentationUnits max (h0 :: h1 :: data) m = _ from hj, List.length_cons, emitFU_length]
  obtain ⟨d', rest', sq', ok', hrun⟩ := run_emitFU runs (fuHdr h0 h1) c ts (max - 3) m
    (FuOk d (h0 :: h1 :: data)) (fun d' _ => addNALUs (fuEndState d') [h0 :: h1 :: data] m)
    (fun _ _ _ ok => ok.decode_mid hau h0 h1 _ _ rfl rfl) (fun _ _ _ ok => ok.decode_end hau hsc h0 h1 _ rfl rfl)
    j (fuStartState d sq h0 h1 (data.take (max - 3))) (data.drop (max - 3)) (sq + 1)
    ⟨by show (data.take (max - 3)).length + 2 = totalLen [[h0, h1], _]; simp [totalLen]; omega,
      Nat.succ_ne_zero _, rfl,
      by show h0 :: h1 :: (_ ++ []) ++ _ = _; rw [List.append_nil, List.cons_append, List.cons_append,
        List.take_append_drop], rfl⟩
  refine ⟨fuEndState d', ⟨rfl, rfl, ok'.fb⟩, ?_⟩
  rw [stamp_number_cons, runDec_cons, decode_fu_start d _ h0 h1 (data.take (max - 3)) rfl]
  exact congrArg (fun r => (r.1, DecRes.more :: r.2)) hrun

abbrev Good (max : Nat) (b : List Bytes) : Prop := GoodBatch ValidNalu 2 max maxAU b

/-- one batch, from ANY state: the last packet hands the batch's NALUs to the frame-buffer stage (`addNALUs`)
with the fragments cleared -/
theorem batch_run (c : EncCfg) (ts : UInt32) (hc : ValidCfg c) (b : List Bytes) (m : Bool) (d : Dec)
    (sq : UInt16) (hb : Good c.max b) :
    ∃ d1, Handed d d1 ∧ runDec d (stamp ts (number c sq (wb c.max b m))) =
      ((addNALUs d1 b m).1, List.replicate ((wb c.max b m).length - 1) .more ++ [(addNALUs d1 b m).2]) := by
  match b, hb.ne with
  | [n], _ =>
    have hvn := hb.valid n (List.mem_singleton_self n)
    by_cases hlt : n.length < c.max
    · refine ⟨d.resetFragments, ⟨rfl, rfl, rfl⟩, ?_⟩
      simp only [wb, batchItems, hlt, if_true, stamp_number_cons, stamp_number_nil, runDec_cons, runDec_nil]
      rw [decode_single d _ n rfl hvn]
      rfl
    · simp only [wb, batchItems, hlt, if_false]
      exact fu_run c ts c.max n m d sq hc.1 hvn hlt (totalLen_singleton n ▸ hb.size)
  | x :: y :: r, _ =>
    refine ⟨afterAP d, ⟨rfl, rfl, rfl⟩, ?_⟩
    simp only [wb, batchItems, stamp_number_cons, stamp_number_nil, runDec_cons, runDec_nil]
    rw [decode_ap d _ (x :: y :: r) rfl (Nat.le_add_left 2 _)
      (hb.agg (fun _ h h0 => absurd (h0 ▸ h.1) (by decide)) (Nat.le_add_left 2 _) hc.2)]
    rfl

/-- the collecting state of an intact frame -/
structure Collect (acc : List Bytes) (d : Dec) : Prop where
  fb   : d.frameBuffer = acc
  len  : d.frameBufferLen = acc.length
  size : d.frameBufferSize = totalLen acc

theorem addNALUs_collect (d1 : Dec) (ns acc : List Bytes) (m : Bool)
    (hcol : Collect acc d1) (hl : acc.length + ns.length ≤ maxNALUs)
    (hs : totalLen acc + totalLen ns ≤ maxAU) :
    (addNALUs d1 ns m).2 = (if m then .ok (acc ++ ns) else .more) ∧
    Collect (if m then [] else acc ++ ns) (addNALUs d1 ns m).1 := by
  obtain ⟨rfl, h2, h3⟩ := hcol
  rw [addNALUs, if_neg (by omega)]
  dsimp only
  rw [if_neg (by omega)]
  cases m
  · exact ⟨rfl, rfl, by show d1.frameBufferLen + _ = List.length (_ ++ _); rw [List.length_append, h2],
      by show d1.frameBufferSize + _ = totalLen (_ ++ _); rw [totalLen_append, h3]⟩
  · exact ⟨rfl, rfl, rfl, rfl⟩

end Rtsp.Codec.H265
