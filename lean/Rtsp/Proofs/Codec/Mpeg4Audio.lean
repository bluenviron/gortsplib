import Rtsp.Model.Codec.Mpeg4Audio
import Rtsp.Proofs.Codec.AudioWriter
import Rtsp.Proofs.Codec.AudioBitsWrite
/-
pkg/format/rtpmpeg4audio, both sides of the AU-headers section.  Encoder: the bytes the Go loop writes are
the bit string `auHeaders`, packed (`hdrBytes_eq_pack`).  Decoder: the header loop through its body `readHeader`
(`readLoop_succ`) — on the written headers it returns the AU sizes (`readAUHeaders_written`), on any input sizes in
`(0, maxAU]` inside the buffer (`readLoop_bounds`).
-/
namespace Rtsp.Codec.Mpeg4Audio
open Rtsp.Rtp Rtsp.Codec.Audio

/-- header bits of `n` AUs when the first one is (`first`) / is not the first of the packet -/
def hdrLen (p : Params) (first : Bool) (n : Nat) : Nat :=
  if n = 0 then 0 else p.sl + (if first then p.il else p.dl) + (n - 1) * (p.sl + p.dl)

theorem hdrBitsLen_eq (p : Params) (n : Nat) : hdrBitsLen p n = hdrLen p true n := by
  unfold hdrBitsLen hdrLen; split <;> simp

theorem auHeaders_length (p : Params) (first : Bool) (aus : List Bytes) :
    (auHeaders p first aus).length = hdrLen p first aus.length := by
  induction aus generalizing first with
  | nil => simp [auHeaders, hdrLen]
  | cons au rest ih =>
    simp only [auHeaders, List.length_append, bitsOf_length, List.length_replicate, ih, hdrLen,
      List.length_cons]
    cases rest with
    | nil => simp
    | cons b rest' =>
      simp only [List.length_cons, Nat.add_one_ne_zero, ↓reduceIte, Nat.add_sub_cancel, Bool.false_eq_true]
      rw [Nat.add_mul]
      omega

theorem hdrBitsLen_mono (p : Params) {m n : Nat} (h : m ≤ n) : hdrBitsLen p m ≤ hdrBitsLen p n := by
  unfold hdrBitsLen
  by_cases hm : m = 0
  · simp [hm]
  · have hn : n ≠ 0 := by omega
    simp only [hm, hn, ↓reduceIte]
    have : (m - 1) * (p.sl + p.dl) ≤ (n - 1) * (p.sl + p.dl) := Nat.mul_le_mul_right _ (by omega)
    omega

theorem writeHeadersGo_length (p : Params) (first : Bool) (aus : List Bytes) (buf : Bytes) (pos : Nat) :
    (writeHeadersGo p first aus buf pos).1.length = buf.length := by
  induction aus generalizing first buf pos with
  | nil => rfl
  | cons au rest ih => simp only [writeHeadersGo, ih, writeBitsGo_length]

theorem hdrBytes_length (p : Params) (aus : List Bytes) : (hdrBytes p aus).length = ceil8 (hdrBitsLen p aus.length) := by
  simp [hdrBytes, writeHeadersGo_length]

theorem writeHeadersGo_spec (p : Params) (first : Bool) (aus : List Bytes) {buf : Bytes} {pos : Nat} {B : List Bool}
    (h : Cur buf pos B) (hv : ∀ au ∈ aus, au.length < 2 ^ p.sl)
    (hlen : pos + (auHeaders p first aus).length ≤ buf.length * 8) :
    HoldsAll (writeHeadersGo p first aus buf pos).1 (B ++ auHeaders p first aus) := by
  induction aus generalizing first buf pos B with
  | nil => simpa [writeHeadersGo, auHeaders] using h.holds
  | cons au rest ih =>
    simp only [auHeaders, List.length_append, bitsOf_length, List.length_replicate] at hlen
    rw [writeHeadersGo, auHeaders, ← bitsOf_zero, ← List.append_assoc, ← List.append_assoc]
    have a := writeBitsGo_spec au.length p.sl h (hv au (by simp)) (by omega)
    have ha : (writeBitsGo buf pos au.length p.sl).2 = pos + p.sl := by
      rw [a.pos_eq, h.pos_eq, List.length_append, bitsOf_length]
    have b := writeBitsGo_spec 0 (if first then p.il else p.dl) a (Nat.pow_pos (by omega))
      (by rw [ha, writeBitsGo_length]; omega)
    refine ih false b (fun x hx => hv x (by simp [hx])) ?_
    rw [b.pos_eq, List.length_append, bitsOf_length, ← a.pos_eq, ha, writeBitsGo_length, writeBitsGo_length]
    omega

theorem hdrBytes_eq_pack (p : Params) (aus : List Bytes) (hv : ∀ au ∈ aus, au.length < 2 ^ p.sl) :
    hdrBytes p aus = pack (auHeaders p true aus) := by
  have hl := auHeaders_length p true aus
  rw [← hdrBitsLen_eq] at hl
  refine eq_pack_of_holdsAll _ _ ?_ (by rw [hdrBytes_length, hl])
  exact writeHeadersGo_spec p true aus (pos := 0) ⟨holdsAll_zeros _, rfl⟩ hv
    (by rw [List.length_replicate, hl, ceil8_eq]; omega)

/-- the payload `writeAggregated` builds for `units`: AU-headers-length, AU headers, AUs -/
def payload (p : Params) (units : List Bytes) : Bytes :=
  be16 (hdrBitsLen p units.length) ++ hdrBytes p units ++ units.flatten

theorem hdrBitsLen_one (p : Params) : hdrBitsLen p 1 = p.sl + p.il := by simp [hdrBitsLen]

theorem fragPayload_eq (p : Params) (chunk : Bytes) : fragPayload p chunk = payload p [chunk] := by
  simp [fragPayload, payload, hdrBitsLen_one]

theorem lenAggregated_single (p : Params) (f : Bytes) :
    lenAggregated p [f] none = 2 + ceil8 (p.sl + p.il) + f.length := by
  simp [lenAggregated, hdrBitsLen_one]

theorem payload_length (p : Params) (aus : List Bytes) : (payload p aus).length = lenAggregated p aus none := by
  simp only [payload, List.length_append, be16, List.length_cons, List.length_nil, hdrBytes_length,
    flatten_length, lenAggregated, Option.isSome_none, Bool.false_eq_true, ↓reduceIte,
    Nat.add_zero]

theorem fragPayload_length (p : Params) (chunk : Bytes) :
    (fragPayload p chunk).length = 2 + ceil8 (p.sl + p.il) + chunk.length := by
  simp only [fragPayload, List.length_append, be16, List.length_cons, List.length_nil, hdrBytes_length, Nat.zero_add,
    hdrBitsLen_one]

/-- the payload layout (RFC 3640): AU-headers-length, AU headers, AUs; a fragment is laid out as a
batch of one AU that is the chunk -/
def writer (c : EncCfg) (p : Params) : Writer where
  max := c.max
  avail := c.max - 2 - ceil8 (p.sl + p.il)
  len b := lenAggregated p b none
  pt := c.pt
  ssrc := c.ssrc
  allMarked := false
  aggPayload := payload p
  fragPayload _ _ _ ch := fragPayload p ch

theorem emitFrag_eq (c : EncCfg) (p : Params) (ts : UInt32) (f : Bytes) (avail n : Nat) (first : Bool) (sq : UInt16)
    (pos : Nat) (rest : Bytes) :
    emitFrag c p ts avail n sq rest = frags ((writer c p).frag f ts) avail n first sq pos rest := by
  induction n using frags_ind generalizing first sq pos rest with
  | h0 => rfl
  | h1 => rfl
  | h2 n ih => simp only [emitFrag, frags]; rw [ih false]; rfl

theorem writeBatch_eq (c : EncCfg) (p : Params) : writeBatch c p = (writer c p).write := by
  funext b ts sq
  match b with
  | [f] => exact ite_congr rfl (fun _ => rfl) (fun _ => emitFrag_eq c p ts f _ _ true sq 0 f)
  | [] => rfl
  | _ :: _ :: _ => rfl

theorem writeBatch_cases (c : EncCfg) (p : Params) (b : List Bytes) (ts : UInt32) (sq : UInt16) :
    (writeBatch c p b ts sq = writeAggregated c p b ts sq ∧ (b.length = 1 → lenAggregated p b none < c.max)) ∨
    ∃ f, b = [f] ∧ ¬ lenAggregated p [f] none < c.max ∧ writeBatch c p b ts sq = writeFragmented c p f ts sq := by
  rw [writeBatch_eq]
  exact ((writer c p).write_cases b ts sq).imp id fun ⟨f, hb, hge, h⟩ => ⟨f, hb, hge, h.trans (emitFrag_eq c p ts f _ _ true sq 0 f).symm⟩

/-- sizes an AU header can carry and the decoder accepts -/
def SizeOk (p : Params) (n : Nat) : Prop := 0 < n ∧ n < 2 ^ p.sl ∧ n ≤ maxAU

theorem splitAUs_flatten (aus : List Bytes) : splitAUs aus.flatten (aus.map (·.length)) = some aus := by
  induction aus with
  | nil => rfl
  | cons au rest ih =>
    simp only [List.flatten_cons, List.map_cons, splitAUs, List.length_append]
    have : ¬ (au.length + rest.flatten.length < au.length) := by omega
    simp [this, ih]

theorem readBits_pos (buf : Bytes) (pos n v pos' : Nat) (h : readBits buf pos n = some (v, pos'))
    (hp : pos ≤ buf.length * 8) : pos' = pos + n ∧ pos' ≤ buf.length * 8 := by
  unfold readBits at h
  split at h
  · simp at h
  · simp only [Option.some.injEq, Prod.mk.injEq] at h
    omega

/-- one iteration of the header loop; result: the size, the index-field width `w`, the position after -/
def readHeader (p : Params) (buf : Bytes) (pos : Nat) (first : Bool) : Option (Nat × Nat × Nat) :=
  match readBits buf pos p.sl with
  | none => none
  | some (dataLen, pos1) =>
    if dataLen = 0 then none
    else if dataLen > maxAU then none
    else
      let w := if first then p.il else p.dl
      if w > 0 then
        match readBits buf pos1 w with
        | none => none
        | some (idx, pos2) => if idx ≠ 0 then none else some (dataLen, w, pos2)
      else some (dataLen, w, pos1)

theorem readLoop_succ (p : Params) (buf : Bytes) (f hl pos : Nat) (first : Bool) :
    readAUHeadersLoop p buf (f + 1) hl pos first =
      if hl = 0 then some []
      else match readHeader p buf pos first with
        | none => none
        | some (dataLen, w, pos') => (readAUHeadersLoop p buf f (hl - p.sl - w) pos' false).map (dataLen :: ·) := by
  rw [readAUHeadersLoop, readHeader]
  by_cases h0 : hl = 0
  · rw [if_pos h0, if_pos h0]
  rw [if_neg h0, if_neg h0]
  cases readBits buf pos p.sl with
  | none => rfl
  | some r =>
    obtain ⟨dataLen, pos1⟩ := r
    simp only
    by_cases hz : dataLen = 0
    · rw [if_pos hz, if_pos hz]
    by_cases hm : dataLen > maxAU
    · rw [if_neg hz, if_neg hz, if_pos hm, if_pos hm]
    rw [if_neg hz, if_neg hz, if_neg hm, if_neg hm]
    generalize (if first = true then p.il else p.dl) = w
    by_cases hw : w > 0
    · simp only [if_pos hw]
      cases readBits buf pos1 w with
      | none => rfl
      | some r2 =>
        obtain ⟨idx, pos2⟩ := r2
        simp only
        by_cases hi : idx ≠ 0
        · rw [if_pos hi, if_pos hi]
        · rw [if_neg hi, if_neg hi]
    · have : w = 0 := by omega
      subst this
      simp only [if_neg hw, Nat.sub_zero]

theorem readHeader_written (p : Params) (buf : Bytes) (pre post : List Bool) (first : Bool) (n : Nat)
    (hb : HoldsBits buf (pre ++ bitsOf n p.sl ++ List.replicate (if first then p.il else p.dl) false ++ post))
    (hv : SizeOk p n) :
    readHeader p buf pre.length first =
      some (n, if first then p.il else p.dl, pre.length + p.sl + if first then p.il else p.dl) := by
  obtain ⟨h0, h1, h2⟩ := hv
  have h64 : n < 2 ^ 64 := by
    have : maxAU = 5120 := rfl
    omega
  unfold readHeader
  generalize (if first = true then p.il else p.dl) = w at hb ⊢
  rw [readBits_field buf pre (List.replicate w false ++ post) n p.sl (by simpa [List.append_assoc] using hb) h1 h64]
  simp only [if_neg (show ¬ n = 0 by omega), if_neg (show ¬ n > maxAU by omega)]
  by_cases hw : w > 0
  · have hr2 := readBits_field buf (pre ++ bitsOf n p.sl) post 0 w (by simpa [bitsOf_zero] using hb)
      (Nat.pow_pos (by omega)) (by decide)
    simp only [List.length_append, bitsOf_length] at hr2
    simp only [if_pos hw, hr2, ne_eq, not_true_eq_false, if_false]
  · obtain rfl : w = 0 := by omega
    simp only [if_neg hw, Nat.add_zero]

theorem readLoop_headers (p : Params) (hsl : 1 ≤ p.sl) (buf : Bytes) (aus : List Bytes) (pre : List Bool)
    (first : Bool) (fuel : Nat) (hb : HoldsBits buf (pre ++ auHeaders p first aus))
    (hv : ∀ au ∈ aus, SizeOk p au.length) (hf : (auHeaders p first aus).length < fuel) :
    readAUHeadersLoop p buf fuel (auHeaders p first aus).length pre.length first
      = some (aus.map (·.length)) := by
  induction aus generalizing pre first fuel with
  | nil => cases fuel with
    | zero => simp at hf
    | succ f => simp [auHeaders, readAUHeadersLoop]
  | cons au rest ih =>
    cases fuel with
    | zero => simp at hf
    | succ f =>
      simp only [auHeaders, List.length_append, bitsOf_length, List.length_replicate] at hf hb ⊢
      rw [readLoop_succ, if_neg (by omega), readHeader_written p buf pre (auHeaders p false rest) first au.length
        (by simpa [List.append_assoc] using hb) (hv au (by simp))]
      generalize (if first = true then p.il else p.dl) = w at hf hb ⊢
      have hih := ih (pre ++ bitsOf au.length p.sl ++ List.replicate w false) false f
        (by simpa [List.append_assoc] using hb) (fun x hx => hv x (by simp [hx])) (by omega)
      simp only [List.length_append, bitsOf_length, List.length_replicate] at hih
      simp only [show p.sl + w + (auHeaders p false rest).length - p.sl - w = (auHeaders p false rest).length by omega,
        hih, Option.map_some, List.map_cons]

theorem readAUHeaders_written (p : Params) (hsl : 1 ≤ p.sl) (aus : List Bytes) (rest : Bytes)
    (hv : ∀ au ∈ aus, SizeOk p au.length) :
    readAUHeaders p (pack (auHeaders p true aus) ++ rest) (auHeaders p true aus).length
      = some (aus.map (·.length)) := by
  have := readLoop_headers p hsl (pack (auHeaders p true aus) ++ rest) aus [] true
    ((auHeaders p true aus).length + 1) (by simpa using holdsBits_pack _ rest) hv (by omega)
  simpa [readAUHeaders] using this

theorem readHeader_some (p : Params) (buf : Bytes) (pos : Nat) (first : Bool) (dataLen w pos' : Nat)
    (h : readHeader p buf pos first = some (dataLen, w, pos')) (hp : pos ≤ buf.length * 8) :
    0 < dataLen ∧ dataLen ≤ maxAU ∧ pos' = pos + p.sl + w ∧ pos' ≤ buf.length * 8 := by
  unfold readHeader at h
  cases hr : readBits buf pos p.sl with
  | none => simp [hr] at h
  | some r =>
    obtain ⟨dl, pos1⟩ := r
    obtain ⟨e1, b1⟩ := readBits_pos _ _ _ _ _ hr hp
    simp only [hr, Option.ite_none_left_eq_some] at h
    obtain ⟨hz, hm, h⟩ := h
    generalize (if first = true then p.il else p.dl) = w' at h
    by_cases hw : w' > 0
    · simp only [if_pos hw] at h
      cases hr2 : readBits buf pos1 w' with
      | none => simp [hr2] at h
      | some r2 =>
        obtain ⟨idx, pos2⟩ := r2
        obtain ⟨e2, b2⟩ := readBits_pos _ _ _ _ _ hr2 b1
        simp only [hr2, Option.ite_none_left_eq_some, Option.some.injEq, Prod.mk.injEq] at h
        omega
    · simp only [if_neg hw, Option.some.injEq, Prod.mk.injEq] at h
      omega

theorem readLoop_some (p : Params) (buf : Bytes) (f hl pos : Nat) (first : Bool) (l : List Nat)
    (h : readAUHeadersLoop p buf (f + 1) hl pos first = some l) :
    (hl = 0 ∧ l = []) ∨ ∃ dataLen w pos' l', readHeader p buf pos first = some (dataLen, w, pos') ∧
      readAUHeadersLoop p buf f (hl - p.sl - w) pos' false = some l' ∧ l = dataLen :: l' := by
  rw [readLoop_succ] at h
  by_cases h0 : hl = 0
  · rw [if_pos h0] at h; exact Or.inl ⟨h0, (Option.some.inj h).symm⟩
  rw [if_neg h0] at h
  cases hh : readHeader p buf pos first with
  | none => simp [hh] at h
  | some x =>
    obtain ⟨dataLen, w, pos'⟩ := x
    simp only [hh, Option.map_eq_some_iff] at h
    obtain ⟨l', h1, h2⟩ := h
    exact Or.inr ⟨dataLen, w, pos', l', rfl, h1, h2.symm⟩

/-- the second part is what keeps `payload[pos:]` with `pos = ⌈headersLen / 8⌉` in range -/
theorem readLoop_bounds (p : Params) (buf : Bytes) (fuel hl pos : Nat) (first : Bool) (l : List Nat)
    (h : readAUHeadersLoop p buf fuel hl pos first = some l) (hp : pos ≤ buf.length * 8) :
    (∀ x ∈ l, 0 < x ∧ x ≤ maxAU) ∧ pos + hl ≤ buf.length * 8 := by
  induction fuel generalizing hl pos first l with
  | zero => simp [readAUHeadersLoop] at h
  | succ f ih =>
    rcases readLoop_some p buf f hl pos first l h with ⟨rfl, rfl⟩ | ⟨dataLen, w, pos', l', hh, hrec, rfl⟩
    · exact ⟨by simp, hp⟩
    · obtain ⟨h1, h2, h3, h4⟩ := readHeader_some p buf pos first dataLen w pos' hh hp
      obtain ⟨ih1, ih2⟩ := ih _ _ _ _ hrec h4
      refine ⟨fun x hx => ?_, by omega⟩
      simp only [List.mem_cons] at hx
      rcases hx with rfl | hx
      · exact ⟨h1, h2⟩
      · exact ih1 x hx

theorem splitAUs_bounds (payload : Bytes) (dls : List Nat) (aus : List Bytes)
    (h : splitAUs payload dls = some aus) (hd : ∀ x ∈ dls, x ≤ maxAU) : ∀ au ∈ aus, au.length ≤ maxAU := by
  induction dls generalizing payload aus with
  | nil => simp [splitAUs] at h; subst h; simp
  | cons dl rest ih =>
    simp only [splitAUs] at h
    split at h
    · simp at h
    · cases hr : splitAUs (payload.drop dl) rest with
      | none => simp [hr] at h
      | some l =>
        simp only [hr, Option.map_some, Option.some.injEq] at h
        subst h
        intro au hau
        simp only [List.mem_cons] at hau
        rcases hau with hau | hau
        · subst hau
          have := hd dl (by simp)
          simp only [List.length_take]; omega
        · exact ih _ _ hr (fun x hx => hd x (by simp [hx])) au hau

theorem adtsHead_bounds (r au rest : Bytes) (h : adtsHead r = some (au, rest)) :
    au.length ≤ maxAU ∧ rest.length + 8 ≤ r.length := by
  simp only [adtsHead, Option.ite_none_left_eq_some, Option.some.injEq, Prod.mk.injEq] at h
  obtain ⟨h8, -, -, -, -, hraw, hmax, -, hlen, rfl, rfl⟩ := h
  simp only [List.length_take, List.length_drop]
  omega

theorem adtsLoop_bounds (fuel : Nat) (r : Bytes) (l : List Bytes) (h : adtsLoop fuel r = some l) :
    ∀ au ∈ l, au.length ≤ maxAU := by
  induction fuel generalizing r l with
  | zero => simp [adtsLoop] at h
  | succ f ih =>
    rw [adtsLoop] at h
    cases hh : adtsHead r with
    | none => simp [hh] at h
    | some x =>
      obtain ⟨au, rest⟩ := x
      have hb := adtsHead_bounds r au rest hh
      simp only [hh] at h
      split at h
      · simp only [Option.some.injEq] at h; subst h
        intro a ha; simp only [List.mem_singleton] at ha; subst ha; exact hb.1
      · cases hrec : adtsLoop f rest with
        | none => simp [hrec] at h
        | some l' =>
          simp only [hrec, Option.map_some, Option.some.injEq] at h
          subst h
          intro a ha
          simp only [List.mem_cons] at ha
          rcases ha with ha | ha
          · subst ha; exact hb.1
          · exact ih _ _ hrec a ha

theorem readAUHeaders_bounds (p : Params) (buf : Bytes) (hl : Nat) (l : List Nat)
    (h : readAUHeaders p buf hl = some l) : ∀ x ∈ l, 0 < x ∧ x ≤ maxAU :=
  (readLoop_bounds p buf _ _ _ _ l h (Nat.zero_le _)).1

/-- one hypothesis per way out of `Decode`, with what the AU-header parser guarantees about the
sizes; `chunk` is the data of a one-header packet -/
theorem decode_elim {motive : Dec × DecRes (List Bytes) → Prop} (d : Dec) (q : Pkt)
    (refuse : motive (d.reset, .err))
    (whole : q.marker = true → d.size = 0 → ∀ aus : List Bytes, (∀ au ∈ aus, au.length ≤ maxAU) →
      motive (removeADTS d.reset aus))
    (start : q.marker = false → d.size = 0 → ∀ chunk : Bytes, 0 < chunk.length → chunk.length ≤ maxAU →
      motive ({ d.reset with size := chunk.length, fragments := [chunk], nextSeq := q.seq + 1 }, .more))
    (more : q.marker = false → d.size ≠ 0 → ∀ chunk : Bytes, 0 < chunk.length → d.size + chunk.length ≤ maxAU →
      motive ({ d with size := d.size + chunk.length, fragments := d.fragments ++ [chunk],
                       nextSeq := d.nextSeq + 1 }, .more))
    (last : q.marker = true → d.size ≠ 0 → ∀ chunk : Bytes, 0 < chunk.length → d.size + chunk.length ≤ maxAU →
      motive (removeADTS { d with size := 0, fragments := [], nextSeq := d.nextSeq + 1 }
                [joinFragments (d.fragments ++ [chunk]) (d.size + chunk.length)])) :
    motive (decode d q) := by
  unfold decode
  by_cases h1 : q.payload.length < 2
  · rw [if_pos h1]; exact refuse
  rw [if_neg h1]
  extract_lets hl payload0 payload d0
  by_cases h2 : hl = 0
  · rw [if_pos h2]; exact refuse
  rw [if_neg h2]
  cases hr : readAUHeaders d.par payload0 hl with
  | none => exact refuse
  | some lens =>
    have hb := readAUHeaders_bounds _ _ _ _ hr
    simp only
    by_cases hz : d.size = 0
    · rw [if_pos hz]
      cases hm : q.marker with
      | true =>
        rw [if_pos rfl]
        cases hs : splitAUs payload lens with
        | none => exact refuse
        | some aus => exact whole hm hz aus (splitAUs_bounds _ _ _ hs fun x hx => (hb x hx).2)
      | false =>
        rw [if_neg Bool.false_ne_true]
        match lens, hb with
        | [dl], hb =>
          simp only
          by_cases hlen : payload.length < dl
          · rw [if_pos hlen]; exact refuse
          rw [if_neg hlen]
          have e : (payload.take dl).length = dl := by rw [List.length_take]; omega
          have := start hm hz (payload.take dl) (by rw [e]; exact (hb dl (by simp)).1) (by rw [e]; exact (hb dl (by simp)).2)
          rwa [e] at this
        | [], _ => exact refuse
        | _ :: _ :: _, _ => exact refuse
    · rw [if_neg hz]
      match lens, hb with
      | [dl], hb =>
        simp only
        by_cases hlen : payload.length < dl
        · rw [if_pos hlen]; exact refuse
        by_cases hsq : q.seq ≠ d.nextSeq
        · rw [if_neg hlen, if_pos hsq]; exact refuse
        by_cases hsz : d.size + dl > maxAU
        · rw [if_neg hlen, if_neg hsq, if_pos hsz]; exact refuse
        rw [if_neg hlen, if_neg hsq, if_neg hsz]
        have e : (payload.take dl).length = dl := by rw [List.length_take]; omega
        cases hm : q.marker with
        | false =>
          have := more hm hz (payload.take dl) (by rw [e]; exact (hb dl (by simp)).1) (by rw [e]; omega)
          rw [e] at this
          exact this
        | true =>
          have := last hm hz (payload.take dl) (by rw [e]; exact (hb dl (by simp)).1) (by rw [e]; omega)
          rw [e] at this
          exact this
      | [], _ => exact refuse
      | _ :: _ :: _, _ => exact refuse
end Rtsp.Codec.Mpeg4Audio
