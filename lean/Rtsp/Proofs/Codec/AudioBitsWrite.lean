import Rtsp.Proofs.Codec.AudioBits
/-
The byte-wise `WriteBitsUnsafe` of mediacommon (`writeBitsGo`) appends the bit string `bitsOf v n`
when the buffer is zero from `pos` on and `v < 2^n` — which is how the encoders use it (fresh
`make([]byte, …)`, fields written front to back, sizes below `2^SizeLength`).  The invariant is `Cur`;
every byte assignment of the Go code is one `Cur.upd`.
-/
namespace Rtsp.Codec.Audio
open Rtsp.Rtp

theorem getD_set_ite (l : Bytes) (j k : Nat) (a d : UInt8) :
    (l.set j a).getD k d = if j = k ∧ j < l.length then a else l.getD k d := by
  simp only [List.getD_eq_getElem?_getD, List.getElem?_set]
  by_cases h1 : j = k
  · by_cases h2 : j < l.length
    · simp [h1, h2]; subst h1; simp [h2]
    · subst h1; simp [h2]
  · simp [h1]

theorem byteAt_updByte (buf : Bytes) (j : Nat) (f : Nat → Nat) (i : Nat) :
    byteAt (updByte buf j f) i =
      if i / 8 = j ∧ j < buf.length then f (byteAt buf i) % 256 else byteAt buf i := by
  unfold byteAt updByte
  rw [getD_set_ite]
  by_cases h : j = i / 8 ∧ j < buf.length
  · obtain ⟨h1, h2⟩ := h
    simp [h1, h2, UInt8.toNat_ofNat']
    subst h1; simp [h2]
  · have : ¬ (i / 8 = j ∧ j < buf.length) := fun ⟨a, b⟩ => h ⟨a.symm, b⟩
    simp only [h, this, ↓reduceIte]

theorem updByte_length (buf : Bytes) (j : Nat) (f : Nat → Nat) : (updByte buf j f).length = buf.length := by
  simp [updByte]

theorem testBit_high (v n t : Nat) (hv : v < 2 ^ n) (ht : n ≤ t) : v.testBit t = false :=
  Nat.testBit_lt_two_pow (Nat.lt_of_lt_of_le hv (Nat.pow_le_pow_right (by omega) ht))

theorem getD_beyond (l : List Bool) (i : Nat) (h : l.length ≤ i) : l.getD i false = false := by
  simp [List.getD_eq_getElem?_getD, List.getElem?_eq_none h]

theorem getD_append_field (B : List Bool) (v n i : Nat) :
    (B ++ bitsOf v n).getD i false =
      if i < B.length then B.getD i false
      else if i < B.length + n then v.testBit (n - 1 - (i - B.length)) else false := by
  simp only [List.getD_eq_getElem?_getD]
  by_cases h1 : i < B.length
  · simp [h1, List.getElem?_append_left h1]
  · rw [List.getElem?_append_right (by omega)]
    simp only [h1, ↓reduceIte]
    by_cases h2 : i < B.length + n
    · have := bitsOf_getD v n (i - B.length) (by omega)
      simp only [List.getD_eq_getElem?_getD] at this
      simp [h2, this]
    · have := getD_beyond (bitsOf v n) (i - B.length) (by rw [bitsOf_length]; omega)
      simp only [List.getD_eq_getElem?_getD] at this
      simp [h2, this]

/-- the buffer holds `B` and zeros after it (reading needs only the prefix, `HoldsBits`; writing needs
the zeros, because `WriteBitsUnsafe` ORs into the current byte) -/
def HoldsAll (buf : Bytes) (B : List Bool) : Prop := ∀ i, bitAt buf i = B.getD i false

/-- the invariant of `WriteBitsUnsafe` and of the loops that call it -/
structure Cur (buf : Bytes) (pos : Nat) (B : List Bool) : Prop where
  holds : HoldsAll buf B
  pos_eq : pos = B.length

theorem bitsOf_add (v a b : Nat) : bitsOf v (a + b) = bitsOf (v >>> b) a ++ bitsOf v b := by
  induction a with
  | zero => simp [bitsOf]
  | succ a ih =>
    rw [show a + 1 + b = (a + b) + 1 by omega, bitsOf, bitsOf, ih, Nat.testBit_shiftRight, Nat.add_comm b a]
    rfl

/-- one assignment `buf[pos/8] = f(old)` appends a field that ends inside that byte -/
theorem Cur.upd {buf : Bytes} {pos : Nat} {B : List Bool} (h : Cur buf pos B) (x k : Nat) (f : Nat → Nat)
    (hk : pos % 8 + k ≤ 8) (hj : 0 < k → pos / 8 < buf.length)
    (hy : ∀ r, r < 8 → (f (byteAt buf pos)).testBit (7 - r) =
      if r < pos % 8 then (byteAt buf pos).testBit (7 - r)
      else if r < pos % 8 + k then x.testBit (k - 1 - (r - pos % 8)) else false) :
    Cur (updByte buf (pos / 8) f) (pos + k) (B ++ bitsOf x k) := by
  obtain ⟨h, rfl⟩ := h
  refine ⟨fun i => ?_, by rw [List.length_append, bitsOf_length]⟩
  rw [bitAt, byteAt_updByte, getD_append_field]
  have hb : (byteAt buf i).testBit (7 - i % 8) = B.getD i false := h i
  by_cases hC : i / 8 = B.length / 8 ∧ B.length / 8 < buf.length
  · have e : byteAt buf i = byteAt buf B.length := by unfold byteAt; rw [hC.1]
    rw [if_pos hC, Nat.testBit_mod_two_pow _ 8, e, hy _ (Nat.mod_lt _ (by omega)),
      decide_eq_true (show 7 - i % 8 < 8 by omega), Bool.true_and]
    rw [e] at hb
    by_cases h1 : i < B.length
    · rw [if_pos (show i % 8 < B.length % 8 by omega), if_pos h1, hb]
    · rw [if_neg (show ¬ i % 8 < B.length % 8 by omega), if_neg h1]
      by_cases h2 : i < B.length + k
      · rw [if_pos (show i % 8 < B.length % 8 + k by omega), if_pos h2]; congr 1; omega
      · rw [if_neg (show ¬ i % 8 < B.length % 8 + k by omega), if_neg h2]
  · have hout : ¬ (B.length ≤ i ∧ i < B.length + k) := fun ⟨a, b⟩ => hC ⟨by omega, hj (by omega)⟩
    rw [if_neg hC, hb]
    by_cases h1 : i < B.length
    · rw [if_pos h1]
    · rw [if_neg h1, if_neg (show ¬ i < B.length + k by omega)]; exact getD_beyond B i (by omega)

theorem Cur.high_zero {buf : Bytes} {pos : Nat} {B : List Bool} (h : Cur buf pos B) (r : Nat) (hr : r < 8)
    (h0 : pos % 8 ≤ r) : (byteAt buf pos).testBit (7 - r) = false := by
  obtain ⟨h, rfl⟩ := h
  have := h (B.length / 8 * 8 + r)
  rw [bitAt, getD_beyond B _ (by omega), show (B.length / 8 * 8 + r) % 8 = r by omega] at this
  rw [← this]; unfold byteAt; rw [show (B.length / 8 * 8 + r) / 8 = B.length / 8 by omega]

theorem writeWhole_length (v : Nat) (fuel : Nat) (buf : Bytes) (pos m : Nat) :
    (writeWhole v fuel buf pos m).1.length = buf.length := by
  induction fuel generalizing buf pos m with
  | zero => rfl
  | succ f ih =>
    rw [writeWhole]
    split
    · rw [ih, updByte_length]
    · split
      · simp only [updByte_length]
      · rfl

theorem writeBitsGo_length (buf : Bytes) (pos v n : Nat) : (writeBitsGo buf pos v n).1.length = buf.length := by
  unfold writeBitsGo
  dsimp only
  split
  · simp only [updByte_length]
  · rw [writeWhole_length, updByte_length]

theorem writeWhole_spec (v : Nat) (fuel : Nat) {buf : Bytes} {pos : Nat} {B : List Bool} (m : Nat) (h : Cur buf pos B)
    (hp : pos % 8 = 0) (hf : m / 8 < fuel) (hlen : pos + m ≤ buf.length * 8) :
    Cur (writeWhole v fuel buf pos m).1 (writeWhole v fuel buf pos m).2 (B ++ bitsOf v m) := by
  induction fuel generalizing buf pos B m with
  | zero => omega
  | succ fu ih =>
    rw [writeWhole]
    by_cases h8 : m ≥ 8
    · -- a whole byte: the top 8 of the `m` digits, then the rest
      rw [if_pos h8, show m = 8 + (m - 8) by omega, bitsOf_add, ← List.append_assoc, show 8 + (m - 8) - 8 = m - 8 by omega]
      exact ih (m - 8) (h.upd (v >>> (m - 8)) 8 (fun _ => v >>> (m - 8)) (by omega) (fun _ => by omega)
          fun r hr => by rw [hp, if_neg (Nat.not_lt_zero r), if_pos (by omega)]; congr 1)
        (by omega) (by omega) (by rw [updByte_length]; omega)
    · rw [if_neg h8]
      by_cases h0 : m > 0
      · rw [if_pos h0]
        refine h.upd v m (fun _ => (v &&& (1 <<< m - 1)) <<< (8 - m)) (by omega) (fun _ => by omega) fun r hr => ?_
        rw [hp, if_neg (Nat.not_lt_zero r), Nat.testBit_shiftLeft, Nat.one_shiftLeft,
          Nat.and_two_pow_sub_one_eq_mod, Nat.testBit_mod_two_pow, Nat.zero_add]
        by_cases hr2 : r < m
        · rw [if_pos hr2, decide_eq_true (show 7 - r ≥ 8 - m by omega),
            decide_eq_true (show 7 - r - (8 - m) < m by omega)]
          simp only [Bool.true_and]; congr 1; omega
        · rw [if_neg hr2, decide_eq_false (show ¬ 7 - r ≥ 8 - m by omega)]; rfl
      · rw [if_neg h0]
        obtain rfl : m = 0 := by omega
        simpa [bitsOf] using h

theorem writeBitsGo_spec {buf : Bytes} {pos : Nat} {B : List Bool} (v n : Nat) (h : Cur buf pos B) (hv : v < 2 ^ n)
    (hlen : pos + n ≤ buf.length * 8) :
    Cur (writeBitsGo buf pos v n).1 (writeBitsGo buf pos v n).2 (B ++ bitsOf v n) := by
  unfold writeBitsGo
  extract_lets res
  have hres : res = 8 - pos % 8 := rfl
  clear_value res
  by_cases hlt : n < res
  · rw [if_pos hlt]
    refine h.upd v n (fun b => b ||| v <<< (res - n)) (by omega) (fun _ => by omega) fun r hr => ?_
    rw [Nat.testBit_or, Nat.testBit_shiftLeft]
    by_cases h1 : r < pos % 8
    · rw [if_pos h1, testBit_high v n _ hv (by omega), Bool.and_false, Bool.or_false]
    · rw [if_neg h1, h.high_zero r hr (by omega), Bool.false_or]
      by_cases h2 : r < pos % 8 + n
      · rw [if_pos h2, decide_eq_true (show 7 - r ≥ res - n by omega), Bool.true_and]; congr 1; omega
      · rw [if_neg h2, decide_eq_false (show ¬ 7 - r ≥ res - n by omega), Bool.false_and]
  · -- the field fills the current byte (its top `res` digits) and goes on
    rw [if_neg hlt, show n = res + (n - res) by omega, bitsOf_add, ← List.append_assoc,
      show res + (n - res) - res = n - res by omega]
    refine writeWhole_spec v _ (n - res) (h.upd (v >>> (n - res)) res (fun b => b ||| v >>> (n - res)) (by omega)
      (fun _ => by omega) fun r hr => ?_) (by omega) (by omega) (by rw [updByte_length]; omega)
    rw [Nat.testBit_or, Nat.testBit_shiftRight]
    by_cases h1 : r < pos % 8
    · rw [if_pos h1, testBit_high v n _ hv (by omega), Bool.or_false]
    · rw [if_neg h1, if_pos (by omega), h.high_zero r hr (by omega), Bool.false_or, Nat.testBit_shiftRight]
      congr 1; omega

theorem holdsAll_pack (B : List Bool) : HoldsAll (pack B) B := fun i => bitAt_packBits B.length B i (Nat.le_refl _)

theorem bytes_ext (a b : Bytes) (hl : a.length = b.length) (h : ∀ i, bitAt a i = bitAt b i) : a = b := by
  induction a generalizing b with
  | nil => cases b with
    | nil => rfl
    | cons _ _ => simp at hl
  | cons x xs ih =>
    cases b with
    | nil => simp at hl
    | cons y ys =>
      have hxy : x = y := by
        apply UInt8.toNat_inj.mp
        apply Nat.eq_of_testBit_eq
        intro t
        by_cases ht : t < 8
        · have := h (7 - t)
          rw [bitAt_cons_lt _ _ _ (by omega), bitAt_cons_lt _ _ _ (by omega)] at this
          rw [show 7 - (7 - t) = t by omega] at this
          exact this
        · rw [testBit_high x.toNat 8 t (UInt8.toNat_lt x) (by omega),
            testBit_high y.toNat 8 t (UInt8.toNat_lt y) (by omega)]
      subst hxy
      congr 1
      apply ih ys (by simpa using hl)
      intro i
      have := h (i + 8)
      rwa [bitAt_cons_ge, bitAt_cons_ge] at this

theorem eq_pack_of_holdsAll (buf : Bytes) (B : List Bool) (h : HoldsAll buf B) (hl : buf.length = ceil8 B.length) :
    buf = pack B :=
  bytes_ext buf (pack B) (by rw [hl, pack_length]) (fun i => by rw [h i, holdsAll_pack B i])

theorem holdsAll_zeros (k : Nat) : HoldsAll (List.replicate k 0) [] := by
  intro i
  have : byteAt (List.replicate k (0 : UInt8)) i = 0 := by
    unfold byteAt
    simp only [List.getD_eq_getElem?_getD, List.getElem?_replicate]
    split <;> rfl
  simp [bitAt, this]

end Rtsp.Codec.Audio
