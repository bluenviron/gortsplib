import Rtsp.Proofs.Codec.Av1Dec
/-
The decoder on packets the encoder renders: element parsing (`parseObus` inverts the length-prefixed
/ W-counted layout), the outcomes of `afterParse` in the situations the round trip meets, and from them what
a rendered packet does to a decoder that `Holds` completed OBUs and open bytes (`obus_y0`, `obus_y1`).
-/
namespace Rtsp.Codec.Av1
open Rtsp.Rtp Rtsp.Facts Rtsp.Codec.Av1Vp

/-- elements with their LEB128 length in front -/
def sized (es : List Bytes) : Bytes := (es.map fun x => lebEnc x.length ++ x).flatten

/-- an element the decoder accepts: non-empty, length representable without `uint32` truncation -/
def VElem (x : Bytes) : Prop := 0 < x.length ∧ x.length < 2 ^ 32

@[simp] theorem sized_nil : sized [] = [] := rfl
theorem sized_cons (x : Bytes) (xs : List Bytes) : sized (x :: xs) = lebEnc x.length ++ x ++ sized xs := by
  simp [sized]
theorem sized_append (a b : List Bytes) : sized (a ++ b) = sized a ++ sized b := by
  simp [sized]
theorem sized_singleton (x : Bytes) : sized [x] = lebEnc x.length ++ x := by simp [sized]

theorem sized_length_pos (es : List Bytes) (hne : es ≠ []) : 0 < (sized es).length := by
  cases es with
  | nil => exact absurd rfl hne
  | cons x xs =>
    rw [sized_cons]
    have := lebSize_pos x.length
    simp only [List.length_append, lebEnc_length]
    omega

theorem sized_nil_iff (es : List Bytes) : sized es = [] ↔ es = [] := by
  constructor
  · intro h
    cases es with
    | nil => rfl
    | cons x xs =>
      have := sized_length_pos (x :: xs) (by simp)
      rw [h] at this; simp at this
  · intro h; subst h; rfl

/-- body of a packet holding the elements `es`; `om` = the last one carries no length (W = count) -/
def bodyOf (es : List Bytes) (om : Bool) : Bytes :=
  if om then sized es.dropLast ++ es.getLastD [] else sized es

def wOf (es : List Bytes) (om : Bool) : Nat := if om then es.length else 0

theorem bodyOf_false (es : List Bytes) : bodyOf es false = sized es := by simp [bodyOf]

theorem bodyOf_snoc_true (es : List Bytes) (x : Bytes) : bodyOf (es ++ [x]) true = sized es ++ x := by
  simp [bodyOf, List.getLastD_eq_getLast?]

theorem parseObus_fuel_ge (w fuel : Nat) (payload : Bytes) (acc : List Bytes) (hf : payload.length ≤ fuel) :
    parseObus w fuel payload acc = parseObus w payload.length payload acc := by
  obtain ⟨k, rfl⟩ : ∃ k, fuel = payload.length + k := ⟨fuel - payload.length, by omega⟩
  induction k with
  | zero => rfl
  | succ k ih => rw [← Nat.add_assoc, parseObus_fuel w _ payload acc (by omega)]; exact ih (by omega)

theorem parseObus_nil (w fuel : Nat) (acc : List Bytes) : parseObus w fuel [] acc = some acc := by
  cases fuel <;> simp [parseObus]

theorem parse_step_sized (w fuel : Nat) (x rest : Bytes) (acc : List Bytes) (hx : VElem x)
    (hcond : w = 0 ∨ acc.length < w - 1) :
    parseObus w (fuel + 1) (lebEnc x.length ++ x ++ rest) acc = parseObus w fuel rest (acc ++ [x]) := by
  obtain ⟨hx1, hx2⟩ := hx
  have hl := lebEnc_length x.length
  have hpos := lebSize_pos x.length
  have hne : (lebEnc x.length ++ x ++ rest).isEmpty = false := by
    cases h : lebEnc x.length with
    | nil => rw [h] at hl; simp at hl; omega
    | cons a t => rfl
  have hdec : lebDec (lebEnc x.length ++ x ++ rest) = some (lebSize x.length, x.length) := by
    rw [List.append_assoc]; exact lebDec_lebEnc _ hx2 _
  have hdrop : (lebEnc x.length ++ x ++ rest).drop (lebSize x.length) = x ++ rest := by
    rw [List.append_assoc, ← hl, List.drop_left]
  rw [parseObus]
  simp only [hne, Bool.false_eq_true, if_false, hcond, if_true, hdec, hdrop]
  have hbad : ¬ (x.length = 0 ∨ (x ++ rest).length < x.length) := by
    simp only [List.length_append]; omega
  simp only [hbad, if_false, List.drop_left, List.take_left]

theorem parse_sized_gen (w fuel : Nat) (es : List Bytes) (rest : Bytes) (acc : List Bytes)
    (hv : ∀ x ∈ es, VElem x) (hcond : w = 0 ∨ acc.length + es.length ≤ w - 1) :
    parseObus w (fuel + es.length) (sized es ++ rest) acc = parseObus w fuel rest (acc ++ es) := by
  induction es generalizing acc with
  | nil => simp
  | cons x xs ih =>
    rw [sized_cons, List.length_cons, ← Nat.add_assoc, List.append_assoc,
      parse_step_sized w _ x (sized xs ++ rest) acc (hv x (by simp))
        (by rcases hcond with h | h; exact Or.inl h; right; simp only [List.length_cons] at h; omega),
      ih (acc ++ [x]) (fun y hy => hv y (by simp [hy]))
        (by rcases hcond with h | h; exact Or.inl h; right; simp only [List.length_cons, List.length_append, List.length_nil] at h ⊢; omega)]
    simp

theorem dropLast_append_getLastD (es : List Bytes) (hne : es ≠ []) : es.dropLast ++ [es.getLastD []] = es := by
  rw [List.getLastD_eq_getLast?, List.getLast?_eq_some_getLast hne]
  exact List.dropLast_concat_getLast hne

theorem parse_body (es : List Bytes) (om : Bool) (hne : es ≠ []) (hv : ∀ x ∈ es, VElem x) :
    parseObus (wOf es om) (bodyOf es om).length (bodyOf es om) [] = some es := by
  cases om with
  | false =>
    simp only [wOf, bodyOf, Bool.false_eq_true, if_false]
    rw [← parseObus_fuel_ge 0 ((sized es).length + es.length) (sized es) [] (by omega)]
    have := parse_sized_gen 0 (sized es).length es [] [] hv (Or.inl rfl)
    simp only [List.append_nil, List.nil_append] at this
    rw [this, parseObus_nil]
  | true =>
    simp only [wOf, bodyOf, if_true]
    have hsplit := dropLast_append_getLastD es hne
    have hlast : VElem (es.getLastD []) := hv _ (by rw [← hsplit]; simp)
    have hlen : es.length = es.dropLast.length + 1 := by simp [List.length_dropLast]; cases es <;> simp_all
    generalize es.dropLast = pre at *
    generalize es.getLastD [] = l at *
    rw [← parseObus_fuel_ge _ (((sized pre ++ l).length + 1) + pre.length) (sized pre ++ l) [] (by omega)]
    have := parse_sized_gen es.length ((sized pre ++ l).length + 1) pre l []
      (fun x hx => hv x (by rw [← hsplit]; simp [hx])) (Or.inr (by simp only [List.length_nil]; omega))
    rw [this, parseObus]
    have hle : l.isEmpty = false := by
      cases l with
      | nil => simp [VElem] at hlast
      | cons a t => rfl
    have hc : ¬ (es.length = 0 ∨ pre.length < es.length - 1) := by omega
    simp only [hle, Bool.false_eq_true, if_false, List.nil_append, hc, hsplit]

theorem hdr_bits (z y : Bool) (w : Nat) (hw : w < 4) :
    tb (hdrByte z y w false) 0x80 = z ∧ tb (hdrByte z y w false) 0x40 = y ∧
      ((hdrByte z y w false >>> 4) &&& 3).toNat = w := by
  have : w = 0 ∨ w = 1 ∨ w = 2 ∨ w = 3 := by omega
  rcases this with h | h | h | h <;> subst h <;> cases z <;> cases y <;> decide

theorem hdr_setN (z y : Bool) (w : Nat) : hdrByte z y w false ||| 8 = hdrByte z y w true := by
  have : w % 4 = 0 ∨ w % 4 = 1 ∨ w % 4 = 2 ∨ w % 4 = 3 := by omega
  rcases this with h | h | h | h <;> cases z <;> cases y <;> simp [hdrByte, h] <;> decide

theorem bodyOf_length_pos (es : List Bytes) (om : Bool) (hne : es ≠ []) (hv : ∀ x ∈ es, VElem x) :
    0 < (bodyOf es om).length := by
  cases om with
  | false => simpa [bodyOf] using sized_length_pos es hne
  | true =>
    have hsplit := dropLast_append_getLastD es hne
    have hlast : VElem (es.getLastD []) := hv _ (by rw [← hsplit]; simp)
    simp only [bodyOf, if_true, List.length_append]
    have := hlast.1
    omega

theorem decodeOBUs_rendered (D : Dec) (p : Pkt) (z y : Bool) (es : List Bytes) (om : Bool)
    (hp : p.payload = hdrByte z y (wOf es om) false :: bodyOf es om) (hne : es ≠ [])
    (hv : ∀ x ∈ es, VElem x) (ho : om = true → es.length ≤ 3) :
    decodeOBUs D p = afterParse D p z y es := by
  have hpos := bodyOf_length_pos es om hne hv
  have hw : wOf es om < 4 := by
    unfold wOf
    split
    · rename_i h; have := ho h; omega
    · omega
  obtain ⟨hz, hy, hww⟩ := hdr_bits z y (wOf es om) hw
  have hlen : ¬ ((hdrByte z y (wOf es om) false :: bodyOf es om).length < 2) := by
    simp only [List.length_cons]; omega
  unfold decodeOBUs
  simp only [hp, hlen, if_false, List.headD_cons, List.tail_cons, hz, hy, hww, parse_body es om hne hv]
  have hchk : ¬ (wOf es om ≠ 0 ∧ es.length ≠ wOf es om) := by
    unfold wOf; split <;> simp
  simp only [hchk, if_false]

theorem afterParse_z0_y0 (D : Dec) (p : Pkt) (es : List Bytes) :
    afterParse D p false false es =
      ({ D with firstPacketReceived := true, fragments := [], fragmentsSize := 0 }, .ok es) := rfl

theorem afterParse_z0_y1 (D : Dec) (p : Pkt) (ini : List Bytes) (l : Bytes) :
    afterParse D p false true (ini ++ [l]) =
      ({ D with firstPacketReceived := true, fragments := [l], fragmentsSize := l.length, nextSeq := p.seq + 1 },
       if ini.isEmpty then .error .more else .ok ini) := by
  rw [afterParse_z0, holdLast_y1, List.dropLast_concat, List.getLastD_concat]
  rfl

theorem afterParse_z1_single (D : Dec) (p : Pkt) (x : Bytes) (hsz : D.fragmentsSize ≠ 0) (hseq : p.seq = D.nextSeq)
    (hcap : D.fragmentsSize + x.length ≤ CodecAv1vp.av1MaxTemporalUnitSize) :
    afterParse D p true true [x] =
      ({ D with firstPacketReceived := true, fragmentsSize := D.fragmentsSize + x.length,
                fragments := D.fragments ++ [x], nextSeq := D.nextSeq + 1 }, .error .more) := by
  rw [afterParse_cont D p true [x] hsz hseq hcap, if_pos ⟨rfl, rfl⟩]
  rfl

theorem afterParse_z1_y0 (D : Dec) (p : Pkt) (x : Bytes) (xs : List Bytes) (hsz : D.fragmentsSize ≠ 0)
    (hseq : p.seq = D.nextSeq) (hcap : D.fragmentsSize + x.length ≤ CodecAv1vp.av1MaxTemporalUnitSize) :
    afterParse D p true false (x :: xs) =
      ({ D with firstPacketReceived := true, fragmentsSize := 0, fragments := [], nextSeq := D.nextSeq + 1 },
       .ok (joinFragments (D.fragments ++ [x]) (D.fragmentsSize + x.length) :: xs)) := by
  rw [afterParse_cont D p false (x :: xs) hsz hseq hcap, if_neg (fun h => Bool.noConfusion h.2)]
  rfl

theorem afterParse_z1_y1 (D : Dec) (p : Pkt) (x : Bytes) (xs : List Bytes) (l : Bytes) (hsz : D.fragmentsSize ≠ 0)
    (hseq : p.seq = D.nextSeq) (hcap : D.fragmentsSize + x.length ≤ CodecAv1vp.av1MaxTemporalUnitSize) :
    afterParse D p true true (x :: (xs ++ [l])) =
      ({ D with firstPacketReceived := true, fragmentsSize := l.length, fragments := [l], nextSeq := D.nextSeq + 1 },
       .ok (joinFragments (D.fragments ++ [x]) (D.fragmentsSize + x.length) :: xs)) := by
  have hlen : ¬ ((x :: (xs ++ [l])).length = 1 ∧ true = true) := by
    simp only [List.length_cons, List.length_append, List.length_nil]; omega
  rw [afterParse_cont D p true (x :: (xs ++ [l])) hsz hseq hcap, if_neg hlen, holdLast_y1, List.headD_cons, List.tail_cons,
    ← List.cons_append, List.dropLast_concat, List.getLastD_concat, hseq]
  rfl

/-- the OBUs a packet with elements `es` completes: the first one behind the open bytes `pend` -/
def glued (pend : Bytes) : List Bytes → List Bytes
  | [] => []
  | x :: xs => (pend ++ x) :: xs

/-- the bytes of the open OBU sent in earlier packets, as long as the packet is empty -/
def openPre (pend : Bytes) : List Bytes → Bytes
  | [] => pend
  | _ :: _ => []

theorem glued_snoc (pend : Bytes) (es : List Bytes) (o : Bytes) :
    glued pend (es ++ [o]) = glued pend es ++ [openPre pend es ++ o] := by
  cases es <;> simp [glued, openPre]

theorem glued_length (pend : Bytes) (es : List Bytes) : (glued pend es).length = es.length := by
  cases es <;> rfl

theorem glued_total (pend : Bytes) (es : List Bytes) :
    totalLen (glued pend es) + (openPre pend es).length = pend.length + totalLen es := by
  cases es with
  | nil => simp [glued, openPre]
  | cons x xs => simp [glued, openPre, totalLen]; omega

theorem openPre_cons (pend : Bytes) (es : List Bytes) (hne : es ≠ []) : openPre pend es = [] := by
  cases es with
  | nil => exact absurd rfl hne
  | cons x xs => rfl

theorem glued_nil (es : List Bytes) : glued [] es = es := by
  cases es <;> simp [glued]

theorem openPre_nil (es : List Bytes) : openPre [] es = [] := by
  cases es <;> rfl

/-- decoder side: the frame buffer is `comp`; if bytes `pend` of an open OBU were sent, the fragments
are those bytes and the packet numbered `sq` is expected.  With `pend = []` the fragments are arbitrary:
a packet with Z = 0 discards them. -/
structure Holds (D : Dec) (comp : List Bytes) (pend : Bytes) (sq : UInt16) : Prop where
  fb  : D.frameBuffer = comp
  fbl : D.frameBufferLen = comp.length
  fbs : D.frameBufferSize = totalLen comp
  fr  : pend ≠ [] → D.fragmentsSize = totalLen D.fragments ∧ D.fragments.flatten = pend ∧ D.nextSeq = sq

theorem Holds.pend_length {D : Dec} {comp : List Bytes} {pend : Bytes} {sq : UInt16} (h : Holds D comp pend sq)
    (hne : pend ≠ []) : D.fragmentsSize = pend.length := by
  obtain ⟨f1, f2, _⟩ := h.fr hne
  rw [f1, ← flatten_length, f2]

/-- a packet closed without Y: all its elements are complete -/
theorem obus_y0 {D : Dec} {comp : List Bytes} {pend : Bytes} {p : Pkt} (h : Holds D comp pend p.seq)
    (es : List Bytes) (om : Bool) (hne : es ≠ []) (hv : ∀ x ∈ es, VElem x) (ho : om = true → es.length ≤ 3)
    (hB : pend.length + totalLen es ≤ CodecAv1vp.av1MaxTemporalUnitSize)
    (hp : p.payload = hdrByte (!pend.isEmpty) false (wOf es om) false :: bodyOf es om) :
    ∃ D1, decodeOBUs D p = (D1, .ok (glued pend es)) ∧ D1.fragments = [] ∧ D1.fragmentsSize = 0 ∧
      Holds D1 comp [] (p.seq + 1) := by
  rw [decodeOBUs_rendered D p _ false es om hp hne hv ho]
  cases pend with
  | nil =>
    rw [glued_nil]
    refine ⟨_, afterParse_z0_y0 D p es, ?_⟩
    exact ⟨rfl, rfl, h.fb, h.fbl, h.fbs, fun h => absurd rfl h⟩
  | cons a t =>
    obtain ⟨f1, f2, f3⟩ := h.fr (List.cons_ne_nil _ _)
    have hl := h.pend_length (List.cons_ne_nil _ _)
    cases es with
    | nil => exact absurd rfl hne
    | cons x xs =>
      have hxs := totalLen_cons x xs
      simp only [List.isEmpty_cons, Bool.not_false]
      rw [afterParse_z1_y0 D p x xs (by rw [hl]; simp) f3.symm (by omega),
        joinFragments_snoc _ _ _ f1, f2]
      exact ⟨_, rfl, rfl, rfl, h.fb, h.fbl, h.fbs, fun h => absurd rfl h⟩

/-- a packet closed with Y: its last element `l` is a fragment of an OBU that continues -/
theorem obus_y1 {D : Dec} {comp : List Bytes} {pend : Bytes} {p : Pkt} (h : Holds D comp pend p.seq)
    (ini : List Bytes) (l : Bytes) (om : Bool) (hv : ∀ x ∈ ini ++ [l], VElem x)
    (ho : om = true → (ini ++ [l]).length ≤ 3)
    (hB : pend.length + totalLen ini + l.length ≤ CodecAv1vp.av1MaxTemporalUnitSize)
    (hp : p.payload = hdrByte (!pend.isEmpty) true (wOf (ini ++ [l]) om) false :: bodyOf (ini ++ [l]) om) :
    ∃ D1, decodeOBUs D p = (D1, if (glued pend ini).isEmpty then .error .more else .ok (glued pend ini)) ∧
      Holds D1 comp (openPre pend ini ++ l) (p.seq + 1) := by
  have hvl : VElem l := hv l (by simp)
  rw [decodeOBUs_rendered D p _ true (ini ++ [l]) om hp (by simp) hv ho]
  cases pend with
  | nil =>
    rw [glued_nil, openPre_nil]
    refine ⟨_, afterParse_z0_y1 D p ini l, ?_⟩
    exact ⟨h.fb, h.fbl, h.fbs, fun _ => ⟨by simp, by simp, rfl⟩⟩
  | cons a t =>
    obtain ⟨f1, f2, f3⟩ := h.fr (List.cons_ne_nil _ _)
    have hl := h.pend_length (List.cons_ne_nil _ _)
    cases ini with
    | nil =>
      simp only [totalLen_nil, Nat.add_zero] at hB
      refine ⟨_, afterParse_z1_single D p l (by rw [hl]; simp) f3.symm (by rw [hl]; exact hB), ?_⟩
      exact ⟨h.fb, h.fbl, h.fbs, fun _ => ⟨by simp [f1], by simp [f2, openPre], by simp [f3]⟩⟩
    | cons x xs =>
      have hxs := totalLen_cons x xs
      simp only [List.isEmpty_cons, Bool.not_false, List.cons_append]
      rw [afterParse_z1_y1 D p x xs l (by rw [hl]; simp) f3.symm (by omega),
        joinFragments_snoc _ _ _ f1, f2]
      exact ⟨_, rfl, h.fb, h.fbl, h.fbs, fun _ => ⟨by simp, by simp [openPre], by simp [f3]⟩⟩

theorem decode_more {D D1 : Dec} {comp : List Bytes} {pend : Bytes} {sq : UInt16} (p : Pkt) (L : List Bytes)
    (hd : decodeOBUs D p = (D1, if L.isEmpty then .error .more else .ok L)) (h : Holds D1 comp pend sq)
    (hm : p.marker = false) (h1 : comp.length + L.length ≤ CodecAv1vp.av1MaxOBUsPerTemporalUnit)
    (h2 : totalLen comp + totalLen L ≤ CodecAv1vp.av1MaxTemporalUnitSize) :
    ∃ D', decode D p = (D', .more) ∧ Holds D' (comp ++ L) pend sq := by
  cases L with
  | nil => exact ⟨D1, by simp only [decode, hd]; rfl, by simpa using h⟩
  | cons x xs =>
    rw [List.isEmpty_cons, if_neg Bool.false_ne_true] at hd
    simp only [decode, hd, hm]
    rw [pushFrame_ok D1 false (x :: xs) (by rw [h.fbl]; exact h1) (by rw [h.fbs]; exact h2), if_neg Bool.false_ne_true]
    exact ⟨_, rfl, by simp [h.fb], by simp [h.fbl], by simp [h.fbs], h.fr⟩

end Rtsp.Codec.Av1
