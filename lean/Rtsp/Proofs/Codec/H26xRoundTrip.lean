import Rtsp.Proofs.Codec.H26xPacketise
import Rtsp.Proofs.Codec.H26xDepacketise
import Rtsp.Proofs.Common.Runs
import Rtsp.Proofs.Common.Bits
/-
What a decoder reads back from the shared packetiser's output.
-/
namespace Rtsp.Codec.H26x
open Rtsp.Rtp

theorem aggLoop_aggBody (pad : Bool) (ns : List Bytes) (acc : List Bytes) (fuel : Nat)
    (hne : ns ≠ []) (hn : ∀ n ∈ ns, n ≠ [] ∧ n.length < 65536) (hf : (aggBody ns).length < fuel) :
    aggLoop pad fuel (aggBody ns) acc = some (acc ++ ns) := by
  induction ns generalizing acc fuel with
  | nil => exact absurd rfl hne
  | cons n rest ih =>
    obtain ⟨hn1, hn2⟩ := hn n List.mem_cons_self
    have hpos : n.length ≠ 0 := mt List.length_eq_zero_iff.mp hn1
    rw [aggBody_cons] at hf ⊢
    cases fuel with
    | zero => omega
    | succ fuel =>
      rw [aggLoop_cons, Bits.be16_toNat hn2, if_neg hpos,
        if_neg (by rw [List.length_append]; omega), List.take_left' rfl, List.drop_left' rfl]
      cases rest with
      | nil => rfl
      | cons r rs =>
        rw [if_neg (by rw [aggBody_cons]; exact Nat.succ_ne_zero _),
          ih (acc ++ [n]) fuel (List.cons_ne_nil _ _) (fun x hx => hn x (List.mem_cons_of_mem _ hx))
            (by simp only [List.length_cons, List.length_append] at hf; omega),
          List.append_assoc]
        rfl

theorem replicate_more_append {α : Type} (x y : α) {a b : Nat} (ha : 0 < a) (hb : 0 < b) :
    (List.replicate (a - 1) x ++ [x]) ++ (List.replicate (b - 1) x ++ [y]) =
      List.replicate (a + b - 1) x ++ [y] := by
  rw [← List.replicate_succ', ← List.append_assoc, List.replicate_append_replicate]
  congr 2
  omega

/-- the fragments of a NALU after the first one, through a decoder whose continuation and end steps
are known under `ok d rest sq` ("`d` waits for `rest`, next sequence number `sq`") -/
theorem run_emitFU {D α : Type} {dec : D → Pkt → D × DecRes α} {run : D → List Pkt → D × List (DecRes α)}
    (hr : Runs dec run) (hdr : Bool → Bool → Bytes) (c : EncCfg)
    (ts : UInt32) (avail : Nat) (m : Bool) (ok : D → Bytes → UInt16 → Prop) (fin : D → Bytes → D × DecRes α)
    (hmid : ∀ d rest sq, ok d rest sq →
      (dec d { pt := c.pt, seq := sq, ts := ts, ssrc := c.ssrc, marker := false,
               payload := hdr false false ++ rest.take avail }).2 = .more ∧
      ok (dec d { pt := c.pt, seq := sq, ts := ts, ssrc := c.ssrc, marker := false,
                  payload := hdr false false ++ rest.take avail }).1 (rest.drop avail) (sq + 1))
    (hfin : ∀ d rest sq, ok d rest sq →
      dec d { pt := c.pt, seq := sq, ts := ts, ssrc := c.ssrc, marker := m,
              payload := hdr false true ++ rest } = fin d rest)
    (j : Nat) (d : D) (rest : Bytes) (sq : UInt16) (h : ok d rest sq) :
    ∃ d' rest' sq', ok d' rest' sq' ∧
      run d (stamp ts (number c sq (emitFU hdr avail m (j + 1) false rest))) =
        ((fin d' rest').1, List.replicate j .more ++ [(fin d' rest').2]) := by
  induction j generalizing d rest sq with
  | zero =>
    exact ⟨d, rest, sq, h, by
      rw [emitFU, stamp_number_cons, hr.cons, hfin d rest sq h, show stamp ts (number c (sq + 1) []) = [] from rfl,
        hr.nil]
      rfl⟩
  | succ j ih =>
    obtain ⟨h1, h2⟩ := hmid d rest sq h
    obtain ⟨d', rest', sq', h', hr'⟩ := ih _ _ _ h2
    exact ⟨d', rest', sq', h', by rw [emitFU, stamp_number_cons, hr.cons, hr', h1]; rfl⟩

end Rtsp.Codec.H26x
