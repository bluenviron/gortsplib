import Rtsp.Model.Codec.H265
import Rtsp.Proofs.Codec.H26xBits
/-
Bit-level facts about the H265 FU / AP headers (the encoder builds them, `decodeNALUs` reads them
back) and the decoder's dispatch on the NALU type.
-/
namespace Rtsp.Codec.H265
open Rtsp.Codec.H26x Rtsp.Facts Rtsp.Bits

/-- the first byte of an H265 payload header, bits 7 and 0 of `x` around a 6-bit type, read in its
three pieces (bit 0, bits 1-6, bit 7) -/
theorem hdr0_fields (x t : UInt8) (ht : t.toNat < 64) :
    ((x &&& (0x81 : UInt8)) ||| (t <<< (1 : UInt8))).toNat % 2 ^ 1 = x.toNat % 2 ∧
    ((x &&& (0x81 : UInt8)) ||| (t <<< (1 : UInt8))).toNat / 2 ^ 1 % 2 ^ 6 = t.toNat ∧
    ((x &&& (0x81 : UInt8)) ||| (t <<< (1 : UInt8))).toNat / 2 ^ 7 = x.toNat / 128 := by
  have hx := UInt8.toNat_lt x
  have hsh : (t <<< 1).toNat = t.toNat * 2 := by
    rw [UInt8.toNat_shiftLeft, Nat.shiftLeft_eq]
    show t.toNat * 2 % 256 = _
    omega
  rw [UInt8.toNat_or, UInt8.toNat_and, hsh]
  refine ⟨?_, ?_, ?_⟩
  · rw [Nat.or_mod_two_pow, Nat.and_mod_two_pow]
    show x.toNat % 2 &&& 1 ||| t.toNat * 2 % 2 = _
    rw [Nat.mul_mod_left, Nat.or_zero, Nat.and_one_is_mod]; omega
  · rw [Nat.or_div_two_pow, Nat.or_mod_two_pow, Nat.and_div_two_pow, Nat.and_mod_two_pow]
    show x.toNat / 2 % 64 &&& 0 ||| t.toNat * 2 / 2 % 64 = _
    rw [Nat.and_zero, Nat.zero_or]; omega
  · rw [Nat.or_div_two_pow, Nat.and_div_two_pow]
    show x.toNat / 128 &&& 1 ||| t.toNat * 2 / 128 = _
    rw [Nat.and_one_is_mod, Nat.div_eq_of_lt (show t.toNat * 2 < 128 by omega), Nat.or_zero]; omega

theorem eq_of_fields (x y : UInt8) (h0 : x.toNat % 2 ^ 1 = y.toNat % 2)
    (h1 : x.toNat / 2 ^ 1 % 2 ^ 6 = y.toNat / 2 % 64) (h7 : x.toNat / 2 ^ 7 = y.toNat / 128) : x = y := by
  apply UInt8.toNat_inj.mp
  have := UInt8.toNat_lt x
  have := UInt8.toNat_lt y
  omega

theorem fuHdr_read (h0 h1 : UInt8) (st en : Bool) :
    ∃ b0 b2, fuHdr h0 h1 st en = [b0, h1, b2] ∧ ((b0 >>> 1) &&& 0x3F).toNat = CodecH26x.h265TypeFU ∧
      b2 >>> 7 = (if st then 1 else 0) ∧ (b2 >>> 6) &&& 0x01 = (if en then 1 else 0) ∧
      (b0 &&& (0x81 : UInt8)) ||| ((b2 &&& 0x3F) <<< (1 : UInt8)) = h0 := by
  have htyp : ((h0 >>> 1) &&& 0x3F).toNat = h0.toNat / 2 % 64 := by
    rw [toNat_mask _ _ 6 rfl, toNat_shr _ _ 1 rfl (by omega)]
  have hlt : ((h0 >>> 1) &&& 0x3F).toNat < 64 := by rw [htyp]; exact Nat.mod_lt _ (by decide)
  obtain ⟨e0, e1, e7⟩ := hdr0_fields h0 (UInt8.ofNat CodecH26x.h265FuTypeInEncoder) (by decide)
  obtain ⟨f1, f2, f3⟩ := fuFlags_read (if st then 1 else 0) (if en then 1 else 0) ((h0 >>> 1) &&& 0x3F)
    (flag_toNat_le st) (flag_toNat_le en) hlt
  refine ⟨_, _, rfl, by rw [toNat_mask _ _ 6 rfl, toNat_shr _ _ 1 rfl (by omega), e1]; rfl, f1, f2, ?_⟩
  -- bits 7 and 0 come back from the first byte, the type from the third
  obtain ⟨g0, g1, g7⟩ := hdr0_fields
    ((h0 &&& (0x81 : UInt8)) ||| (UInt8.ofNat CodecH26x.h265FuTypeInEncoder <<< (1 : UInt8))) _ hlt
  rw [f3]
  exact eq_of_fields _ _ (g0.trans e0) (g1.trans htyp) (g7.trans e7)

theorem typ_dispatch (h : UInt8) (hv : ¬ (48 ≤ ((h >>> 1) &&& 0x3F).toNat ∧ ((h >>> 1) &&& 0x3F).toNat ≤ 50)) :
    ((h >>> 1) &&& 0x3F).toNat ≠ CodecH26x.h265TypeAP ∧ ((h >>> 1) &&& 0x3F).toNat ≠ CodecH26x.h265TypeFU ∧
    ((h >>> 1) &&& 0x3F).toNat ≠ CodecH26x.h265TypePACI := by
  generalize ((h >>> 1) &&& 0x3F).toNat = t at hv ⊢
  simp only [show CodecH26x.h265TypeAP = 48 from rfl, show CodecH26x.h265TypeFU = 49 from rfl,
    show CodecH26x.h265TypePACI = 50 from rfl]
  omega

/-- the first byte of an aggregation packet, whatever the layer id, dispatches to the AP branch: the
encoder puts `layer &&& 0x20` on bit 5, which the type code 48 has set already -/
theorem ap_dispatch (layer : UInt8) :
    ((((UInt8.ofNat CodecH26x.h265ApTypeInEncoder <<< (1 : UInt8)) ||| (layer &&& 0x20)) >>> 1) &&& 0x3F).toNat
      = CodecH26x.h265TypeAP := by
  have hbit : layer &&& 0x20 = 0 ∨ layer &&& 0x20 = 0x20 := by
    have h5 := toNat_bit layer 0x20 5 rfl
    have hlt : (layer &&& 0x20).toNat % 2 ^ 5 = 0 := by
      rw [UInt8.toNat_and, Nat.and_mod_two_pow]; exact Nat.and_zero _
    rcases Nat.mod_two_eq_zero_or_one (layer.toNat / 2 ^ 5) with h | h
    · exact Or.inl (UInt8.toNat_inj.mp (by show _ = 0; omega))
    · exact Or.inr (UInt8.toNat_inj.mp (by show _ = 32; omega))
  rcases hbit with h | h <;> rw [h] <;> rfl

end Rtsp.Codec.H265
