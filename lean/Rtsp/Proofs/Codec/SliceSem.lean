import Rtsp.Model.SliceSem
/-
Lemmas about the slice model: what `append` does to the slice it returns, to the store, and to
every other slice (`append_spec`); what `s[:n]`, `s[:0]`, `nil` and an empty slice read as.
-/
namespace Rtsp.SliceSem

theorem getD_set_ne (l : List Bytes) (i j : Nat) (v : Bytes) (h : j ≠ i) :
    (l.set i v).getD j [] = l.getD j [] := by
  simp [List.getD_eq_getElem?_getD, List.getElem?_set_ne (Ne.symm h)]

theorem getD_set_eq (l : List Bytes) (i : Nat) (v : Bytes) (h : i < l.length) :
    (l.set i v).getD i [] = v := by
  simp [List.getD_eq_getElem?_getD, h]

theorem getD_append_left (l : List Bytes) (a : Bytes) (i : Nat) (h : i < l.length) :
    (l ++ [a]).getD i [] = l.getD i [] := by
  simp [List.getD_eq_getElem?_getD, List.getElem?_append_left h]

theorem getD_append_new (l : List Bytes) (a : Bytes) : (l ++ [a]).getD l.length [] = a := by
  simp [List.getD_eq_getElem?_getD]

theorem read_write_other (st : Store) (id pos : Nat) (xs : Bytes) (r : Slice) (h : r.arr ≠ id) :
    (st.write id pos xs).read r = st.read r := by
  simp only [Store.read, Store.write, getD_set_ne _ _ _ _ h]

theorem read_alloc (st : Store) (a : Bytes) (r : Slice) (h : r.arr < st.arrays.length) :
    Store.read { arrays := st.arrays ++ [a] } r = st.read r := by
  simp only [Store.read, getD_append_left _ _ _ h]

theorem read_length (st : Store) (s : Slice) (h : s.WF st) : (st.read s).length = s.len := by
  obtain ⟨h1, h2⟩ := h
  simp only [Store.read, List.length_take, List.length_drop]
  rcases h2 with h2 | ⟨_, h2⟩ <;> omega

theorem writeAt_length (a : Bytes) (pos : Nat) (xs : Bytes) (h : pos + xs.length ≤ a.length) :
    (writeAt a pos xs).length = a.length := by
  simp only [writeAt, List.length_append, List.length_take, List.length_drop]; omega

theorem read_writeAt (a : Bytes) (off len : Nat) (xs : Bytes) (h : off + len + xs.length ≤ a.length) :
    ((writeAt a (off + len) xs).drop off).take (len + xs.length) = (a.drop off).take len ++ xs := by
  have h1 : (a.take (off + len)).length = off + len := by simp [List.length_take]; omega
  have h2 : ((a.take (off + len)).drop off).length = len := by simp [List.length_drop, h1]
  have e : (a.take (off + len)).drop off = (a.drop off).take len := by
    rw [List.drop_take]; congr 1; omega
  simp only [writeAt, List.append_assoc]
  rw [List.drop_append_of_le_length (by omega), e]
  have h3 : ((a.drop off).take len).length = len := by rw [← e]; exact h2
  rw [← List.append_assoc, List.take_append_of_le_length (by simp [h3])]
  rw [List.take_of_length_le (by simp [h3])]

/-- the last clause: a slice in another array (or any slice, if `s` has no capacity) keeps its bytes and is
not in the result's array -/
theorem append_spec (grow : Nat → Nat → Nat) (st : Store) (s : Slice) (xs : Bytes) (hs : s.WF st) :
    let a := st.append grow s xs
    a.2.WF a.1 ∧ st.arrays.length ≤ a.1.arrays.length ∧ a.1.read a.2 = st.read s ++ xs ∧
    (∀ o : Slice, o.arr < st.arrays.length → (s.cap = 0 ∨ s.arr ≠ o.arr) →
      a.1.read o = st.read o ∧ (a.2.cap = 0 ∨ a.2.arr ≠ o.arr)) := by
  obtain ⟨hlen, hwin⟩ := hs
  rw [Store.append]
  by_cases h0 : xs.length = 0
  · have hx : xs = [] := List.eq_nil_of_length_eq_zero h0
    rw [if_pos h0]
    subst hx
    exact ⟨⟨hlen, hwin⟩, Nat.le_refl _, by simp, fun o _ hne => ⟨rfl, hne⟩⟩
  rw [if_neg h0]
  by_cases hfit : s.len + xs.length ≤ s.cap
  · -- in place
    rw [if_pos hfit]
    have hcap : s.cap ≠ 0 := by omega
    obtain ⟨harr, hbound⟩ : s.arr < st.arrays.length ∧ s.off + s.cap ≤ (st.arrays.getD s.arr []).length := by
      rcases hwin with h | h
      · exact absurd h hcap
      · exact h
    have hwl : (writeAt (st.arrays.getD s.arr []) (s.off + s.len) xs).length
        = (st.arrays.getD s.arr []).length := writeAt_length _ _ _ (by omega)
    have hlenarr : (st.write s.arr (s.off + s.len) xs).arrays.length = st.arrays.length := by
      simp [Store.write]
    refine ⟨⟨hfit, Or.inr ⟨by rw [hlenarr]; exact harr, ?_⟩⟩, by rw [hlenarr]; exact Nat.le_refl _, ?_, ?_⟩
    · simp only [Store.write, getD_set_eq _ _ _ harr, hwl]; exact hbound
    · simp only [Store.read, Store.write, getD_set_eq _ _ _ harr]
      exact read_writeAt _ _ _ _ (by omega)
    · intro o _ hne
      rcases hne with hne | hne
      · exact absurd hne hcap
      · exact ⟨read_write_other _ _ _ _ _ (Ne.symm hne), Or.inr hne⟩
  · -- new array
    rw [if_neg hfit]
    have hrl : (st.read s).length = s.len := read_length st s ⟨hlen, hwin⟩
    refine ⟨⟨Nat.le_max_left _ _, Or.inr ⟨by simp, ?_⟩⟩, by simp, ?_, ?_⟩
    · simp only [getD_append_new, Nat.zero_add, List.length_append, List.length_replicate, hrl]
      have := Nat.le_max_left (s.len + xs.length) (grow s.cap (s.len + xs.length))
      omega
    · show (((st.arrays ++ [st.read s ++ xs ++ List.replicate _ 0]).getD st.arrays.length []).drop 0).take
          (s.len + xs.length) = st.read s ++ xs
      rw [getD_append_new, List.drop_zero]
      rw [List.take_append_of_le_length (by simp only [List.length_append, hrl]; omega)]
      rw [List.take_of_length_le (by simp only [List.length_append, hrl]; omega)]
    · intro o ho _
      exact ⟨read_alloc st _ o ho, Or.inr (by simp only; omega)⟩

end Rtsp.SliceSem

namespace Rtsp.Codec.KlvSlice
open Rtsp.SliceSem

theorem upTo0_WF (st : Store) (s : Slice) (h : s.WF st) : (s.upTo 0).WF st :=
  ⟨Nat.zero_le _, h.2⟩

theorem read_upTo0 (st : Store) (s : Slice) : st.read (s.upTo 0) = [] := by
  simp [Store.read, Slice.upTo]

theorem read_upTo (st : Store) (s : Slice) (n : Nat) (h : n ≤ s.len) :
    st.read (s.upTo n) = (st.read s).take n := by
  simp only [Store.read, Slice.upTo, List.take_take, Nat.min_eq_left h]

theorem nil_WF (st : Store) : Slice.nil.WF st := ⟨Nat.le_refl _, Or.inl rfl⟩

theorem read_nil (st : Store) : st.read Slice.nil = [] := by simp [Store.read, Slice.nil]

theorem read_empty (st : Store) (o : Slice) (h : o.len = 0) : st.read o = [] := by
  simp [Store.read, h]

end Rtsp.Codec.KlvSlice
