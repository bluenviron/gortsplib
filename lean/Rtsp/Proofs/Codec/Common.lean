import Rtsp.Model.Rtp
/-
What every codec family uses and none owns: consecutive sequence numbers in `UInt16` (`seqFrom`), `totalLen`,
packet-count arithmetic (`ceilDiv`), the answers of a decoder to the packets of a frame; and a series of `Encode`
calls through the codec's own `encodeMany`, taken by its equations (`seq_series`; `Misc.many_some` for an encoder
that may refuse).
-/
namespace Rtsp.Rtp

/-- `sq, sq+1, …` (`n` values), wrapping modulo 2^16 by construction -/
def seqFrom (sq : UInt16) : Nat → List UInt16
  | 0 => []
  | n + 1 => sq :: seqFrom (sq + 1) n

@[simp] theorem seqFrom_length (sq : UInt16) (n : Nat) : (seqFrom sq n).length = n := by
  induction n generalizing sq with
  | zero => rfl
  | succ n ih => simp [seqFrom, ih]

theorem ofNat_succ (a : Nat) : UInt16.ofNat (a + 1) = UInt16.ofNat a + 1 :=
  UInt16.ofNat_add a 1

theorem seqFrom_append (sq : UInt16) (a b : Nat) :
    seqFrom sq (a + b) = seqFrom sq a ++ seqFrom (sq + UInt16.ofNat a) b := by
  induction a generalizing sq with
  | zero => simp [seqFrom]
  | succ a ih =>
    have h : a + 1 + b = (a + b) + 1 := by omega
    rw [h]
    have e : sq + 1 + UInt16.ofNat a = sq + UInt16.ofNat (a + 1) := by
      rw [ofNat_succ]; ac_rfl
    simp only [seqFrom, List.cons_append, ih (sq + 1), e]

/-- the form in which the numbering of a series of `Encode` calls follows from that of one call -/
theorem seqFrom_concat {α : Type} {seq : α → UInt16} {sq sq1 sq2 : UInt16} {ps qs : List α}
    (hp : ps.map seq = seqFrom sq ps.length) (h1 : sq1 = sq + UInt16.ofNat ps.length)
    (hq : qs.map seq = seqFrom sq1 qs.length) (h2 : sq2 = sq1 + UInt16.ofNat qs.length) :
    (ps ++ qs).map seq = seqFrom sq (ps ++ qs).length ∧ sq2 = sq + UInt16.ofNat (ps ++ qs).length := by
  subst h1 h2
  rw [List.map_append, List.length_append, seqFrom_append, hp, hq, UInt16.ofNat_add]
  exact ⟨rfl, by ac_rfl⟩


theorem seqFrom_getElem (sq : UInt16) (n i : Nat) (h : i < (seqFrom sq n).length) :
    (seqFrom sq n)[i] = sq + UInt16.ofNat i := by
  induction n generalizing sq i with
  | zero => simp [seqFrom] at h
  | succ n ih =>
    cases i with
    | zero => simp [seqFrom]
    | succ i =>
      simp only [seqFrom, List.getElem_cons_succ]
      rw [ih (sq + 1) i (by simpa [seqFrom] using h), ofNat_succ]
      ac_rfl

@[simp] theorem totalLen_nil : totalLen [] = 0 := rfl

@[simp] theorem totalLen_append (a b : List Bytes) : totalLen (a ++ b) = totalLen a + totalLen b := by
  simp [totalLen]

@[simp] theorem totalLen_singleton (a : Bytes) : totalLen [a] = a.length := by
  simp [totalLen]

theorem totalLen_cons (a : Bytes) (t : List Bytes) : totalLen (a :: t) = a.length + totalLen t := rfl

theorem totalLen_prefix (pre : List Bytes) (au : Bytes) (post : List Bytes) :
    totalLen (pre ++ au :: post) = totalLen pre + au.length + totalLen post := by
  rw [totalLen_append, totalLen_cons, Nat.add_assoc]

theorem length_le_totalLen (fs : List Bytes) (h : ∀ f ∈ fs, 0 < f.length) : fs.length ≤ totalLen fs := by
  induction fs with
  | nil => exact Nat.le_refl 0
  | cons f fs ih =>
    have := h f List.mem_cons_self
    have := ih fun x hx => h x (List.mem_cons_of_mem _ hx)
    rw [totalLen_cons, List.length_cons]
    omega

theorem mem_length_le_totalLen {b : List Bytes} {n : Bytes} (h : n ∈ b) : n.length ≤ totalLen b := by
  obtain ⟨l, r, rfl⟩ := List.append_of_mem h
  rw [totalLen_prefix]
  omega

theorem last_marked (l : List Pkt) (n : Nat) (h : l.map (·.marker) = List.replicate n false ++ [true]) :
    ∃ ini lst, l = ini ++ [lst] ∧ lst.marker = true := by
  have hne : l ≠ [] := by
    intro h0; subst h0; simp at h
  refine ⟨l.dropLast, l.getLast hne, (List.dropLast_concat_getLast hne).symm, ?_⟩
  have h2 := congrArg List.getLast? h
  rw [List.getLast?_map, List.getLast?_eq_some_getLast hne] at h2
  simpa using h2

theorem flatten_length (xs : List Bytes) : xs.flatten.length = totalLen xs := by
  simp [totalLen, List.length_flatten]

/-- Go `joinFragments` (copy every fragment into `make([]byte, size)`) when the recorded size is the
fragments' total -/
theorem take_flatten_totalLen (fs : List Bytes) :
    fs.flatten.take (totalLen fs) ++ List.replicate (totalLen fs - fs.flatten.length) 0 = fs.flatten := by
  rw [← flatten_length, List.take_length, Nat.sub_self, List.replicate_zero, List.append_nil]

theorem take_flatten_snoc (fs : List Bytes) (b : Bytes) (sz : Nat) (h : sz = totalLen fs) :
    (fs ++ [b]).flatten.take (sz + b.length)
        ++ List.replicate (sz + b.length - (fs ++ [b]).flatten.length) 0 = fs.flatten ++ b := by
  rw [h, ← totalLen_singleton b, ← totalLen_append, take_flatten_totalLen, List.flatten_append,
    List.flatten_singleton]

/-- `⌈le / avail⌉` as the encoders compute it -/
def ceilDiv (le avail : Nat) : Nat := le / avail + (if le % avail ≠ 0 then 1 else 0)

theorem ceilDiv_upper (le avail : Nat) (h : 0 < avail) : le ≤ ceilDiv le avail * avail := by
  unfold ceilDiv
  have h1 := Nat.div_add_mod le avail
  have h2 := Nat.mod_lt le h
  rw [Nat.mul_comm] at h1
  split
  · rw [Nat.add_mul]; omega
  · rename_i hm
    simp at hm
    simp only [Nat.add_zero]
    omega

theorem ceilDiv_lower (le avail : Nat) (h : 0 < avail) (hl : 0 < le) :
    (ceilDiv le avail - 1) * avail < le := by
  unfold ceilDiv
  have h1 := Nat.div_add_mod le avail
  have h2 := Nat.mod_lt le h
  rw [Nat.mul_comm] at h1
  split
  · simp; omega
  · rename_i hm
    simp at hm
    have : 0 < le / avail := by
      apply Nat.pos_of_ne_zero
      intro h0
      rw [h0] at h1; omega
    have : (le / avail - 1) * avail = le / avail * avail - avail := by
      rw [Nat.sub_mul]; simp
    simp only [Nat.add_zero]
    rw [this]
    have : avail ≤ le / avail * avail := Nat.le_mul_of_pos_left avail ‹0 < le / avail›
    omega

theorem ceilDiv_pos (le avail : Nat) (h : 0 < avail) (hl : 0 < le) : 0 < ceilDiv le avail := by
  have := ceilDiv_upper le avail h
  apply Nat.pos_of_ne_zero
  intro h0
  rw [h0] at this
  omega

theorem ceilDiv_eq_succ (le avail : Nat) (h : 0 < avail) (hl : 0 < le) :
    ∃ k, ceilDiv le avail = k + 1 ∧ k * avail < le :=
  ⟨ceilDiv le avail - 1, by have := ceilDiv_pos le avail h hl; omega, ceilDiv_lower le avail h hl⟩

theorem ceilDiv_eq_one (le avail : Nat) (h : le ≤ avail) (hl : 0 < le) : ceilDiv le avail = 1 := by
  unfold ceilDiv
  rcases Nat.lt_or_eq_of_le h with h | rfl
  · rw [Nat.div_eq_of_lt h, Nat.mod_eq_of_lt h, if_pos (Nat.ne_of_gt hl)]
  · rw [Nat.div_self hl, Nat.mod_self, if_neg (fun h => h rfl)]

/-! The answers of a decoder to the packets of a frame are "more packets needed" up to the last packet and the
frame at the last; the two lemmas say what such a block does in front of a list of answers.  `frames` is any of
the codecs' `okFrames` (below, in `Av1VpCommon`, in `Props/Codec/Mpeg1VideoRT`): each takes a frame and skips
"more" by `rfl`.  `OnlyOkMore`, `NoErr`, `OnlyMoreOk` are three names for the proposition `only_frame_append`
is stated with. -/

theorem frames_frame_append {α : Type} (frames : List (DecRes α) → List α) {n : Nat} {f : α}
    {rest : List (DecRes α)} (hok : ∀ f rs, frames (.ok f :: rs) = f :: frames rs := by intros; rfl)
    (hmore : ∀ rs, frames (.more :: rs) = frames rs := by intros; rfl) :
    frames (List.replicate n .more ++ [.ok f] ++ rest) = f :: frames rest := by
  induction n with
  | zero => exact hok f rest
  | succ n ih => rw [List.replicate_succ, List.cons_append, List.cons_append, hmore, ih]

theorem only_frame_append {α : Type} {n : Nat} {f : α} {rest : List (DecRes α)}
    (h : ∀ r ∈ rest, r = .more ∨ ∃ f, r = .ok f) :
    ∀ r ∈ List.replicate n .more ++ [.ok f] ++ rest, r = .more ∨ ∃ f, r = .ok f := by
  intro r hr
  rcases List.mem_append.mp hr with hr | hr
  · rcases List.mem_append.mp hr with hr | hr
    · exact Or.inl (List.eq_of_mem_replicate hr)
    · exact Or.inr ⟨f, List.mem_singleton.mp hr⟩
  · exact h r hr

end Rtsp.Rtp

namespace Rtsp.Codec
open Rtsp.Rtp

namespace Audio

/-- the frames a run of `Decode` calls returned, in order -/
def okFrames {α : Type} : List (DecRes α) → List α
  | [] => []
  | .ok f :: rest => f :: okFrames rest
  | _ :: rest => okFrames rest

/-- every answer is a frame or "more packets needed" -/
def OnlyOkMore {α : Type} (rs : List (DecRes α)) : Prop := ∀ r ∈ rs, r = .more ∨ ∃ f, r = .ok f

end Audio

namespace Misc

/-- the frames a result list returns, in order -/
def okFrames {α : Type} : List (DecRes α) → List α
  | [] => []
  | .ok f :: rs => f :: okFrames rs
  | _ :: rs => okFrames rs

/-- every answer is "more packets needed" or a frame (no error, no "non-starting packet") -/
def NoErr {α : Type} (rs : List (DecRes α)) : Prop := ∀ r ∈ rs, r = .more ∨ ∃ f, r = .ok f

end Misc

/-- `next e f`, `out e f`: the encoder after the call on `f` and the packets of that call; `sq`: the encoder's
sequence number; `many`: the codec's own `encodeMany`, taken with its two defining equations (by `rfl`).
All four are found from the goal and from `one`. -/
theorem seq_series {E F : Type} {next : E → F → E} {out : E → F → List Pkt} {sq : E → UInt16}
    {many : E → List F → E × List Pkt}
    (one : ∀ e f, (out e f).map (·.seq) = seqFrom (sq e) (out e f).length ∧
      sq (next e f) = sq e + UInt16.ofNat (out e f).length) (e : E) (fs : List F)
    (h0 : ∀ e, many e [] = (e, []) := by intros; rfl)
    (h1 : ∀ e f fs, many e (f :: fs) = ((many (next e f) fs).1, out e f ++ (many (next e f) fs).2) := by
      intros; rfl) :
    (many e fs).2.map (·.seq) = seqFrom (sq e) (many e fs).2.length ∧
    sq (many e fs).1 = sq e + UInt16.ofNat (many e fs).2.length := by
  induction fs generalizing e with
  | nil => rw [h0]; exact ⟨rfl, (UInt16.add_zero _).symm⟩
  | cons f fs ih =>
    rw [h1]
    exact seqFrom_concat (one e f).1 (one e f).2 (ih (next e f)).1 (ih (next e f)).2

/-- `many` is the codec's own iteration (`hcons`: its second equation, by cases on the first call) -/
theorem Misc.many_some {E F : Type} (enc : E → F → E × Option (List Pkt)) (many : E → List F → Option (E × List Pkt))
    (hcons : ∀ e f fs, many e (f :: fs) =
      (enc e f).2.bind fun ps => (many (enc e f).1 fs).map fun r => (r.1, ps ++ r.2))
    (e e' : E) (f : F) (fs : List F) (ps : List Pkt) (h : many e (f :: fs) = some (e', ps)) :
    ∃ qs rs, (enc e f).2 = some qs ∧ many (enc e f).1 fs = some (e', rs) ∧ ps = qs ++ rs := by
  rw [hcons] at h
  obtain ⟨qs, hq, h⟩ := Option.bind_eq_some_iff.mp h
  obtain ⟨x, hm, hx⟩ := Option.map_eq_some_iff.mp h
  cases hx
  exact ⟨qs, x.2, hq, hm, rfl⟩

end Rtsp.Codec
