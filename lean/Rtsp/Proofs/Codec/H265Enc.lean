import Rtsp.Model.Codec.H265
import Rtsp.Proofs.Codec.H26xPacketise
/-
Encoder-side lemmas for pkg/format/rtph265 (C06, and the packet shapes C03 needs): where it
succeeds, the encoder is the shared packetiser with a 3-byte FU header and 2-byte NALU / AP headers.
-/
namespace Rtsp.Codec.H265
open Rtsp.Rtp Rtsp.Codec.H26x Rtsp.Facts

theorem fuHdr_length (h0 h1 : UInt8) (a b : Bool) : (fuHdr h0 h1 a b).length = 3 := rfl

/-- payload of an aggregation packet -/
def apPayload (nalus : List Bytes) : Bytes :=
  let ids := minIds nalus (0xFF, 0xFF)
  ((UInt8.ofNat CodecH26x.h265ApTypeInEncoder <<< (1 : UInt8)) ||| (ids.1 &&& 0x20)) ::
    (((ids.1 &&& 0x1F) <<< 3) ||| (ids.2 &&& 0x07)) :: aggBody nalus

/-- what `writeBatch` writes when it does not fail (this encoder can refuse a batch, so the
theorems speak of `wb` and reach `encode` through `encode_some` / `encode_eq`) -/
def wb (max : Nat) : List Bytes → Bool → List Item :=
  batchItems (fun n => fuHdr (n.getD 0 0) (n.getD 1 0)) 3 2 apPayload max

/-- `writeBatch` refuses exactly the aggregations that hold a NALU without its 2-byte header -/
theorem writeBatch_eq (max : Nat) (b : List Bytes) (m : Bool) :
    writeBatch max b m =
      if b.length ≠ 1 ∧ b.any (fun n => n.length < 2) = true then none else some (wb max b m) := by
  have hagg : ∀ b : List Bytes, writeAggregationUnit b m =
      if b.any (fun n => n.length < 2) = true then none else some [(m, apPayload b)] := fun _ => rfl
  rcases b with _ | ⟨n, _ | ⟨n2, r⟩⟩
  · rfl
  · rw [if_neg (fun h => h.1 rfl)]
    exact (apply_ite some ..).symm
  · show writeAggregationUnit _ m = _
    rw [hagg]
    by_cases hany : (n :: n2 :: r).any (fun n => n.length < 2) = true
    · rw [if_pos hany, if_pos ⟨by simp, hany⟩]
    · rw [if_neg hany, if_neg (fun h => hany h.2)]
      rfl

theorem writeBatch_some (max : Nat) (b : List Bytes) (m : Bool) (its : List Item)
    (h : writeBatch max b m = some its) : its = wb max b m := by
  rw [writeBatch_eq] at h
  split at h
  · cases h
  · exact (Option.some.inj h).symm

theorem writeBatch_eq_some (max : Nat) (b : List Bytes) (m : Bool) (h2 : ∀ n ∈ b, 2 ≤ n.length) :
    writeBatch max b m = some (wb max b m) := by
  rw [writeBatch_eq, if_neg]
  intro ⟨_, hany⟩
  obtain ⟨n, hn, hlt⟩ := List.any_eq_true.mp hany
  exact absurd (h2 n hn) (Nat.not_le.mpr (of_decide_eq_true hlt))

theorem writeBatches_some (max : Nat) (bs : List (List Bytes)) (h : (writeBatches max bs).2 = true) :
    (writeBatches max bs).1 = itemsOf (wb max) bs := by
  fun_induction writeBatches max bs with
  | case1 => rfl
  | case2 b its hb => exact writeBatch_some max b true its hb
  | case3 => cases h
  | case4 b bs hbs its hb r ok hr ih =>
    rw [hr] at ih
    rw [itemsOf, ← writeBatch_some max b false its hb, ← ih h]
    exact hbs
  | case5 => cases h

theorem writeBatches_ok (max : Nat) (bs : List (List Bytes)) (h2 : ∀ b ∈ bs, ∀ n ∈ b, 2 ≤ n.length) :
    (writeBatches max bs).2 = true := by
  fun_induction writeBatches max bs with
  | case1 => rfl
  | case2 => rfl
  | case3 b hb => rw [writeBatch_eq_some max b true (h2 b (List.mem_singleton_self b))] at hb; cases hb
  | case4 b bs hbs its hb r ok hr ih =>
    rw [hr] at ih
    exact ih (fun x hx => h2 x (List.mem_cons_of_mem _ hx))
  | case5 b bs hbs hb => rw [writeBatch_eq_some max b false (h2 b List.mem_cons_self)] at hb; cases hb

theorem wb_payload_le (max : Nat) (b : List Bytes) (m : Bool) (hmax : 4 ≤ max)
    (hb : BatchOK 2 max b) : ∀ it ∈ wb max b m, it.2.length ≤ max :=
  batchItems_payload_le (fun _ => fuHdr_length _ _)
    (fun ns => by rw [lenAgg_eq, apPayload, List.length_cons, List.length_cons]; omega) (by omega) (by omega) b m hb

theorem wb_markers (max : Nat) (b : List Bytes) (m : Bool) (hmax : 4 ≤ max) :
    ∃ k, (wb max b m).map (·.1) = List.replicate k false ++ [m] :=
  batchItems_markers (by omega) (by omega) b m

def auItems (max : Nat) (au : List Bytes) : List Item := itemsOf (wb max) (splitBatches 2 max [] au)

theorem encode_some (e : Enc) (au : List Bytes) (ps : List Pkt) (h : (encode e au).2 = some ps) :
    ps = number e.cfg e.seq (auItems e.cfg.max au) ∧
    (encode e au).1.seq = e.seq + UInt16.ofNat (auItems e.cfg.max au).length := by
  have hs := writeBatches_some e.cfg.max (splitBatches 2 e.cfg.max [] au)
  unfold encode encodeItems at h ⊢
  generalize writeBatches e.cfg.max (splitBatches 2 e.cfg.max [] au) = r at h hs
  obtain ⟨items, ok⟩ := r
  cases ok
  · cases h
  · cases hs rfl
    exact ⟨(Option.some.inj h).symm, rfl⟩

theorem encode_eq (e : Enc) (au : List Bytes) (hn : ∀ n ∈ au, 2 ≤ n.length) :
    encode e au = ({ e with seq := e.seq + UInt16.ofNat (auItems e.cfg.max au).length },
                   some (number e.cfg e.seq (auItems e.cfg.max au))) := by
  have hok := writeBatches_ok e.cfg.max (splitBatches 2 e.cfg.max [] au)
    (fun b hb n hn' => hn n (mem_of_mem_splitBatches hb hn'))
  have hs := writeBatches_some e.cfg.max _ hok
  unfold encode encodeItems auItems
  generalize writeBatches e.cfg.max (splitBatches 2 e.cfg.max [] au) = r at hok hs
  obtain ⟨items, ok⟩ := r
  cases hok
  cases hs
  rfl

end Rtsp.Codec.H265
