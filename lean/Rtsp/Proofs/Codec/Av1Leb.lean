import Rtsp.Model.Codec.Av1
import Rtsp.Proofs.Codec.Av1VpCommon
import Rtsp.Proofs.Common.Bits
/-
LEB128 for the AV1 proofs: `lebSize` by its recursion on `l / 128`; length of the encoding, monotonicity
and `Unmarshal (MarshalTo n ++ rest) = (MarshalSize n, n)` by induction along it.
-/
namespace Rtsp.Codec.Av1
open Rtsp.Rtp Rtsp.Facts

theorem lebSize_bounds (n : Nat) : 0 < lebSize n ∧ lebSize n ≤ 5 := by
  unfold lebSize; simp only; repeat' split
  all_goals omega

theorem lebSize_pos (n : Nat) : 0 < lebSize n := (lebSize_bounds n).1

theorem lebSize_le5 (n : Nat) : lebSize n ≤ 5 := (lebSize_bounds n).2

theorem lebSize_of_lt {l : Nat} (h : l < 128) : lebSize l = 1 := by
  unfold lebSize
  rw [if_pos (by omega)]

theorem lebSize_div {l : Nat} (h : 128 ≤ l) (h32 : l < 2 ^ 32) : lebSize l = lebSize (l / 128) + 1 := by
  unfold lebSize
  simp only [Nat.mod_eq_of_lt h32, Nat.mod_eq_of_lt (by omega : l / 128 < 2 ^ 32)]
  rw [if_neg (by omega : ¬ l < 2 ^ 7)]
  by_cases h14 : l < 2 ^ 14
  · rw [if_pos h14, if_pos (by omega : l / 128 < 2 ^ 7)]
  rw [if_neg h14, if_neg (by omega : ¬ l / 128 < 2 ^ 7)]
  by_cases h21 : l < 2 ^ 21
  · rw [if_pos h21, if_pos (by omega : l / 128 < 2 ^ 14)]
  rw [if_neg h21, if_neg (by omega : ¬ l / 128 < 2 ^ 14)]
  by_cases h28 : l < 2 ^ 28
  · rw [if_pos h28, if_pos (by omega : l / 128 < 2 ^ 21)]
  rw [if_neg h28, if_neg (by omega : ¬ l / 128 < 2 ^ 21), if_pos (by omega : l / 128 < 2 ^ 28)]

theorem lebSize_mono (a b : Nat) (hab : a ≤ b) (hb : b < 2 ^ 32) : lebSize a ≤ lebSize b := by
  induction b using Nat.strongRecOn generalizing a with
  | _ b ih =>
    by_cases ha : a < 128
    · rw [lebSize_of_lt ha]; exact lebSize_pos b
    · rw [lebSize_div (by omega) (by omega), lebSize_div (by omega) hb]
      exact Nat.succ_le_succ (ih (b / 128) (by omega) (a / 128) (Nat.div_le_div_right hab) (by omega))

theorem lebSize_lt (m : Nat) (h3 : 3 ≤ m) : lebSize m + 1 < m := by
  by_cases h : m < 128
  · rw [lebSize_of_lt h]; omega
  · have := lebSize_le5 m; omega

theorem lebEncF_length (fuel l : Nat) (h32 : l < 2 ^ 32) (hf : lebSize l ≤ fuel) :
    (lebEncF fuel l).length = lebSize l := by
  induction fuel generalizing l with
  | zero => have := lebSize_pos l; omega
  | succ fuel ih =>
    rw [lebEncF]
    by_cases h : l < 128
    · rw [if_pos (by omega), lebSize_of_lt h]; rfl
    · have hs := lebSize_div (by omega) h32
      rw [if_neg (by omega), List.length_cons, ih _ (by omega) (by omega), hs]

theorem lebEnc_length (n : Nat) : (lebEnc n).length = lebSize n := by
  have h32 : n % 2 ^ 32 < 2 ^ 32 := Nat.mod_lt _ (by decide)
  have e : lebSize n = lebSize (n % 2 ^ 32) := by unfold lebSize; rw [Nat.mod_mod]
  rw [e]
  exact lebEncF_length 5 _ h32 (lebSize_le5 _)

/-- entered at round `i`, the decoder loop peels off `l % 128` per round -/
theorem lebDecF_lebEncF (k fuel i acc l : Nat) (rest : Bytes) (hl : l * 2 ^ (7 * i) < 2 ^ 32)
    (hk : lebSize l ≤ k) (hf : lebSize l ≤ fuel) :
    lebDecF fuel i acc (lebEncF k l ++ rest) = some (i + lebSize l, acc + l * 2 ^ (7 * i)) := by
  have h32 : l < 2 ^ 32 := Nat.lt_of_le_of_lt (Nat.le_mul_of_pos_right l (Nat.two_pow_pos _)) hl
  induction k generalizing fuel i acc l with
  | zero => have := lebSize_pos l; omega
  | succ k ih =>
    cases fuel with
    | zero => have := lebSize_pos l; omega
    | succ fuel =>
      rw [lebEncF]
      by_cases h : l < 128
      · have hb : (UInt8.ofNat (l % 128)).toNat = l := by rw [Bits.toNat_ofNat_lt (by omega)]; omega
        rw [if_pos (by omega), List.singleton_append, lebDecF]
        simp only [hb]
        rw [if_pos (by omega), Nat.mod_eq_of_lt h, Nat.mod_eq_of_lt hl, lebSize_of_lt h]
      · have hb : (UInt8.ofNat (l % 128 + 128)).toNat = l % 128 + 128 := Bits.toNat_ofNat_lt (by omega)
        have hs := lebSize_div (by omega) h32
        have hp : 2 ^ (7 * (i + 1)) = 2 ^ (7 * i) * 128 := by rw [Nat.mul_succ, Nat.pow_add]
        have hsum : l % 128 * 2 ^ (7 * i) + l / 128 * (2 ^ (7 * i) * 128) = l * 2 ^ (7 * i) := by
          conv => rhs; rw [← Nat.mod_add_div l 128]
          rw [Nat.add_mul, Nat.mul_comm 128, Nat.mul_assoc, Nat.mul_comm 128]
        rw [if_neg (by omega), List.cons_append, lebDecF]
        simp only [hb]
        rw [if_neg (by omega), Nat.add_mod_right, Nat.mod_mod, Nat.mod_eq_of_lt (by omega),
          ih fuel (i + 1) _ (l / 128) (by rw [hp]; omega) (by omega) (by omega) (by omega), hs, hp]
        rw [Nat.add_assoc acc, hsum, Nat.add_assoc i, Nat.add_comm 1]

theorem lebDec_lebEnc (n : Nat) (h : n < 2 ^ 32) (rest : Bytes) :
    lebDec (lebEnc n ++ rest) = some (lebSize n, n) := by
  have := lebDecF_lebEncF 5 CodecAv1vp.av1LebUnmarshalMaxBytes 0 0 n rest (by omega) (lebSize_le5 n)
    (Nat.le_trans (lebSize_le5 n) (by decide))
  simpa [lebDec, lebEnc, Nat.mod_eq_of_lt h] using this

end Rtsp.Codec.Av1
