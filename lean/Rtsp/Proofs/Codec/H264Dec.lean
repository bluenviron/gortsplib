import Rtsp.Model.Codec.H264
import Rtsp.Proofs.Codec.H26xDepacketise
import Rtsp.Proofs.Common.Runs
/-
Decoder-side invariants for pkg/format/rtph264 (C08; reused by C07).
-/
namespace Rtsp.Codec.H264
open Rtsp.Rtp Rtsp.Codec.H26x

theorem runs : Runs decode runDec := ⟨fun _ => rfl, fun _ _ _ => rfl⟩

/-- the part of the invariant about the NALU being reassembled; `P` bounds the payload size of
the packets of the history -/
structure FragInv (P : Nat) (d : Dec) : Prop where
  size_eq : d.fragmentsSize = totalLen d.fragments
  size_le : d.fragmentsSize ≤ maxAU + P
  empty   : d.fragmentsSize = 0 → d.fragments = []
  /-- every stored fragment but the header (and possibly the first data fragment) is non-empty, so
  the NUMBER of stored fragments is bounded by the byte size (false before /repo commit f1b05d6) -/
  count_le : d.fragments.length ≤ d.fragmentsSize + 1

/-- the part of the invariant about the access unit being collected -/
structure FbInv (d : Dec) : Prop where
  len_eq  : d.frameBufferLen = d.frameBuffer.length
  size_eq : d.frameBufferSize = totalLen d.frameBuffer
  len_le  : d.frameBufferLen ≤ maxNALUs
  size_le : d.frameBufferSize ≤ maxAU
  nonempty : ∀ n ∈ d.frameBuffer, n ≠ []

/-- what `decodeNALUs` does not touch -/
def fbPart (d : Dec) : List Bytes × Nat × Nat × UInt32 :=
  (d.frameBuffer, d.frameBufferLen, d.frameBufferSize, d.frameBufferTimestamp)

/-- what every path through `decodeNALUs0` guarantees (`Q`: what is known of the NALUs it yields); only
the fragment invariant depends on the state before, hence the implication.  Annex-B mode is touched by
`finishNALUs` alone. -/
def NStep0 (Q : List Bytes → Prop) (P : Nat) (d : Dec) (r : Dec × NRes) : Prop :=
  (FragInv P d → FragInv P r.1) ∧ fbPart r.1 = fbPart d ∧ r.1.annexBMode = d.annexBMode ∧
    ∀ ns, r.2 = .nalus ns → Q ns

/-- the NALUs a fragmentation unit completes come out of `splitNALUs` -/
def Split (ns : List Bytes) : Prop := ∃ b, ns = splitNALUs b

theorem NStep0.mono {Q Q' : List Bytes → Prop} {P : Nat} {d : Dec} {r : Dec × NRes} (h : NStep0 Q P d r)
    (hq : ∀ ns, Q ns → Q' ns) : NStep0 Q' P d r :=
  ⟨h.1, h.2.1, h.2.2.1, fun ns hn => hq ns (h.2.2.2 ns hn)⟩

theorem fragInv_reset (P : Nat) (d : Dec) : FragInv P d.resetFragments :=
  ⟨rfl, Nat.zero_le _, fun _ => rfl, Nat.zero_le _⟩

theorem nstep_reset_err (Q : List Bytes → Prop) (P : Nat) (d : Dec) : NStep0 Q P d (d.resetFragments, .err) :=
  ⟨fun _ => fragInv_reset P d, rfl, rfl, nofun⟩

theorem fuaStart_step (P : Nat) (d : Dec) (seq : UInt16) (b0 b1 : UInt8) (data : Bytes)
    (hp : data.length + 2 ≤ P) : NStep0 Split P d (fuaStart d seq b0 b1 data) := by
  unfold fuaStart
  dsimp only
  split
  · exact ⟨fun _ => fragInv_reset P _, rfl, rfl, fun ns h => NRes.nalus.inj h ▸ ⟨_, rfl⟩⟩
  · refine ⟨fun _ => ⟨?_, ?_, fun h => absurd h (Nat.succ_ne_zero _), Nat.le_add_left _ _⟩, rfl, rfl, nofun⟩
    · show _ = totalLen [[_], data]
      simp only [totalLen, List.map_cons, List.map_nil, List.sum_cons, List.sum_nil, List.length_cons,
        List.length_nil]
      omega
    · show data.length + 1 ≤ _
      omega

theorem fuaCont_step (P : Nat) (d : Dec) (seq : UInt16) (b1 : UInt8) (data : Bytes) :
    NStep0 Split P d (fuaCont d seq b1 data) := by
  unfold fuaCont
  by_cases hz : d.fragmentsSize = 0
  · rw [if_pos hz]; split <;> exact ⟨id, rfl, rfl, nofun⟩
  rw [if_neg hz]
  by_cases hq : seq ≠ d.fragmentNextSeqNum
  · rw [if_pos hq]; exact nstep_reset_err _ P d
  rw [if_neg hq]
  by_cases hgt : d.fragmentsSize + data.length > maxAU
  · exact (if_pos hgt) ▸ nstep_reset_err _ P d
  refine (if_neg hgt) ▸ ?_
  split
  · refine ⟨fun hi => ?_, rfl, rfl, nofun⟩
    obtain ⟨a, b, c, e⟩ := pushFrag_inv P maxAU d.fragments d.fragmentsSize data hi.1 hi.4 hz hgt
    exact ⟨a, b, c, e⟩
  · exact ⟨fun _ => fragInv_reset P _, rfl, rfl, fun ns h => NRes.nalus.inj h ▸ ⟨_, rfl⟩⟩

theorem decodeFUA_step (P : Nat) (d : Dec) (seq : UInt16) (b0 : UInt8) (tl : Bytes)
    (hp : tl.length + 1 ≤ P) : NStep0 Split P d (decodeFUA d seq b0 tl) := by
  unfold decodeFUA
  split
  · exact ⟨id, rfl, rfl, nofun⟩
  · rename_i b1 data
    rw [List.length_cons] at hp
    split
    · exact fuaStart_step P d seq b0 b1 data (by omega)
    · exact fuaCont_step P d seq b1 data

theorem decodeSTAPA_step (P : Nat) (d : Dec) (tl : Bytes) : NStep0 AllNonempty P d (decodeSTAPA d tl) := by
  unfold decodeSTAPA
  split
  · exact nstep_reset_err _ P d
  · rename_i ns hagg
    split
    · exact nstep_reset_err _ P d
    · obtain ⟨more, rfl, hm, _⟩ := aggLoop_some true _ _ [] ns hagg
      exact ⟨fun _ => ⟨rfl, Nat.zero_le _, fun _ => rfl, Nat.zero_le _⟩, rfl, rfl,
        fun ns' h => NRes.nalus.inj h ▸ hm⟩

theorem decodeNALUs0_step (P : Nat) (d : Dec) (p : Pkt) (hp : p.payload.length ≤ P) :
    NStep0 AllNonempty P d (decodeNALUs0 d p) := by
  unfold decodeNALUs0
  split
  · exact nstep_reset_err _ P d
  · rename_i b0 tl hpl
    rw [hpl, List.length_cons] at hp
    dsimp only
    split
    · exact (decodeFUA_step P d p.seq b0 tl hp).mono fun _ ⟨b, hb⟩ => hb ▸ splitNALUsF_nonempty _ b
    · split
      · exact decodeSTAPA_step P d tl
      · split
        · exact ⟨fun _ => ⟨rfl, Nat.zero_le _, fun _ => rfl, Nat.zero_le _⟩, rfl, rfl, nofun⟩
        · refine ⟨fun _ => ⟨rfl, Nat.zero_le _, fun _ => rfl, Nat.zero_le _⟩, rfl, rfl, fun ns h => ?_⟩
          cases h
          rw [hpl]
          exact .singleton (List.cons_ne_nil _ _)

theorem annexBLoop_nonempty (fuel : Nat) (rest : Bytes) (acc : List Bytes) (sz : Nat) (ns : List Bytes)
    (hacc : AllNonempty acc) (h : annexBLoop fuel rest acc sz = some ns) : AllNonempty ns := by
  induction fuel generalizing rest acc sz with
  | zero => cases h; exact hacc
  | succ fuel ih =>
    rw [annexBLoop] at h
    by_cases hlen : rest.length = 0
    · rw [if_pos hlen] at h; cases h; exact hacc
    rw [if_neg hlen] at h
    cases hf : findSC rest with
    | none =>
      rw [hf] at h
      dsimp only at h
      split at h
      · cases h
      · cases h
        exact hacc.append (.singleton fun h0 => hlen (by rw [h0]; rfl))
    | some i =>
      rw [hf] at h
      dsimp only at h
      have hle := findSC_some_le rest i hf
      have hpe := pieceEnd_le rest i
      split at h
      · split at h
        · cases h
        · exact ih _ _ _ (hacc.append (.singleton (take_ne_nil (by omega) (by omega)))) h
      · exact ih _ _ _ hacc h

theorem annexBLoop_fuel (f1 f2 : Nat) (rest : Bytes) (acc : List Bytes) (sz : Nat)
    (h1 : rest.length < f1) (h2 : rest.length < f2) :
    annexBLoop f1 rest acc sz = annexBLoop f2 rest acc sz := by
  induction f1 generalizing f2 rest acc sz with
  | zero => omega
  | succ f1 ih =>
    cases f2 with
    | zero => omega
    | succ f2 =>
      rw [annexBLoop, annexBLoop]
      cases hf : findSC rest with
      | none => rfl
      | some i =>
        have hle := findSC_some_le rest i hf
        have hd : (rest.drop (i + 3)).length < f1 ∧ (rest.drop (i + 3)).length < f2 := by
          rw [List.length_drop]; omega
        dsimp only
        rw [ih f2 _ _ _ hd.1 hd.2, ih f2 _ acc sz hd.1 hd.2]

theorem annexBBody_ok (buf : Bytes) (pos : Nat) (ns : List Bytes) (h : annexBBody buf pos = some ns) :
    ns ≠ [] ∧ AllNonempty ns := by
  unfold annexBBody at h
  split at h
  · cases h
  · split at h
    · cases h
    · rename_i ns' hl
      split at h
      · cases h
      · rename_i hne
        split at h
        · cases h
        · cases h
          exact ⟨fun h0 => hne (by rw [h0]; rfl), annexBLoop_nonempty _ _ [] 0 _ nofun hl⟩

theorem annexBUnmarshal_ok (buf : Bytes) (ns : List Bytes) (h : annexBUnmarshal buf = some ns) :
    ns ≠ [] ∧ AllNonempty ns := by
  unfold annexBUnmarshal at h
  split at h
  · exact annexBBody_ok _ _ _ h
  · split at h
    · exact annexBBody_ok _ _ _ h
    · cases h

theorem removeAnnexB_ok (mode : Bool) (ns : List Bytes) (m : Bool) (ns' : List Bytes)
    (hne : ns ≠ []) (hall : AllNonempty ns) (h : removeAnnexB mode ns = (m, some ns')) :
    ns' ≠ [] ∧ AllNonempty ns' := by
  unfold removeAnnexB at h
  split at h
  · split at h
    · exact annexBUnmarshal_ok _ _ (Prod.mk.inj h).2
    · simp only [Prod.mk.injEq, Option.some.injEq] at h
      rw [← h.2]; exact ⟨hne, hall⟩
  · simp only [Prod.mk.injEq, Option.some.injEq] at h
    rw [← h.2]; exact ⟨hne, hall⟩

/-- as `NStep0`, for `decodeNALUs`: a NALU list is never empty -/
def NStep (P : Nat) (d : Dec) (r : Dec × NRes) : Prop :=
  (FragInv P d → FragInv P r.1) ∧ fbPart r.1 = fbPart d ∧ ∀ ns, r.2 = .nalus ns → ns ≠ [] ∧ AllNonempty ns

theorem FragInv.setAnnexB {P : Nat} {d : Dec} (h : FragInv P d) (m : Bool) :
    FragInv P { d with annexBMode := m } :=
  ⟨h.1, h.2, h.3, h.4⟩

theorem finishNALUs_step (P : Nat) (d d1 : Dec) (ns : List Bytes) (hi : FragInv P d → FragInv P d1)
    (hfb : fbPart d1 = fbPart d) (hall : AllNonempty ns) : NStep P d (finishNALUs d1 ns) := by
  unfold finishNALUs
  split
  · exact ⟨hi, hfb, nofun⟩
  · rename_i hlen
    split
    · rename_i m ns1 hr
      refine ⟨fun h => (hi h).setAnnexB m, hfb, fun ns2 h => ?_⟩
      cases h
      exact removeAnnexB_ok _ ns m ns1 (fun h0 => hlen (by rw [h0]; rfl)) hall hr
    · exact ⟨fun h => (hi h).setAnnexB _, hfb, nofun⟩

theorem decodeNALUs_step (P : Nat) (d : Dec) (p : Pkt) (hp : p.payload.length ≤ P) :
    NStep P d (decodeNALUs d p) := by
  have h0 := decodeNALUs0_step P d p hp
  unfold decodeNALUs
  split
  · rename_i d1 ns heq
    rw [heq] at h0
    exact finishNALUs_step P d d1 ns h0.1 h0.2.1 (h0.2.2.2 ns rfl)
  · rename_i hno
    refine ⟨h0.1, h0.2.1, ?_⟩
    intro ns h
    exact absurd (Prod.ext rfl h : decodeNALUs0 d p = ((decodeNALUs0 d p).1, .nalus ns)) (hno _ _)

theorem decodeNALUs_fbPart (d : Dec) (p : Pkt) : fbPart (decodeNALUs d p).1 = fbPart d :=
  (decodeNALUs_step p.payload.length d p (Nat.le_refl _)).2.1

/-- what the frame-buffer stage does not touch -/
def fragPart (d : Dec) : List Bytes × Nat × UInt16 × Bool × Bool :=
  (d.fragments, d.fragmentsSize, d.fragmentNextSeqNum, d.firstPacketReceived, d.annexBMode)

theorem fbInv_reset (d : Dec) : FbInv d.resetFrameBuffer :=
  ⟨rfl, rfl, Nat.zero_le _, Nat.zero_le _, fun _ h => absurd h List.not_mem_nil⟩

theorem fbInv_of_fbPart (d d' : Dec) (h : fbPart d' = fbPart d) (hi : FbInv d) : FbInv d' := by
  simp only [fbPart, Prod.mk.injEq] at h
  obtain ⟨h1, h2, h3, _⟩ := h
  exact ⟨by rw [h2, h1]; exact hi.1, by rw [h3, h1]; exact hi.2, by rw [h2]; exact hi.3,
    by rw [h3]; exact hi.4, by rw [h1]; exact hi.5⟩

theorem fragInv_of_fragPart (P : Nat) (d d' : Dec) (h : fragPart d' = fragPart d) (hi : FragInv P d) :
    FragInv P d' := by
  simp only [fragPart, Prod.mk.injEq] at h
  obtain ⟨h1, h2, _⟩ := h
  exact ⟨by rw [h2, h1]; exact hi.1, by rw [h2]; exact hi.2, by rw [h2, h1]; exact hi.3,
    by rw [h2, h1]; exact hi.4⟩

theorem addToFrameBuffer_eq (d : Dec) (ns : List Bytes) (ts : UInt32) :
    (d.frameBufferLen + ns.length ≤ maxNALUs ∧ d.frameBufferSize + totalLen ns ≤ maxAU ∧
      addToFrameBuffer d ns ts =
        ({ d with frameBuffer := d.frameBuffer ++ ns, frameBufferLen := d.frameBufferLen + ns.length,
                  frameBufferSize := d.frameBufferSize + totalLen ns, frameBufferTimestamp := ts }, true)) ∨
    (¬ (d.frameBufferLen + ns.length ≤ maxNALUs ∧ d.frameBufferSize + totalLen ns ≤ maxAU) ∧
      addToFrameBuffer d ns ts = (d.resetFrameBuffer, false)) := by
  unfold addToFrameBuffer
  by_cases hl : d.frameBufferLen + ns.length > maxNALUs
  · exact Or.inr ⟨fun h => absurd h.1 (Nat.not_le.mpr hl), if_pos hl⟩
  rw [if_neg hl]
  dsimp only
  by_cases hs : d.frameBufferSize + totalLen ns > maxAU
  · exact Or.inr ⟨fun h => absurd h.2 (Nat.not_le.mpr hs), if_pos hs⟩
  · exact Or.inl ⟨Nat.le_of_not_gt hl, Nat.le_of_not_gt hs, if_neg hs⟩

theorem addNALUs_fragPart (d1 : Dec) (ns : List Bytes) (ts : UInt32) (m : Bool) :
    fragPart (addNALUs d1 ns ts m).1 = fragPart d1 := by
  have hadd : ∀ d : Dec, fragPart (addToFrameBuffer d ns ts).1 = fragPart d := fun d => by
    rcases addToFrameBuffer_eq d ns ts with ⟨_, _, h⟩ | ⟨_, h⟩ <;> rw [h] <;> rfl
  unfold addNALUs
  split
  · have := hadd d1.resetFrameBuffer
    split <;> (rename_i heq; rw [heq] at this; exact this)
  · have := hadd d1
    split
    · rename_i heq; rw [heq] at this; exact this
    · rename_i heq; rw [heq] at this; split <;> exact this

theorem FbInv.append {d : Dec} (hi : FbInv d) {ns : List Bytes} (hall : AllNonempty ns) (ts : UInt32)
    (hl : d.frameBufferLen + ns.length ≤ maxNALUs) (hs : d.frameBufferSize + totalLen ns ≤ maxAU) :
    FbInv { d with frameBuffer := d.frameBuffer ++ ns, frameBufferLen := d.frameBufferLen + ns.length,
                   frameBufferSize := d.frameBufferSize + totalLen ns, frameBufferTimestamp := ts } :=
  ⟨by show _ = List.length (_ ++ _); rw [List.length_append, hi.1],
    by show _ = totalLen (_ ++ _); rw [totalLen_append, hi.2], hl, hs, AllNonempty.append hi.5 hall⟩

/-- what a returned access unit looks like -/
def GoodOut (f : List Bytes) : Prop := f ≠ [] ∧ AllNonempty f ∧ f.length ≤ maxNALUs ∧ totalLen f ≤ maxAU

theorem FbInv.goodOut {d : Dec} (hi : FbInv d) (hne : d.frameBuffer ≠ []) : GoodOut d.frameBuffer :=
  ⟨hne, hi.5, hi.1 ▸ hi.3, hi.2 ▸ hi.4⟩

theorem addNALUs_spec (d1 : Dec) (ns : List Bytes) (ts : UInt32) (m : Bool) (hi : FbInv d1)
    (hne : ns ≠ []) (hall : AllNonempty ns) :
    FbInv (addNALUs d1 ns ts m).1 ∧ ∀ f, (addNALUs d1 ns ts m).2 = .ok f → GoodOut f := by
  unfold addNALUs
  split
  · rename_i hts
    rcases addToFrameBuffer_eq d1.resetFrameBuffer ns ts with ⟨hl, hs, h⟩ | ⟨_, h⟩ <;> rw [h]
    · exact ⟨(fbInv_reset d1).append hall ts hl hs, fun f hf => by
        cases hf; exact hi.goodOut fun h0 => hts.1 (by rw [h0]; rfl)⟩
    · exact ⟨fbInv_reset _, nofun⟩
  · rcases addToFrameBuffer_eq d1 ns ts with ⟨hl, hs, h⟩ | ⟨_, h⟩ <;> rw [h]
    · cases m
      · exact ⟨hi.append hall ts hl hs, nofun⟩
      · exact ⟨fbInv_reset _, fun f hf => by
          cases hf; exact (hi.append hall ts hl hs).goodOut fun h0 => hne (List.append_eq_nil_iff.mp h0).2⟩
    · exact ⟨fbInv_reset _, nofun⟩

structure Inv (P : Nat) (d : Dec) : Prop where
  frag : FragInv P d
  fb   : FbInv d

theorem decode_spec (P : Nat) (d : Dec) (p : Pkt) (hi : Inv P d) (hp : p.payload.length ≤ P) :
    Inv P (decode d p).1 ∧ ∀ f, (decode d p).2 = .ok f → GoodOut f := by
  have hn := decodeNALUs_step P d p hp
  have hfb1 : FbInv (decodeNALUs d p).1 := fbInv_of_fbPart d _ hn.2.1 hi.2
  unfold decode
  split
  · rename_i d1 heq; rw [heq] at hn hfb1; exact ⟨⟨hn.1 hi.1, hfb1⟩, nofun⟩
  · rename_i d1 heq; rw [heq] at hn hfb1; exact ⟨⟨hn.1 hi.1, hfb1⟩, nofun⟩
  · rename_i d1 heq; rw [heq] at hn hfb1; exact ⟨⟨hn.1 hi.1, hfb1⟩, nofun⟩
  · rename_i d1 ns heq
    rw [heq] at hn hfb1
    obtain ⟨hne, hall⟩ := hn.2.2 ns rfl
    have ha := addNALUs_spec d1 ns p.ts p.marker hfb1 hne hall
    exact ⟨⟨fragInv_of_fragPart P d1 _ (addNALUs_fragPart ..) (hn.1 hi.1), ha.1⟩, ha.2⟩

end Rtsp.Codec.H264
