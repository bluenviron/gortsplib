import Rtsp.Model.Codec.H26xCommon
import Rtsp.Proofs.Codec.Common
/-
Encoder side of what H264 and H265 share: the packetiser with the codec's headers as parameters (`fragItems`,
`batchItems`, `itemsOf`), over the numbering, the fragment loop and the batching loop of the common model.
-/
namespace Rtsp.Codec.H26x
open Rtsp.Rtp

theorem totalLen_le_flatten {bs : List (List Bytes)} {b : List Bytes} (h : b ∈ bs) :
    totalLen b ≤ totalLen bs.flatten := by
  obtain ⟨l, r, rfl⟩ := List.append_of_mem h
  rw [List.flatten_append, List.flatten_cons, totalLen_append, totalLen_append]
  omega

section number
variable (c : EncCfg) (sq : UInt16) (its : List Item)

@[simp] theorem number_length : (number c sq its).length = its.length := by
  fun_induction number c sq its <;> simp_all

theorem number_seq : (number c sq its).map (·.seq) = seqFrom sq its.length := by
  fun_induction number c sq its <;> simp_all [seqFrom]

theorem number_payload : (number c sq its).map (·.payload) = its.map (·.2) := by
  fun_induction number c sq its <;> simp_all

theorem number_marker : (number c sq its).map (·.marker) = its.map (·.1) := by
  fun_induction number c sq its <;> simp_all

theorem number_pt_ssrc : ∀ p ∈ number c sq its, p.pt = c.pt ∧ p.ssrc = c.ssrc := by
  fun_induction number c sq its <;> simp_all

end number

theorem number_append (c : EncCfg) (sq : UInt16) (a b : List Item) :
    number c sq (a ++ b) = number c sq a ++ number c (sq + UInt16.ofNat a.length) b := by
  fun_induction number c sq a with
  | case1 => simp
  | case2 sq m pl rest ih =>
    rw [List.cons_append, number, ih, List.length_cons, ofNat_succ, List.cons_append]
    ac_rfl

theorem mem_number_payload {c : EncCfg} {sq : UInt16} {its : List Item} {p : Pkt}
    (hp : p ∈ number c sq its) : ∃ it ∈ its, it.2 = p.payload :=
  List.mem_map.mp (number_payload c sq its ▸ List.mem_map_of_mem hp)

theorem stamp_number_cons (c : EncCfg) (ts : UInt32) (sq : UInt16) (m : Bool) (pl : Bytes) (rest : List Item) :
    stamp ts (number c sq ((m, pl) :: rest)) =
      { pt := c.pt, seq := sq, ts := ts, ssrc := c.ssrc, marker := m, payload := pl } ::
        stamp ts (number c (sq + 1) rest) := rfl

theorem stamp_append (ts : UInt32) (a b : List Pkt) : stamp ts (a ++ b) = stamp ts a ++ stamp ts b :=
  List.map_append

@[simp] theorem stamp_length (ts : UInt32) (a : List Pkt) : (stamp ts a).length = a.length :=
  List.length_map _

theorem stamp_seq (ts : UInt32) (ps : List Pkt) : (stamp ts ps).map (·.seq) = ps.map (·.seq) := by
  simp [stamp]

theorem emitFU_length (hdr : Bool → Bool → Bytes) (avail : Nat) (m : Bool) (n : Nat) (st : Bool)
    (rest : Bytes) : (emitFU hdr avail m n st rest).length = n := by
  fun_induction emitFU hdr avail m n st rest <;> simp_all

theorem emitFU_payload_le (hdr : Bool → Bool → Bytes) (hl : Nat) (hh : ∀ a b, (hdr a b).length = hl)
    (avail : Nat) (m : Bool) (n : Nat) (st : Bool) (rest : Bytes) (h : rest.length ≤ n * avail) :
    ∀ it ∈ emitFU hdr avail m n st rest, it.2.length ≤ hl + avail := by
  fun_induction emitFU hdr avail m n st rest with
  | case1 => nofun
  | case2 st rest =>
    intro it hit
    rw [List.mem_singleton.mp hit, List.length_append, hh]
    omega
  | case3 n st rest ih =>
    intro it hit
    rcases List.mem_cons.mp hit with rfl | hit
    · rw [List.length_append, hh, List.length_take]; omega
    · refine ih ?_ it hit
      have h' : rest.length ≤ (n + 1) * avail + avail := Nat.succ_mul (n + 1) avail ▸ h
      rw [List.length_drop]
      omega

theorem emitFU_markers (hdr : Bool → Bool → Bytes) (avail : Nat) (m : Bool) (n : Nat) (st : Bool)
    (rest : Bytes) :
    (emitFU hdr avail m (n + 1) st rest).map (·.1) = List.replicate n false ++ [m] := by
  induction n generalizing st rest with
  | zero => rfl
  | succ n ih => rw [emitFU, List.map_cons, ih, List.replicate_succ, List.cons_append]

theorem emitFU_payload (hdr : Bool → Bool → Bytes) (avail : Nat) (m : Bool) (n : Nat) (st : Bool) (rest : Bytes) :
    ∀ it ∈ emitFU hdr avail m n st rest, ∃ st' en chunk, it.2 = hdr st' en ++ chunk := by
  fun_induction emitFU hdr avail m n st rest with
  | case1 => nofun
  | case2 st rest => exact fun it hit => ⟨st, true, rest, List.mem_singleton.mp hit ▸ rfl⟩
  | case3 n st rest ih =>
    exact fun it hit => (List.mem_cons.mp hit).elim (fun h => ⟨st, false, rest.take avail, h ▸ rfl⟩) (ih it)

theorem packetCount_eq (avail le : Nat) : packetCount avail le = ceilDiv le avail := rfl

theorem packetCount_ge_two (avail le : Nat) (h0 : 0 < avail) (h : avail < le) : 2 ≤ packetCount avail le := by
  have hup := ceilDiv_upper le avail h0
  rw [← packetCount_eq] at hup
  rcases hk : packetCount avail le with _ | _ | k
  · rw [hk] at hup; omega
  · rw [hk] at hup; omega
  · omega

theorem aggBody_cons (n : Bytes) (ns : List Bytes) :
    aggBody (n :: ns) = UInt8.ofNat (n.length / 256) :: UInt8.ofNat n.length :: (n ++ aggBody ns) := by
  simp only [aggBody, List.flatMap_cons, sizeBytes, List.cons_append, List.nil_append, List.append_assoc]

theorem lenAgg_eq (hdr : Nat) (ns : List Bytes) : lenAgg hdr ns = hdr + (aggBody ns).length := by
  induction ns with
  | nil => rfl
  | cons n ns ih =>
    rw [aggBody_cons, List.length_cons, List.length_cons, List.length_append]
    simp only [lenAgg, List.map_cons, List.sum_cons] at ih ⊢
    omega

theorem lenAgg_append (hdr : Nat) (a b : List Bytes) :
    lenAgg hdr (a ++ b) = lenAgg hdr a + (b.map fun n => 2 + n.length).sum := by
  simp [lenAgg]; omega

theorem lenAgg_ge_totalLen (hdr : Nat) (ns : List Bytes) : hdr + totalLen ns + 2 * ns.length ≤ lenAgg hdr ns := by
  induction ns with
  | nil => exact Nat.le_refl _
  | cons n ns ih =>
    simp only [lenAgg, totalLen, List.map_cons, List.sum_cons, List.length_cons] at ih ⊢
    omega

/-- what `writeBatch` needs to know about a batch: it is a single NALU, or it fits -/
def BatchOK (hdr max : Nat) (b : List Bytes) : Prop := b.length ≤ 1 ∨ lenAgg hdr b ≤ max

section split
variable (hdr max : Nat) (cur au : List Bytes)

theorem splitBatches_ok (hc : BatchOK hdr max cur) : ∀ b ∈ splitBatches hdr max cur au, BatchOK hdr max b := by
  fun_induction splitBatches hdr max cur au with
  | case1 cur => exact fun b hb => List.mem_singleton.mp hb ▸ hc
  | case2 cur n rest hfit ih => exact ih (Or.inr hfit)
  | case3 n rest hfit ih => exact ih (Or.inl (Nat.le_refl 1))
  | case4 n rest c cs hfit ih =>
    exact fun b hb => (List.mem_cons.mp hb).elim (· ▸ hc) (ih (Or.inl (Nat.le_refl 1)) b)

theorem splitBatches_flatten : (splitBatches hdr max cur au).flatten = cur ++ au := by
  fun_induction splitBatches hdr max cur au <;> simp_all

theorem splitBatches_ne_nil : splitBatches hdr max cur au ≠ [] := by
  fun_induction splitBatches hdr max cur au <;> simp_all

theorem splitBatches_nonempty (h : cur ≠ [] ∨ au ≠ []) :
    ∀ b ∈ splitBatches hdr max cur au, b ≠ [] := by
  fun_induction splitBatches hdr max cur au with
  | case1 cur => exact fun b hb => List.mem_singleton.mp hb ▸ h.resolve_right (fun h => h rfl)
  | case2 cur n rest hfit ih => exact ih (Or.inl (List.append_ne_nil_of_right_ne_nil _ (List.cons_ne_nil _ _)))
  | case3 n rest hfit ih => exact ih (Or.inl (List.cons_ne_nil _ _))
  | case4 n rest c cs hfit ih =>
    exact fun b hb => (List.mem_cons.mp hb).elim (· ▸ List.cons_ne_nil _ _) (ih (Or.inl (List.cons_ne_nil _ _)) b)

end split

theorem mem_of_mem_splitBatches {hdr max : Nat} {au b : List Bytes} {n : Bytes}
    (hb : b ∈ splitBatches hdr max [] au) (hn : n ∈ b) : n ∈ au := by
  have := List.mem_flatten.mpr ⟨b, hb, hn⟩
  rwa [splitBatches_flatten] at this

/-- a batch of `splitBatches` as the round-trip proofs need it (`V`: the codec's `ValidNalu`) -/
structure GoodBatch (V : Bytes → Prop) (hdr max cap : Nat) (b : List Bytes) : Prop where
  ne    : b ≠ []
  valid : ∀ n ∈ b, V n
  ok    : BatchOK hdr max b
  size  : totalLen b ≤ cap

theorem splitBatches_good (V : Bytes → Prop) (hdr max cap : Nat) (au : List Bytes) (hne : au ≠ [])
    (hv : ∀ n ∈ au, V n) (hsz : totalLen au ≤ cap) :
    ∀ b ∈ splitBatches hdr max [] au, GoodBatch V hdr max cap b := by
  have hflat : (splitBatches hdr max [] au).flatten = au := splitBatches_flatten hdr max [] au
  exact fun b hb => ⟨splitBatches_nonempty hdr max [] au (Or.inr hne) b hb,
    fun n hn => hv n (mem_of_mem_splitBatches hb hn),
    splitBatches_ok hdr max [] au (Or.inl (Nat.zero_le 1)) b hb,
    Nat.le_trans (totalLen_le_flatten hb) (hflat.symm ▸ hsz)⟩

theorem GoodBatch.agg {V : Bytes → Prop} {hdr max cap : Nat} {b : List Bytes} (hb : GoodBatch V hdr max cap b)
    (hV : ∀ n, V n → n ≠ []) (h2 : 2 ≤ b.length) (hmax : max ≤ 65535) : ∀ n ∈ b, n ≠ [] ∧ n.length < 65536 := by
  intro n hn
  have h1 := mem_length_le_totalLen hn
  have h3 := lenAgg_ge_totalLen hdr b
  have := hb.ok.resolve_left (by omega)
  exact ⟨hV n (hb.valid n hn), by omega⟩

theorem map_eq_replicate_length {α β : Type} {l : List α} {f : α → β} {k : Nat} {x y : β}
    (h : l.map f = List.replicate k x ++ [y]) : l.map f = List.replicate (l.length - 1) x ++ [y] := by
  have := congrArg List.length h
  rw [List.length_map, List.length_append, List.length_replicate] at this
  rw [h, this]
  rfl

theorem length_pos_of_markers {l : List Item} {m : Bool}
    (h : ∃ k, l.map (·.1) = List.replicate k false ++ [m]) : 0 < l.length := by
  obtain ⟨k, hk⟩ := h
  have := congrArg List.length hk
  rw [List.length_map, List.length_append] at this
  exact this ▸ Nat.succ_pos _

/-- `writeFragmented` / `writeFragmentationUnits`: FU header of `L` bytes, NALU header of `H` bytes -/
def fragItems (hdr : Bool → Bool → Bytes) (L H max : Nat) (n : Bytes) (m : Bool) : List Item :=
  emitFU hdr (max - L) m (packetCount (max - L) (n.length - H)) true (n.drop H)

section frag
variable (hdr : Bool → Bool → Bytes) (L H max : Nat) (n : Bytes) (m : Bool)

theorem fragItems_payload_le (hh : ∀ a b, (hdr a b).length = L) (hL : L < max) :
    ∀ it ∈ fragItems hdr L H max n m, it.2.length ≤ max := by
  intro it hit
  have := emitFU_payload_le hdr L hh (max - L) m _ true (n.drop H)
    (by rw [packetCount_eq, List.length_drop]; exact ceilDiv_upper _ _ (by omega)) it hit
  omega

theorem fragItems_markers (hL : L < max) (hn : H < n.length) :
    ∃ k, (fragItems hdr L H max n m).map (·.1) = List.replicate k false ++ [m] := by
  have hp := ceilDiv_pos (n.length - H) (max - L) (by omega) (by omega)
  obtain ⟨k, hk⟩ := Nat.exists_eq_succ_of_ne_zero (Nat.pos_iff_ne_zero.mp hp)
  exact ⟨k, by rw [fragItems, packetCount_eq, hk]; exact emitFU_markers ..⟩

theorem fragItems_cons (hHL : H < L) (hL : L < max) (hge : ¬ n.length < max) :
    ∃ j, fragItems hdr L H max n m =
      (false, hdr true false ++ (n.drop H).take (max - L)) ::
        emitFU hdr (max - L) m (j + 1) false ((n.drop H).drop (max - L)) := by
  obtain ⟨j, hj⟩ : ∃ j, packetCount (max - L) (n.length - H) = j + 2 :=
    ⟨_, (Nat.sub_add_cancel (packetCount_ge_two (max - L) (n.length - H) (by omega) (by omega))).symm⟩
  exact ⟨j, by rw [fragItems, hj]; rfl⟩

end frag

/-- `writeBatch`: FU header `hdr n` of `L` bytes for a NALU `n` with `H` header bytes, aggregation payload `agg` -/
def batchItems (hdr : Bytes → Bool → Bool → Bytes) (L H : Nat) (agg : List Bytes → Bytes) (max : Nat) (b : List Bytes)
    (m : Bool) : List Item :=
  match b with
  | [n] => if n.length < max then [(m, n)] else fragItems (hdr n) L H max n m
  | _ => [(m, agg b)]

/-- `writeBatches` -/
def itemsOf (wb : List Bytes → Bool → List Item) : List (List Bytes) → List Item
  | [] => []
  | [b] => wb b true
  | b :: bs => wb b false ++ itemsOf wb bs

section batch
variable {hdr : Bytes → Bool → Bool → Bytes} {L H : Nat} {agg : List Bytes → Bytes} {max : Nat}

theorem batchItems_payload_le (hh : ∀ n a b, (hdr n a b).length = L) (hagg : ∀ ns, (agg ns).length = lenAgg H ns)
    (hHL : H < L) (hL : L < max) (b : List Bytes) (m : Bool) (hb : BatchOK H max b) :
    ∀ it ∈ batchItems hdr L H agg max b m, it.2.length ≤ max := by
  intro it hit
  unfold batchItems at hit
  split at hit
  · split at hit
    · rename_i hlt
      exact List.mem_singleton.mp hit ▸ Nat.le_of_lt hlt
    · exact fragItems_payload_le _ L H max _ m (hh _) hL it hit
  · rename_i hne
    rw [List.mem_singleton.mp hit, hagg]
    rcases hb with hb | hb
    · match b, hb with
      | [], _ => exact Nat.le_of_lt (Nat.lt_trans hHL hL)
      | [x], _ => exact absurd rfl (hne x)
    · exact hb

theorem batchItems_markers (hHL : H < L) (hL : L < max) (b : List Bytes) (m : Bool) :
    ∃ k, (batchItems hdr L H agg max b m).map (·.1) = List.replicate k false ++ [m] := by
  unfold batchItems
  split
  · split
    · exact ⟨0, rfl⟩
    · exact fragItems_markers _ L H max _ m hL (by omega)
  · exact ⟨0, rfl⟩

end batch

section items
variable {wb : List Bytes → Bool → List Item}

theorem mem_itemsOf {bs : List (List Bytes)} {it : Item} (h : it ∈ itemsOf wb bs) : ∃ b ∈ bs, ∃ m, it ∈ wb b m := by
  fun_induction itemsOf wb bs with
  | case1 => cases h
  | case2 b => exact ⟨b, List.mem_singleton_self b, true, h⟩
  | case3 b bs _ ih =>
    rcases List.mem_append.mp h with h | h
    · exact ⟨b, List.mem_cons_self, false, h⟩
    · obtain ⟨b', hb', r⟩ := ih h
      exact ⟨b', List.mem_cons_of_mem _ hb', r⟩

theorem itemsOf_markers {bs : List (List Bytes)} (hne : bs ≠ [])
    (hwb : ∀ b ∈ bs, ∀ m, ∃ k, (wb b m).map (·.1) = List.replicate k false ++ [m]) :
    ∃ k, (itemsOf wb bs).map (·.1) = List.replicate k false ++ [true] := by
  fun_induction itemsOf wb bs with
  | case1 => exact absurd rfl hne
  | case2 b => exact hwb b (List.mem_singleton_self b) true
  | case3 b bs hbs ih =>
    obtain ⟨k1, h1⟩ := hwb b List.mem_cons_self false
    obtain ⟨k2, h2⟩ := ih (fun h => hbs (by subst h; rfl)) (fun x hx => hwb x (List.mem_cons_of_mem _ hx))
    exact ⟨k1 + 1 + k2, by
      rw [List.map_append, h1, h2, ← List.replicate_succ', ← List.append_assoc,
        List.replicate_append_replicate]⟩

end items

end Rtsp.Codec.H26x
