import Rtsp.Proofs.Common.Bits
/-
The FU headers of H264 and H265 end in the same byte (start flag, end flag, NALU type), read here
once with the pack / unpack lemmas of `Proofs/Common/Bits`.
-/
namespace Rtsp.Codec.H26x
open Rtsp.Bits

theorem flag_toNat_le (b : Bool) : (if b then 1 else 0 : UInt8).toNat ≤ 1 := by cases b <;> decide

/-- the last byte of a fragmentation-unit header: start flag, end flag, up to 6 bits of NALU type;
cut at bit 7 it is the start flag above the rest, cut at bit 6 the two flags above the type -/
theorem fuFlags_read (s e t : UInt8) (hs : s.toNat ≤ 1) (he : e.toNat ≤ 1) (ht : t.toNat < 64) :
    (s <<< 7 ||| e <<< 6 ||| t) >>> 7 = s ∧ ((s <<< 7 ||| e <<< 6 ||| t) >>> 6) &&& 0x01 = e ∧
    (s <<< 7 ||| e <<< 6 ||| t) &&& 0x3F = t := by
  have h6 := toNat_shl_or e t 6 6 rfl (by omega) (by omega) ht
  have h1 := toNat_shl_or s e 1 1 rfl (by omega) (by omega) (by omega)
  have hp : s <<< 7 ||| e <<< 6 = (s <<< 1 ||| e) <<< 6 := by
    rw [UInt8.shiftLeft_or, ← UInt8.shiftLeft_add_of_toNat_lt (by decide)]; rfl
  obtain ⟨r7, _⟩ := shl_or_read s (e <<< 6 ||| t) 7 0x7F 7 rfl (by omega) rfl (by omega) (by omega)
  obtain ⟨r6, m6⟩ := shl_or_read (s <<< 1 ||| e) t 6 0x3F 6 rfl (by omega) rfl (by omega) ht
  obtain ⟨_, m1⟩ := shl_or_read s e 1 1 1 rfl (by omega) rfl (by omega) (by omega)
  refine ⟨?_, ?_, ?_⟩
  · rw [UInt8.or_assoc, r7]
  · rw [hp, r6, m1]
  · rw [hp, m6]

end Rtsp.Codec.H26x
