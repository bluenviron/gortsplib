import Rtsp.Proofs.Codec.Av1Sim
/-
The loop over the OBUs of a temporal unit against the decoder, the N bit, the marker, and the round trip of
the AV1 model (C03) from any decoder state with an empty frame buffer (C07 starts from there: a run from any
state differs from it in the frame buffer only, `runDec_withB` (`Av1Dec`)).
-/
namespace Rtsp.Codec.Av1
open Rtsp.Rtp Rtsp.Facts Rtsp.Codec.Av1Vp

/-- a valid temporal unit: 1..`MaxOBUsPerTemporalUnit` OBUs, each non-empty ("OBUs must contain at
least 1 element, each element must contain at least 1 byte", pkg/format/rtpav1/encoder.go on
`Encode`), at most `MaxTemporalUnitSize` bytes -/
def ValidFrame (f : List Bytes) : Prop :=
  f ≠ [] ∧ f.length ≤ CodecAv1vp.av1MaxOBUsPerTemporalUnit ∧ (∀ o ∈ f, 0 < o.length) ∧
    totalLen f ≤ CodecAv1vp.av1MaxTemporalUnitSize

instance (f : List Bytes) : Decidable (ValidFrame f) := by unfold ValidFrame; infer_instance

/-- no pending fragment, empty frame buffer -/
def Clean (d : Dec) : Prop :=
  d.fragments = [] ∧ d.fragmentsSize = 0 ∧ d.frameBuffer = [] ∧ d.frameBufferLen = 0 ∧ d.frameBufferSize = 0

instance (d : Dec) : Decidable (Clean d) := by unfold Clean; infer_instance

theorem or_and_distrib (a b c : UInt8) : (a ||| b) &&& c = (a &&& c) ||| (b &&& c) := by
  simp [← UInt8.toBitVec_inj, BitVec.and_or_distrib_right]

/-- setting bit 3 changes no bit the decoder reads: `8` has none in common with the masks -/
theorem nbit (b : UInt8) : tb (b ||| 8) 0x80 = tb b 0x80 ∧ tb (b ||| 8) 0x40 = tb b 0x40 ∧
    ((b ||| 8) >>> 4) &&& (3 : UInt8) = (b >>> 4) &&& (3 : UInt8) := by
  have h1 : (8 : UInt8) &&& 0x80 = 0 := by decide
  have h2 : (8 : UInt8) &&& 0x40 = 0 := by decide
  have h3 : (8 : UInt8) >>> 4 = 0 := by decide
  simp only [tb, or_and_distrib, UInt8.shiftRight_or, h1, h2, h3, UInt8.or_zero, and_self]

theorem decode_setN (d : Dec) (p : Pkt) (b : UInt8) (body : Bytes) (hp : p.payload = b :: body) :
    decode d { p with payload := (b ||| 8) :: body } = decode d p := by
  obtain ⟨h1, h2, h3⟩ := nbit b
  simp only [decode, decodeOBUs, hp, List.length_cons, List.headD_cons, List.tail_cons, h1, h2, h3, afterParse, holdLast]

theorem runDec_setN (d : Dec) (ps : List Pkt) : runDec d (setN ps) = runDec d ps := by
  cases ps with
  | nil => rfl
  | cons p t =>
    simp only [setN, runDec]
    split
    · rfl
    · rename_i b body hb
      rw [decode_setN d p b body hb]

theorem encObus_sim (c : EncCfg) (hc : ValidCfg c) (d0 : Dec) :
    ∀ (obus pre : List Bytes) (st : St) (comp : List Bytes) (pend : Bytes) (es : List Bytes),
      obus ≠ [] → Sim d0 st comp pend es false →
      (∀ o ∈ obus, 0 < o.length) → (pre ++ obus).length ≤ CodecAv1vp.av1MaxOBUsPerTemporalUnit →
      totalLen (pre ++ obus) ≤ CodecAv1vp.av1MaxTemporalUnitSize →
      comp ++ glued pend es = pre → openPre pend es = [] →
      ∃ comp' pend' es' om', Sim d0 (encObus c (lebSize c.max) obus st) comp' pend' es' om' ∧ es' ≠ [] ∧
        comp' ++ glued pend' es' = pre ++ obus := by
  intro obus
  induction obus with
  | nil => intro pre st comp pend es h; exact absurd rfl h
  | cons o t ih =>
    intro pre st comp pend es _ hsim hpos hK hB hL hO
    have ho : 0 < o.length := hpos o (by simp)
    have hK1 : pre.length + 1 ≤ CodecAv1vp.av1MaxOBUsPerTemporalUnit := by
      simp only [List.length_append, List.length_cons] at hK; omega
    have hB1 : totalLen pre + o.length ≤ CodecAv1vp.av1MaxTemporalUnitSize := by
      have := totalLen_prefix pre o t
      omega
    have hfuel : o.length + (if es.isEmpty then 1 else 2) ≤ o.length + 2 := by split <;> omega
    rw [encObus_cons]
    obtain ⟨comp', pend', es', om', h, hom, hne, hg⟩ :=
      obuLoop_sim c hc d0 t.isEmpty pre o hK1 hB1 (o.length + 2) st comp pend es o hsim ho hfuel hL (by rw [hO]; rfl)
    cases t with
    | nil => exact ⟨comp', pend', es', om', h, hne, hg⟩
    | cons o2 t2 =>
      have hom : om' = false := by cases om' with | false => rfl | true => exact absurd (hom rfl) (by simp)
      subst hom
      obtain ⟨comp2, pend2, es2, om2, g3, g4, g5⟩ :=
        ih (pre ++ [o]) _ comp' pend' es' (by simp) h (fun x hx => hpos x (by simp [hx]))
          (by simpa [List.append_assoc] using hK) (by simpa [List.append_assoc] using hB) hg
          (openPre_cons pend' es' hne)
      exact ⟨comp2, pend2, es2, om2, g3, g4, by rw [g5, List.append_assoc]; rfl⟩

/-- pending fragments, the expected sequence number and `firstPacketReceived` may be anything: the first packet
of a temporal unit carries Z = 0 and discards them -/
theorem roundtrip (e : Enc) (obus : List Bytes) (d : Dec) (hc : ValidCfg e.cfg) (hf : ValidFrame obus)
    (hd : FbEmpty d) :
    ∃ d', runDec d (encode e obus).2
        = (d', List.replicate ((encode e obus).2.length - 1) .more ++ [.ok obus]) ∧ Clean d' := by
  obtain ⟨hne, hcnt, hpos, htot⟩ := hf
  obtain ⟨d3, d4, d5⟩ := hd
  have hsim0 : Sim d { done := [], cur := { z := false, seq := e.seq }, nextSeq := e.seq + 1 } [] [] [] false :=
    ⟨⟨d, rfl, d3, d4, d5, fun h => absurd rfl h⟩, rfl, rfl, rfl, by simp, by simp, rfl, fun _ => rfl⟩
  obtain ⟨comp', pend', es', om', h3, h4, h5⟩ :=
    encObus_sim e.cfg hc d obus [] _ [] [] [] hne hsim0 hpos (by simpa using hcnt) (by simpa using htot) rfl rfl
  simp only [List.nil_append] at h5
  generalize hst : encObus e.cfg (lebSize e.cfg.max) obus
      { done := [], cur := { z := false, seq := e.seq }, nextSeq := e.seq + 1 } = st at *
  obtain ⟨D', h2, hH⟩ := h3.fed
  have hlist := encode_pkts e obus st hst
  have hrun : runDec d (encode e obus).2 = runDec d (st.done ++ [{ mkPkt e.cfg st.cur false with marker := true }]) := by
    rw [hlist]; split
    · exact runDec_setN _ _
    · rfl
  have hlen : (encode e obus).2.length = st.done.length + 1 := by
    rw [hlist]; split <;> simp [setN_length]
  have hLlen : obus.length = comp'.length + es'.length := by rw [← h5, List.length_append, glued_length]
  have hLtot := glued_total pend' es'
  have hLt : totalLen obus = totalLen comp' + totalLen (glued pend' es') := by rw [← h5, totalLen_append]
  rw [openPre_cons pend' es' h4] at hLtot
  simp only [List.length_nil, Nat.add_zero] at hLtot
  obtain ⟨D1, hdec, f1, f2, hH1⟩ :=
    obus_y0 (p := { mkPkt e.cfg st.cur false with marker := true }) hH es' om' h4 h3.ev h3.om3 (by omega)
      (mkPkt_payload e.cfg h3 false)
  have hpush := pushFrame_ok D1 true (glued pend' es') (by rw [hH1.fbl, glued_length]; omega) (by rw [hH1.fbs]; omega)
  simp only [if_true] at hpush
  refine ⟨{ D1 with frameBuffer := [], frameBufferLen := 0, frameBufferSize := 0 }, ?_, ⟨f1, f2, rfl, rfl, rfl⟩⟩
  rw [hrun, runs.append, h2, hlen]
  simp only [runDec, decode, hdec, hpush, Nat.add_sub_cancel]
  rw [hH1.fb, h5]

end Rtsp.Codec.Av1
