import Rtsp.Proofs.Codec.H264Rt
/-
`annexBMode` (the sticky Annex-B flag of the H264 decoder) switches on only when a packet yields ONE
NALU that holds `00 00 00 01`.  A fragmentation unit never does, whatever it is glued to: the
reassembled bytes pass through `splitNALUs`, whose pieces hold no start code.  So the flag stays off
through the packets of valid frames in any order, with any loss or repetition (`sticky_run`).
`NoSeqAlias` is the condition on sequence numbers that the C07 statements carry; a consecutively
numbered stream of at most 65536 packets meets it (`noSeqAlias_of_seq`).
-/
namespace Rtsp.Codec.H264
open Rtsp.Rtp Rtsp.Codec.H26x

/-- two packets of the stream with the same sequence number are the same packet -/
def NoSeqAlias (S : List Pkt) : Prop := ∀ p ∈ S, ∀ q ∈ S, p.seq = q.seq → p = q

/-- a payload that cannot switch Annex-B mode on: a valid NALU sent alone, an aggregation of at least
two, or any fragmentation unit at all -/
inductive Prov (pl : Bytes) : Prop
  | single (hv : ValidNalu pl)
  | stap (b : List Bytes) (hb : 2 ≤ b.length) (hn : ∀ n ∈ b, n ≠ [] ∧ n.length < 65536) (hp : pl = stapPayload b)
  | fu (h : UInt8) (st en : Bool) (chunk : Bytes) (hp : pl = fuHdr h st en ++ chunk)

theorem addNALUs_mode (d1 : Dec) (ns : List Bytes) (ts : UInt32) (m : Bool) :
    (addNALUs d1 ns ts m).1.annexBMode = d1.annexBMode :=
  congrArg (·.2.2.2.2) (addNALUs_fragPart d1 ns ts m)

theorem decode_mode (d : Dec) (p : Pkt) : (decode d p).1.annexBMode = (decodeNALUs d p).1.annexBMode := by
  unfold decode
  split
  · rename_i heq; rw [heq]
  · rename_i heq; rw [heq]
  · rename_i heq; rw [heq]
  · rename_i d1 ns heq
    rw [heq]
    exact addNALUs_mode ..

theorem sticky_step (d : Dec) (p : Pkt) (hoff : d.annexBMode = false) (hp : Prov p.payload) :
    (decode d p).1.annexBMode = false := by
  cases hp with
  | single hv =>
    rw [decode_single d p _ rfl hv hoff]
    exact (addNALUs_mode ..).trans hoff
  | stap b hb hn hpl =>
    rw [decode_stapa d p b hpl hb hn]
    exact (addNALUs_mode ..).trans hoff
  | fu h st en chunk hpl =>
    obtain ⟨b0, b1, _, _, h0⟩ := decodeNALUs0_fu d p h st en chunk hpl
    obtain ⟨_, _, hm, hns⟩ := decodeFUA_step _ d p.seq b0 (b1 :: chunk) (Nat.le_refl _)
    rw [decode_mode, decodeNALUs, h0]
    split
    · rename_i d1 ns heq
      rw [heq] at hm hns
      obtain ⟨b, rfl⟩ := hns ns rfl
      by_cases hne : splitNALUs b = []
      · rw [hne]; exact hm.trans hoff
      · -- the pieces hold no start code: the tail of `decodeNALUs` lets them pass and leaves the mode alone
        rw [finishNALUs_off d1 _ hne fun n hn =>
          ⟨hm.trans hoff, splitNALUsF_noSC _ b n (hn ▸ List.mem_singleton_self n)⟩]
        exact hm.trans hoff
    · exact hm.trans hoff

theorem sticky_run (d : Dec) (hist : List Pkt) (hoff : d.annexBMode = false) (hp : ∀ p ∈ hist, Prov p.payload) :
    (runDec d hist).1.annexBMode = false :=
  runs.inv (I := fun d => d.annexBMode = false) (fun d p hi hp => sticky_step d p hi hp) d hist hoff hp

theorem prov_batch (c : EncCfg) (hc : ValidCfg c) (b : List Bytes) (m : Bool) (hb : Good c.max b) :
    ∀ it ∈ writeBatch c.max b m, Prov it.2 := by
  match b, hb.ne with
  | [n], _ =>
    have hvn := hb.valid n (List.mem_singleton_self n)
    by_cases hlt : n.length < c.max
    · simp only [writeBatch, hlt, if_true, List.mem_singleton]
      exact fun it hit => hit ▸ .single hvn
    · simp only [writeBatch, hlt, if_false]
      intro it hit
      obtain ⟨st, en, chunk, h⟩ := emitFU_payload _ _ _ _ _ _ it hit
      exact .fu _ st en chunk h
  | x :: y :: r, _ =>
    simp only [writeBatch, writeAggregated, List.mem_singleton]
    exact fun it hit => hit ▸ .stap _ (Nat.le_add_left 2 _) (hb.agg (fun _ h => h.1) (Nat.le_add_left 2 _) hc.2) rfl

theorem noSeqAlias_of_seq (S : List Pkt) (sq : UInt16) (h : S.map (·.seq) = seqFrom sq S.length)
    (hlen : S.length ≤ 65536) : NoSeqAlias S := by
  have hseq : ∀ i (hi : i < S.length), S[i].seq = sq + UInt16.ofNat i := by
    intro i hi
    have := seqFrom_getElem sq S.length i (by rwa [seqFrom_length])
    rwa [List.getElem_of_eq h.symm, List.getElem_map] at this
  intro p hp q hq hpq
  obtain ⟨i, hi, rfl⟩ := List.mem_iff_getElem.mp hp
  obtain ⟨j, hj, rfl⟩ := List.mem_iff_getElem.mp hq
  rw [hseq i hi, hseq j hj] at hpq
  have := congrArg UInt16.toNat hpq
  simp only [UInt16.toNat_add, UInt16.toNat_ofNat'] at this
  have : i = j := by omega
  subst this
  rfl

end Rtsp.Codec.H264
