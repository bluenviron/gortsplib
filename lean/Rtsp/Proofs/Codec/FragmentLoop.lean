import Rtsp.Proofs.Codec.Common
import Rtsp.Proofs.Common.Runs
/-
The loop that cuts one unit into packets of at most `avail` elements (`writeFragmented` of rtpac3,
rtpmpeg1audio, rtpmpeg4audio, rtpmpeg1video; `Encode` of rtpfragmented and rtpklv; the outer loop of
rtpmpegts) as one function of the packet builder, and the run of a decoder that collects the
fragments over its packets (`run_unit`).
-/
namespace Rtsp.Codec
open Rtsp.Rtp

/-- the `for i := range ret` loop of `writeFragmented`: `n` packets still to emit, every one but the
last takes `avail` elements; `mk first last sq pos chunk` builds a packet (`pos`: elements sent) -/
def frags {α : Type} (mk : Bool → Bool → UInt16 → Nat → List α → Pkt) (avail : Nat) :
    Nat → Bool → UInt16 → Nat → List α → List Pkt
  | 0, _, _, _, _ => []
  | 1, first, sq, pos, rest => [mk first true sq pos rest]
  | n + 2, first, sq, pos, rest =>
    mk first false sq pos (rest.take avail)
      :: frags mk avail (n + 1) false (sq + 1) (pos + (rest.take avail).length) (rest.drop avail)

variable {α : Type} (mk : Bool → Bool → UInt16 → Nat → List α → Pkt) (avail : Nat)

theorem frags_ind {motive : Nat → Prop} (h0 : motive 0) (h1 : motive 1)
    (h2 : ∀ n, motive (n + 1) → motive (n + 2)) : ∀ n, motive n
  | 0 => h0
  | 1 => h1
  | n + 2 => h2 n (frags_ind h0 h1 h2 (n + 1))

theorem frags_length (n : Nat) (first : Bool) (sq : UInt16) (pos : Nat) (rest : List α) :
    (frags mk avail n first sq pos rest).length = n := by
  induction n using frags_ind generalizing first sq pos rest with
  | h0 => rfl
  | h1 => rfl
  | h2 n ih => simp [frags, ih]

theorem frags_last (n : Nat) (first : Bool) (sq : UInt16) (pos : Nat) (rest : List α) :
    ∃ ini f p r, frags mk avail (n + 1) first sq pos rest = ini ++ [mk f true (sq + UInt16.ofNat n) p r] ∧
      (n * avail < rest.length → 0 < r.length) := by
  induction n generalizing first sq pos rest with
  | zero => exact ⟨[], first, pos, rest, by rw [frags, show sq + UInt16.ofNat 0 = sq from UInt16.add_zero sq]; rfl,
      fun h => by simpa using h⟩
  | succ n ih =>
    obtain ⟨ini, f, p, r, h1, h2⟩ := ih false (sq + 1) (pos + (rest.take avail).length) (rest.drop avail)
    refine ⟨_ :: ini, f, p, r, by rw [frags, h1, ofNat_succ, List.cons_append]; ac_rfl, fun h => h2 ?_⟩
    rw [List.length_drop]
    rw [Nat.succ_mul] at h
    omega

variable {mk} {avail}

/-- `hmk`, here and in `frags_markers`: the builder puts the number (the marker) it is given on the packet; found by
`rfl` for a builder written as a record -/
theorem frags_seq {n : Nat} {first : Bool} {sq : UInt16} {pos : Nat} {rest : List α}
    (hmk : ∀ f l sq pos ch, (mk f l sq pos ch).seq = sq := by intros; rfl) :
    (frags mk avail n first sq pos rest).map (·.seq) = seqFrom sq (frags mk avail n first sq pos rest).length := by
  rw [frags_length]
  induction n using frags_ind generalizing first sq pos rest with
  | h0 => rfl
  | h1 => simp [frags, seqFrom, hmk]
  | h2 n ih => simp [frags, seqFrom, hmk, ih]

theorem frags_forall {Q : Pkt → Prop} {n : Nat} {first : Bool} {sq : UInt16} {pos : Nat} {rest : List α}
    (h : ∀ f l sq pos ch, (rest.length ≤ n * avail → ch.length ≤ avail) → Q (mk f l sq pos ch)) :
    ∀ p ∈ frags mk avail n first sq pos rest, Q p := by
  induction n using frags_ind generalizing first sq pos rest with
  | h0 => simp [frags]
  | h1 =>
    intro p hp
    simp only [frags, List.mem_singleton] at hp
    subst hp
    exact h _ _ _ _ _ (by omega)
  | h2 n ih =>
    intro p hp
    simp only [frags, List.mem_cons] at hp
    rcases hp with rfl | hp
    · exact h _ _ _ _ _ (fun _ => by rw [List.length_take]; omega)
    · refine ih (fun f l sq pos ch hch => h f l sq pos ch fun hr => hch ?_) p hp
      rw [List.length_drop]
      have : (n + 2) * avail = (n + 1) * avail + avail := Nat.succ_mul _ _
      omega

theorem frags_markers {n : Nat} {first : Bool} {sq : UInt16} {pos : Nat} {rest : List α}
    (hmk : ∀ f l sq pos ch, (mk f l sq pos ch).marker = l := by intros; rfl) :
    (frags mk avail (n + 1) first sq pos rest).map (·.marker) = List.replicate n false ++ [true] := by
  induction n generalizing first sq pos rest with
  | zero => simp [frags, hmk]
  | succ n ih => simp [frags, hmk, ih, List.replicate_succ]

/-- the packet of rtpfragmented and rtpklv: the chunk is the payload, the marker closes the frame
(`t`: the timestamp, which these encoders leave to the caller) -/
def plain (c : EncCfg) (t : UInt32) (_first last : Bool) (sq : UInt16) (_pos : Nat) (ch : Bytes) : Pkt :=
  { pt := c.pt, seq := sq, ts := t, ssrc := c.ssrc, marker := last, payload := ch }

section run
variable {δ β : Type} {step : δ → Pkt → δ × DecRes β} {run : δ → List Pkt → δ × List (DecRes β)}
  (hr : Runs step run) (mk : Bool → Bool → UInt16 → Nat → Bytes → Pkt) (avail : Nat)
  (H : δ → Bytes → UInt16 → Nat → Bytes → Prop) (R : Bytes → δ → DecRes β → Prop)
include hr

/-- The packets after the first.  `H d pre sq k rest`: the decoder `d` holds `pre` and waits for the bytes
`rest` in `k + 1` packets numbered from `sq`; `R whole d' r`: state and answer after the last packet. -/
theorem run_frags
    (hmore : ∀ d pre sq k ch rest, H d pre sq (k + 1) (ch ++ rest) → ch.length = avail → 0 < rest.length →
      ∃ d', step d (mk false false sq pre.length ch) = (d', .more) ∧ H d' (pre ++ ch) (sq + 1) k rest)
    (hlast : ∀ d pre sq rest, H d pre sq 0 rest → 0 < rest.length →
      ∃ d' r, step d (mk false true sq pre.length rest) = (d', r) ∧ R (pre ++ rest) d' r)
    (k : Nat) (d : δ) (pre : Bytes) (sq : UInt16) (rest : Bytes) (h : H d pre sq k rest)
    (hlo : k * avail < rest.length) :
    ∃ d' r, run d (frags mk avail (k + 1) false sq pre.length rest) = (d', List.replicate k .more ++ [r]) ∧
      R (pre ++ rest) d' r := by
  induction k generalizing d pre sq rest with
  | zero =>
    obtain ⟨d', r, h1, hR⟩ := hlast d pre sq rest h (by omega)
    exact ⟨d', r, by rw [frags, hr.cons, hr.nil, h1]; rfl, hR⟩
  | succ k ih =>
    have hmul : (k + 1) * avail = k * avail + avail := Nat.succ_mul k avail
    have ht : (rest.take avail).length = avail := by rw [List.length_take]; omega
    obtain ⟨d1, h1, hH⟩ := hmore d pre sq k (rest.take avail) (rest.drop avail)
      (by rw [List.take_append_drop]; exact h) ht (by rw [List.length_drop]; omega)
    obtain ⟨d', r, h2, hc⟩ := ih d1 (pre ++ rest.take avail) (sq + 1) (rest.drop avail) hH
      (by rw [List.length_drop]; omega)
    rw [List.length_append] at h2
    rw [List.append_assoc, List.take_append_drop] at hc
    exact ⟨d', r, by rw [frags, hr.cons, h1, h2]; rfl, hc⟩

/-- One unit `f` in `k + 1` packets (`k` full ones are not enough).  One hypothesis per kind of packet — the only
one, the first, a middle one, the last —, each the equation of `step` on that packet. -/
theorem run_unit (f : Bytes) (d : δ) (sq : UInt16) (k : Nat) (hlo : k * avail < f.length)
    (hone : k = 0 → ∃ d' r, step d (mk true true sq 0 f) = (d', r) ∧ R f d' r)
    (hstart : ∀ j ch rest, k = j + 1 → ch ++ rest = f → ch.length = avail → 0 < rest.length →
      ∃ d', step d (mk true false sq 0 ch) = (d', .more) ∧ H d' ch (sq + 1) j rest)
    (hmore : ∀ d pre sq k ch rest, H d pre sq (k + 1) (ch ++ rest) → ch.length = avail → 0 < rest.length →
      ∃ d', step d (mk false false sq pre.length ch) = (d', .more) ∧ H d' (pre ++ ch) (sq + 1) k rest)
    (hlast : ∀ d pre sq rest, H d pre sq 0 rest → 0 < rest.length →
      ∃ d' r, step d (mk false true sq pre.length rest) = (d', r) ∧ R (pre ++ rest) d' r) :
    ∃ d' r, run d (frags mk avail (k + 1) true sq 0 f) = (d', List.replicate k .more ++ [r]) ∧ R f d' r := by
  cases k with
  | zero =>
    obtain ⟨d', r, h1, hR⟩ := hone rfl
    exact ⟨d', r, by rw [frags, hr.cons, hr.nil, h1]; rfl, hR⟩
  | succ k =>
    have hmul : (k + 1) * avail = k * avail + avail := Nat.succ_mul k avail
    have ht : (f.take avail).length = avail := by rw [List.length_take]; omega
    obtain ⟨d1, h1, hH⟩ := hstart k (f.take avail) (f.drop avail) rfl (List.take_append_drop _ _) ht
      (by rw [List.length_drop]; omega)
    obtain ⟨d', r, h2, hc⟩ := run_frags hr mk avail H R hmore hlast k d1 (f.take avail) (sq + 1)
      (f.drop avail) hH (by rw [List.length_drop]; omega)
    rw [List.take_append_drop] at hc
    exact ⟨d', r, by rw [frags, hr.cons, h1, Nat.zero_add, h2]; rfl, hc⟩

end run

end Rtsp.Codec
