import Rtsp.Proofs.Pipeline.UdpOrder
import Rtsp.Proofs.Receiver.Reports
/-
UDP readers, write order (C01): when the packets of a format are numbered consecutively (position `j`
in the format's stream ↦ sequence number `s0 + j` mod 2^16), fewer than 2^15 of them were written, and the
receiver detected no sender restart, the callbacks of that format come in write order, each at most
once — whatever was lost, duplicated or reordered on the way.
-/
namespace Rtsp.Pipe
open Rtsp.Recv

theorem fwd_positions (s0 ja jb sa sb : Nat) (ha : ja < 32768) (hb : jb < 32768)
    (hsa : sa % 65536 = (s0 + ja) % 65536) (hsb : sb % 65536 = (s0 + jb) % 65536)
    (h : Fwd (UInt16.ofNat sa) (UInt16.ofNat sb)) : ja < jb := by
  -- `sb - sa` mod 2^16 lies in 1 … 2^15 (C14), and it is `jb - ja` mod 2^16
  have := fwd_dist _ _ h
  simp only [dist, UInt16.toNat_sub, UInt16.toNat_ofNat'] at this
  omega

theorem positions_increasing (s0 : Nat) (pos sq : Recv.Pkt → Nat) (ps : List Recv.Pkt) :
    ∀ (p : Recv.Pkt), (∀ q ∈ p :: ps, pos q < 32768 ∧ sq q % 65536 = (s0 + pos q) % 65536 ∧ q.seq = UInt16.ofNat (sq q)) →
    IncFrom p.seq (ps.map (·.seq)) → (p :: ps).Pairwise (fun a b => pos a < pos b) := by
  induction ps with
  | nil => intro p _ _; exact List.pairwise_singleton _ _
  | cons q t ih =>
    intro p hall hinc
    simp only [List.map_cons, IncFrom] at hinc
    obtain ⟨hfwd, hrest⟩ := hinc
    obtain ⟨hp1, hp2, hp3⟩ := hall p List.mem_cons_self
    obtain ⟨hq1, hq2, hq3⟩ := hall q (List.mem_cons_of_mem _ List.mem_cons_self)
    rw [hp3, hq3] at hfwd
    have hpq := fwd_positions s0 _ _ _ _ hp1 hq1 hp2 hq2 hfwd
    have h := ih q (fun r hr => hall r (List.mem_cons_of_mem _ hr)) hrest
    refine List.pairwise_cons.mpr ⟨fun c hc => ?_, h⟩
    rcases List.mem_cons.mp hc with rfl | hc
    · exact hpq
    · exact Nat.lt_trans hpq ((List.pairwise_cons.mp h).1 c hc)

/-- the format `key` is numbered consecutively from `s0`: `j wid` is the position of write `wid` among
the writes of that format, fewer than 2^15 of them -/
def Numbered (x : Reader) (key : Nat × Nat) (s0 : Nat) (j : Nat → Nat) : Prop :=
  (∀ g ∈ x.wire, keyOf g = key → j g.wid < 32768 ∧ g.pkt.seq % 65536 = (s0 + j g.wid) % 65536) ∧
  (∀ g ∈ x.wire, ∀ g' ∈ x.wire, keyOf g = key → keyOf g' = key → j g.wid < j g'.wid → g.wid < g'.wid)

/-- `hacc` is `Rtsp.Recv.C14.from_init` at the power-on state `R0`; it is a hypothesis only because that theorem stands in
Props/C14.lean.  `C01.udp_subsequence` is the case of a reachable reader. -/
theorem released_wids_increasing (x : Reader) (hv : VInv x)
    (key : Nat × Nat) (s0 : Nat) (j : Nat → Nat) (hnum : Numbered x key s0 j)
    (hnr : ∀ o ∈ (Recv.run R0 (keyArr key 0 x.arrived)).2, o.restart = false)
    (hacc : ∀ p ps, (Recv.run R0 (p :: ps)).2.head? = some { pkts := [p], lost := 0 } ∧
            Accounted true p.seq (Recv.run R0 (p :: ps)).2.tail) :
    (cbsOf key x.cbs).Pairwise (fun a b => a.wid < b.wid) := by
  rw [hv.cbs_run key]
  -- everything released: the first packet, then a chain
  have hseq := keyRun_released key x.arrived
  cases harr : keyArr key 0 x.arrived with
  | nil => simp [released, Recv.run]
  | cons p ps =>
  rw [harr] at hseq hnr
  obtain ⟨hhead, htail⟩ := hacc p ps
  generalize hos : (Recv.run R0 (p :: ps)).2 = os at hhead htail hnr hseq
  cases os with
  | nil => simp [released]
  | cons o t =>
    simp only [List.head?_cons, Option.some.injEq] at hhead
    simp only [List.tail_cons] at htail
    subst hhead
    have hchain := accounted_incFrom p.seq t htail (fun o' ho' => hnr o' (List.mem_cons_of_mem _ ho'))
    -- everything released is a datagram of `key` on the wire, with its own sequence number
    let frameOf : Recv.Pkt → Frame := fun q => (x.arrived[q.id]?).getD default
    have hfr : ∀ q ∈ p :: t.flatMap (·.pkts), x.arrived[q.id]? = some (frameOf q) ∧ frameOf q ∈ x.wire ∧
        keyOf (frameOf q) = key ∧ q.seq = UInt16.ofNat (frameOf q).pkt.seq := by
      intro q hq
      obtain ⟨g, hg, hk, hs⟩ : ∃ g, x.arrived[q.id]? = some g ∧ keyOf g = key ∧ q.seq = UInt16.ofNat g.pkt.seq := by
        rcases List.mem_cons.mp hq with rfl | hq
        · exact hseq _ List.mem_cons_self q (List.mem_singleton.mpr rfl)
        · obtain ⟨o', ho', hq'⟩ := List.mem_flatMap.mp hq
          exact hseq o' (List.mem_cons_of_mem _ ho') q hq'
      rw [show frameOf q = g by simp [frameOf, hg]]
      exact ⟨hg, hv.arrived_sent g (List.mem_of_getElem? hg), hk, hs⟩
    have hpos := positions_increasing s0 (fun q => j (frameOf q).wid) (fun q => (frameOf q).pkt.seq)
      (t.flatMap (·.pkts)) p (fun q hq =>
        have ⟨_, hw, hk, hs⟩ := hfr q hq
        ⟨(hnum.1 _ hw hk).1, (hnum.1 _ hw hk).2, hs⟩) hchain
    -- the callbacks are the released packets, looked up
    have hrel : released x.arrived ({ pkts := [p], lost := 0 } :: t) =
        (p :: t.flatMap (·.pkts)).map (fun q => (frameOf q).deliv) := by
      unfold released
      simp only [List.flatMap_cons, List.singleton_append]
      rw [← List.filterMap_eq_map]
      exact filterMap_congr' fun q hq => by rw [(hfr q hq).1]; rfl
    rw [hrel, List.pairwise_map]
    -- positions → write numbers
    refine hpos.imp_of_mem fun {a b} ha hb hab => ?_
    exact hnum.2 _ (hfr a ha).2.1 _ (hfr b hb).2.1 (hfr a ha).2.2.1 (hfr b hb).2.2.1 hab

end Rtsp.Pipe
