import Rtsp.Proofs.Pipeline.Basic
import Rtsp.Proofs.Common.Steps
/-
The reader invariant of the pipeline model and its preservation by writes (`rinv_write`) and by every control
event (`rinv_ctl`, over `rctl_cases` (`Basic`)); the lift to event sequences is in Run.lean (C01).

`ws` is the log of the writes seen so far (media, packet as handed to `WritePacketRTP`).
`live x`   = accepted pushes that were not discarded by the reader's own PAUSE / close, in push order;
`flight x` = callbacks so far ++ frames on the wire ++ frames in the queue.
For a reader on a reliable transport the two lists are equal in every reachable state (`tcp_flow`).
-/
namespace Rtsp.Pipe

abbrev WLog := List (Nat × Pkt)

/-- `d` is write number `d.wid`: same media, same format, every field identical, SSRC := the format's -/
def IsWrite (cfg : Cfg) (ws : WLog) (d : Deliv) : Prop :=
  ∃ p ssrc, ws[d.wid]? = some (d.media, p) ∧ d.pt = p.pt ∧
    cfg.ssrcOf d.media p.pt = some ssrc ∧ d.pkt = rewrite ssrc p

def flight (x : Reader) : List Deliv := x.cbs ++ (x.wire ++ x.queue).map Frame.deliv

def live (x : Reader) : List Deliv := x.acc.filter (fun d => !x.disc.contains d)

/-- the frame belongs to a set-up media, sits on that media's channel and carries one of its formats -/
def FrameOK (cfg : Cfg) (x : Reader) (f : Frame) : Prop :=
  f.media ∈ x.meds ∧ f.chan = chanOf x f.media ∧ (cfg.fmt? f.media f.pkt.pt).isSome = true

structure RInv (cfg : Cfg) (ws : WLog) (x : Reader) : Prop where
  nw_eq      : x.nw = ws.length
  acc_log    : ∀ d ∈ x.acc, IsWrite cfg ws d
  acc_sorted : x.acc.Pairwise (fun a b => a.wid < b.wid)
  disc_sub   : ∀ d ∈ x.disc, d ∈ x.acc
  chan_ok    : ChanOK x
  frames     : ∀ f ∈ x.wire ++ x.queue, FrameOK cfg x f ∧ f.deliv ∈ x.acc
  cap        : x.queue.length ≤ cfg.cap
  idle       : x.status ≠ .playing → x.status ≠ .ringClosed → x.queue = []
  tcp_flow   : x.udp = false → live x = flight x

theorem IsWrite.mono {cfg : Cfg} {ws : WLog} {d : Deliv} (h : IsWrite cfg ws d) (w : WLog) :
    IsWrite cfg (ws ++ w) d := by
  obtain ⟨p, s, h1, h2, h3, h4⟩ := h
  exact ⟨p, s, getElem?_append_of_some h1 w, h2, h3, h4⟩

variable {cfg : Cfg} {ws : WLog} {x : Reader}

theorem RInv.wid_lt (h : RInv cfg ws x) {d : Deliv} (hd : d ∈ x.acc) :
    d.wid < x.nw := by
  obtain ⟨p, s, h1, _⟩ := h.acc_log d hd
  rw [h.nw_eq]
  exact lt_of_getElem?_eq_some h1

theorem RInv.demux (h : RInv cfg ws x) {f : Frame} (hf : f ∈ x.wire) :
    Pipe.demux cfg x f = some (f.media, f.pkt.pt) := by
  obtain ⟨hm, hc, hp⟩ := (h.frames f (List.mem_append_left _ hf)).1
  unfold Pipe.demux
  rw [hc, mediaOfChan_chanOf x h.chan_ok f.media hm]
  simp [hp]

theorem rinv_init (cfg : Cfg) (u : Bool) : RInv cfg [] { udp := u } := by
  constructor <;> simp [live, flight, ChanOK]

theorem rinv_bump (h : RInv cfg ws x) (w : Nat × Pkt)
    (r dr : List Deliv) : RInv cfg (ws ++ [w]) { x with nw := x.nw + 1, ref := r, drp := dr } := by
  constructor
  · simp [h.nw_eq]
  · intro d hd; exact (h.acc_log d hd).mono _
  · exact h.acc_sorted
  · exact h.disc_sub
  · exact h.chan_ok
  · exact h.frames
  · exact h.cap
  · exact h.idle
  · exact h.tcp_flow

theorem rinv_write (h : RInv cfg ws x) (m : Nat) (p : Pkt) :
    RInv cfg (ws ++ [(m, p)]) (rwrite cfg x m p) := by
  unfold rwrite
  split
  · exact rinv_bump h (m, p) x.ref x.drp
  · rename_i ssrc hs
    split
    · exact rinv_bump h (m, p) x.ref x.drp
    · exact rinv_bump h (m, p) x.ref _
    · exact rinv_bump h (m, p) _ x.drp
    · rename_i ho
      obtain ⟨hm, hst, hq⟩ := outcome_accepted ho
      have hfmt : (cfg.fmt? m p.pt).isSome = true := by
        unfold Cfg.ssrcOf at hs
        cases hf : cfg.fmt? m p.pt with
        | none => rw [hf] at hs; cases hs
        | some _ => rfl
      constructor
      · simp [h.nw_eq]
      · intro d hd
        rcases List.mem_append.mp hd with hd | hd
        · exact (h.acc_log d hd).mono _
        · simp only [List.mem_singleton] at hd
          subst hd
          refine ⟨p, ssrc, ?_, rfl, hs, rfl⟩
          simp [h.nw_eq]
      · rw [List.pairwise_append]
        refine ⟨h.acc_sorted, List.pairwise_singleton _ _, ?_⟩
        intro a ha b hb
        simp only [List.mem_singleton] at hb
        subst hb
        exact h.wid_lt ha
      · intro d hd; exact List.mem_append_left _ (h.disc_sub d hd)
      · exact h.chan_ok
      · intro f hf
        simp only [← List.append_assoc, List.mem_append, List.mem_singleton] at hf
        rcases hf with hf | hf
        · have := h.frames f (List.mem_append.mpr hf)
          exact ⟨this.1, List.mem_append_left _ this.2⟩
        · subst hf
          exact ⟨⟨hm, rfl, hfmt⟩, List.mem_append_right _ (List.mem_singleton.mpr rfl)⟩
      · simp only [List.length_append, List.length_singleton]; omega
      · intro h1 h2
        rcases hst with hst | hst
        · exact absurd hst h1
        · exact absurd hst h2
      · intro hu
        have hflow := h.tcp_flow hu
        have hnd : (⟨m, p.pt, rewrite ssrc p, x.nw⟩ : Deliv) ∉ x.disc := by
          intro hd
          have := h.wid_lt (h.disc_sub _ hd)
          simp at this
        have hpt : (rewrite ssrc p).pt = p.pt := rfl
        simp only [live, flight] at hflow ⊢
        rw [List.filter_append, hflow]
        simp [hnd, Frame.deliv, hpt]

/-- discarding the tail `b` of what is in flight leaves the head `a`: `acc` is sorted by `wid`, so no
push occurs in both -/
theorem live_discard {x : Reader} (hs : x.acc.Pairwise (fun a b => a.wid < b.wid)) {a b : List Deliv}
    (hflow : live x = a ++ b) : x.acc.filter (fun d => !(x.disc ++ b).contains d) = a := by
  have hpw : (a ++ b).Pairwise (fun a b => a.wid < b.wid) := hflow ▸ hs.filter _
  rw [filter_filter_contains, ← live, hflow]
  apply filter_not_mem_tail
  intro c hc d hd hcd
  have := (List.pairwise_append.mp hpw).2.2 c hc d hd
  subst hcd
  omega

/-- discarding the queue and a tail `dw` of the pipe — nothing of it at `ring.Close()`, `writer = nil` and the close of a
UDP session, all of it at the close of a TCP session: what goes is a tail of what is in flight -/
theorem rinv_discard (h : RInv cfg ws x) (st : Status) {w dw : List Frame} (hw : x.wire = w ++ dw) :
    RInv cfg ws { x with status := st, disc := x.disc ++ (dw ++ x.queue).map Frame.deliv, queue := [], wire := w } := by
  refine { h with disc_sub := ?_, frames := ?_, cap := ?_, idle := ?_, tcp_flow := ?_ }
  · intro d hd
    rcases List.mem_append.mp hd with hd | hd
    · exact h.disc_sub d hd
    · obtain ⟨f, hf, rfl⟩ := List.mem_map.mp hd
      exact (h.frames f (by rw [hw, List.append_assoc]; exact List.mem_append_right _ hf)).2
  · intro f hf
    exact h.frames f (by rw [hw]; exact List.mem_append_left _ (List.mem_append_left _ (by simpa using hf)))
  · simp
  · intro _ _; rfl
  · intro hu
    have hflow := h.tcp_flow hu
    rw [flight, hw, List.append_assoc, List.map_append, ← List.append_assoc] at hflow
    exact (live_discard h.acc_sorted hflow).trans (by rw [flight, List.append_nil])

theorem rinv_ctl (h : RInv cfg ws x) (c : Ctl) : RInv cfg ws (rctl cfg x c) := by
  apply rctl_cases (motive := fun _ y => RInv cfg ws y) cfg x c
  case same => exact h
  case setup =>
    intro m req _ _ hfree
    obtain ⟨hlen, hcn⟩ := h.chan_ok
    -- a free pair is in particular a channel not yet used
    have hnew : req.getD (freePair x) ∉ x.chs := by
      intro hin
      have : pairInUse x (req.getD (freePair x)) = true := by
        simp only [pairInUse, List.any_eq_true]
        exact ⟨_, hin, by simp⟩
      rw [this] at hfree; cases hfree
    refine { h with chan_ok := ?_, frames := ?_ }
    · exact ⟨by simp [hlen], nodup_snoc hcn hnew⟩
    · intro f hf
      obtain ⟨⟨h1, h2, h3⟩, ha⟩ := h.frames f hf
      refine ⟨⟨List.mem_append_left _ h1, ?_, h3⟩, ha⟩
      have hi : x.meds.idxOf f.media < x.chs.length := by
        rw [hlen]; exact List.idxOf_lt_length_of_mem h1
      show f.chan = (x.chs ++ [req.getD (freePair x)]).getD ((x.meds ++ [m]).idxOf f.media) 0
      rw [List.idxOf_append, if_pos h1, List.getD_eq_getElem?_getD, List.getElem?_append_left hi, h2]
      simp [chanOf, List.getD_eq_getElem?_getD]
  case play =>
    intro hc
    have hq : x.queue = [] := h.idle (by rw [hc]; decide) (by rw [hc]; decide)
    refine { h with frames := ?_, cap := ?_, idle := ?_, tcp_flow := ?_ }
    · intro f hf; exact h.frames f (by simpa [hq] using hf)
    · simp
    · intro _ _; rfl
    · intro hu
      have := h.tcp_flow hu
      simpa [live, flight, hq] using this
  -- the record of `dropQueue` is that of `rinv_discard` with nothing of the pipe discarded
  case pclose | pnil | leaveUdp => exact fun _ => rinv_discard h _ (List.append_nil _).symm
  case pinact =>
    intro hc
    have hq : x.queue = [] := h.idle (by rw [hc]; decide) (by rw [hc]; decide)
    exact { h with idle := fun _ _ => hq }
  case leaveTcp => exact fun _ => rinv_discard h .gone (List.nil_append _).symm
  case consume =>
    intro f q _ hq
    have hwq : x.wire ++ x.queue = (x.wire ++ [f]) ++ q := by rw [hq]; simp
    refine { h with frames := ?_, cap := ?_, idle := ?_, tcp_flow := ?_ }
    · intro g hg; rw [← hwq] at hg; exact h.frames g hg
    · have := h.cap; rw [hq] at this; simp only [List.length_cons] at this; exact Nat.le_of_succ_le this
    · intro h1 h2
      have := h.idle h1 h2
      rw [hq] at this; cases this
    · intro hu
      have := h.tcp_flow hu
      simp only [live, flight] at this ⊢
      rw [← hwq]; exact this
  case carry =>
    intro f w hu hw
    simp only [h.demux (hw ▸ List.mem_cons_self)]
    have hsub : ∀ g, g ∈ w ++ x.queue → g ∈ x.wire ++ x.queue := by
      intro g hg
      rw [hw]
      rcases List.mem_append.mp hg with hg | hg
      · exact List.mem_append_left _ (List.mem_cons_of_mem _ hg)
      · exact List.mem_append_right _ hg
    refine { h with frames := fun g hg => h.frames g (hsub g hg), tcp_flow := ?_ }
    · intro _
      have := h.tcp_flow hu
      simp only [live, flight] at this ⊢
      rw [this, hw]
      simp [Frame.deliv]
  case arrive =>
    -- an arrival touches the receiving side of a UDP reader only
    intro k f hu _
    unfold rarrive
    split
    · exact h
    · exact { h with tcp_flow := fun hf => absurd (hu.symm.trans hf) nofun }

end Rtsp.Pipe
