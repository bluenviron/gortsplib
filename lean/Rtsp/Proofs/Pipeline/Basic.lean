import Rtsp.Model.Pipeline
/-
Helper lemmas for the pipeline model (C01).  `rctl_cases` lists what a control event can do to a reader; every lemma about
`rctl` is read off it.  `rwrite` and `rarrive` are short enough to be unfolded where a proof follows them (two `split`s, `rarrive` one).
-/
namespace Rtsp.Pipe

theorem getElem?_idxOf_mem {l : List Nat} {a : Nat} (h : a ∈ l) : l[l.idxOf a]? = some a := by
  have hlt : l.idxOf a < l.length := List.idxOf_lt_length_of_mem h
  rw [List.getElem?_eq_getElem hlt, List.getElem_idxOf hlt]

theorem lt_of_getElem?_eq_some {α : Type} {l : List α} {i : Nat} {a : α} (h : l[i]? = some a) : i < l.length := by
  obtain ⟨hlt, _⟩ := List.getElem?_eq_some_iff.1 h
  exact hlt

theorem getElem?_append_of_some {α : Type} {l : List α} {i : Nat} {a : α} (h : l[i]? = some a) (l' : List α) :
    (l ++ l')[i]? = some a := by
  rw [List.getElem?_append_left (lt_of_getElem?_eq_some h)]; exact h

theorem filter_not_mem_tail {α : Type} [DecidableEq α] (a b : List α)
    (hd : ∀ x ∈ a, ∀ y ∈ b, x ≠ y) :
    (a ++ b).filter (fun d => !b.contains d) = a := by
  rw [List.filter_append, List.filter_eq_self.mpr, List.filter_eq_nil_iff.mpr, List.append_nil]
  · intro x hx; simp [hx]
  · intro x hx; simpa using fun hb => hd x hx x hb rfl

theorem filter_filter_contains {α : Type} [DecidableEq α] (l a b : List α) :
    l.filter (fun d => !(a ++ b).contains d) = (l.filter (fun d => !a.contains d)).filter (fun d => !b.contains d) := by
  rw [List.filter_filter]
  congr 1
  funext d
  simp only [List.contains_eq_mem, List.mem_append, Bool.decide_or, Bool.not_or]
  exact Bool.and_comm _ _

theorem rarrive_fields (cfg : Cfg) (x : Reader) (f : Frame) :
    (rarrive cfg x f).udp = x.udp ∧ (rarrive cfg x f).nw = x.nw ∧ (rarrive cfg x f).acc = x.acc ∧
    (rarrive cfg x f).ref = x.ref ∧ (rarrive cfg x f).disc = x.disc := by
  unfold rarrive
  split <;> exact ⟨rfl, rfl, rfl, rfl, rfl⟩

theorem outcome_skip {cfg : Cfg} {x : Reader} {m : Nat} (hf : fanned x m = false) : outcome cfg x m = .skip := by
  simp only [outcome, hf, Bool.not_false, if_true]

theorem outcome_of_writer {cfg : Cfg} {x : Reader} {m : Nat} (hf : fanned x m = true) (hn : x.status ≠ .noWriter) :
    outcome cfg x m = if x.queue.length < cfg.cap then .accepted else .refused := by
  simp only [outcome, hf, Bool.not_true, Bool.false_eq_true, if_false, beq_iff_eq, hn]

theorem outcome_accepted {cfg : Cfg} {x : Reader} {m : Nat} (h : outcome cfg x m = .accepted) :
    m ∈ x.meds ∧ (x.status = .playing ∨ x.status = .ringClosed) ∧ x.queue.length < cfg.cap := by
  unfold outcome at h
  split at h
  · cases h
  · rename_i hf
    split at h
    · cases h
    · rename_i hn
      split at h
      · rename_i hq
        simp only [fanned, Bool.not_eq_true, Bool.not_eq_false', Bool.and_eq_true, Bool.or_eq_true, beq_iff_eq,
          List.contains_eq_mem, decide_eq_true_eq] at hf hn
        exact ⟨hf.2, hf.1.elim id (fun h => absurd h hn), hq⟩
      · cases h

/-- the queue is dropped: `ring.Close()` (`pclose`), `writer = nil` (`pnil`), close of a UDP session (`leave`) -/
def Reader.dropQueue (x : Reader) (st : Status) : Reader :=
  { x with status := st, disc := x.disc ++ x.queue.map Frame.deliv, queue := [] }

/-- What a control event does to a reader: nothing (its guard fails), or the one update listed for it.  Each case carries
the guard that let the event through, but for three clauses that nothing has needed: `m < cfg.medias.length` at `setup`,
some media set up at `play`, not yet gone at `leave`. -/
theorem rctl_cases {motive : Ctl → Reader → Prop} (cfg : Cfg) (x : Reader) (c : Ctl)
    (same : motive c x)
    (setup : ∀ m req, x.status = .setup → m ∉ x.meds → pairInUse x (req.getD (freePair x)) = false →
      motive (.setup m req) { x with meds := x.meds ++ [m], chs := x.chs ++ [req.getD (freePair x)] })
    (play : x.status = .setup → motive .play { x with status := .playing, queue := [] })
    (pclose : x.status = .playing → motive .pclose (x.dropQueue .ringClosed))
    (pnil : x.status = .ringClosed → motive .pnil (x.dropQueue .noWriter))
    (pinact : x.status = .noWriter → motive .pinact { x with status := .setup })
    (leaveUdp : x.udp = true → motive .leave (x.dropQueue .gone))
    (leaveTcp : x.udp = false → motive .leave
      { x with status := .gone, disc := x.disc ++ (x.wire ++ x.queue).map Frame.deliv, queue := [], wire := [] })
    (consume : ∀ f q, x.status = .playing → x.queue = f :: q →
      motive .consume { x with queue := q, wire := x.wire ++ [f] })
    (carry : ∀ f w, x.udp = false → x.wire = f :: w → motive .carry
      (match demux cfg x f with
       | none => { x with wire := w }
       | some (m, pt) => { x with wire := w, cbs := x.cbs ++ [⟨m, pt, f.pkt, f.wid⟩] }))
    (arrive : ∀ k f, x.udp = true → x.wire[k]? = some f → motive (.arrive k) (rarrive cfg x f)) :
    motive c (rctl cfg x c) := by
  -- the guards are taken apart by terms: `simp_all` over the eleven hypotheses is a hundred times dearer
  cases c with
  | setup m req =>
    rw [rctl]; split
    · rename_i h
      simp only [Bool.and_eq_true, beq_iff_eq, decide_eq_true_eq, Bool.not_eq_true', List.contains_eq_mem,
        decide_eq_false_iff_not] at h
      exact setup m req h.1.1.1 h.1.2 h.2
    · exact same
  | play => rw [rctl]; split; exact play (eq_of_beq (Bool.and_eq_true_iff.1 ‹_›).1); exact same
  | pclose => rw [rctl]; split; exact pclose (eq_of_beq ‹_›); exact same
  | pnil => rw [rctl]; split; exact pnil (eq_of_beq ‹_›); exact same
  | pinact => rw [rctl]; split; exact pinact (eq_of_beq ‹_›); exact same
  | leave =>
    rw [rctl]; split
    · exact same
    · split
      · exact leaveUdp ‹_›
      · exact leaveTcp (Bool.eq_false_iff.2 ‹_›)
  | consume =>
    rw [rctl]; split
    · exact same
    · split
      · exact same
      · exact consume _ _ (Decidable.not_not.1 fun h => ‹¬ _› (bne_iff_ne.2 h)) ‹_›
  | carry =>
    rw [rctl]; split
    · exact same
    · split
      · exact same
      · exact carry _ _ (Bool.eq_false_iff.2 ‹_›) ‹_›
  | arrive k =>
    rw [rctl]; split
    · exact same
    · rename_i hu
      split
      · exact same
      · exact arrive k _ (by simpa using hu) ‹_›

theorem rrun_append (cfg : Cfg) (a b : List REv) : ∀ x : Reader, rrun cfg x (a ++ b) = rrun cfg (rrun cfg x a) b := by
  induction a with
  | nil => intro x; rfl
  | cons e t ih => intro x; simp only [List.cons_append, rrun]; exact ih _

/-- the channel table of a reader: one channel per set-up media, no channel twice -/
def ChanOK (x : Reader) : Prop := x.chs.length = x.meds.length ∧ x.chs.Nodup

theorem mediaOfChan_chanOf (x : Reader) (hc : ChanOK x) (m : Nat) (h : m ∈ x.meds) :
    mediaOfChan x (chanOf x m) = some m := by
  obtain ⟨hlen, hnd⟩ := hc
  have hi : x.meds.idxOf m < x.meds.length := List.idxOf_lt_length_of_mem h
  have hi' : x.meds.idxOf m < x.chs.length := by rw [hlen]; exact hi
  have hch : chanOf x m = x.chs[x.meds.idxOf m] := by
    unfold chanOf; rw [List.getD_eq_getElem?_getD, List.getElem?_eq_getElem hi']; rfl
  unfold mediaOfChan
  rw [hch]
  have hmem : x.chs.contains x.chs[x.meds.idxOf m] = true := by
    simp [List.getElem_mem hi']
  rw [if_pos hmem, hnd.idxOf_getElem _ hi']
  exact getElem?_idxOf_mem h

end Rtsp.Pipe
