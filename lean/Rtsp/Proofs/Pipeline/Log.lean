import Rtsp.Proofs.Pipeline.Run
/-
The history variables `acc`, `ref` of a reader expressed as functions of the event sequence
(so that the theorems of C01 can be read without them): `accLog` is, in order, the writes whose push
into this reader's queue was accepted; `refLog` those refused with a queue-full error.  `disc` changes
only at the reader's own PAUSE / close (`Discards`).  `rstep_fields` says what one event does to these fields, to `nw`
and to `udp`; the lemmas per field are its clauses.
-/
namespace Rtsp.Pipe

/-- what a write event adds to the accepted / refused pushes of a reader in state `x` -/
def accOf (cfg : Cfg) (x : Reader) : REv → List Deliv
  | .write m p =>
    match cfg.ssrcOf m p.pt, outcome cfg x m with
    | some s, .accepted => [⟨m, p.pt, rewrite s p, x.nw⟩]
    | _, _ => []
  | .ctl _ => []

def refOf (cfg : Cfg) (x : Reader) : REv → List Deliv
  | .write m p =>
    match cfg.ssrcOf m p.pt, outcome cfg x m with
    | some s, .refused => [⟨m, p.pt, rewrite s p, x.nw⟩]
    | _, _ => []
  | .ctl _ => []

/-- the accepted pushes along an event sequence, in order -/
def accLog (cfg : Cfg) : Reader → List REv → List Deliv
  | _, [] => []
  | x, e :: es => accOf cfg x e ++ accLog cfg (rstep cfg x e) es

/-- the refused pushes (queue-full errors handed to the writer's handler) along an event sequence -/
def refLog (cfg : Cfg) : Reader → List REv → List Deliv
  | _, [] => []
  | x, e :: es => refOf cfg x e ++ refLog cfg (rstep cfg x e) es

theorem rwrite_fields (cfg : Cfg) (x : Reader) (m : Nat) (p : Pkt) :
    (rwrite cfg x m p).udp = x.udp ∧ (rwrite cfg x m p).nw = x.nw + 1 ∧
    (rwrite cfg x m p).acc = x.acc ++ accOf cfg x (.write m p) ∧
    (rwrite cfg x m p).ref = x.ref ++ refOf cfg x (.write m p) ∧ (rwrite cfg x m p).disc = x.disc := by
  simp only [rwrite, accOf, refOf]
  cases cfg.ssrcOf m p.pt with
  | none => simp
  | some s => cases outcome cfg x m <;> simp

/-- only the reader's own PAUSE (`pclose`, `pnil`) and close (`leave`) discard anything -/
def Discards : REv → Prop
  | .ctl .pclose => True
  | .ctl .pnil => True
  | .ctl .leave => True
  | _ => False

instance (e : REv) : Decidable (Discards e) := by
  unfold Discards; split <;> infer_instance

theorem rstep_fields (cfg : Cfg) (x : Reader) (e : REv) :
    (rstep cfg x e).udp = x.udp ∧ (rstep cfg x e).nw = x.nw + (wlog e).length ∧
    (rstep cfg x e).acc = x.acc ++ accOf cfg x e ∧ (rstep cfg x e).ref = x.ref ++ refOf cfg x e ∧
    (¬ Discards e → (rstep cfg x e).disc = x.disc) := by
  cases e with
  | write m p =>
    obtain ⟨h1, h2, h3, h4, h5⟩ := rwrite_fields cfg x m p
    exact ⟨h1, h2, h3, h4, fun _ => h5⟩
  | ctl c =>
    simp only [rstep, accOf, refOf, wlog, List.append_nil, List.length_nil, Nat.add_zero]
    apply rctl_cases (motive := fun c y => y.udp = x.udp ∧ y.nw = x.nw ∧ y.acc = x.acc ∧ y.ref = x.ref ∧
      (¬ Discards (.ctl c) → y.disc = x.disc)) cfg x c
    case carry => intro f w _ _; split <;> exact ⟨rfl, rfl, rfl, rfl, fun _ => rfl⟩
    case arrive =>
      intro k f _ _
      obtain ⟨h1, h2, h3, h4, h5⟩ := rarrive_fields cfg x f
      exact ⟨h1, h2, h3, h4, fun _ => h5⟩
    case pclose | pnil | leaveUdp | leaveTcp => intro _; exact ⟨rfl, rfl, rfl, rfl, fun h => absurd trivial h⟩
    all_goals intros; exact ⟨rfl, rfl, rfl, rfl, fun _ => rfl⟩

theorem rstep_udp (cfg : Cfg) (x : Reader) (e : REv) : (rstep cfg x e).udp = x.udp := (rstep_fields cfg x e).1

theorem rwrite_nw (cfg : Cfg) (x : Reader) (m : Nat) (p : Pkt) : (rwrite cfg x m p).nw = x.nw + 1 :=
  (rwrite_fields cfg x m p).2.1

theorem rstep_nw_le (cfg : Cfg) (x : Reader) (e : REv) : x.nw ≤ (rstep cfg x e).nw :=
  (rstep_fields cfg x e).2.1 ▸ Nat.le_add_right ..

theorem rstep_acc (cfg : Cfg) (x : Reader) (e : REv) : (rstep cfg x e).acc = x.acc ++ accOf cfg x e :=
  (rstep_fields cfg x e).2.2.1

theorem rstep_ref (cfg : Cfg) (x : Reader) (e : REv) : (rstep cfg x e).ref = x.ref ++ refOf cfg x e :=
  (rstep_fields cfg x e).2.2.2.1

theorem rstep_disc (cfg : Cfg) (x : Reader) (e : REv) (h : ¬ Discards e) : (rstep cfg x e).disc = x.disc :=
  (rstep_fields cfg x e).2.2.2.2 h

theorem rrun_udp (cfg : Cfg) (evs : List REv) : ∀ x : Reader, (rrun cfg x evs).udp = x.udp := by
  induction evs with
  | nil => intro x; rfl
  | cons e t ih => intro x; rw [rrun, ih, rstep_udp]

theorem acc_eq (cfg : Cfg) (evs : List REv) : ∀ x : Reader, (rrun cfg x evs).acc = x.acc ++ accLog cfg x evs := by
  induction evs with
  | nil => intro x; simp [rrun, accLog]
  | cons e es ih => intro x; simp [rrun, accLog, ih, rstep_acc, List.append_assoc]

theorem ref_eq (cfg : Cfg) (evs : List REv) : ∀ x : Reader, (rrun cfg x evs).ref = x.ref ++ refLog cfg x evs := by
  induction evs with
  | nil => intro x; simp [rrun, refLog]
  | cons e es ih => intro x; simp [rrun, refLog, ih, rstep_ref, List.append_assoc]

theorem disc_eq (cfg : Cfg) (evs : List REv) : ∀ x : Reader, (∀ e ∈ evs, ¬ Discards e) →
    (rrun cfg x evs).disc = x.disc := by
  induction evs with
  | nil => intro x _; rfl
  | cons e es ih =>
    intro x h
    simp only [rrun]
    rw [ih _ (fun e' he' => h e' (List.mem_cons_of_mem _ he')), rstep_disc cfg x e (h e List.mem_cons_self)]

/-- the writes of an event sequence of the whole system, in order -/
def writesOf : List Event → WLog
  | [] => []
  | .write m p :: es => (m, p) :: writesOf es
  | .ctl _ _ :: es => writesOf es

theorem wlogs_view (r : Nat) (es : List Event) : wlogs (view r es) = writesOf es := by
  induction es with
  | nil => rfl
  | cons e es ih =>
    simp only [view, List.filterMap_cons] at ih ⊢
    cases e with
    | write m p => exact congrArg _ ih
    | ctl r' c =>
      by_cases h : r' = r
      · rw [proj, if_pos h]; exact ih
      · rw [proj, if_neg h]; exact ih

theorem accOf_wid (cfg : Cfg) (x : Reader) (e : REv) : ∀ d ∈ accOf cfg x e, d.wid = x.nw := by
  intro d hd
  cases e with
  | ctl c => simp [accOf] at hd
  | write m p =>
    simp only [accOf] at hd
    cases hs : cfg.ssrcOf m p.pt with
    | none => simp [hs] at hd
    | some s =>
      cases ho : outcome cfg x m <;> simp [hs, ho] at hd
      rw [hd]

theorem accLog_wid_ge (cfg : Cfg) (evs : List REv) : ∀ x : Reader, ∀ d ∈ accLog cfg x evs, x.nw ≤ d.wid := by
  induction evs with
  | nil => intro x d hd; cases hd
  | cons e es ih =>
    intro x d hd
    simp only [accLog, List.mem_append] at hd
    rcases hd with hd | hd
    · rw [accOf_wid cfg x e d hd]; exact Nat.le_refl _
    · exact Nat.le_trans (rstep_nw_le cfg x e) (ih _ d hd)

end Rtsp.Pipe
