import Rtsp.Proofs.Pipeline.Inv
/-
The invariant along every event sequence, and the reduction of the whole system to one reader:
reader `r` of `run cfg s es` is the one-reader machine run on what `r` sees of `es`.
-/
namespace Rtsp.Pipe

/-- the write of one event, if it is one: (media, packet as handed to `WritePacketRTP`) -/
def wlog : REv → WLog
  | .write m p => [(m, p)]
  | .ctl _ => []

def wlogs : List REv → WLog
  | [] => []
  | e :: es => wlog e ++ wlogs es

theorem rinv_rstep {cfg : Cfg} {ws : WLog} {x : Reader} (h : RInv cfg ws x) (e : REv) :
    RInv cfg (ws ++ wlog e) (rstep cfg x e) := by
  cases e with
  | write m p => exact rinv_write h m p
  | ctl c => simpa [wlog, rstep] using rinv_ctl h c

theorem rinv_rrun {cfg : Cfg} (evs : List REv) : ∀ {ws : WLog} {x : Reader}, RInv cfg ws x →
    RInv cfg (ws ++ wlogs evs) (rrun cfg x evs) := by
  induction evs with
  | nil => intro ws x h; simpa [wlogs, rrun] using h
  | cons e es ih =>
    intro ws x h
    have := ih (rinv_rstep h e)
    simpa [wlogs, rrun, List.append_assoc] using this

/-- what reader `r` sees of an event sequence -/
def view (r : Nat) (es : List Event) : List REv := es.filterMap (proj r)

theorem rd_step (cfg : Cfg) (s : State) (e : Event) (r : Nat) (hr : r < s.readers.length) :
    (step cfg s e).rd r = match proj r e with
      | some e' => rstep cfg (s.rd r) e'
      | none => s.rd r := by
  cases e with
  | write m p =>
    simp only [step, proj, State.rd, rstep, List.getD_eq_getElem?_getD, List.getElem?_map]
    rw [List.getElem?_eq_getElem hr]
    rfl
  | ctl r' c =>
    simp only [step, proj, State.rd, List.getD_eq_getElem?_getD, List.getElem?_modify]
    rw [List.getElem?_eq_getElem hr]
    by_cases h : r' = r
    · subst h; simp [rstep]
    · simp [h]

theorem step_length (cfg : Cfg) (s : State) (e : Event) : (step cfg s e).readers.length = s.readers.length := by
  cases e <;> simp [step]

theorem rd_run (cfg : Cfg) (es : List Event) : ∀ (s : State) (r : Nat), r < s.readers.length →
    (run cfg s es).rd r = rrun cfg (s.rd r) (view r es) := by
  induction es with
  | nil => intro s r _; rfl
  | cons e es ih =>
    intro s r hr
    have hl : r < (step cfg s e).readers.length := by rw [step_length]; exact hr
    simp only [run, view, List.filterMap_cons]
    rw [ih (step cfg s e) r hl, rd_step cfg s e r hr]
    cases hp : proj r e with
    | none => rfl
    | some e' => rfl

theorem rd_init (kinds : List Bool) (r : Nat) (hr : r < kinds.length) :
    (init kinds).rd r = { udp := kinds[r] } := by
  simp [init, State.rd, List.getD_eq_getElem?_getD, List.getElem?_map, List.getElem?_eq_getElem hr]

end Rtsp.Pipe
