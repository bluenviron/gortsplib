import Rtsp.Model.B64
/-
Base64: one quantum.  `encode` of a group of 1..3 bytes is one quantum of 4 characters; the Go
decoder (`decodeGo`) maps a full quantum back to its three bytes and goes on, and a padded
quantum at the end of its input to the one or two bytes it stands for.
-/
namespace Rtsp.Frame

theorem decodeMap_alphabet (s : Nat) (h : s < 64) : decodeMap (alphabet s) = some s :=
  (by decide : ∀ s : Fin 64, decodeMap (alphabet s.val) = some s.val) ⟨s, h⟩

theorem decodeMap_pad : decodeMap PAD = none := by decide
theorem isNL_pad : isNL PAD = false := by decide

theorem alphabet_ne_pad (s : Nat) : alphabet s ≠ PAD := by
  intro h
  by_cases hs : s < 64
  · have := decodeMap_alphabet s hs
    rw [h, decodeMap_pad] at this
    cases this
  · -- beyond the sextets the alphabet is constant
    rw [alphabet, if_neg (by omega), if_neg (by omega), if_neg (by omega), if_neg (by omega)] at h
    exact absurd h (by decide)


theorem mul_add_div_mod (x y m : Nat) (hm : 0 < m) (hy : y < m) : (x * m + y) / m = x ∧ (x * m + y) % m = y :=
  ⟨by rw [Nat.mul_comm, Nat.mul_add_div hm, Nat.div_eq_of_lt hy, Nat.add_zero],
   by rw [Nat.mul_comm, Nat.mul_add_mod, Nat.mod_eq_of_lt hy]⟩

/-- the sextets `encode` forms from three bytes stand for these bytes -/
theorem quantum3 (a b c : UInt8) :
    quantumBytes (a.toNat / 4) (a.toNat % 4 * 16 + b.toNat / 16) (b.toNat % 16 * 4 + c.toNat / 64) (c.toNat % 64) = [a, b, c] := by
  obtain ⟨d1, m1⟩ := mul_add_div_mod (a.toNat % 4) (b.toNat / 16) 16 (by decide) (Nat.div_lt_of_lt_mul b.toNat_lt)
  obtain ⟨d2, m2⟩ := mul_add_div_mod (b.toNat % 16) (c.toNat / 64) 4 (by decide) (Nat.div_lt_of_lt_mul c.toNat_lt)
  simp only [quantumBytes, d1, m1, d2, m2, Nat.div_add_mod', Nat.toUInt8_eq, UInt8.ofNat_toNat]

/-- a padded quantum is a full one whose missing bytes are zero, cut short -/
theorem quantum2 (a b : UInt8) :
    (quantumBytes (a.toNat / 4) (a.toNat % 4 * 16 + b.toNat / 16) (b.toNat % 16 * 4) 0).take 2 = [a, b] :=
  congrArg (List.take 2) (quantum3 a b 0)

theorem quantum1 (a : UInt8) :
    (quantumBytes (a.toNat / 4) (a.toNat % 4 * 16) 0 0).take 1 = [a] :=
  congrArg (List.take 1) (quantum3 a 0 0)

/-- a group: what one quantum stands for -/
def GroupOK (g : Bytes) : Prop := 1 ≤ g.length ∧ g.length ≤ 3

theorem GroupOK.elim {motive : Bytes → Prop} {g : Bytes} (h : GroupOK g) (h1 : ∀ a, motive [a])
    (h2 : ∀ a b, motive [a, b]) (h3 : ∀ a b c, motive [a, b, c]) : motive g :=
  match g, h with
  | [a], _ => h1 a
  | [a, b], _ => h2 a b
  | [a, b, c], _ => h3 a b c
  | _ :: _ :: _ :: _ :: _, h => absurd h.2 (by simp)
  | [], h => absurd h.1 (by simp)

theorem encode_length (g : Bytes) (h : GroupOK g) : (encode g).length = 4 :=
  h.elim (motive := fun g => (encode g).length = 4) (fun _ => rfl) (fun _ _ => rfl) (fun _ _ _ => rfl)

theorem encode_head_ne_pad (g : Bytes) (h : GroupOK g) : ∃ c r, encode g = c :: r ∧ c ≠ PAD :=
  h.elim (motive := fun g => ∃ c r, encode g = c :: r ∧ c ≠ PAD) (fun _ => ⟨_, _, rfl, alphabet_ne_pad _⟩) (fun _ _ => ⟨_, _, rfl, alphabet_ne_pad _⟩)
    (fun _ _ _ => ⟨_, _, rfl, alphabet_ne_pad _⟩)

theorem sextets_lt (a b c : UInt8) :
    a.toNat / 4 < 64 ∧ a.toNat % 4 * 16 + b.toNat / 16 < 64 ∧ b.toNat % 16 * 4 + c.toNat / 64 < 64 ∧
      c.toNat % 64 < 64 := by
  have := a.toNat_lt; have := b.toNat_lt; have := c.toNat_lt
  omega

theorem decodeGo_quantum (s0 s1 s2 s3 : Nat) (h0 : s0 < 64) (h1 : s1 < 64) (h2 : s2 < 64) (h3 : s3 < 64)
    (X : Bytes) :
    decodeGo [] (alphabet s0 :: alphabet s1 :: alphabet s2 :: alphabet s3 :: X) =
      (decodeGo [] X).map (quantumBytes s0 s1 s2 s3 ++ ·) := by
  simp only [decodeGo, decodeMap_alphabet s0 h0, decodeMap_alphabet s1 h1, decodeMap_alphabet s2 h2,
    decodeMap_alphabet s3 h3, List.nil_append, List.cons_append]

theorem decodeGo_quantum2 (s0 s1 s2 : Nat) (h0 : s0 < 64) (h1 : s1 < 64) (h2 : s2 < 64) :
    decodeGo [] [alphabet s0, alphabet s1, alphabet s2, PAD] = some ((quantumBytes s0 s1 s2 0).take 2) := by
  simp [decodeGo, decodeMap_alphabet s0 h0, decodeMap_alphabet s1 h1, decodeMap_alphabet s2 h2,
    decodeMap_pad, isNL_pad, skipNL]

theorem decodeGo_quantum1 (s0 s1 : Nat) (h0 : s0 < 64) (h1 : s1 < 64) :
    decodeGo [] [alphabet s0, alphabet s1, PAD, PAD] = some ((quantumBytes s0 s1 0 0).take 1) := by
  simp [decodeGo, decodeMap_alphabet s0 h0, decodeMap_alphabet s1 h1, decodeMap_pad, isNL_pad, skipNL]

theorem decodeGo_full (a b c : UInt8) (X : Bytes) :
    decodeGo [] (encode [a, b, c] ++ X) = (decodeGo [] X).map ([a, b, c] ++ ·) := by
  obtain ⟨h0, h1, h2, h3⟩ := sextets_lt a b c
  have := decodeGo_quantum _ _ _ _ h0 h1 h2 h3 X
  rwa [quantum3] at this

theorem decodeGo_pad2 (a b : UInt8) : decodeGo [] (encode [a, b]) = some [a, b] := by
  obtain ⟨h0, h1, _⟩ := sextets_lt a b 0
  have := decodeGo_quantum2 (a.toNat / 4) (a.toNat % 4 * 16 + b.toNat / 16) (b.toNat % 16 * 4) h0 h1 (by omega)
  rwa [quantum2 a b] at this

theorem decodeGo_pad1 (a : UInt8) : decodeGo [] (encode [a]) = some [a] := by
  have := decodeGo_quantum1 (a.toNat / 4) (a.toNat % 4 * 16) (sextets_lt a 0 0).1 (by omega)
  rwa [quantum1 a] at this

end Rtsp.Frame
