import Rtsp.Proofs.Frame.Spec
/-
The primitive readers of `pkg/base/utils.go`, each characterised by what it returns on which
input: `readLim d n` (`readBytesLimited`) returns `ok t r` exactly on `t ++ d :: r` with `d ∉ t`,
`|t| < n`, and `err` exactly when the first `n` bytes are there without `d`.  Round trip, limits
and monotonicity of every field of a request or response are instances of these two facts.
Last, the dispatch of `Conn.Read` on the two bytes it peeks at, as one equation per case.
-/
namespace Rtsp.Frame

@[simp] theorem PR.bind_ok {α β : Type} (a : α) (r : Bytes) (f : α → Bytes → PR β) : (PR.ok a r).bind f = f a r := rfl
@[simp] theorem PR.bind_more {α β : Type} (h : Bool) (f : α → Bytes → PR β) : (PR.more h : PR α).bind f = .more h := rfl
@[simp] theorem PR.bind_err {α β : Type} (f : α → Bytes → PR β) : (PR.err : PR α).bind f = .err := rfl

theorem PR.bind_eq_ok {α β : Type} {x : PR α} {f : α → Bytes → PR β} {b : β} {r : Bytes} :
    x.bind f = .ok b r ↔ ∃ a r', x = .ok a r' ∧ f a r' = .ok b r := by
  cases x with
  | ok a r' => exact ⟨fun h => ⟨a, r', rfl, h⟩, fun ⟨_, _, e, h⟩ => by cases e; exact h⟩
  | more _ => exact ⟨nofun, fun ⟨_, _, e, _⟩ => nomatch e⟩
  | err => exact ⟨nofun, fun ⟨_, _, e, _⟩ => nomatch e⟩

theorem PR.bind_eq_err {α β : Type} {x : PR α} {f : α → Bytes → PR β} :
    x.bind f = .err ↔ x = .err ∨ ∃ a r', x = .ok a r' ∧ f a r' = .err := by
  cases x with
  | ok a r' => exact ⟨fun h => .inr ⟨a, r', rfl, h⟩, fun h => by obtain h | ⟨_, _, e, h⟩ := h; cases h; cases e; exact h⟩
  | more _ => exact ⟨nofun, fun h => by obtain h | ⟨_, _, e, _⟩ := h; cases h; cases e⟩
  | err => exact ⟨fun _ => .inl rfl, fun _ => rfl⟩

theorem PR.bind_assoc {α β γ : Type} (x : PR α) (f : α → Bytes → PR β) (g : β → Bytes → PR γ) :
    (x.bind f).bind g = x.bind fun a r => (f a r).bind g := by
  cases x <;> rfl

theorem hardenKey_eq_ok {α : Type} {x : PR α} {a : α} {r : Bytes} : hardenKey x = .ok a r ↔ x = .ok a r := by
  cases x with
  | ok => exact Iff.rfl
  | more => exact ⟨nofun, nofun⟩
  | err => exact Iff.rfl

theorem readLim_succ_cons (d : UInt8) (n : Nat) (b : UInt8) (bs : Bytes) :
    readLim d (n + 1) (b :: bs) =
      if b = d then .ok [] bs else (readLim d n bs).bind fun t r => .ok (b :: t) r := by
  rw [readLim]; cases readLim d n bs <;> rfl

theorem readLim_eq_ok (d : UInt8) : ∀ {n : Nat} {bs t r : Bytes},
    readLim d n bs = .ok t r ↔ t.length < n ∧ d ∉ t ∧ bs = t ++ d :: r := by
  intro n
  induction n with
  | zero => intro bs t r; exact ⟨nofun, fun h => nomatch h.1⟩
  | succ n ih =>
    intro bs t r
    cases bs with
    | nil => exact ⟨nofun, fun h => by cases t <;> cases h.2.2⟩
    | cons b bs =>
      rw [readLim_succ_cons]
      by_cases hb : b = d
      · subst hb
        rw [if_pos rfl]
        constructor
        · rintro ⟨⟩; exact ⟨Nat.succ_pos _, List.not_mem_nil, rfl⟩
        · rintro ⟨_, h2, h3⟩
          cases t with
          | nil => cases h3; rfl
          | cons c t => cases h3; exact absurd List.mem_cons_self h2
      · rw [if_neg hb, PR.bind_eq_ok]
        constructor
        · rintro ⟨t', r', h, ⟨⟩⟩
          obtain ⟨h1, h2, rfl⟩ := ih.mp h
          exact ⟨Nat.succ_lt_succ h1, List.not_mem_cons_of_ne_of_not_mem (Ne.symm hb) h2, rfl⟩
        · rintro ⟨h1, h2, h3⟩
          cases t with
          | nil => cases h3; exact absurd rfl hb
          | cons c t =>
            cases h3
            exact ⟨t, r, ih.mpr ⟨Nat.lt_of_succ_lt_succ h1, fun h => h2 (List.mem_cons_of_mem _ h), rfl⟩, rfl⟩

theorem readLim_eq_err (d : UInt8) : ∀ {n : Nat} {bs : Bytes},
    readLim d n bs = .err ↔ n ≤ bs.length ∧ d ∉ bs.take n := by
  intro n
  induction n with
  | zero => intro bs; exact ⟨fun _ => ⟨Nat.zero_le _, List.not_mem_nil⟩, fun _ => by cases bs <;> rfl⟩
  | succ n ih =>
    intro bs
    cases bs with
    | nil => exact ⟨nofun, fun h => nomatch h.1⟩
    | cons b bs =>
      by_cases hb : b = d
      · simp [readLim_succ_cons, hb]
      · simp [readLim_succ_cons, hb, Ne.symm hb, PR.bind_eq_err, ih]

theorem readLim_token {d : UInt8} {t : Bytes} {n : Nat} {rest : Bytes} (hd : d ∉ t) (hn : t.length < n) :
    readLim d n (t ++ d :: rest) = .ok t rest :=
  (readLim_eq_ok d).mpr ⟨hn, hd, rfl⟩

theorem readLim_refuses {d : UInt8} {n : Nat} {bs : Bytes} (hl : n ≤ bs.length) (hd : d ∉ bs.take n) :
    readLim d n bs = .err :=
  (readLim_eq_err d).mpr ⟨hl, hd⟩

theorem readLimSC_succ_cons (n : Nat) (b : UInt8) (bs : Bytes) :
    readLimSC (n + 1) (b :: bs) =
      if b = SP ∨ b = CR then .ok ([], b) bs else (readLimSC n bs).bind fun td r => .ok (b :: td.1, td.2) r := by
  rw [readLimSC]; cases readLimSC n bs <;> rfl

theorem readLimSC_eq_ok : ∀ {n : Nat} {bs t r : Bytes} {d : UInt8},
    readLimSC n bs = .ok (t, d) r ↔ t.length < n ∧ SP ∉ t ∧ CR ∉ t ∧ (d = SP ∨ d = CR) ∧ bs = t ++ d :: r := by
  intro n
  induction n with
  | zero => intro bs t r d; exact ⟨nofun, fun h => nomatch h.1⟩
  | succ n ih =>
    intro bs t r d
    cases bs with
    | nil => exact ⟨nofun, fun h => by cases t <;> cases h.2.2.2.2⟩
    | cons b bs =>
      rw [readLimSC_succ_cons]
      by_cases hb : b = SP ∨ b = CR
      · rw [if_pos hb]
        constructor
        · rintro ⟨⟩; exact ⟨Nat.succ_pos _, List.not_mem_nil, List.not_mem_nil, hb, rfl⟩
        · rintro ⟨_, h2, h3, _, h5⟩
          cases t with
          | nil => cases h5; rfl
          | cons c t =>
            cases h5
            rcases hb with rfl | rfl
            · exact absurd List.mem_cons_self h2
            · exact absurd List.mem_cons_self h3
      · rw [if_neg hb, PR.bind_eq_ok]
        rw [not_or] at hb
        constructor
        · rintro ⟨⟨t', d'⟩, r', h, ⟨⟩⟩
          obtain ⟨h1, h2, h3, h4, rfl⟩ := ih.mp h
          exact ⟨Nat.succ_lt_succ h1, List.not_mem_cons_of_ne_of_not_mem (Ne.symm hb.1) h2,
            List.not_mem_cons_of_ne_of_not_mem (Ne.symm hb.2) h3, h4, rfl⟩
        · rintro ⟨h1, h2, h3, h4, h5⟩
          cases t with
          | nil => cases h5; exact absurd h4 (not_or.mpr hb)
          | cons c t =>
            cases h5
            exact ⟨(t, d), r, ih.mpr ⟨Nat.lt_of_succ_lt_succ h1, fun h => h2 (List.mem_cons_of_mem _ h),
              fun h => h3 (List.mem_cons_of_mem _ h), h4, rfl⟩, rfl⟩

theorem readLimSC_eq_err : ∀ {n : Nat} {bs : Bytes},
    readLimSC n bs = .err ↔ n ≤ bs.length ∧ SP ∉ bs.take n ∧ CR ∉ bs.take n := by
  intro n
  induction n with
  | zero => intro bs; exact ⟨fun _ => ⟨Nat.zero_le _, List.not_mem_nil, List.not_mem_nil⟩, fun _ => by cases bs <;> rfl⟩
  | succ n ih =>
    intro bs
    cases bs with
    | nil => exact ⟨nofun, fun h => nomatch h.1⟩
    | cons b bs =>
      by_cases hb : b = SP ∨ b = CR
      · rcases hb with rfl | rfl <;> simp [readLimSC_succ_cons]
      · have hb' := not_or.mp hb
        simp [readLimSC_succ_cons, hb, Ne.symm hb'.1, Ne.symm hb'.2, PR.bind_eq_err, ih]

theorem readLimSC_token (t : Bytes) (n : Nat) (d : UInt8) (rest : Bytes)
    (hs : SP ∉ t) (hc : CR ∉ t) (hd : d = SP ∨ d = CR) (hn : t.length < n) :
    readLimSC n (t ++ d :: rest) = .ok (t, d) rest :=
  readLimSC_eq_ok.mpr ⟨hn, hs, hc, hd, rfl⟩

theorem readFull_eq_ok {n : Nat} {bs t r : Bytes} : readFull n bs = .ok t r ↔ t.length = n ∧ bs = t ++ r := by
  rw [readFull]
  constructor
  · intro h
    split at h
    · cases h; exact ⟨List.length_take_of_le ‹_›, (List.take_append_drop n bs).symm⟩
    · cases h
  · rintro ⟨rfl, rfl⟩
    rw [if_pos (by simp), List.take_left' rfl, List.drop_left' rfl]

theorem readFull_append (b rest : Bytes) : readFull b.length (b ++ rest) = .ok b rest :=
  readFull_eq_ok.mpr ⟨rfl, rfl⟩

theorem readFull_append' (n : Nat) (b rest : Bytes) (h : b.length = n) : readFull n (b ++ rest) = .ok b rest := by
  subst h; exact readFull_append b rest

theorem skipSpaces_nonspace (bs : Bytes) (h : bs.head? ≠ some SP) (hne : bs ≠ []) : skipSpaces bs = .ok () bs := by
  cases bs with
  | nil => exact absurd rfl hne
  | cons b r =>
    have : b ≠ SP := fun e => h (by rw [e]; rfl)
    rw [skipSpaces, if_neg this]

theorem readElem_cons_cons (up : Bytes → Option Bytes) (b0 b1 : UInt8) (t : Bytes) :
    readElem up (b0 :: b1 :: t) =
      if b0 = MAGIC then (parseFrame (b0 :: b1 :: t)).bind fun f r => .ok (.frame f) r
      else if b0 = 82 ∧ b1 = 84 then (parseResponse (b0 :: b1 :: t)).bind fun x r => .ok (.res x) r
      else if isReqPrefix b0 b1 then (parseRequest up (b0 :: b1 :: t)).bind fun x r => .ok (.req x) r
      else readElem up (b1 :: t) := rfl

theorem isReqPrefix_not_magic (a b : UInt8) (h : isReqPrefix a b = true) : a ≠ MAGIC ∧ ¬(a = 82 ∧ b = 84) := by
  simp only [isReqPrefix, Bool.or_eq_true, Bool.and_eq_true, decide_eq_true_eq] at h
  constructor
  · rintro rfl
    revert h
    simp [MAGIC]
  · rintro ⟨rfl, rfl⟩
    revert h
    simp

theorem readElem_frame (up : Bytes → Option Bytes) (b1 : UInt8) (t : Bytes) :
    readElem up (MAGIC :: b1 :: t) = (parseFrame (MAGIC :: b1 :: t)).bind fun f r => .ok (.frame f) r := rfl

theorem readElem_res (up : Bytes → Option Bytes) (t : Bytes) :
    readElem up (82 :: 84 :: t) = (parseResponse (82 :: 84 :: t)).bind fun x r => .ok (.res x) r := rfl

theorem readElem_req (up : Bytes → Option Bytes) {b0 b1 : UInt8} {t : Bytes} (h : isReqPrefix b0 b1 = true) :
    readElem up (b0 :: b1 :: t) = (parseRequest up (b0 :: b1 :: t)).bind fun x r => .ok (.req x) r := by
  have := isReqPrefix_not_magic b0 b1 h
  rw [readElem_cons_cons, if_neg this.1, if_neg this.2, if_pos h]

theorem readElem_skip (up : Bytes → Option Bytes) {a b : UInt8} {t : Bytes} (h : Skippable a b) :
    readElem up (a :: b :: t) = readElem up (b :: t) := by
  rw [readElem_cons_cons, if_neg h.1, if_neg h.2.1, if_neg (by rw [h.2.2]; nofun)]

theorem readElem_garbage (up : Bytes → Option Bytes) : ∀ (g : Bytes) (b : UInt8) (t : Bytes), Garbage g b →
    readElem up (g ++ b :: t) = readElem up (b :: t) := by
  intro g
  induction g with
  | nil => intro b t _; rfl
  | cons a r ih =>
    intro b t hg
    cases r with
    | nil =>
      simp only [List.cons_append, List.nil_append]
      exact readElem_skip up hg
    | cons a2 r2 =>
      have hg' : Skippable a a2 ∧ Garbage (a2 :: r2) b := hg
      simp only [List.cons_append]
      rw [readElem_skip up hg'.1]
      exact ih b t hg'.2

theorem dispatch_cases (a b : UInt8) :
    a = MAGIC ∨ (a = 82 ∧ b = 84) ∨ isReqPrefix a b = true ∨ Skippable a b := by
  by_cases h1 : a = MAGIC
  · exact .inl h1
  · by_cases h2 : a = 82 ∧ b = 84
    · exact .inr (.inl h2)
    · cases h3 : isReqPrefix a b
      · exact .inr (.inr (.inr ⟨h1, h2, h3⟩))
      · exact .inr (.inr (.inl rfl))

end Rtsp.Frame
