import Rtsp.Proofs.Frame.Read
import Rtsp.Proofs.Frame.Decimal
import Rtsp.Proofs.Frame.Sort
/-
The header block (`Header.marshal` / `Header.unmarshal`) and the body: the parser consumes a
well-formed `key: value` line in one step (`parseHeaders_line`); round trip, line count and
oversize refusals all iterate that step.
-/
namespace Rtsp.Frame
open Rtsp.Facts.Frame

/-- the `(key, value)` lines of a header in marshalling order -/
def pairs (h : Header) : List (Bytes × Bytes) := h.flatMap fun e => e.2.map fun v => (e.1, v)

theorem marshalEntry_eq (e : Bytes × List Bytes) :
    marshalEntry e = (e.2.map fun v => (e.1, v)).flatMap line := by
  simp only [marshalEntry, line, List.flatMap_map]

theorem flatMap_marshalEntry (h : Header) : h.flatMap marshalEntry = (pairs h).flatMap line := by
  induction h with
  | nil => rfl
  | cons e r ih => simp only [List.flatMap_cons, pairs, marshalEntry_eq, List.flatMap_append] at ih ⊢; rw [ih]

theorem pairs_length (h : Header) : (pairs h).length = entryCount h := by
  induction h with
  | nil => rfl
  | cons e r ih =>
    simp only [pairs, List.flatMap_cons, List.length_append, List.length_map, entryCount, List.map_cons, List.sum_cons] at ih ⊢
    rw [ih]

theorem parseHeaders_key (fuel : Nat) (acc : Header) (k v : Bytes) (hk : KeyOK k) (hsp : v.head? ≠ some SP) :
    parseHeaders (fuel + 1) acc (k ++ [COLON, SP] ++ v) =
      (readLim CR headerValueReadLimit v).bind fun val bs =>
      (readByteEqual LF bs).bind fun _ bs => parseHeaders fuel (hinsert acc k val) bs := by
  obtain ⟨hnorm, b, t, rfl, hb, hcolon, htlen⟩ := hk
  have hshape : (b :: t) ++ [COLON, SP] ++ v = b :: (t ++ COLON :: (SP :: v)) := by simp
  rw [hshape]
  simp only [parseHeaders, hb, if_false, readLim_token hcolon htlen, hardenKey, PR.bind_ok,
    skipSpaces, if_true, hnorm]
  -- with no byte of the value there yet both sides wait
  cases v with
  | nil => rfl
  | cons c r => rw [skipSpaces_nonspace _ hsp nofun, PR.bind_ok]

theorem parseHeaders_line (fuel : Nat) (acc : Header) {p : Bytes × Bytes} {X : Bytes}
    (hk : KeyOK p.1) (hv : ValueOK p.2) :
    parseHeaders (fuel + 1) acc (line p ++ X) = parseHeaders fuel (hinsert acc p.1 p.2) X := by
  obtain ⟨k, v⟩ := p
  obtain ⟨hcr, hsp, hvlen⟩ := hv
  have hshape : line (k, v) ++ X = k ++ [COLON, SP] ++ (v ++ CR :: LF :: X) := by simp [line, crlf]
  have hhead : (v ++ CR :: LF :: X).head? ≠ some SP := by
    cases v with
    | nil => simp [CR, SP]
    | cons c r => simpa using hsp
  rw [hshape, parseHeaders_key fuel acc k _ hk hhead, readLim_token hcr hvlen]
  simp only [PR.bind_ok, readByteEqual, if_true]

theorem parseHeaders_zero (acc : Header) (k X : Bytes) (hk : KeyOK k) : parseHeaders 0 acc (k ++ X) = .err := by
  obtain ⟨_, b, t, rfl, hb, _⟩ := hk
  simp only [List.cons_append, parseHeaders, hb, if_false]

theorem parseHeaders_end (fuel : Nat) (acc : Header) (rest : Bytes) :
    parseHeaders fuel acc (crlf ++ rest) = .ok acc rest := by
  cases fuel <;> simp [parseHeaders, crlf, readByteEqual]

/-- well-formed lines at the start of a header block are consumed one by one -/
theorem parseHeaders_skip_lines : ∀ (ps : List (Bytes × Bytes)) (fuel : Nat) (acc : Header) (X : Bytes),
    (∀ p ∈ ps, KeyOK p.1 ∧ ValueOK p.2) →
    parseHeaders (fuel + ps.length) acc (ps.flatMap line ++ X) =
      parseHeaders fuel (ps.foldl (fun a p => hinsert a p.1 p.2) acc) X := by
  intro ps
  induction ps with
  | nil => intro fuel acc X _; rfl
  | cons p ps ih =>
    intro fuel acc X hok
    have hp := hok p List.mem_cons_self
    rw [List.flatMap_cons, List.append_assoc, List.length_cons, ← Nat.add_assoc,
      parseHeaders_line _ acc hp.1 hp.2, List.foldl_cons]
    exact ih fuel _ X fun q hq => hok q (List.mem_cons_of_mem _ hq)

theorem parseHeaders_lines (ps : List (Bytes × Bytes)) (fuel : Nat) (acc : Header) (rest : Bytes)
    (hok : ∀ p ∈ ps, KeyOK p.1 ∧ ValueOK p.2) (hlen : ps.length ≤ fuel) :
    parseHeaders fuel acc (ps.flatMap line ++ crlf ++ rest) =
      .ok (ps.foldl (fun a p => hinsert a p.1 p.2) acc) rest := by
  obtain ⟨f, rfl⟩ : ∃ f, fuel = f + ps.length := ⟨fuel - ps.length, by omega⟩
  rw [List.append_assoc, parseHeaders_skip_lines ps f acc _ hok, parseHeaders_end]

theorem parseHeaders_refuses_count : ∀ (ps : List (Bytes × Bytes)) (fuel : Nat) (acc : Header) (rest : Bytes),
    (∀ p ∈ ps, KeyOK p.1 ∧ ValueOK p.2) → fuel < ps.length →
    parseHeaders fuel acc (ps.flatMap line ++ rest) = .err := by
  intro ps
  induction ps with
  | nil => intro fuel acc rest _ h; exact absurd h (Nat.not_lt_zero _)
  | cons p ps ih =>
    intro fuel acc rest hok hlen
    have hp := hok p List.mem_cons_self
    rw [List.flatMap_cons, List.append_assoc]
    cases fuel with
    | zero => simp only [line, List.append_assoc]; exact parseHeaders_zero acc p.1 _ hp.1
    | succ fuel =>
      rw [parseHeaders_line fuel acc hp.1 hp.2]
      exact ih fuel _ rest (fun q hq => hok q (List.mem_cons_of_mem _ hq)) (Nat.lt_of_succ_lt_succ hlen)

theorem foldl_hinsert_same (acc : Header) (k : Bytes) (h : k ∉ keysOf acc) : ∀ (vs done : List Bytes),
    (vs.map fun v => (k, v)).foldl (fun a p => hinsert a p.1 p.2) (acc ++ [(k, done)]) = acc ++ [(k, done ++ vs)] := by
  intro vs
  induction vs with
  | nil => intro done; simp
  | cons v vs ih =>
    intro done
    simp only [List.map_cons, List.foldl_cons, hinsert_last acc k done v h]
    rw [ih (done ++ [v])]
    simp

theorem foldl_hinsert_pairs : ∀ (h acc : Header),
    (h.map (·.1)).Nodup → (∀ e ∈ h, e.1 ∉ keysOf acc ∧ e.2 ≠ []) →
    (pairs h).foldl (fun a p => hinsert a p.1 p.2) acc = acc ++ h := by
  intro h
  induction h with
  | nil => intro acc _ _; simp [pairs]
  | cons e r ih =>
    intro acc hnd hnew
    obtain ⟨k, vs⟩ := e
    have hk := hnew (k, vs) (by simp)
    cases vs with
    | nil => exact absurd rfl hk.2
    | cons v vs =>
      simp only [pairs, List.flatMap_cons, List.map_cons, List.foldl_append, List.foldl_cons]
      rw [hinsert_new acc k v hk.1, foldl_hinsert_same acc k hk.1 vs [v]]
      simp only [List.map_cons, List.nodup_cons] at hnd
      have hr := ih (acc ++ [(k, [v] ++ vs)]) hnd.2 (by
        intro e he
        refine ⟨?_, (hnew e (by simp [he])).2⟩
        intro hm
        simp only [keysOf, List.map_append, List.map_cons, List.map_nil, List.mem_append, List.mem_singleton] at hm
        rcases hm with hm | hm
        · exact (hnew e (by simp [he])).1 hm
        · exact hnd.1 (by rw [← hm]; exact List.mem_map_of_mem he))
      simp only [pairs] at hr
      rw [hr]
      simp

theorem headerOK_iff_shape (h : Header) : HeaderOK h ↔ HeaderShape h ∧ entryCount h ≤ headerMaxEntryCount := by
  simp only [HeaderOK, HeaderShape, and_assoc]

theorem pairs_ok (h : Header) (hs : HeaderShape h) : ∀ p ∈ pairs h, KeyOK p.1 ∧ ValueOK p.2 := by
  intro p hp
  simp only [pairs, List.mem_flatMap, List.mem_map] at hp
  obtain ⟨e, he, v, hv, rfl⟩ := hp
  exact ⟨(hs.1 e he).1, (hs.1 e he).2.2 v hv⟩

theorem parseHeaders_marshalHeader (h : Header) (rest : Bytes) (hok : HeaderOK h) :
    parseHeaders headerMaxEntryCount [] (marshalHeader h ++ rest) = .ok h rest := by
  obtain ⟨hs, hcount⟩ := (headerOK_iff_shape h).mp hok
  rw [marshalHeader, sortKeys_eq_self h hs.2, flatMap_marshalEntry,
    parseHeaders_lines (pairs h) headerMaxEntryCount [] rest (pairs_ok h hs) (by rw [pairs_length]; exact hcount),
    foldl_hinsert_pairs h [] (nodup_of_sorted h hs.2) (fun e he => ⟨List.not_mem_nil, (hs.1 e he).2.1⟩)]
  rfl

theorem parseHeaders_refuses_marshal {h : Header} {rest : Bytes} (hs : HeaderShape h)
    (hc : headerMaxEntryCount < entryCount h) :
    parseHeaders headerMaxEntryCount [] (marshalHeader h ++ rest) = .err := by
  rw [marshalHeader, sortKeys_eq_self h hs.2, flatMap_marshalEntry, List.append_assoc]
  exact parseHeaders_refuses_count (pairs h) headerMaxEntryCount [] _ (pairs_ok h hs) (by rw [pairs_length]; exact hc)

theorem parseBody_ok (h : Header) (body rest : Bytes) (hb : BodyOK h body) :
    parseBody h (body ++ rest) = .ok body rest := by
  obtain ⟨hlen, hcl⟩ := hb
  by_cases he : body = []
  · subst he; simp [parseBody, hcl]
  · simp only [he, if_false] at hcl
    have hp : parseUint 64 (toDec body.length) = some body.length :=
      parseUint_toDec 64 body.length (by
        have : rtspMaxBodySize < 2 ^ 64 := by decide
        omega)
    simp only [parseBody, hcl, hp]
    have : ¬ body.length > rtspMaxBodySize := by omega
    simp only [this, if_false]
    exact readFull_append body rest

theorem parseBody_refuses (h : Header) (v bs : Bytes) (hl : hlookup h kContentLength = some [v])
    (hv : ∀ cl, parseUint 64 v = some cl → cl > rtspMaxBodySize) : parseBody h bs = .err := by
  unfold parseBody
  rw [hl]
  simp only
  cases hp : parseUint 64 v with
  | none => rfl
  | some cl => simp [hv cl hp]

theorem parseBody_refuses_toDec (h : Header) (n : Nat) (bs : Bytes)
    (hl : hlookup h kContentLength = some [toDec n]) (hn : rtspMaxBodySize < n) : parseBody h bs = .err := by
  apply parseBody_refuses h (toDec n) bs hl
  intro cl hcl
  rw [parseUint_toDec_full] at hcl
  split at hcl
  · simp only [Option.some.injEq] at hcl; omega
  · cases hcl

theorem withContentLength_ok (h : Header) (body : Bytes) (hb : BodyOK h body) : withContentLength h body = h := by
  unfold withContentLength
  by_cases he : body = []
  · simp [he]
  · simp only [he, if_false]
    have := hb.2
    simp only [he, if_false] at this
    exact hset_same h _ _ this

end Rtsp.Frame
