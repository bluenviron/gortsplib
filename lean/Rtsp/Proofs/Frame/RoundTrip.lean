import Rtsp.Proofs.Frame.Header
import Rtsp.Proofs.Frame.Chunk
/-
Round trip: what `Marshal` writes, `Conn.Read` reads back.  First for elements in the form the
parser returns them (`WellFormed` of `WF.lean`: header keys sorted, `Content-Length` in place), then for what a
caller hands to `Conn.Write*` (`WritableOK` of `Spec`): a Go `map` has no order and `Marshal` completes the
message (`Content-Length`, default status message); `canon` (`Spec`) is the element as `Marshal` writes it,
and what is read back is `canon` of what was written, for any header whose keys are distinct.
-/
namespace Rtsp.Frame
open Rtsp.Facts.Frame

theorem rtsp10_eq : rtsp10 = [82, 84, 83, 80, 47, 49, 46, 48] := by decide

theorem sp_not_in_rtsp10 : SP ∉ rtsp10 := by rw [rtsp10_eq]; decide
theorem cr_not_in_rtsp10 : CR ∉ rtsp10 := by rw [rtsp10_eq]; decide
theorem sp_not_in_star : SP ∉ star := by decide

theorem parseRequest_line (up : Bytes → Option Bytes) (method : Bytes) (url : Option Bytes) (X : Bytes)
    (hne : method ≠ []) (hmsp : SP ∉ method) (hmlen : method.length < requestMaxMethodLength)
    (hurl : ∀ u, url = some u → u ≠ star ∧ SP ∉ u ∧ u.length < requestMaxURLLength ∧ up u = some u) :
    parseRequest up (method ++ SP :: (url.getD star ++ SP :: (rtsp10 ++ CR :: (LF :: X)))) =
      (parseHeaders headerMaxEntryCount [] X).bind fun h bs =>
      (parseBody h bs).bind fun body bs => .ok { method, url, header := h, body } bs := by
  have hu : SP ∉ url.getD star ∧ (url.getD star).length < requestMaxURLLength ∧
      (if url.getD star = star then some none else (up (url.getD star)).map some) = some url := by
    cases hu : url with
    | none => exact ⟨sp_not_in_star, by decide, by simp⟩
    | some u =>
      have := hurl u hu
      simp only [Option.getD_some]
      exact ⟨this.2.1, this.2.2.1, by simp [this.1, this.2.2.2]⟩
  unfold parseRequest
  rw [readLim_token hmsp hmlen]
  simp only [PR.bind_ok, hne, if_false]
  rw [readLim_token hu.1 hu.2.1]
  simp only [PR.bind_ok, hu.2.2]
  rw [readLim_token (n := requestMaxProtocolLength) cr_not_in_rtsp10 (by rw [rtsp10_eq]; decide)]
  simp only [PR.bind_ok, ne_eq, not_true_eq_false, if_false, readByteEqual, if_true]

theorem parseResponse_line (code : Nat) (msg X : Bytes) (hcode : code < 1000) (hmcr : CR ∉ msg)
    (hmlen : msg.length < responseMaxStatusMessageLength) :
    parseResponse (rtsp10 ++ SP :: (toDec code ++ SP :: (msg ++ CR :: (LF :: X)))) =
      (parseHeaders headerMaxEntryCount [] X).bind fun h bs =>
      (parseBody h bs).bind fun body bs => .ok { code, msg, header := h, body } bs := by
  unfold parseResponse
  rw [readLim_token (n := responseMaxProtocolLength) sp_not_in_rtsp10 (by rw [rtsp10_eq]; decide)]
  simp only [PR.bind_ok, ne_eq, not_true_eq_false, if_false]
  have hdig := toDec_all_digits code
  have hlen : (toDec code).length < responseMaxStatusCodeLength := by
    have := toDec_length_le code 2 (by omega)
    show _ < 4
    omega
  rw [readLimSC_token (toDec code) responseMaxStatusCodeLength SP _
    (Text.not_mem_of_all hdig (by decide)) (Text.not_mem_of_all hdig (by decide)) (Or.inl rfl) hlen]
  simp only [PR.bind_ok]
  rw [parseUint_toDec responseStatusCodeBits code (by
    have : (1000 : Nat) < 2 ^ responseStatusCodeBits := by decide
    omega)]
  simp only [if_true]
  rw [readLim_token hmcr hmlen]
  simp only [PR.bind_ok, readByteEqual, if_true]

theorem readElem_request_line (up : Bytes → Option Bytes) (method : Bytes) (url : Option Bytes) (X : Bytes)
    (hm : ∃ b0 b1 t, method = b0 :: b1 :: t ∧ isReqPrefix b0 b1 = true)
    (hmsp : SP ∉ method) (hmlen : method.length < requestMaxMethodLength)
    (hurl : ∀ u, url = some u → u ≠ star ∧ SP ∉ u ∧ u.length < requestMaxURLLength ∧ up u = some u) :
    readElem up (method ++ SP :: (url.getD star ++ SP :: (rtsp10 ++ CR :: (LF :: X)))) =
      (parseHeaders headerMaxEntryCount [] X).bind fun h bs =>
      (parseBody h bs).bind fun body bs => .ok (.req { method, url, header := h, body }) bs := by
  obtain ⟨b0, b1, t, rfl, hp⟩ := hm
  have := parseRequest_line up (b0 :: b1 :: t) url X nofun hmsp hmlen hurl
  rw [List.cons_append, List.cons_append] at this ⊢
  rw [readElem_req up hp, this]
  simp only [PR.bind_assoc, PR.bind_ok]

theorem readElem_response_line (up : Bytes → Option Bytes) (code : Nat) (msg X : Bytes) (hcode : code < 1000)
    (hmcr : CR ∉ msg) (hmlen : msg.length < responseMaxStatusMessageLength) :
    readElem up (rtsp10 ++ SP :: (toDec code ++ SP :: (msg ++ CR :: (LF :: X)))) =
      (parseHeaders headerMaxEntryCount [] X).bind fun h bs =>
      (parseBody h bs).bind fun body bs => .ok (.res { code, msg, header := h, body }) bs := by
  have := parseResponse_line code msg X hcode hmcr hmlen
  rw [rtsp10_eq, List.cons_append, List.cons_append] at this ⊢
  rw [readElem_res, this]
  simp only [PR.bind_assoc, PR.bind_ok]

theorem marshalRequest_append (r : Request) (rest : Bytes) :
    marshalRequest r ++ rest = r.method ++ SP :: (r.url.getD star ++ SP :: (rtsp10 ++ CR :: (LF ::
      (marshalHeader (withContentLength r.header r.body) ++ (r.body ++ rest))))) := by
  simp [marshalRequest, crlf, List.append_assoc]

theorem marshalResponse_append (r : Response) (rest : Bytes) :
    marshalResponse r ++ rest = rtsp10 ++ SP :: (toDec r.code ++ SP :: (effectiveMessage r ++ CR :: (LF ::
      (marshalHeader (withContentLength r.header r.body) ++ (r.body ++ rest))))) := by
  simp [marshalResponse, crlf, List.append_assoc]

theorem effectiveMessage_ok (r : Response) (h : r.msg ≠ [] ∨ defaultStatusMessage r.code = none) :
    effectiveMessage r = r.msg := by
  unfold effectiveMessage
  by_cases he : r.msg = []
  · rcases h with h | h
    · exact absurd he h
    · simp [he, h]
  · simp [he]

theorem parseFrame_marshal (f : IFrame) (rest : Bytes) (hf : FrameOK f) :
    parseFrame (marshalFrame f ++ rest) = .ok f rest := by
  obtain ⟨hc, hl⟩ := hf
  have e1 : (f.payload.length / 256).toUInt8.toNat * 256 + f.payload.length.toUInt8.toNat = f.payload.length := by
    rw [Nat.toUInt8_eq, Nat.toUInt8_eq, UInt8.toNat_ofNat', UInt8.toNat_ofNat',
      Nat.mod_eq_of_lt (Nat.div_lt_of_lt_mul hl), Nat.div_add_mod']
  have e2 : f.channel.toUInt8.toNat = f.channel := by
    rw [Nat.toUInt8_eq, UInt8.toNat_ofNat', Nat.mod_eq_of_lt hc]
  unfold parseFrame
  rw [marshalFrame, List.append_assoc, readFull_append' 4 _ _ rfl]
  simp only [PR.bind_ok, ne_eq, not_true_eq_false, if_false]
  rw [e1, readFull_append, PR.bind_ok, e2]

theorem readElem_marshal (up : Bytes → Option Bytes) (e : Elem) (rest : Bytes) (he : WellFormed up e) :
    readElem up (marshalElem e ++ rest) = .ok e rest := by
  cases e with
  | req r =>
    obtain ⟨hm, hmsp, hmlen, hurl, hh, hb⟩ := (he : RequestOK up r)
    rw [marshalElem, marshalRequest_append, withContentLength_ok r.header r.body hb,
      readElem_request_line up r.method r.url _ hm hmsp hmlen hurl,
      parseHeaders_marshalHeader r.header _ hh, PR.bind_ok, parseBody_ok r.header r.body rest hb]
    rfl
  | res r =>
    obtain ⟨hcode, hmcr, hmlen, hmsg, hh, hb⟩ := (he : ResponseOK r)
    rw [marshalElem, marshalResponse_append, withContentLength_ok r.header r.body hb, effectiveMessage_ok r hmsg,
      readElem_response_line up r.code r.msg _ hcode hmcr hmlen,
      parseHeaders_marshalHeader r.header _ hh, PR.bind_ok, parseBody_ok r.header r.body rest hb]
    rfl
  | frame f =>
    have := parseFrame_marshal f rest he
    rw [marshalElem]
    simp only [marshalFrame, List.cons_append] at this ⊢
    rw [readElem_frame, this]
    rfl

theorem serializeAll_cons (e : Elem) (es : List Elem) : serializeAll (e :: es) = marshalElem e ++ serializeAll es := rfl

theorem drainL_serializeAll (up : Bytes → Option Bytes) : ∀ (es : List Elem), (∀ e ∈ es, WellFormed up e) →
    drainL up (serializeAll es) = (es, .more false [])
  | [], _ => by rw [drainL_unfold]; rfl
  | e :: es, h => by
    obtain ⟨he, hes⟩ := List.forall_mem_cons.mp h
    rw [serializeAll_cons, drainL_unfold, readElem_marshal up e _ he]
    simp only [drainL_serializeAll up es hes]

theorem parse_serialize (up : Bytes → Option Bytes) (es : List Elem) (h : ∀ e ∈ es, WellFormed up e) :
    parseAll up (serializeAll es) = (es, .eof) := by
  rw [parseAll_eq, drainL_serializeAll up es h]
  rfl

theorem headerOK_sortKeys (h : Header) (hm : HeaderMapOK h) : HeaderOK (sortKeys h) :=
  ⟨fun e he => hm.1 e ((sortKeys_perm h).mem_iff.mp he), sorted_sortKeys h hm.2.1, by rw [entryCount_sortKeys]; exact hm.2.2⟩

theorem marshalHeader_sortKeys (h : Header) (hn : (keysOf h).Nodup) : marshalHeader (sortKeys h) = marshalHeader h := by
  simp only [marshalHeader, sortKeys_idem h hn]

theorem keysOf_withContentLength_nodup (h : Header) (body : Bytes) (hn : (keysOf h).Nodup) :
    (keysOf (withContentLength h body)).Nodup := by
  unfold withContentLength
  split
  · exact hn
  · exact keysOf_hset_nodup h _ _ hn

theorem bodyOK_canonHeader (h : Header) (body : Bytes) (hn : (keysOf (withContentLength h body)).Nodup)
    (hl : body.length ≤ rtspMaxBodySize) (he : body = [] → hlookup h kContentLength = none) :
    BodyOK (canonHeader h body) body := by
  refine ⟨hl, ?_⟩
  -- sorting changes no lookup; `Content-Length` is what `withContentLength` set, or absent as in `h`
  rw [canonHeader, hlookup_sortKeys _ _ hn, withContentLength]
  by_cases hb : body = []
  · rw [if_pos hb, if_pos hb]; exact he hb
  · rw [if_neg hb, if_neg hb, hlookup_hset]

theorem str_eq_nil_iff (s : String) : str s = [] ↔ s = "" := by
  simp [str]

theorem defaultStatusMessage_ne_nil {c : Nat} {m : Bytes} (h : defaultStatusMessage c = some m) : m ≠ [] := by
  have : ∀ p ∈ statusMessages, p.2 ≠ [] := by
    simp only [statusMessages, List.forall_mem_cons, ne_eq, str_eq_nil_iff, String.reduceEq, not_false_eq_true,
      and_self, List.not_mem_nil, false_imp_iff, implies_true]
  simp only [defaultStatusMessage, Option.map_eq_some_iff] at h
  obtain ⟨p, hp, rfl⟩ := h
  exact this p (List.mem_of_find?_eq_some hp)

theorem effectiveMessage_complete (r : Response) :
    effectiveMessage r ≠ [] ∨ defaultStatusMessage r.code = none := by
  unfold effectiveMessage
  by_cases hm : r.msg = []
  · rw [if_pos hm]
    cases hd : defaultStatusMessage r.code with
    | none => exact .inr rfl
    | some m => exact .inl (defaultStatusMessage_ne_nil hd)
  · rw [if_neg hm]; exact .inl hm

theorem effectiveMessage_idem (r : Response) (h : Header) :
    effectiveMessage { r with header := h, msg := effectiveMessage r } = effectiveMessage r :=
  effectiveMessage_ok _ (effectiveMessage_complete r)

theorem canon_wellFormed (up : Bytes → Option Bytes) (e : Elem) (h : WritableOK up e) : WellFormed up (canon e) := by
  cases e with
  | req r =>
    obtain ⟨hm, hsp, hlen, hurl, hh, hb, he⟩ := h
    exact ⟨hm, hsp, hlen, hurl, headerOK_sortKeys _ hh, bodyOK_canonHeader _ _ hh.2.1 hb he⟩
  | res r =>
    obtain ⟨hc, hcr, hml, hh, hb, he⟩ := h
    exact ⟨hc, hcr, hml, effectiveMessage_complete r, headerOK_sortKeys _ hh, bodyOK_canonHeader _ _ hh.2.1 hb he⟩
  | frame f => exact h

theorem marshal_canon (up : Bytes → Option Bytes) (e : Elem) (h : WritableOK up e) : marshalElem (canon e) = marshalElem e := by
  -- the canonical header has its `Content-Length` in place (`bodyOK_canonHeader`), so `Marshal` adds nothing and sorts nothing
  have hdr : ∀ (hd : Header) (body : Bytes), HeaderMapOK (withContentLength hd body) → body.length ≤ rtspMaxBodySize →
      (body = [] → hlookup hd kContentLength = none) →
      marshalHeader (withContentLength (canonHeader hd body) body) = marshalHeader (withContentLength hd body) :=
    fun hd body hh hb he => by
      rw [withContentLength_ok _ _ (bodyOK_canonHeader hd body hh.2.1 hb he), canonHeader, marshalHeader_sortKeys _ hh.2.1]
  cases e with
  | req r =>
    obtain ⟨_, _, _, _, hh, hb, he⟩ := h
    simp only [canon, marshalElem, marshalRequest, hdr _ _ hh hb he]
  | res r =>
    obtain ⟨_, _, _, hh, hb, he⟩ := h
    simp only [canon, marshalElem, marshalResponse, hdr _ _ hh hb he, effectiveMessage_idem]
  | frame f => rfl

theorem parse_serialize_map (up : Bytes → Option Bytes) (es : List Elem) (h : ∀ e ∈ es, WritableOK up e) :
    parseAll up (serializeAll es) = (es.map canon, .eof) := by
  have hser : serializeAll (es.map canon) = serializeAll es := by
    induction es with
    | nil => rfl
    | cons e r ih =>
      obtain ⟨he, hr⟩ := List.forall_mem_cons.mp h
      rw [List.map_cons, serializeAll_cons, marshal_canon up e he, ih hr, serializeAll_cons]
  rw [← hser]
  exact parse_serialize up _ (List.forall_mem_map.mpr fun x hx => canon_wellFormed up x (h x hx))

end Rtsp.Frame
