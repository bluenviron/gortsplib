import Rtsp.Proofs.Frame.WF
/-
The predicates and functions the C04 statements are written with, beyond `WellFormed`
(`Proofs/Frame/WF.lean`): what a caller may hand to `Conn.Write*` (`WritableOK`) and what `Marshal`
makes of it (`canon`), the shape and the sizes of a header map, and what `Conn.Read` skips.
-/
namespace Rtsp.Frame
open Rtsp.Facts.Frame

/-- one `key: value\r\n` line -/
def line (p : Bytes × Bytes) : Bytes := p.1 ++ [COLON, SP] ++ p.2 ++ crlf

def keysOf (h : Header) : List Bytes := h.map (·.1)

/-- shape of a header map whose entries can be written and read back (no bound on their number) -/
def HeaderShape (h : Header) : Prop :=
  (∀ e ∈ h, KeyOK e.1 ∧ e.2 ≠ [] ∧ ∀ v ∈ e.2, ValueOK v) ∧ h.Pairwise (fun a b => bytesLt a.1 b.1 = true)

/-- a header map whose entries can be written and read back: distinct keys (a Go map), in any order -/
def HeaderMapOK (h : Header) : Prop :=
  (∀ e ∈ h, KeyOK e.1 ∧ e.2 ≠ [] ∧ ∀ v ∈ e.2, ValueOK v) ∧ (keysOf h).Nodup ∧ entryCount h ≤ headerMaxEntryCount

/-- the header as `Marshal` leaves it (and writes it) -/
def canonHeader (h : Header) (body : Bytes) : Header := sortKeys (withContentLength h body)

/-- the element as `Marshal` completes it -/
def canon : Elem → Elem
  | .req r => .req { r with header := canonHeader r.header r.body }
  | .res r => .res { r with header := canonHeader r.header r.body, msg := effectiveMessage r }
  | .frame f => .frame f

/-- the message as the caller hands it to `Conn.Write*`: header keys distinct and in any order;
`Content-Length` is the serialiser's business (absent when the body is empty) -/
def WritableOK (up : Bytes → Option Bytes) : Elem → Prop
  | .req r =>
    (∃ b0 b1 t, r.method = b0 :: b1 :: t ∧ isReqPrefix b0 b1 = true) ∧
    SP ∉ r.method ∧ r.method.length < requestMaxMethodLength ∧
    (∀ u, r.url = some u → u ≠ star ∧ SP ∉ u ∧ u.length < requestMaxURLLength ∧ up u = some u) ∧
    HeaderMapOK (withContentLength r.header r.body) ∧ r.body.length ≤ rtspMaxBodySize ∧
    (r.body = [] → hlookup r.header kContentLength = none)
  | .res r =>
    r.code < 1000 ∧ CR ∉ effectiveMessage r ∧ (effectiveMessage r).length < responseMaxStatusMessageLength ∧
    HeaderMapOK (withContentLength r.header r.body) ∧ r.body.length ≤ rtspMaxBodySize ∧
    (r.body = [] → hlookup r.header kContentLength = none)
  | .frame f => FrameOK f

/-- sizes of a header map: number of `key: value` entries, key and value lengths -/
def HeaderBounded (n : Nat) (h : Header) : Prop :=
  entryCount h ≤ n ∧ ∀ e ∈ h, e.1.length < headerMaxKeyLength ∧ ∀ v ∈ e.2, v.length < headerValueReadLimit

def ElemBounded (up : Bytes → Option Bytes) : Elem → Prop
  | .req r =>
    r.method.length < requestMaxMethodLength ∧
    (∀ u, r.url = some u → ∃ raw, raw.length < requestMaxURLLength ∧ up raw = some u) ∧
    HeaderBounded headerMaxEntryCount r.header ∧ r.body.length ≤ rtspMaxBodySize
  | .res r =>
    r.code < 1000 ∧ r.msg.length < responseMaxStatusMessageLength ∧
    HeaderBounded headerMaxEntryCount r.header ∧ r.body.length ≤ rtspMaxBodySize
  | .frame f => f.channel < 256 ∧ f.payload.length < 65536

/-- the pair `(a, b)` does not start an element -/
def Skippable (a b : UInt8) : Prop := a ≠ MAGIC ∧ ¬(a = 82 ∧ b = 84) ∧ isReqPrefix a b = false

instance (a b : UInt8) : Decidable (Skippable a b) := by unfold Skippable; infer_instance

/-- every byte of `g`, looked at together with the byte that follows it (inside `g`, or `next`
for the last one), is skippable -/
def Garbage : Bytes → UInt8 → Prop
  | [], _ => True
  | [a], next => Skippable a next
  | a :: b :: r, next => Skippable a b ∧ Garbage (b :: r) next

instance (k : Bytes) : Decidable (KeyOK k) :=
  match k with
  | [] => isFalse fun ⟨_, _, _, e, _⟩ => nomatch e
  | b :: t =>
    decidable_of_iff (headerKeyNormalize (b :: t) = b :: t ∧ b ≠ CR ∧ COLON ∉ t ∧ t.length < headerKeyReadLimit)
      ⟨fun h => ⟨h.1, b, t, rfl, h.2⟩, fun ⟨h1, _, _, e, h2⟩ => by cases e; exact ⟨h1, h2⟩⟩

end Rtsp.Frame
