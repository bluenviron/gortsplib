import Rtsp.Proofs.Frame.B64Quantum
/-
`b64_stream`: the base64 stream reader returns, for every sequence of written blocks (each encoded
on its own, padded) and every partition of the encoded stream into reads, the concatenation of the
blocks.
-/
namespace Rtsp.Frame

def AllGroups (gs : List Bytes) : Prop := ∀ g ∈ gs, GroupOK g

theorem flatMap_encode_length (gs : List Bytes) (h : AllGroups gs) : (gs.flatMap encode).length = 4 * gs.length := by
  induction gs with
  | nil => rfl
  | cons g r ih =>
    simp only [List.flatMap_cons, List.length_append, List.length_cons]
    rw [encode_length g (h g (by simp)), ih (fun x hx => h x (by simp [hx]))]
    omega

/-- the quanta one iteration of `reader.Read` (internal/base64streamreader/reader.go) decodes: `seg`, the groups up
to and including the first short one, is what `cutPad` keeps, and `decodeGo` accepts such a run; `rest` is what is left -/
theorem exists_seg : ∀ (gs : List Bytes), AllGroups gs → ∃ seg rest, seg ++ rest = gs ∧ (seg = [] → gs = []) ∧
    cutPad (gs.flatMap encode) = seg.flatMap encode ∧ decodeGo [] (seg.flatMap encode) = some seg.flatten
  | [], _ => ⟨[], [], rfl, fun _ => rfl, rfl, rfl⟩
  | g :: r, h => by
    obtain ⟨hg, hr⟩ := List.forall_mem_cons.mp h
    refine hg.elim (motive := fun g => ∃ seg rest, seg ++ rest = g :: r ∧ (seg = [] → g :: r = []) ∧
      cutPad ((g :: r).flatMap encode) = seg.flatMap encode ∧ decodeGo [] (seg.flatMap encode) = some seg.flatten) ?_ ?_ ?_
    · intro a
      exact ⟨[[a]], r, rfl, nofun, by simp [encode, cutPad, alphabet_ne_pad], by simpa using decodeGo_pad1 a⟩
    · intro a b
      refine ⟨[[a, b]], r, rfl, nofun, ?_, by simpa using decodeGo_pad2 a b⟩
      -- one `=`: the next quantum, if any, does not start with `=`
      cases r with
      | nil => simp [encode, cutPad, alphabet_ne_pad]
      | cons g2 r2 =>
        obtain ⟨c, t, hc, hne⟩ := encode_head_ne_pad g2 (hr g2 List.mem_cons_self)
        simp [encode, cutPad, alphabet_ne_pad, hc, hne]
    · intro a b c
      obtain ⟨seg, rest, e, _, h1, h2⟩ := exists_seg r hr
      refine ⟨[a, b, c] :: seg, rest, by rw [List.cons_append, e], nofun, ?_, ?_⟩
      · simp only [List.flatMap_cons, encode, List.cons_append, List.nil_append, cutPad, alphabet_ne_pad, if_false, h1]
      · rw [List.flatMap_cons, decodeGo_full, h2]; rfl

theorem prefix_quanta : ∀ (gs : List Bytes) (Q S : Bytes), AllGroups gs → Q ++ S = gs.flatMap encode →
    ∃ ga gb Q', AllGroups ga ∧ AllGroups gb ∧ ga ++ gb = gs ∧ Q = ga.flatMap encode ++ Q' ∧ Q'.length < 4 ∧
      Q' ++ S = gb.flatMap encode := by
  intro gs
  induction gs with
  | nil =>
    intro Q S _ h
    simp only [List.flatMap_nil, List.append_eq_nil_iff] at h
    exact ⟨[], [], [], nofun, nofun, rfl, by simp [h.1], by simp, by simp [h.2]⟩
  | cons g r ih =>
    intro Q S hall h
    obtain ⟨hg, hr⟩ := List.forall_mem_cons.mp hall
    have hlen := encode_length g hg
    by_cases hq : Q.length < 4
    · exact ⟨[], g :: r, Q, nofun, hall, rfl, by simp, hq, h⟩
    · -- the first quantum lies inside Q
      simp only [List.flatMap_cons] at h
      have hQ : Q = encode g ++ Q.drop 4 := by
        have h1 : (Q ++ S).take 4 = encode g := by rw [h, List.take_append_of_le_length (by omega)]; simp [← hlen]
        rw [List.take_append_of_le_length (by omega)] at h1
        rw [← h1, List.take_append_drop]
      have hrest : Q.drop 4 ++ S = r.flatMap encode := by
        have h2 : (Q ++ S).drop 4 = r.flatMap encode := by
          rw [h, List.drop_append_of_le_length (by omega)]; simp [← hlen]
        rw [List.drop_append_of_le_length (by omega)] at h2
        exact h2
      obtain ⟨ga, gb, Q', hga, hgb, e1, e2, e3, e4⟩ := ih (Q.drop 4) S hr hrest
      refine ⟨g :: ga, gb, Q', List.forall_mem_cons.mpr ⟨hg, hga⟩, hgb, by simp [e1], ?_, e3, e4⟩
      rw [hQ, e2]; simp

theorem todec_quanta (ga : List Bytes) (Q' : Bytes) (h : AllGroups ga) (hq : Q'.length < 4) :
    todec (ga.flatMap encode ++ Q') = cutPad (ga.flatMap encode) := by
  have hl := flatMap_encode_length ga h
  have : (ga.flatMap encode ++ Q').length / 4 * 4 = (ga.flatMap encode).length := by
    simp only [List.length_append, hl]; omega
  rw [todec, this, List.take_left']
  rfl

theorem b64drain_groups : ∀ (f : Nat) (ga : List Bytes) (Q' : Bytes), AllGroups ga → Q'.length < 4 →
    (ga.flatMap encode ++ Q').length ≤ f → b64drain f (ga.flatMap encode ++ Q') = (ga.flatten, some Q') := by
  intro f
  induction f with
  | zero =>
    intro ga Q' hga _ hf
    have hl := flatMap_encode_length ga hga
    have : ga = [] := List.eq_nil_of_length_eq_zero (by rw [List.length_append] at hf; omega)
    subst this
    rfl
  | succ f ih =>
    intro ga Q' hga hq hf
    obtain ⟨seg, rest, rfl, hnil, hcut, hdec⟩ := exists_seg ga hga
    obtain ⟨hseg, hrest⟩ := List.forall_mem_append.mp hga
    have htd := (todec_quanta _ Q' hga hq).trans hcut
    have hlen := flatMap_encode_length seg hseg
    rw [b64drain, htd]
    cases seg with
    | nil => rw [hnil rfl]; rfl
    | cons g s =>
      have hne : (g :: s).flatMap encode ≠ [] := fun e => by rw [e] at hlen; simp at hlen
      rw [List.flatMap_append, List.append_assoc] at hf ⊢
      have hrec := ih rest Q' hrest hq (by simp only [List.length_append, List.length_cons] at hf hlen ⊢; omega)
      simp only [hne, if_false, decodeString, hdec]
      rw [List.drop_left' rfl, hrec, ← List.flatten_append]

theorem b64run_quanta : ∀ (reads : List Bytes) (gs : List Bytes) (P : Bytes), AllGroups gs →
    P ++ reads.flatten = gs.flatMap encode → b64run P reads = (gs.flatten, .eof) := by
  intro reads
  induction reads with
  | nil =>
    intro gs P hall h
    obtain ⟨ga, gb, Q', hga, hgb, rfl, e2, e3, e4⟩ := prefix_quanta gs P [] hall h
    -- nothing follows: the pending characters are no part of a quantum
    have hl := flatMap_encode_length gb hgb
    rw [← e4, List.append_nil] at hl
    have : gb = [] := List.eq_nil_of_length_eq_zero (by omega)
    subst this
    rw [b64run, e2, b64drain_groups _ ga Q' hga e3 (Nat.le_refl _), List.append_nil]
    rfl
  | cons c cs ih =>
    intro gs P hall h
    obtain ⟨ga, gb, Q', hga, hgb, rfl, e2, e3, e4⟩ := prefix_quanta gs (P ++ c) cs.flatten hall
      (by rw [List.append_assoc]; exact h)
    rw [b64run, e2, b64drain_groups _ ga Q' hga e3 (Nat.le_refl _)]
    simp only [ih gb Q' hgb e4, List.flatten_append]

theorem exists_groups (b : Bytes) : ∃ gs, AllGroups gs ∧ gs.flatMap encode = encode b ∧ gs.flatten = b := by
  induction b using encode.induct with
  | case1 => exact ⟨[], nofun, rfl, rfl⟩
  | case2 a => exact ⟨[[a]], List.forall_mem_singleton.mpr (by simp [GroupOK]), rfl, rfl⟩
  | case3 a b => exact ⟨[[a, b]], List.forall_mem_singleton.mpr (by simp [GroupOK]), rfl, rfl⟩
  | case4 a b c r ih =>
    obtain ⟨gs, h1, h2, h3⟩ := ih
    exact ⟨[a, b, c] :: gs, List.forall_mem_cons.mpr ⟨by simp [GroupOK], h1⟩, by rw [List.flatMap_cons, h2]; rfl,
      by rw [List.flatten_cons, h3]; rfl⟩

theorem exists_groups_blocks (blocks : List Bytes) :
    ∃ gs, AllGroups gs ∧ gs.flatMap encode = (blocks.map encode).flatten ∧ gs.flatten = blocks.flatten := by
  induction blocks with
  | nil => exact ⟨[], nofun, rfl, rfl⟩
  | cons b r ih =>
    obtain ⟨g1, a1, a2, a3⟩ := exists_groups b
    obtain ⟨g2, b1, b2, b3⟩ := ih
    exact ⟨g1 ++ g2, List.forall_mem_append.mpr ⟨a1, b1⟩, by simp [a2, b2], by simp [a3, b3]⟩

theorem b64_stream (blocks reads : List Bytes) (h : reads.flatten = (blocks.map encode).flatten) :
    b64run [] reads = (blocks.flatten, .eof) := by
  obtain ⟨gs, h1, h2, h3⟩ := exists_groups_blocks blocks
  rw [← h3]
  exact b64run_quanta reads gs [] h1 (h2 ▸ h)

end Rtsp.Frame
