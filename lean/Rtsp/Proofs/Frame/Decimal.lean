import Rtsp.Model.Frame
import Rtsp.Proofs.Text.Digits
/-
Decimal numbers: `toDec` is `Text.dec8` and `digitsVal` is `Text.val8`, so `parseUint` reads back what
`toDec` writes (`strconv.ParseUint` / `strconv.FormatInt`), and a number read from `k` digits is below `10 ^ k`.
-/
namespace Rtsp.Frame

theorem digitsVal_eq : ∀ (s : Bytes) (acc : Nat), digitsVal acc s = Text.val8 acc s
  | [], _ => rfl
  | _ :: r, _ => digitsVal_eq r _

theorem decRev_reverse : ∀ (f n : Nat), n < f → (decRev f n).reverse = Text.dec8 n
  | 0, _, h => absurd h (Nat.not_lt_zero _)
  | f + 1, n, h => by
    rw [decRev, Text.dec8_eq_if, List.reverse_cons]
    by_cases h0 : n / 10 = 0
    · rw [if_pos h0, if_pos (by omega), Nat.mod_eq_of_lt (by omega)]; rfl
    · rw [if_neg h0, if_neg (by omega), decRev_reverse f _ (by omega)]

theorem toDec_eq (n : Nat) : toDec n = Text.dec8 n := decRev_reverse _ n (Nat.lt_succ_self n)

theorem toDec_all_digits (n : Nat) : (toDec n).all isDigit = true := by
  rw [toDec_eq]; exact Text.dec8_all_digit n

theorem toDec_length_le (n k : Nat) (hk : n < 10 ^ (k + 1)) : (toDec n).length ≤ k + 1 := by
  rw [toDec_eq]; exact (Text.dec8_length_le_iff (Nat.succ_pos k)).mpr hk

theorem parseUint_toDec_full (bits n : Nat) :
    parseUint bits (toDec n) = if n < 2 ^ bits then some n else none := by
  have := toDec_all_digits n
  rw [toDec_eq] at this ⊢
  simp [parseUint, Text.dec8_ne_nil, this, digitsVal_eq, Text.val8_dec8]

theorem parseUint_toDec (bits n : Nat) (h : n < 2 ^ bits) : parseUint bits (toDec n) = some n := by
  rw [parseUint_toDec_full, if_pos h]

theorem parseUint_short {bits : Nat} {s : Bytes} {v : Nat} (h : parseUint bits s = some v) : v < 10 ^ s.length := by
  simp only [parseUint] at h
  split at h
  · cases h
  · rename_i hc
    simp only [not_or, Bool.not_eq_true, Bool.not_eq_false'] at hc
    split at h
    · cases h
      simpa [digitsVal_eq] using Text.val8_lt s 0 hc.2
    · cases h

end Rtsp.Frame
