import Rtsp.Proofs.Frame.Read
import Rtsp.Proofs.Frame.Decimal
import Rtsp.Proofs.Frame.Sort
import Rtsp.Proofs.Common.Steps
/-
What every reader of the framing parser guarantees on arbitrary input, as one predicate closed
under sequencing (`Reads`): a result (`ok` or `err`) decided on the bytes received so far stays the
same when more bytes arrive, an `ok` result has consumed at least `k` bytes, and its value is
within bounds `Q`.  One walk through the parser (`reads_readElem`) gives the monotonicity behind
chunk independence (`Proofs/Frame/Chunk.lean`), the progress of `drain` and `limits_output`.
-/
namespace Rtsp.Frame
open Rtsp.Facts.Frame

theorem canonLoop_length : ∀ (k : Bytes) (u : Bool), (canonLoop u k).length = k.length := by
  intro k
  induction k with
  | nil => intro u; rfl
  | cons c r ih => intro u; simp [canonLoop, ih]

theorem headerKeyNormalize_length (k : Bytes) : (headerKeyNormalize k).length ≤ max k.length kWWWAuth.length := by
  let P (a : Bytes) : Prop := a.length ≤ max k.length kWWWAuth.length
  -- the longest of the four fixed spellings is `WWW-Authenticate`
  have lit : ∀ {a : Bytes}, a.length ≤ kWWWAuth.length → P a := fun h => Nat.le_trans h (Nat.le_max_right _ _)
  refine ite_both (P := P) (lit (by decide)) (ite_both (P := P) (lit (Nat.le_refl _)) (ite_both (P := P) (lit (by decide))
    (ite_both (P := P) (lit (by decide)) ?_)))
  exact ite_both (P := P) (by show (canonLoop true k).length ≤ _; rw [canonLoop_length]; exact Nat.le_max_left _ _)
    (Nat.le_max_left _ _)

theorem key_length_lt {b : UInt8} {t : Bytes} (ht : t.length < headerKeyReadLimit) :
    (headerKeyNormalize (b :: t)).length < headerMaxKeyLength := by
  have := headerKeyNormalize_length (b :: t)
  simp only [List.length_cons] at this
  have e1 : headerKeyReadLimit = 511 := rfl
  have e2 : headerMaxKeyLength = 512 := rfl
  have e3 : kWWWAuth.length = 16 := by decide
  omega

theorem headerBounded_nil : HeaderBounded 0 [] := ⟨Nat.le_refl _, nofun⟩

theorem HeaderBounded.mono {n m : Nat} {h : Header} (hb : HeaderBounded n h) (hnm : n ≤ m) : HeaderBounded m h :=
  ⟨Nat.le_trans hb.1 hnm, hb.2⟩

theorem hinsert_bounded (n : Nat) (h : Header) (k v : Bytes) (hb : HeaderBounded n h)
    (hk : k.length < headerMaxKeyLength) (hv : v.length < headerValueReadLimit) :
    HeaderBounded (n + 1) (hinsert h k v) := by
  refine ⟨by rw [entryCount_hinsert]; have := hb.1; omega, ?_⟩
  have hmem := hb.2
  clear hb
  induction h with
  | nil =>
    intro e he
    simp only [hinsert, List.mem_singleton] at he
    subst he
    exact ⟨hk, fun x hx => by simp at hx; subst hx; exact hv⟩
  | cons e0 r ih =>
    obtain ⟨k', vs⟩ := e0
    intro e he
    by_cases hkk : k' = k
    · simp only [hinsert, hkk, if_true, List.mem_cons] at he
      rcases he with rfl | he
      · refine ⟨hk, fun x hx => ?_⟩
        simp only [List.mem_append, List.mem_singleton] at hx
        rcases hx with hx | rfl
        · exact (hmem (k', vs) (by simp)).2 x hx
        · exact hv
      · exact hmem e (by simp [he])
    · simp only [hinsert, hkk, if_false, List.mem_cons] at he
      rcases he with rfl | he
      · exact hmem (k', vs) (by simp)
      · exact ih (fun x hx => hmem x (by simp [hx])) e he

/-- `ok` and `err` results are stable under appending bytes; an `ok` result leaves at least `k`
bytes consumed (`r.length + k ≤ bs.length`) and its value satisfies `Q`. -/
def Reads {α : Type} (k : Nat) (Q : α → Prop) (p : Bytes → PR α) : Prop :=
  ∀ bs x, (∀ a r, p bs = .ok a r → p (bs ++ x) = .ok a (r ++ x) ∧ r.length + k ≤ bs.length ∧ Q a) ∧
          (p bs = .err → p (bs ++ x) = .err)

section
variable {α : Type} {k : Nat} {Q : α → Prop} {p : Bytes → PR α} {bs r : Bytes} {a : α} (h : Reads k Q p)
include h

theorem Reads.ok_append (e : p bs = .ok a r) (x : Bytes) : p (bs ++ x) = .ok a (r ++ x) := ((h bs x).1 a r e).1
theorem Reads.consumed (e : p bs = .ok a r) : r.length + k ≤ bs.length := ((h bs []).1 a r e).2.1
theorem Reads.post (e : p bs = .ok a r) : Q a := ((h bs []).1 a r e).2.2
theorem Reads.err_append (e : p bs = .err) (x : Bytes) : p (bs ++ x) = .err := (h bs x).2 e

end

theorem Reads.weaken {α : Type} {k j : Nat} {Q R : α → Prop} {p : Bytes → PR α} (h : Reads k Q p)
    (hj : j ≤ k := by omega) (hq : ∀ a, Q a → R a := by exact fun _ h => h) : Reads j R p :=
  fun _ x => ⟨fun a _ e => ⟨h.ok_append e x, by have := h.consumed e; omega, hq a (h.post e)⟩, fun e => h.err_append e x⟩

theorem Reads.cons {α : Type} {k : Nat} {Q : α → Prop} {p : Bytes → PR α} {m : Bool} (h0 : p [] = .more m)
    (h : ∀ b, Reads k Q (fun bs => p (b :: bs))) : Reads (k + 1) Q p := by
  intro bs x
  cases bs with
  | nil => rw [h0]; exact ⟨nofun, nofun⟩
  | cons b r =>
    exact ⟨fun a r' e => ⟨(h b).ok_append e x, Nat.succ_le_succ ((h b).consumed e), (h b).post e⟩, fun e => (h b).err_append e x⟩

/-- sequencing: the first reader accounts for the bytes consumed; the continuation may use what
the first value satisfies -/
theorem Reads.bind {α β : Type} {k i : Nat} {Q : α → Prop} {R : β → Prop} {p : Bytes → PR α}
    {f : α → Bytes → PR β} (hp : Reads k Q p) (hf : ∀ a, Q a → Reads 0 R (f a)) (hi : i ≤ k := by omega) :
    Reads i R (fun bs => (p bs).bind f) := by
  intro bs x
  constructor
  · intro b r h
    obtain ⟨a, r', hpb, h⟩ := PR.bind_eq_ok.mp h
    have hfa := hf a (hp.post hpb)
    simp only [hp.ok_append hpb x, PR.bind_ok]
    exact ⟨hfa.ok_append h x, by have := hp.consumed hpb; have := hfa.consumed h; omega, hfa.post h⟩
  · intro h
    rcases PR.bind_eq_err.mp h with hpb | ⟨a, r', hpb, h⟩
    · simp only [hp.err_append hpb x, PR.bind_err]
    · simp only [hp.ok_append hpb x, PR.bind_ok]
      exact (hf a (hp.post hpb)).err_append h x

theorem Reads.ok {α : Type} {Q : α → Prop} {a : α} (h : Q a) : Reads 0 Q (fun bs => PR.ok a bs) := by
  intro bs x
  exact ⟨fun b r e => by cases e; exact ⟨rfl, Nat.le_refl _, h⟩, nofun⟩

theorem Reads.err {α : Type} {Q : α → Prop} {k : Nat} : Reads k Q (fun _ => (PR.err : PR α)) :=
  fun _ _ => ⟨nofun, fun _ => rfl⟩

theorem Reads.ite {α : Type} {k : Nat} {Q : α → Prop} {c : Prop} [Decidable c] {p q : Bytes → PR α}
    (hp : Reads k Q p) (hq : Reads k Q q) : Reads k Q (fun bs => if c then p bs else q bs) := by
  by_cases hc : c
  · simpa only [if_pos hc] using hp
  · simpa only [if_neg hc] using hq

theorem Reads.hardenKey {α : Type} {k : Nat} {Q : α → Prop} {p : Bytes → PR α} (hp : Reads k Q p) :
    Reads k Q (fun bs => hardenKey (p bs)) := by
  intro bs x
  dsimp only
  cases hpb : p bs with
  | ok a r =>
    rw [hp.ok_append hpb x]
    exact ⟨fun _ _ e => by cases e; exact ⟨rfl, hp.consumed hpb, hp.post hpb⟩, nofun⟩
  | more _ => exact ⟨nofun, nofun⟩
  | err => rw [hp.err_append hpb x]; exact ⟨nofun, fun _ => rfl⟩

theorem reads_readByteEqual (c : UInt8) : Reads 1 (fun _ => True) (readByteEqual c) := by
  intro bs x
  cases bs with
  | nil => exact ⟨nofun, nofun⟩
  | cons b r =>
    by_cases hb : b = c <;> simp [readByteEqual, hb]

theorem reads_readLim (d : UInt8) (n : Nat) : Reads 1 (fun t => t.length < n) (readLim d n) := by
  intro bs x
  constructor
  · intro t r h
    obtain ⟨h1, h2, rfl⟩ := (readLim_eq_ok d).mp h
    exact ⟨(readLim_eq_ok d).mpr ⟨h1, h2, by simp⟩, by simp, h1⟩
  · intro h
    obtain ⟨h1, h2⟩ := (readLim_eq_err d).mp h
    exact (readLim_eq_err d).mpr ⟨by simp; omega, by rwa [List.take_append_of_le_length h1]⟩

theorem reads_readLimSC (n : Nat) : Reads 1 (fun td => td.1.length < n) (readLimSC n) := by
  intro bs x
  constructor
  · rintro ⟨t, d⟩ r h
    obtain ⟨h1, h2, h3, h4, rfl⟩ := readLimSC_eq_ok.mp h
    exact ⟨readLimSC_eq_ok.mpr ⟨h1, h2, h3, h4, by simp⟩, by simp, h1⟩
  · intro h
    obtain ⟨h1, h2⟩ := readLimSC_eq_err.mp h
    exact readLimSC_eq_err.mpr ⟨by simp; omega, by rwa [List.take_append_of_le_length h1]⟩

theorem reads_readFull (n : Nat) : Reads n (fun t => t.length = n) (readFull n) := by
  intro bs x
  constructor
  · intro t r h
    obtain ⟨h1, rfl⟩ := readFull_eq_ok.mp h
    exact ⟨readFull_eq_ok.mpr ⟨h1, by simp⟩, by simp; omega, h1⟩
  · intro h
    rw [readFull] at h
    split at h <;> cases h

theorem reads_skipSpaces : Reads 0 (fun _ => True) skipSpaces := by
  intro bs x
  induction bs with
  | nil => exact ⟨nofun, nofun⟩
  | cons b r ih =>
    by_cases hb : b = SP
    · simp only [skipSpaces, hb, if_true, List.cons_append]
      exact ⟨fun a r' e => ⟨(ih.1 a r' e).1, Nat.le_succ_of_le (ih.1 a r' e).2.1, trivial⟩, ih.2⟩
    · simp [skipSpaces, hb]

/-- with `n` entries read and `fuel` left, the header block returned has at most `fuel + n` -/
theorem reads_parseHeaders (fuel : Nat) : ∀ {n acc}, HeaderBounded n acc →
    Reads 2 (HeaderBounded (fuel + n)) (parseHeaders fuel acc) := by
  have hcr : ∀ {n m : Nat} {acc : Header}, HeaderBounded n acc → n ≤ m →
      Reads 1 (HeaderBounded m) (fun bs => (readByteEqual LF bs).bind fun _ bs => PR.ok acc bs) :=
    fun ha hm => (reads_readByteEqual LF).bind fun _ _ => .ok (ha.mono hm)
  induction fuel with
  | zero =>
    intro n acc ha
    refine Reads.cons (m := false) rfl fun b => ?_
    simp only [parseHeaders]
    exact .ite (hcr ha (Nat.le_add_left _ _)) .err
  | succ fuel ih =>
    intro n acc ha
    refine Reads.cons (m := false) rfl fun b => ?_
    simp only [parseHeaders]
    refine .ite (hcr ha (Nat.le_add_left _ _)) ?_
    exact (reads_readLim COLON headerKeyReadLimit).hardenKey.bind fun t ht =>
      reads_skipSpaces.bind fun _ _ =>
      (reads_readLim CR headerValueReadLimit).bind fun val hval =>
      (reads_readByteEqual LF).bind fun _ _ =>
        (ih (hinsert_bounded n acc _ val ha (key_length_lt ht) hval)).weaken
          (hq := fun _ h => Nat.succ_add fuel n ▸ h)

theorem reads_parseBody (h : Header) : Reads 0 (fun b => b.length ≤ rtspMaxBodySize) (parseBody h) := by
  unfold parseBody
  split
  · split
    · exact .err
    · rename_i cl _
      by_cases hc : cl > rtspMaxBodySize
      · simp only [if_pos hc]; exact .err
      · simp only [if_neg hc]; exact (reads_readFull cl).weaken (hq := fun _ e => by omega)
  · exact .ok (Nat.zero_le _)

theorem reads_parseRequest (up : Bytes → Option Bytes) :
    Reads 1 (fun r => ElemBounded up (.req r)) (parseRequest up) := by
  unfold parseRequest
  refine (reads_readLim SP requestMaxMethodLength).bind fun method hm => ?_
  refine .ite .err ?_
  refine (reads_readLim SP requestMaxURLLength).bind fun rawURL hraw => ?_
  split
  · exact .err
  · rename_i url hurl
    -- a URL that is returned was parsed from the token just read
    have hu : ∀ u, url = some u → ∃ raw, raw.length < requestMaxURLLength ∧ up raw = some u := by
      rintro u rfl
      refine ⟨rawURL, hraw, ?_⟩
      split at hurl
      · cases hurl
      · simpa using hurl
    refine (reads_readLim CR requestMaxProtocolLength).bind fun proto _ => ?_
    refine .ite .err ?_
    refine (reads_readByteEqual LF).bind fun _ _ => ?_
    refine (reads_parseHeaders _ headerBounded_nil).bind fun h hh => ?_
    exact (reads_parseBody h).bind fun body hb => .ok ⟨hm, hu, hh, hb⟩

theorem reads_parseResponse (up : Bytes → Option Bytes) :
    Reads 1 (fun r => ElemBounded up (.res r)) parseResponse := by
  unfold parseResponse
  refine (reads_readLim SP responseMaxProtocolLength).bind fun proto _ => ?_
  refine .ite .err ?_
  refine (reads_readLimSC responseMaxStatusCodeLength).bind fun cd hcd => ?_
  obtain ⟨codeStr, delim⟩ := cd
  simp only
  split
  · exact .err
  · rename_i code hcode
    -- at most three digits
    have hc : code < 1000 := by
      have hv := parseUint_short hcode
      have e : responseMaxStatusCodeLength = 4 := rfl
      have : 10 ^ codeStr.length ≤ 10 ^ 3 := Nat.pow_le_pow_right (by omega) (by simp only at hcd; omega)
      omega
    have hmsg : Reads 0 (fun m => m.length < responseMaxStatusMessageLength)
        (fun bs => if delim = SP then readLim CR responseMaxStatusMessageLength bs else PR.ok [] bs) :=
      .ite (reads_readLim _ _).weaken (.ok (by decide))
    refine hmsg.bind fun msg hm => ?_
    refine (reads_readByteEqual LF).bind fun _ _ => ?_
    refine (reads_parseHeaders _ headerBounded_nil).bind fun h hh => ?_
    exact (reads_parseBody h).bind fun body hb => .ok ⟨hc, hm, hh, hb⟩

theorem reads_parseFrame (up : Bytes → Option Bytes) :
    Reads 4 (fun f => ElemBounded up (.frame f)) parseFrame := by
  unfold parseFrame
  refine (reads_readFull 4).bind fun hd _ => ?_
  split
  · rename_i m ch l1 l0 _
    refine .ite .err ?_
    refine (reads_readFull _).bind fun p hp => .ok ?_
    have a := ch.toNat_lt; have b := l1.toNat_lt; have c := l0.toNat_lt
    exact ⟨a, by show p.length < 65536; omega⟩
  · exact .err

theorem reads_readElem (up : Bytes → Option Bytes) : Reads 1 (ElemBounded up) (readElem up) := by
  intro bs x
  induction bs with
  | nil => exact ⟨nofun, nofun⟩
  | cons b0 t ih =>
    cases t with
    | nil => exact ⟨nofun, nofun⟩
    | cons b1 t =>
      rcases dispatch_cases b0 b1 with rfl | ⟨rfl, rfl⟩ | h | h
      · rw [List.cons_append, List.cons_append, readElem_frame, readElem_frame]
        exact ((reads_parseFrame up).bind (fun _ hf => .ok hf) : Reads 1 _ _) _ x
      · rw [List.cons_append, List.cons_append, readElem_res, readElem_res]
        exact ((reads_parseResponse up).bind (fun _ hf => .ok hf) : Reads 1 _ _) _ x
      · rw [List.cons_append, List.cons_append, readElem_req up h, readElem_req up h]
        exact ((reads_parseRequest up).bind (fun _ hf => .ok hf) : Reads 1 _ _) _ x
      · rw [List.cons_append, List.cons_append, readElem_skip up h, readElem_skip up h]
        exact ⟨fun a r e => ⟨(ih.1 a r e).1, Nat.le_succ_of_le (ih.1 a r e).2.1, (ih.1 a r e).2.2⟩, ih.2⟩

theorem readElem_ok_lt {up : Bytes → Option Bytes} {bs rest : Bytes} {e : Elem} (h : readElem up bs = .ok e rest) :
    rest.length < bs.length :=
  (reads_readElem up).consumed h

theorem limits_output (up : Bytes → Option Bytes) : ∀ (bs : Bytes) (e : Elem) (rest : Bytes),
    readElem up bs = .ok e rest → ElemBounded up e :=
  fun _ _ _ h => (reads_readElem up).post h

end Rtsp.Frame
