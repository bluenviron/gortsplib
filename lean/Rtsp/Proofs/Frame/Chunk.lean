import Rtsp.Proofs.Frame.Reads
/-
`chunk_independent`: the chunked reader returns, for every partition of the byte stream into
chunks, what reading the concatenation returns.
-/
namespace Rtsp.Frame

theorem drain_nil (up : Bytes → Option Bytes) (f : Nat) : drain up f [] = ([], .more false []) := by
  cases f <;> simp [drain, readElem]

theorem drain_fuel (up : Bytes → Option Bytes) :
    ∀ f g bs, bs.length ≤ f → bs.length ≤ g → drain up f bs = drain up g bs := by
  intro f
  induction f with
  | zero =>
    intro g bs hf _
    have : bs = [] := List.eq_nil_of_length_eq_zero (by omega)
    subst this
    simp [drain_nil]
  | succ f ih =>
    intro g bs hf hg
    cases g with
    | zero =>
      have : bs = [] := List.eq_nil_of_length_eq_zero (by omega)
      subst this
      simp [drain_nil]
    | succ g =>
      simp only [drain]
      cases hr : readElem up bs with
      | ok e rest =>
        have hlen := readElem_ok_lt hr
        simp only
        rw [ih g rest (by omega) (by omega)]
      | more h => rfl
      | err => rfl

/-- the canonical amount of fuel -/
def drainL (up : Bytes → Option Bytes) (bs : Bytes) : List Elem × Stop := drain up bs.length bs

theorem drainL_eq (up : Bytes → Option Bytes) (f : Nat) (bs : Bytes) (h : bs.length ≤ f) :
    drain up f bs = drainL up bs := drain_fuel up f bs.length bs h (Nat.le_refl _)

theorem drainL_unfold (up : Bytes → Option Bytes) (bs : Bytes) :
    drainL up bs =
      match readElem up bs with
      | .ok e rest => (e :: (drainL up rest).1, (drainL up rest).2)
      | .more h => ([], .more h bs)
      | .err => ([], .err) := by
  cases bs with
  | nil => simp [drainL, drain, readElem]
  | cons b r =>
    simp only [drainL, List.length_cons, drain]
    cases hr : readElem up (b :: r) with
    | ok e rest =>
      have hlen := readElem_ok_lt hr
      simp only [List.length_cons] at hlen
      simp only
      rw [drain_fuel up r.length rest.length rest (by omega) (Nat.le_refl _)]
    | more h => rfl
    | err => rfl

/-- the equation `readAll` has for a further chunk (`readAll_cons`): elements already decided and an error stay,
a pending element is read again from its first byte with the new bytes behind it -/
theorem drainL_append (up : Bytes → Option Bytes) (x bs : Bytes) :
    drainL up (bs ++ x) =
      match (drainL up bs).2 with
      | .more _ buf => ((drainL up bs).1 ++ (drainL up (buf ++ x)).1, (drainL up (buf ++ x)).2)
      | .err => ((drainL up bs).1, .err) := by
  rw [drainL_unfold up bs]
  cases hr : readElem up bs with
  | ok e rest =>
    have := readElem_ok_lt hr
    rw [drainL_unfold up (bs ++ x), (reads_readElem up).ok_append hr]
    dsimp only
    rw [drainL_append up x rest]
    cases (drainL up rest).2 <;> rfl
  | more h => rfl
  | err => rw [drainL_unfold up (bs ++ x), (reads_readElem up).err_append hr]
termination_by bs.length

theorem readAll_nil (up : Bytes → Option Bytes) (buf : Bytes) :
    readAll up buf [] = ((drainL up buf).1, (drainL up buf).2.atEnd) := rfl

theorem readAll_cons (up : Bytes → Option Bytes) (buf c : Bytes) (cs : List Bytes) :
    readAll up buf (c :: cs) =
      match (drainL up (buf ++ c)).2 with
      | .more _ buf' => ((drainL up (buf ++ c)).1 ++ (readAll up buf' cs).1, (readAll up buf' cs).2)
      | .err => ((drainL up (buf ++ c)).1, .err) := rfl

theorem readAll_flatten (up : Bytes → Option Bytes) :
    ∀ (chunks : List Bytes) (buf : Bytes), readAll up buf chunks = readAll up (buf ++ chunks.flatten) [] := by
  intro chunks
  induction chunks with
  | nil => intro buf; simp
  | cons c cs ih =>
    intro buf
    rw [readAll_cons, List.flatten_cons, ← List.append_assoc, readAll_nil, drainL_append up cs.flatten (buf ++ c)]
    cases (drainL up (buf ++ c)).2 with
    | more h buf' => simp only [ih buf', readAll_nil]
    | err => rfl

theorem parseAll_eq (up : Bytes → Option Bytes) (bs : Bytes) :
    parseAll up bs = ((drainL up bs).1, (drainL up bs).2.atEnd) := by
  rw [parseAll, readAll_flatten, readAll_nil]
  simp

theorem chunk_independent (up : Bytes → Option Bytes) (chunks : List Bytes) :
    readAll up [] chunks = parseAll up chunks.flatten := by
  rw [parseAll_eq, readAll_flatten up chunks [], readAll_nil, List.nil_append]

/-- two partitions of the same byte stream are read alike -/
theorem chunk_independent' (up : Bytes → Option Bytes) (c1 c2 : List Bytes) (h : c1.flatten = c2.flatten) :
    readAll up [] c1 = readAll up [] c2 := by
  rw [chunk_independent, chunk_independent, h]

end Rtsp.Frame
