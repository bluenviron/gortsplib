import Rtsp.Proofs.Frame.Spec
/-
Header maps as association lists: `hinsert` / `hset` / `hlookup` on distinct keys, and
`sortKeys` (insertion sort by `bytesLt`, a strict total order) as `Header.marshal` uses it.
-/
namespace Rtsp.Frame

theorem not_mem_keysOf_cons {e : Bytes × List Bytes} {r : Header} {k : Bytes} :
    k ∉ keysOf (e :: r) ↔ e.1 ≠ k ∧ k ∉ keysOf r := by
  simp [keysOf, eq_comm]

theorem hinsert_append (l r : Header) (k v : Bytes) (h : k ∉ keysOf l) : hinsert (l ++ r) k v = l ++ hinsert r k v := by
  induction l with
  | nil => rfl
  | cons e l ih =>
    obtain ⟨h1, h2⟩ := not_mem_keysOf_cons.mp h
    rw [List.cons_append, hinsert, if_neg h1, ih h2, List.cons_append]

theorem hinsert_new (acc : Header) (k v : Bytes) (h : k ∉ keysOf acc) :
    hinsert acc k v = acc ++ [(k, [v])] := by
  have := hinsert_append acc [] k v h
  rwa [List.append_nil] at this

theorem hinsert_last (acc : Header) (k : Bytes) (vs : List Bytes) (v : Bytes) (h : k ∉ keysOf acc) :
    hinsert (acc ++ [(k, vs)]) k v = acc ++ [(k, vs ++ [v])] := by
  rw [hinsert_append _ _ _ _ h, hinsert, if_pos rfl]

theorem hlookup_cons_self (k : Bytes) (vs : List Bytes) (r : Header) : hlookup ((k, vs) :: r) k = some vs := by
  rw [hlookup, if_pos rfl]

theorem hlookup_none_of_not_mem : ∀ (l : Header) (k : Bytes), k ∉ keysOf l → hlookup l k = none
  | [], _, _ => rfl
  | _ :: r, k, hk => by
    obtain ⟨h1, h2⟩ := not_mem_keysOf_cons.mp hk
    rw [hlookup, if_neg h1, hlookup_none_of_not_mem r k h2]

theorem hset_same : ∀ (h : Header) (k : Bytes) (vs : List Bytes), hlookup h k = some vs → hset h k vs = h := by
  intro h
  induction h with
  | nil => intro k vs e; simp [hlookup] at e
  | cons e r ih =>
    intro k vs hl
    obtain ⟨k', vs'⟩ := e
    by_cases hk : k' = k
    · simp only [hlookup, hk, if_true, Option.some.injEq] at hl
      simp [hset, hk, hl]
    · simp only [hlookup, hk, if_false] at hl
      simp [hset, hk, ih k vs hl]

theorem hlookup_hset : ∀ (h : Header) (k : Bytes) (vs : List Bytes), hlookup (hset h k vs) k = some vs := by
  intro h
  induction h with
  | nil => intro k vs; simp [hset, hlookup]
  | cons e r ih =>
    intro k vs
    obtain ⟨k', vs'⟩ := e
    by_cases hk : k' = k
    · simp [hset, hk, hlookup]
    · simp [hset, hk, hlookup, ih]

theorem keysOf_hset (h : Header) (k : Bytes) (vs : List Bytes) :
    keysOf (hset h k vs) = if k ∈ keysOf h then keysOf h else keysOf h ++ [k] := by
  induction h with
  | nil => rfl
  | cons e r ih =>
    obtain ⟨k', vs'⟩ := e
    by_cases hk : k' = k
    · simp [hset, hk, keysOf]
    · have : keysOf (hset ((k', vs') :: r) k vs) = k' :: keysOf (hset r k vs) := by simp [hset, hk, keysOf]
      rw [this, ih]
      simp only [keysOf, List.map_cons, List.mem_cons, Ne.symm hk, false_or]
      split <;> simp [*]

theorem keysOf_hset_nodup (h : Header) (k : Bytes) (vs : List Bytes) (hn : (keysOf h).Nodup) :
    (keysOf (hset h k vs)).Nodup := by
  rw [keysOf_hset]
  split
  · exact hn
  · exact List.nodup_append.mpr ⟨hn, List.pairwise_singleton _ _, fun a ha b hb => by
      rw [List.mem_singleton.mp hb]; rintro rfl; contradiction⟩

theorem entryCount_hinsert : ∀ (h : Header) (k v : Bytes), entryCount (hinsert h k v) = entryCount h + 1 := by
  intro h
  induction h with
  | nil => intro k v; rfl
  | cons e r ih =>
    intro k v
    obtain ⟨k', vs⟩ := e
    by_cases hk : k' = k
    · simp [hinsert, hk, entryCount]; omega
    · have := ih k v
      simp only [entryCount] at this
      simp [hinsert, hk, entryCount, this]; omega

theorem bytesLt_iff : ∀ {a b : Bytes}, bytesLt a b = true ↔ a < b
  | _, [] => by simp [bytesLt]
  | [], _ :: _ => by simp [bytesLt]
  | a :: r, b :: s => by
    rw [bytesLt, List.cons_lt_cons_iff, ← bytesLt_iff]; simp

theorem u8_lt_irrefl (a : UInt8) : ¬ a < a :=
  UInt8.lt_irrefl a

theorem bytesLt_trans {a b c : Bytes} (h1 : bytesLt a b = true) (h2 : bytesLt b c = true) : bytesLt a c = true :=
  bytesLt_iff.mpr (List.lt_trans (bytesLt_iff.mp h1) (bytesLt_iff.mp h2))

theorem bytesLt_total {a b : Bytes} (hne : a ≠ b) (h : ¬ bytesLt a b = true) : bytesLt b a = true := by
  rw [bytesLt_iff, List.not_lt] at h
  exact bytesLt_iff.mpr ((List.le_iff_lt_or_eq.mp h).resolve_right (Ne.symm hne))

theorem insertSorted_perm (e : Bytes × List Bytes) : ∀ (l : Header), (insertSorted e l).Perm (e :: l)
  | [] => .refl _
  | x :: r => by
    rw [insertSorted]
    split
    · exact .refl _
    · exact ((insertSorted_perm e r).cons x).trans (.swap e x r)

theorem sortKeys_perm : ∀ (h : Header), (sortKeys h).Perm h
  | [] => .refl _
  | e :: r => (insertSorted_perm e (sortKeys r)).trans ((sortKeys_perm r).cons e)

theorem entryCount_sortKeys (h : Header) : entryCount (sortKeys h) = entryCount h :=
  ((sortKeys_perm h).map _).sum_nat

theorem hlookup_perm {l₁ l₂ : Header} (p : l₁.Perm l₂) (hn : (keysOf l₁).Nodup) (k : Bytes) :
    hlookup l₁ k = hlookup l₂ k := by
  induction p with
  | nil => rfl
  | cons x _ ih =>
    obtain ⟨k', vs⟩ := x
    rw [hlookup, hlookup, ih (List.nodup_cons.mp hn).2]
  | swap x y l =>
    obtain ⟨kx, vx⟩ := x
    obtain ⟨ky, vy⟩ := y
    have hne : ky ≠ kx := fun e => (List.nodup_cons.mp hn).1 (by simp [e])
    simp only [hlookup]
    by_cases h1 : ky = k
    · rw [if_pos h1, if_neg (fun h2 => hne (h1.trans h2.symm)), if_pos h1]
    · rw [if_neg h1, if_neg h1]
  | trans p₁ _ ih₁ ih₂ => exact (ih₁ hn).trans (ih₂ ((p₁.map _).nodup hn))

theorem hlookup_sortKeys (h : Header) (k : Bytes) (hn : (keysOf h).Nodup) : hlookup (sortKeys h) k = hlookup h k :=
  (hlookup_perm (sortKeys_perm h).symm hn k).symm

theorem bytesLt_irrefl (a : Bytes) : bytesLt a a = false :=
  Bool.eq_false_iff.mpr fun h => List.lt_irrefl a (bytesLt_iff.mp h)

abbrev Sorted (h : Header) : Prop := h.Pairwise (fun a b => bytesLt a.1 b.1 = true)

theorem sortKeys_eq_self (h : Header) (hs : Sorted h) : sortKeys h = h := by
  induction h with
  | nil => rfl
  | cons e r ih =>
    rw [Sorted, List.pairwise_cons] at hs
    rw [sortKeys, ih hs.2]
    cases r with
    | nil => rfl
    | cons x r' => rw [insertSorted, if_pos (hs.1 x List.mem_cons_self)]

theorem nodup_of_sorted (h : Header) (hs : Sorted h) : (keysOf h).Nodup := by
  refine (List.pairwise_map.mpr (hs.imp ?_) : (h.map (·.1)).Pairwise (· ≠ ·))
  intro a b hab e
  rw [e, bytesLt_irrefl] at hab
  cases hab

theorem insertSorted_sorted (e : Bytes × List Bytes) : ∀ (l : Header), Sorted l → e.1 ∉ keysOf l →
    Sorted (insertSorted e l) := by
  intro l
  induction l with
  | nil => intro _ _; exact List.pairwise_singleton _ _
  | cons x r ih =>
    intro hs hk
    rw [Sorted, List.pairwise_cons] at hs
    rw [keysOf, List.map_cons, List.mem_cons, not_or] at hk
    rw [insertSorted]
    split
    · rename_i h
      refine List.pairwise_cons.mpr ⟨fun y hy => ?_, List.pairwise_cons.mpr hs⟩
      rcases List.mem_cons.mp hy with rfl | hy
      · exact h
      · exact bytesLt_trans h (hs.1 y hy)
    · rename_i h
      refine List.pairwise_cons.mpr ⟨fun y hy => ?_, ih hs.2 hk.2⟩
      rcases List.mem_cons.mp ((insertSorted_perm e r).mem_iff.mp hy) with rfl | hy
      · exact bytesLt_total hk.1 h
      · exact hs.1 y hy

theorem sorted_sortKeys : ∀ (h : Header), (keysOf h).Nodup → Sorted (sortKeys h) := by
  intro h
  induction h with
  | nil => intro _; exact List.Pairwise.nil
  | cons e r ih =>
    intro hn
    rw [keysOf, List.map_cons, List.nodup_cons] at hn
    exact insertSorted_sorted e _ (ih hn.2) (fun hm => hn.1 (((sortKeys_perm r).map _).mem_iff.mp hm))

theorem sortKeys_idem (h : Header) (hn : (keysOf h).Nodup) : sortKeys (sortKeys h) = sortKeys h :=
  sortKeys_eq_self _ (sorted_sortKeys h hn)

end Rtsp.Frame
