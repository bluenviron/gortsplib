import Rtsp.Model.SessionTimer
/-
Timing theorems of C02 about `Model/SessionTimer.lean`.  What each stands for in terms of the server is
said where the property restates it, in `Props/C02.lean`.
-/
namespace Rtsp.Sess.Timer
open Rtsp.Facts

theorem advertised_pos (idle : Nat) : 0 < advertised idle := by
  unfold advertised; simp [Sess.advertisedMin]; omega

/-- closed form: the gortsplib client pings every `⌊Idle⌋ − 10 s`, at least every second -/
theorem clientPeriod_eq (idle : Nat) :
    clientPeriod idle = max ((idle / sec - 10) * sec) sec := by
  unfold clientPeriod keepAlive advertised
  simp only [Sess.advertisedSub, Sess.advertisedMin, Sess.keepAliveSub, Sess.keepAliveMin, sec]
  omega

theorem keepalive_margin (idle : Nat) (h : 2 * sec ≤ idle) : clientPeriod idle + sec ≤ idle := by
  rw [clientPeriod_eq]
  simp only [sec] at *
  omega

/-- below 2 s the margin is lost altogether at 1 s: period = timeout -/
theorem keepalive_no_margin_at_1s : clientPeriod sec = sec := by decide

/-- The peer's side of the story, independent of the server's bookkeeping: `r` / `p` are the times
of the peer's latest request / packet; at every check the latest applicable transmission is less
than the timeout old. -/
def PeerLive (cfg : Cfg) (recording : Bool) : Nat → Nat → List Ev → Prop
  | _, _, [] => True
  | _, p, .request t :: es => PeerLive cfg recording t p es
  | r, _, .packet t :: es => PeerLive cfg recording r t es
  | _, _, .restart t :: es => PeerLive cfg recording t t es
  | r, p, .tick now :: es =>
    (if recording then now < p + cfg.read
     else (now < r + cfg.idle ∨ now < p + cfg.idle)) ∧ PeerLive cfg recording r p es

theorem live_aux (cfg : Cfg) (recording : Bool) (hr : 0 < cfg.read) (hi : 0 < cfg.idle) :
    ∀ (es : List Ev) (s : State), s.expired = false → PeerLive cfg recording s.lastReq s.lastPkt es →
      (run cfg recording s es).expired = false := by
  intro es
  induction es with
  | nil => exact fun s he _ => he
  | cons e es ih =>
    intro s he hl
    cases e with
    | tick now =>
      obtain ⟨hnow, hl⟩ := hl
      have hexp : expires cfg recording s now = false := by
        -- `now - s.lastPkt` is truncated: `now < lastPkt + timeout` refutes `now - lastPkt ≥ timeout` only for a
        -- positive timeout (`hr`, `hi`)
        unfold expires
        cases recording <;> simp at hnow ⊢ <;> omega
      simp only [run, step, he, hexp, Bool.false_eq_true, if_false]
      exact ih _ rfl hl
    | _ =>
      simp only [run, step, he, Bool.false_eq_true, if_false]
      exact ih _ rfl hl

theorem live_never_expired (cfg : Cfg) (recording : Bool) (hr : 0 < cfg.read) (hi : 0 < cfg.idle)
    (t0 : Nat) (es : List Ev) (h : PeerLive cfg recording t0 t0 es) :
    (run cfg recording (start t0) es).expired = false :=
  live_aux cfg recording hr hi es (start t0) rfl h

/-- non-vacuity: PLAY at 0 with IdleTimeout 3 s, keep-alives every second, checks every second -/
example : PeerLive { idle := 3 * sec, read := 2 * sec } false 0 0
    [.tick sec, .request sec, .tick (2 * sec), .request (2 * sec), .tick (3 * sec), .tick (4 * sec)] := by
  simp [PeerLive, sec]

theorem resumed_after_long_pause_is_live :
    PeerLive { idle := 6 * sec, read := 2 * sec } true 0 0
      [.packet (3 * sec), .restart (21 * (sec / 2)), .tick (11 * sec), .tick (23 * (sec / 2)), .tick (12 * sec),
       .packet (12 * sec), .tick (25 * (sec / 2))] := by
  simp [PeerLive, sec]

/-- check ticks (and nothing else: the peer is silent), each at most `period` after the previous
one, the first at most `period` after `clock` -/
def Spaced (period : Nat) : Nat → List Ev → Prop
  | _, [] => True
  | clock, .tick now :: es => clock ≤ now ∧ now ≤ clock + period ∧ Spaced period now es
  | _, _ :: _ => False

def lastTime : Nat → List Ev → Nat
  | c, [] => c
  | _, .tick now :: es => lastTime now es
  | _, .request now :: es => lastTime now es
  | _, .packet now :: es => lastTime now es
  | _, .restart now :: es => lastTime now es

/-- the moment from which a check must find the session timed out -/
def deadline (cfg : Cfg) (recording : Bool) (s : State) : Nat :=
  if recording then s.lastPkt + cfg.read else max s.lastReq s.lastPkt + cfg.idle

theorem expires_of_deadline (cfg : Cfg) (recording : Bool) (s : State) (now : Nat)
    (h : deadline cfg recording s ≤ now) : expires cfg recording s now = true := by
  unfold deadline at h
  unfold expires
  cases recording <;> simp at h ⊢ <;> omega

theorem silent_aux (cfg : Cfg) (recording : Bool) (period : Nat) (s : State) :
    ∀ (es : List Ev) (clock : Nat), es ≠ [] → Spaced period clock es →
      deadline cfg recording s ≤ lastTime clock es →
      ∃ t, expiryTime cfg recording s es = some t ∧ t ≤ max clock (deadline cfg recording s) + period := by
  intro es
  induction es with
  | nil => intro clock h; exact absurd rfl h
  | cons e es ih =>
    intro clock _ hsp hd
    cases e with
    | tick now =>
      obtain ⟨_, hle, hsp⟩ := hsp
      simp only [lastTime] at hd
      cases hx : expires cfg recording s now with
      | true => exact ⟨now, by simp [expiryTime, hx], by omega⟩
      | false =>
        have hlt : now < deadline cfg recording s :=
          Nat.lt_of_not_le fun hn => by rw [expires_of_deadline cfg recording s now hn] at hx; cases hx
        have hne : es ≠ [] := by
          intro h; subst h; simp only [lastTime] at hd; omega
        obtain ⟨t, ht, hb⟩ := ih now hne hsp hd
        exact ⟨t, by simp [expiryTime, hx, ht], by omega⟩
    | _ => exact hsp.elim

theorem silent_closed_within (cfg : Cfg) (recording : Bool) (period : Nat) (s : State) (clock : Nat)
    (es : List Ev) (hne : es ≠ []) (hsp : Spaced period clock es)
    (hreach : deadline cfg recording s ≤ lastTime clock es) (hclock : clock ≤ deadline cfg recording s) :
    ∃ t, expiryTime cfg recording s es = some t ∧ t ≤ deadline cfg recording s + period := by
  obtain ⟨t, ht, hb⟩ := silent_aux cfg recording period s es clock hne hsp hreach
  exact ⟨t, ht, by omega⟩

/-- `expiryTime` and `run` agree: if some tick found the timeout, the run is expired -/
theorem run_expired_of_expiryTime (cfg : Cfg) (recording : Bool) :
    ∀ (es : List Ev) (s : State) (t : Nat), s.expired = false → expiryTime cfg recording s es = some t →
      (run cfg recording s es).expired = true := by
  intro es
  induction es with
  | nil => intro s t _ h; cases h
  | cons e es ih =>
    intro s t he h
    cases e with
    | tick now =>
      simp only [expiryTime] at h
      cases hx : expires cfg recording s now with
      | true =>
        simp only [run, step, he, hx]
        exact run_stays _ _ es _ rfl
      | false =>
        simp only [hx] at h
        have hs : ({ s with expired := false } : State) = s := by cases s; simp_all
        simp only [run, step, he, hx]
        rw [hs]
        exact ih _ t he h
    | _ => exact ih _ t (by simp [step, he]) h
where
  run_stays (cfg : Cfg) (recording : Bool) : ∀ (es : List Ev) (s : State), s.expired = true →
      (run cfg recording s es).expired = true := by
    intro es
    induction es with
    | nil => exact fun s h => h
    | cons e es ih => intro s h; cases e <;> simp only [run, step, h] <;> exact ih _ h

/-- non-vacuity of `silent_closed_within`: RECORD with ReadTimeout 2 s, last packet at 0 s,
checks every second from 1 s: the check at 2 s closes the session (deadline 2 s, bound 3 s). -/
example : Spaced sec 0 [.tick sec, .tick (2 * sec), .tick (3 * sec)] ∧
    expiryTime { idle := 60 * sec, read := 2 * sec } true { lastReq := 0, lastPkt := 0 }
      [.tick sec, .tick (2 * sec), .tick (3 * sec)] = some (2 * sec) :=
  ⟨by simp [Spaced, sec], by decide⟩

end Rtsp.Sess.Timer
