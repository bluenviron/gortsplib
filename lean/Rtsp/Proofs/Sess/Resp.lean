import Rtsp.Model.Session
import Rtsp.Proofs.Sess.Dispatch
import Rtsp.Proofs.Common.Runs
/-
C02, "exactly one response per request, in request order, echoing its CSeq".
-/
namespace Rtsp.Sess

theorem handleRequest_cseq (cfg : Config) (srv : Server) (cn : Conn) (r : Request) :
    (handleRequest cfg srv cn r).2.cseq = r.cseq := by
  rw [handleRequest_eq]
  split <;> rfl

/-- what a single event is answered with: a request delivered on an open connection gets exactly
one response, carrying its CSeq; nothing else produces a response -/
def Answers (srv : Server) : Event → Option Resp → Prop
  | .req c r, out =>
    if (findConn srv c).isSome then ∃ res, out = some res ∧ res.cseq = r.cseq else out = none
  | _, out => out = none

theorem stepEv_answers (cfg : Config) (srv : Server) (e : Event) : Answers srv e (stepEv cfg srv e).2 := by
  cases e with
  | «open» c ip => simp only [stepEv, Answers]; split <;> rfl
  | req c r =>
    simp only [stepEv, Answers]
    cases h : findConn srv c with
    | none => simp
    | some cn => simp only [Option.isSome_some, if_true]; exact ⟨_, rfl, handleRequest_cseq cfg srv cn r⟩
  | _ => rfl

/-- the responses to a history, event by event: `AnswersAll cfg srv evs outs` -/
def AnswersAll (cfg : Config) : Server → List Event → List (Option Resp) → Prop
  | _, [], outs => outs = []
  | srv, e :: es, outs =>
    ∃ o os, outs = o :: os ∧ Answers srv e o ∧ AnswersAll cfg (stepEv cfg srv e).1 es os

theorem run_answers (cfg : Config) : ∀ (evs : List Event) (srv : Server),
    AnswersAll cfg srv evs (run cfg srv evs).2 := by
  intro evs
  induction evs with
  | nil => intro srv; rfl
  | cons e es ih =>
    intro srv
    simp only [run, AnswersAll]
    exact ⟨_, _, rfl, stepEv_answers cfg srv e, ih _⟩

theorem runs (cfg : Config) : Runs (stepEv cfg) (run cfg) := ⟨fun _ => rfl, fun _ _ _ => rfl⟩

/-- requests that reach an open connection, in order -/
def delivered (cfg : Config) : Server → List Event → List Request
  | _, [] => []
  | srv, .req c r :: es =>
    if (findConn srv c).isSome then r :: delivered cfg (stepEv cfg srv (.req c r)).1 es
    else delivered cfg (stepEv cfg srv (.req c r)).1 es
  | srv, e :: es => delivered cfg (stepEv cfg srv e).1 es

end Rtsp.Sess
