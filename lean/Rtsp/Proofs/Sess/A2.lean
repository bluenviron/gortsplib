import Rtsp.Model.Session
import Rtsp.Proofs.Sess.Step
import Rtsp.Proofs.Sess.Dispatch
/-
C02: the five-state machine of the server, abstracted to the four states of RFC 2326 appendix A.2,
follows the A.2 table verbatim (with the one documented deviation: PAUSE outside Playing/Recording
is accepted and changes nothing).  The reading needs the shape of reachable records (`SessOk`: which of
`medias`, `nAnn`, `transport` are filled in which state), kept by every `Moves` and so along every history.
-/
namespace Rtsp.Sess
open Rtsp.Rfc2326

/-- shape of a reachable session record -/
structure SessOk (ss : Session) : Prop where
  annPos : ss.state = .preRecord ∨ ss.state = .record → 0 < ss.nAnn
  recAll : ss.state = .record → ss.medias.length = ss.nAnn
  playHas : ss.state = .prePlay ∨ ss.state = .play → ss.medias ≠ []
  initNone : ss.state = .initial → ss.medias = []
  trSome : ss.medias ≠ [] → ss.transport.isSome = true

theorem sessOk_new (id ip : Nat) (cs : List Nat) : SessOk { id := id, authorIp := ip, conns := cs } := by
  constructor <;> simp

theorem Moves.sessOk {ss ss' : Session} {m : Method} (hm : Moves ss m ss') (h : SessOk ss) : SessOk ss' := by
  obtain ⟨h1, h2, h3, h4, h5⟩ := h
  cases hm with
  | neutral _ => exact ⟨h1, h2, h3, h4, h5⟩
  | teardown => exact ⟨h1, h2, h3, h4, h5⟩
  | announce hs hn =>
    refine ⟨fun _ => hn, ?_, ?_, ?_, fun h => absurd (h4 hs) h⟩
    · intro h; cases h
    · rintro (h | h) <;> cases h
    · intro h; cases h
  | record hs hn =>
    refine ⟨fun _ => h1 (.inl hs), fun _ => hn, ?_, ?_, h5⟩
    · rintro (h | h) <;> cases h
    · intro h; cases h
  | play hg =>
    have hp : ss.state = .prePlay ∨ ss.state = .play := by simpa [implAllowed] using hg
    refine ⟨?_, ?_, fun _ => h3 hp, ?_, h5⟩
    · rintro (h | h) <;> cases h
    · intro h; cases h
    · intro h; cases h
  | setup hg =>
    -- the guard keeps SETUP out of `record`; the state stays on its side (`initial` joins the readers), a media is
    -- added, so `playHas` holds, and the transport is set
    refine ⟨?_, ?_, fun _ => by simp, ?_, fun _ => rfl⟩ <;>
      (revert hg h1; cases ss.state <;> simp [next, implAllowed])
  | pause h0 =>
    -- PAUSE only steps back from streaming to the ready state of the same side; no other field is written
    refine ⟨?_, ?_, ?_, ?_, h5⟩ <;>
      (revert h0 h1 h2 h3 h4; cases ss.state <;> simp +contextual [next])

theorem sessInner_ok (cfg : Config) (ss : Session) (c : Nat) (r : Request) (h : SessOk ss) :
    SessOk (sessInner cfg ss c r).1 := by
  rcases sessInner_spec cfg ss c r with ⟨_, e⟩ | ⟨_, hm⟩
  · rw [e]; exact h
  · exact hm.sessOk h

theorem a2_setup (s : St) (n : Nat) (h : implAllowed s .setup = true) :
    a2next (abs s n) .setup = some (abs (next s .setup) (n + 1)) := by
  cases s <;> simp_all [implAllowed, abs, next, a2next]
  by_cases hn : n = 0 <;> simp [hn]

theorem a2_play (s : St) (n : Nat) (h : implAllowed s .play = true) :
    a2next (abs s n) .play = some (abs .play n) := by
  cases s <;> simp_all [implAllowed, abs, a2next]

theorem a2_pause (s : St) (n : Nat) (h : s ≠ .initial) (hn : s = .record → 0 < n) :
    a2next (abs s n) .pause = some (abs (next s .pause) n) ∨
      (a2next (abs s n) .pause = none ∧ abs (next s .pause) n = abs s n) := by
  cases s <;> simp_all [abs, next, a2next]
  · by_cases h0 : n = 0 <;> simp [h0]
  · have : n ≠ 0 := by omega
    simp [this]

theorem Moves.a2 {ss ss' : Session} {m : Method} (hm : Moves ss m ss') (hok : SessOk ss) :
    let a := abs ss.state ss.medias.length
    let a' := abs ss'.state ss'.medias.length
    (m = .setup ∨ m = .play ∨ m = .record → a2next a m = some a') ∧
    (m = .pause → a2next a .pause = some a' ∨ (a2next a .pause = none ∧ a' = a)) ∧
    (m.neutral = true ∨ m = .announce → a' = a) := by
  cases hm with
  | neutral hn => exact ⟨(by rintro (rfl | rfl | rfl) <;> cases hn), (by rintro rfl; cases hn), fun _ => rfl⟩
  | teardown => exact ⟨nofun, nofun, fun _ => rfl⟩
  | announce hs _ =>
    refine ⟨nofun, nofun, fun _ => ?_⟩
    show abs .preRecord ss.medias.length = abs ss.state ss.medias.length
    rw [hs, hok.initNone hs]; rfl
  | setup hg =>
    -- one media more: the first SETUP (of a reader, or of a publisher after ANNOUNCE) takes `Init` to `Ready`, a further one stays in `Ready`
    refine ⟨fun _ => ?_, nofun, nofun⟩
    show a2next _ .setup = some (abs (next ss.state .setup) (ss.medias ++ [_]).length)
    rw [List.length_append]; exact a2_setup _ _ hg
  | play hg => exact ⟨fun _ => a2_play _ _ hg, nofun, nofun⟩
  | record hs hn =>
    refine ⟨fun _ => ?_, nofun, nofun⟩
    have : ss.medias.length ≠ 0 := by have := hok.annPos (.inl hs); omega
    show a2next (abs ss.state ss.medias.length) .record = some (abs .record ss.medias.length)
    rw [hs]; simp [abs, this, a2next]
  | pause h0 =>
    refine ⟨nofun, fun _ => ?_, nofun⟩
    exact a2_pause ss.state ss.medias.length h0 fun hs => by
      have h1 := hok.annPos (.inr hs)
      have h2 := hok.recAll hs
      omega

def AllOk (srv : Server) : Prop := ∀ ss ∈ srv.sessions, SessOk ss

theorem SessOk.withConns {ss : Session} (h : SessOk ss) (cs : List Nat) : SessOk { ss with conns := cs } :=
  ⟨h.annPos, h.recAll, h.playHas, h.initNone, h.trSome⟩

theorem sessHandle_ok (cfg : Config) (ss : Session) (c : Nat) (r : Request) (h : SessOk ss) :
    SessOk (sessHandle cfg ss c r).ss := by
  have := sessInner_ok cfg { ss with conns := addConn ss.conns c } c r (h.withConns _)
  rcases sessHandle_cases cfg ss c r with ⟨_, _, e⟩ | ⟨_, _, _, _, e⟩ <;> rw [e]
  · exact this
  · exact this.withConns _

theorem AllOk.kept (cfg : Config) : Kept cfg AllOk :=
  All.kept cfg (fun _ _ _ => sessOk_new ..) (fun ss c r h _ => sessHandle_ok cfg ss c r h) fun _ _ h _ => h.withConns _

theorem AllOk.silence {srv : Server} (h : AllOk srv) : AllOk (silence srv) := (AllOk.kept {}).silence h

theorem allOk_init : AllOk {} := fun _ h => by cases h

end Rtsp.Sess
