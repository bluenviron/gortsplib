import Rtsp.Model.Session
import Rtsp.Proofs.Sess.Wf
import Rtsp.Proofs.Sess.Resp
/-
C02: one connection's conversation — every request is answered, in order, with its own CSeq, until
an error response, after which the connection is closed and nothing more is answered.
-/
namespace Rtsp.Sess

/-- shape of the answers to the requests written on one connection -/
inductive Conversation : List Request → List (Option Resp) → Prop
  | done : Conversation [] []
  /-- answered without error: the conversation goes on -/
  | answered {r : Request} {rs : List Request} {res : Resp} {outs : List (Option Resp)} :
      res.cseq = r.cseq → res.err ≠ .fail → Conversation rs outs → Conversation (r :: rs) (some res :: outs)
  /-- answered with an error: the server closes the connection, the remaining requests are never read -/
  | closed {r : Request} {rs : List Request} {res : Resp} :
      res.cseq = r.cseq → res.err = .fail → Conversation (r :: rs) (some res :: rs.map fun _ => none)

theorem run_closed_conn (cfg : Config) (c : Nat) : ∀ (rs : List Request) (srv : Server), findConn srv c = none →
    (run cfg srv (rs.map (.req c))).2 = rs.map fun _ => none := by
  intro rs
  induction rs with
  | nil => intro srv _; rfl
  | cons r rs ih =>
    intro srv h
    simp only [List.map_cons, run, stepEv, h]
    rw [ih srv h]

theorem conversation (cfg : Config) (c : Nat) : ∀ (rs : List Request) (srv : Server) (cn : Conn), WFc srv →
    findConn srv c = some cn → Conversation rs (run cfg srv (rs.map (.req c))).2 := by
  intro rs
  induction rs with
  | nil => intro srv cn _ _; exact .done
  | cons r rs ih =>
    intro srv cn hw hf
    obtain ⟨hcn, hcid⟩ := findConn_some hf
    simp only [List.map_cons, run, stepEv, hf]
    have hcs := handleRequest_cseq cfg srv cn r
    by_cases hfail : (handleRequest cfg srv cn r).2.err = .fail
    · have hclosed := handleRequest_fail_closes cfg srv cn r hfail
      rw [hcid] at hclosed
      rw [run_closed_conn cfg c rs _ hclosed]
      exact .closed hcs hfail
    · have hopen : findConn (handleRequest cfg srv cn r).1 c ≠ none := by
        intro hnone
        rw [← hcid] at hnone
        exact hfail ((conn_closed_iff_error hw cfg hcn r).mp hnone)
      cases hf2 : findConn (handleRequest cfg srv cn r).1 c with
      | none => exact absurd hf2 hopen
      | some cn2 => exact .answered hcs hfail (ih _ cn2 ((wfc_kept cfg).handleRequest hw hcn r) hf2)

end Rtsp.Sess
