import Rtsp.Model.Session
import Rtsp.Proofs.Sess.Updates
import Rtsp.Proofs.Sess.Step
/-
How an event reaches the sessions (`server_conn.go`, `server.go`): the case analyses the invariants
and frame theorems share.  A request is answered without any session seeing it, or is run in a
session its connection may talk to, or in a session created for it (`Routed`); closing a connection
drops it and may end its session (`closeConn_cases`); an event is made of a handful of elementary
transitions, so a predicate they all keep holds along every history (`Kept.run`); a predicate on session
records holds of every live session if the few ways a record is written keep it (`All.kept`).  `Routed`
says where a request went, not what was answered: a theorem about the response to one particular
request (`connInner_unknown_sid`) goes through the definitions themselves.
-/
namespace Rtsp.Sess

/-- the record `findOrCreateSession` creates for a request on `cn` -/
def newSession (srv : Server) (cn : Conn) : Session := { id := srv.nextSid, authorIp := cn.ip, conns := [cn.id] }

/-- the server after `findOrCreateSession` created `ss` -/
def addSession (srv : Server) (ss : Session) : Server :=
  { srv with sessions := srv.sessions ++ [ss], nextSid := srv.nextSid + 1, log := srv.log ++ [.sessOpen ss.id] }

def Routed (cfg : Config) (srv : Server) (cn : Conn) (r : Request) (out : Server × Resp) : Prop :=
  out.1 = srv ∨
  (∃ ss ∈ srv.sessions, (cn.sess = none ∧ r.sid = .id ss.id ∨ cn.sess = some ss.id) ∧
    out = runInSession cfg srv cn.id ss r) ∨
  (cn.sess = none ∧ out = runInSession cfg (addSession srv (newSession srv cn)) cn.id (newSession srv cn) r)

theorem inSession_routed (cfg : Config) (srv : Server) (cn : Conn) (r : Request) (create : Bool) :
    Routed cfg srv cn r (inSession cfg srv cn r create) := by
  unfold inSession
  cases hs : cn.sess with
  | none =>
    dsimp only
    cases hl : lookupSid srv r.sid with
    | some ss =>
      dsimp only
      split
      · exact .inl rfl
      · cases hsid : r.sid with
        | id n =>
          rw [hsid] at hl
          obtain ⟨hm, hid⟩ := findSession_some hl
          exact .inr (.inl ⟨ss, hm, .inl ⟨hs, by rw [hsid, hid]⟩, rfl⟩)
        | none => rw [hsid] at hl; cases hl
        | wrong => rw [hsid] at hl; cases hl
    | none =>
      dsimp only
      split
      · exact .inl rfl
      · exact .inr (.inr ⟨hs, rfl⟩)
  | some cur =>
    dsimp only
    split
    · exact .inl rfl
    · cases hf : findSession srv cur with
      | none => exact .inl rfl
      | some ss =>
        obtain ⟨hm, hid⟩ := findSession_some hf
        exact .inr (.inl ⟨ss, hm, .inr (by rw [hs, hid]), rfl⟩)

theorem Routed.ite {cfg : Config} {srv : Server} {cn : Conn} {r : Request} {c : Prop} [Decidable c]
    {a b : Server × Resp} (ha : Routed cfg srv cn r a) (hb : Routed cfg srv cn r b) :
    Routed cfg srv cn r (if c then a else b) := ite_both ha hb

theorem connInner_routed (cfg : Config) (srv : Server) (cn : Conn) (r : Request) :
    Routed cfg srv cn r (connInner cfg srv cn r) := by
  have hin := inSession_routed cfg srv cn r
  have hno : ∀ res, Routed cfg srv cn r (srv, res) := fun _ => .inl rfl
  unfold connInner
  refine .ite (hno _) (.ite (hno _) ?_)
  cases r.method with
  | options | teardown | announce | setup | play | record | pause => exact .ite (hin _) (hno _)
  | describe => exact .ite (hno _) (hno _)
  | getParameter | setParameter => exact .ite (hin _) (.ite (hno _) (hno _))

/-- A request whose Session header names no live session is refused, whatever else is wrong with it: the
CSeq and `*` tests answer 400 themselves; past them every method but DESCRIBE goes to `inSession` (454 without a
session of the connection's own, 400 with one) or lacks its handler (501).  SETUP and ANNOUNCE on a connection
without session would create one, hence `hcreate`. -/
theorem connInner_unknown_sid (cfg : Config) (srv : Server) (cn : Conn) (r : Request)
    (hsid : lookupSid srv r.sid = none) (hn : r.sid ≠ .none) (hm : r.method ≠ .describe)
    (hcreate : cn.sess = none → r.method ≠ .setup ∧ r.method ≠ .announce)
    (hlinked : ∀ cur, cn.sess = some cur → r.sid ≠ .id cur) :
    400 ≤ (connInner cfg srv cn r).2.status := by
  have hany : ∀ b, (cn.sess = none → b = false) → 400 ≤ (inSession cfg srv cn r b).2.status := by
    intro b hb
    unfold inSession
    cases hs : cn.sess with
    | none => simp [hsid, hb hs, errResp, Facts.Sess.statusSessionNotFound]
    | some cur => simp [hn, hlinked cur hs, errResp]
  unfold connInner
  refine iteInduction (motive := fun p : Server × Resp => 400 ≤ p.2.status) (fun _ => Nat.le_refl 400) fun _ =>
    iteInduction (motive := fun p : Server × Resp => 400 ≤ p.2.status) (fun _ => Nat.le_refl 400) fun _ => ?_
  cases hmm : r.method <;> simp only [hmm] at hm hcreate ⊢
  case describe => exact absurd rfl hm
  case options | teardown | getParameter | setParameter => simp [hn]; exact hany false fun _ => rfl
  case announce =>
    split
    · exact hany true fun hs => absurd rfl (hcreate hs).2
    · simp [notImplemented, Facts.Sess.statusNotImplemented]
  case setup =>
    split
    · exact hany true fun hs => absurd rfl (hcreate hs).1
    · simp [notImplemented, Facts.Sess.statusNotImplemented]
  case play | record | pause =>
    split
    · exact hany false fun _ => rfl
    · simp [notImplemented, Facts.Sess.statusNotImplemented]

/-- `ServerConn.run()`'s tail, case by case -/
theorem closeConn_cases (srv : Server) (c : Nat) :
    (findConn srv c = none ∧ closeConn srv c = srv) ∨
    closeConn srv c = { srv with conns := srv.conns.filter (·.id != c) } ∨
    ∃ cn ss, findConn srv c = some cn ∧ cn.sess = some ss.id ∧ findSession srv ss.id = some ss ∧
      closeConn srv c =
        if endsWhenUnused { ss with conns := ss.conns.erase c } then
          endSession (putSession { srv with conns := srv.conns.filter (·.id != c) }
            { ss with conns := ss.conns.erase c }) ss.id
        else putSession { srv with conns := srv.conns.filter (·.id != c) } { ss with conns := ss.conns.erase c } := by
  unfold closeConn
  cases hf : findConn srv c with
  | none => exact .inl ⟨rfl, rfl⟩
  | some cn =>
    dsimp only
    cases hs : cn.sess with
    | none => exact .inr (.inl rfl)
    | some sid =>
      dsimp only
      cases hss : findSession { srv with conns := srv.conns.filter (·.id != c) } sid with
      | none => exact .inr (.inl rfl)
      | some ss =>
        obtain rfl := (findSession_some hss).2
        exact .inr (.inr ⟨cn, ss, rfl, hs, hss, rfl⟩)

theorem handleRequest_eq (cfg : Config) (srv : Server) (cn : Conn) (r : Request) :
    handleRequest cfg srv cn r =
      if (connInner cfg srv cn r).2.err == .fail then
        (closeConn (arm srv (connInner cfg srv cn r).1 cn.id) cn.id, { (connInner cfg srv cn r).2 with cseq := r.cseq })
      else (arm srv (setMode (connInner cfg srv cn r).1 cn.id (connInner cfg srv cn r).2.err) cn.id,
        { (connInner cfg srv cn r).2 with cseq := r.cseq }) := by
  unfold handleRequest
  rcases connInner cfg srv cn r with ⟨srv1, res⟩
  rfl

theorem closeConn_conns_sub (srv : Server) (c : Nat) :
    ∀ cn ∈ (closeConn srv c).conns, cn ∈ srv.conns ∧ cn.id ≠ c := by
  have hf : ∀ cn ∈ srv.conns.filter (·.id != c), cn ∈ srv.conns ∧ cn.id ≠ c :=
    fun cn h => ⟨(List.mem_filter.mp h).1, by simpa using (List.mem_filter.mp h).2⟩
  rcases closeConn_cases srv c with ⟨h, e⟩ | e | ⟨_, _, _, _, _, e⟩ <;> rw [e]
  · exact fun cn hcn => ⟨hcn, findConn_none_iff.mp h cn hcn⟩
  · exact hf
  · split
    · exact fun cn h => hf cn (endSession_conns_sub _ _ cn h)
    · exact hf

theorem closeConn_findConn (srv : Server) (c : Nat) : findConn (closeConn srv c) c = none :=
  findConn_none_iff.mpr fun cn h => (closeConn_conns_sub srv c cn h).2

theorem handleRequest_fail_closes (cfg : Config) (srv : Server) (cn : Conn) (r : Request)
    (h : (handleRequest cfg srv cn r).2.err = .fail) : findConn (handleRequest cfg srv cn r).1 cn.id = none := by
  rw [handleRequest_eq] at h ⊢
  split
  · exact closeConn_findConn _ _
  next hne => rw [if_neg hne] at h; exact absurd (by simpa using h) hne

/-- `P` survives a rewrite of fields of connections other than `id` and `sess` (what `arm` and
`setMode` do) -/
def FlagsKept (P : Server → Prop) : Prop :=
  ∀ s (f : Conn → Conn), P s → (∀ x, (f x).id = x.id ∧ (f x).sess = x.sess) → P { s with conns := s.conns.map f }

theorem FlagsKept.arm {P : Server → Prop} (k : FlagsKept P) {s : Server} (h : P s) (b : Server) (c : Nat) :
    P (arm b s c) :=
  k s _ h fun x => by
    split
    · exact ⟨rfl, rfl⟩
    · split <;> exact ⟨rfl, rfl⟩

theorem FlagsKept.setMode {P : Server → Prop} (k : FlagsKept P) {s : Server} (h : P s) (c : Nat) (e : Err) :
    P (setMode s c e) := by
  cases e with
  | sw b => exact k s _ h fun x => by split <;> exact ⟨rfl, rfl⟩
  | none => exact h
  | fail => exact h

/-- The elementary transitions events are made of: a client connects, a connection or a session
goes away, a request is dispatched on an open connection, per-connection flags (`tcpMode`,
`hasDeadline`) are rewritten. -/
structure Kept (cfg : Config) (P : Server → Prop) : Prop where
  connect : ∀ s c ip, P s → findConn s c = none → P { s with conns := s.conns ++ [{ id := c, ip := ip }] }
  closeConn : ∀ s c, P s → P (closeConn s c)
  endSession : ∀ s sid, P s → P (endSession s sid)
  connInner : ∀ s cn r, P s → cn ∈ s.conns → P (connInner cfg s cn r).1
  flags : FlagsKept P

namespace Kept
variable {cfg : Config} {P : Server → Prop} (k : Kept cfg P)
include k

theorem silence {s : Server} (h : P s) : P (silence s) :=
  foldl_inv _ (fun s ss hs => k.endSession s ss.id hs) _ _ (foldl_inv _ (fun s cn hs => k.closeConn s cn.id hs) _ _ h)

theorem nonRequest {s : Server} (h : P s) (c : Nat) (b : Bool) : P (nonRequest s c b) := by
  unfold Sess.nonRequest
  split
  · exact h
  · split
    · exact h
    · exact k.closeConn s c h

theorem handleRequest {s : Server} (h : P s) {cn : Conn} (hcn : cn ∈ s.conns) (r : Request) :
    P (handleRequest cfg s cn r).1 := by
  have := k.connInner s cn r h hcn
  rw [handleRequest_eq]
  split
  · exact k.closeConn _ _ (k.flags.arm this _ _)
  · exact k.flags.arm (k.flags.setMode this _ _) _ _

theorem stepEv {s : Server} (h : P s) (e : Event) : P (stepEv cfg s e).1 := by
  cases e with
  | «open» c ip =>
    simp only [Sess.stepEv]
    split
    · exact h
    next hn => exact k.connect s c ip h (by simpa using hn)
  | close c => exact k.closeConn s c h
  | expire sid => exact k.endSession s sid h
  | frame c => exact k.nonRequest h c true
  | response c => exact k.nonRequest h c false
  | silence => exact k.silence h
  | req c r =>
    simp only [Sess.stepEv]
    split
    · exact h
    · exact k.handleRequest h (List.mem_of_find?_eq_some ‹_›) r

theorem run {s : Server} (h : P s) (evs : List Event) : P (run cfg s evs).1 := by
  induction evs generalizing s with
  | nil => exact h
  | cons e es ih => exact ih (k.stepEv h e)

end Kept

def All (Φ : Session → Prop) (srv : Server) : Prop := ∀ ss ∈ srv.sessions, Φ ss

/-- The records of the sessions are written in three ways only: a session is created for a connection, a request leaves
its record in a session that goes on, a session survives the loss of a connection. -/
theorem All.kept {Φ : Session → Prop} (cfg : Config)
    (new : ∀ id ip c, Φ { id := id, authorIp := ip, conns := [c] })
    (handle : ∀ ss c r, Φ ss → (sessHandle cfg ss c r).ended = false → Φ (sessHandle cfg ss c r).ss)
    (leave : ∀ ss c, Φ ss → ¬ endsWhenUnused { ss with conns := ss.conns.erase c } = true →
      Φ { ss with conns := ss.conns.erase c }) :
    Kept cfg (All Φ) := by
  have run : ∀ {srv : Server} {ss : Session} (c : Nat) (r : Request), All Φ srv → Φ ss →
      All Φ (runInSessionWith cfg srv c ss r).1 := by
    intro srv ss c r h hs
    unfold Sess.runInSessionWith
    dsimp only
    split
    · intro x hx
      obtain ⟨hx, hne⟩ := mem_endSession.mp hx
      exact (mem_putSession hx).elim (fun e => absurd (e ▸ sessHandle_id cfg ss c r) hne) fun a => h x a.1
    · rename_i he
      exact Keyed.forall_replace Session.id h (handle ss c r hs (by simpa using he))
  exact {
    connect := fun _ _ _ h _ => h
    closeConn := fun srv c h => by
      rcases closeConn_cases srv c with ⟨_, e⟩ | e | ⟨_, ss, _, _, hf, e⟩ <;> rw [e]
      · exact h
      · exact h
      · split
        · intro x hx
          obtain ⟨hx, hne⟩ := mem_endSession.mp hx
          exact (mem_putSession hx).elim (fun e => absurd (congrArg Session.id e) hne) fun a => h x a.1
        · rename_i hrule
          exact Keyed.forall_replace Session.id h (leave ss c (h ss (findSession_some hf).1) hrule)
    endSession := fun _ sid h x hx => h x (mem_endSession.mp hx).1
    connInner := fun srv cn r h _ => by
      rcases connInner_routed cfg srv cn r with e | ⟨ss, hm, _, e⟩ | ⟨_, e⟩ <;> rw [e]
      · exact h
      · exact run _ _ h (h ss hm)
      · refine run _ _ (fun x hx => ?_) (new ..)
        rcases List.mem_append.mp hx with hx | hx
        · exact h x hx
        · rw [List.mem_singleton.mp hx]; exact new ..
    flags := fun _ _ h _ => h }

end Rtsp.Sess
