import Rtsp.Model.Session
/-
C02: what one request does to a session's record (`ServerSession.handleRequestInner` + the request
case of `runInner`).  Every method handler is a chain of refusals followed by one bookkeeping update.
`Moves` names the update of each method; `sessInner_spec` says that a request is either refused, leaving
the record alone, or answered 200 with that update; what holds after a 200 is read off `Moves`.  Which
requests are refused is a fact about the chains themselves (`sessInner_teardown` here; `C02.state_guard`,
`C02.legal_wellformed_ok`, `C02.teardown_ends` in Props/C02), proved test by test.
-/
namespace Rtsp.Sess
open Rtsp.Rfc2326

@[simp] theorem ok_eq : ok = 200 := rfl
@[simp] theorem badRequest_eq : badRequest = 400 := rfl

/-- the allowed-state sets written at the five `checkState` call sites -/
def implAllowed : SState → Method → Bool
  | s, .announce => s == .initial
  | s, .setup => s == .initial || s == .prePlay || s == .preRecord
  | s, .play => s == .prePlay || s == .play
  | s, .record => s == .preRecord
  | s, .pause => s != .initial
  | _, _ => true

theorem implAllowed_sub_rfc {s : SState} {m : Method} (h : allowed s m = false) : implAllowed s m = false := by
  revert h; cases s <;> cases m <;> decide

/-- The bookkeeping of a request answered 200, method by method: which fields of the record are
written, and the state the guard of the method lets it start from.  What is written to `udpPorts`, `path`
and `tcpConn` is left open (nothing proved here reads them), and a lemma about `Moves` is stated over a
variable method: `cases` cannot eliminate a `Moves ss r.method _`, whose index is not a variable. -/
inductive Moves (ss : Session) : Method → Session → Prop
  | neutral {m : Method} : m.neutral = true → Moves ss m ss
  | teardown : Moves ss .teardown ss
  | announce {path nAnn : Nat} : ss.state = .initial → 0 < nAnn →
      Moves ss .announce { ss with state := .preRecord, path := path, nAnn := nAnn }
  | setup {p : Proto} {i ch : Nat} {udpPorts : List Nat} {path : Nat} :
      implAllowed ss.state .setup = true →
      Moves ss .setup { ss with transport := some p, medias := ss.medias ++ [i], chans := ss.chans ++ [ch],
                                udpPorts := udpPorts, state := next ss.state .setup, path := path }
  | play {tc : Option Nat} : implAllowed ss.state .play = true →
      Moves ss .play { ss with state := .play, tcpConn := tc }
  | record {tc : Option Nat} : ss.state = .preRecord → ss.medias.length = ss.nAnn →
      Moves ss .record { ss with state := .record, tcpConn := tc }
  | pause {tc : Option Nat} : ss.state ≠ .initial →
      Moves ss .pause { ss with state := next ss.state .pause, tcpConn := tc }

namespace Moves
variable {ss ss' : Session} {m : Method}

theorem playing (h : ss.state = .play) : Moves ss .play ss := by
  have := Moves.play (ss := ss) (tc := ss.tcpConn) (by rw [h]; rfl)
  rwa [← h] at this

theorem paused (h0 : ss.state ≠ .initial) (h : next ss.state .pause = ss.state) : Moves ss .pause ss := by
  have := Moves.pause (ss := ss) (tc := ss.tcpConn) h0
  rwa [h] at this

theorem frame (h : Moves ss m ss') : ss'.id = ss.id ∧ ss'.conns = ss.conns := by cases h <;> exact ⟨rfl, rfl⟩

/-- TEARDOWN is excepted: it leaves the record alone, since the session ends -/
theorem state_eq (h : Moves ss m ss') (hm : m ≠ .teardown) : ss'.state = next ss.state m := by
  cases h with
  | neutral hn => cases m <;> cases ss.state <;> first | rfl | cases hn
  | teardown => exact absurd rfl hm
  | announce hs _ => show St.preRecord = next ss.state .announce; rw [hs]; rfl
  | setup _ => rfl
  | play hg => show St.play = next ss.state .play; revert hg; cases ss.state <;> first | exact fun _ => rfl | exact nofun
  | record hs _ => show St.record = next ss.state .record; rw [hs]; rfl
  | pause _ => rfl

end Moves

def Outcome (ss : Session) (m : Method) (p : Session × Resp) : Prop :=
  (p.2.status ≠ 200 ∧ p.1 = ss) ∨ (p.2.status = 200 ∧ Moves ss m p.1)

namespace Outcome
variable {ss ss' : Session} {m : Method} {res : Resp}

theorem bad : Outcome ss m (bad ss) := .inl ⟨show (400 : Nat) ≠ 200 by decide, rfl⟩
theorem refused (h : res.status ≠ 200) : Outcome ss m (ss, res) := .inl ⟨h, rfl⟩
theorem moved (h : res.status = 200) (hm : Moves ss m ss') : Outcome ss m (ss', res) := .inr ⟨h, hm⟩

theorem ite {c : Prop} [Decidable c] {a b : Session × Resp} (ha : c → Outcome ss m a) (hb : ¬c → Outcome ss m b) :
    Outcome ss m (if c then a else b) := iteInduction ha hb

end Outcome


theorem doAnnounce_spec (ss : Session) (r : Request) : Outcome ss .announce (doAnnounce ss r) := by
  unfold doAnnounce
  refine .ite (fun _ => .bad) fun hs => ?_
  refine .ite (fun _ => .bad) fun _ => ?_
  refine .ite (fun _ => .bad) fun hn => ?_
  refine .ite (fun _ => .moved rfl (.announce (by simpa using hs) ?_)) fun hh => .refused (by simpa using hh)
  simp at hn; omega

theorem ite_some_eq {α : Type} {c : Prop} [Decidable c] {a x : α} {o : Option α}
    (h : (if c then some a else o) = some x) : a = x ∨ o = some x := by
  split at h
  · exact .inl (Option.some.inj h)
  · exact .inr h

theorem setupChecks_status (ss : Session) (r : Request) (t : TrAlt) (res : Resp)
    (h : setupChecks ss r t = some res) : res.status = 400 ∨ res.status = 461 := by
  unfold setupChecks at h
  -- nine checks in the order of the code: seven answer `badResp`, then the multicast publisher (461), then `badResp`
  iterate 7 (rcases ite_some_eq h with rfl | h; · exact .inl rfl)
  rcases ite_some_eq h with rfl | h; · exact .inr rfl
  rcases ite_some_eq h with rfl | h; · exact .inl rfl
  cases h

theorem setupMedia_spec (cfg : Config) (ss : Session) (r : Request) (t : TrAlt)
    (hg : implAllowed ss.state .setup = true) : Outcome ss .setup (setupMedia cfg ss r t) := by
  unfold setupMedia
  cases r.track with
  | none => exact .bad
  | some i =>
    refine .ite (fun _ => .bad) fun _ => ?_
    refine .ite (fun _ => .bad) fun _ => ?_
    refine .ite (fun _ => .bad) fun _ => ?_
    have e : (if (ss.state == .initial) = true then St.prePlay else ss.state) = next ss.state .setup := by
      cases ss.state <;> rfl
    rw [e]
    exact .moved rfl (.setup hg)

theorem doSetup_spec (cfg : Config) (ss : Session) (r : Request) : Outcome ss .setup (doSetup cfg ss r) := by
  unfold doSetup
  refine .ite (fun _ => .bad) fun hg => ?_
  cases r.trs with
  | none => exact .bad
  | some ts =>
    dsimp only
    cases pickTransport cfg ts with
    | none => exact .refused (show (461 : Nat) ≠ 200 by decide)
    | some t =>
      dsimp only
      cases hres : setupChecks ss r t with
      | some res =>
        refine .refused fun h => ?_
        rcases setupChecks_status ss r t res hres with h1 | h1 <;> rw [h1] at h <;> cases h
      | none =>
        exact .ite (fun hh => .refused (by simpa using hh)) fun _ => setupMedia_spec cfg ss r t (Bool.not_not_eq.mp hg)

theorem doPlay_spec (ss : Session) (c : Nat) (r : Request) : Outcome ss .play (doPlay ss c r) := by
  unfold doPlay
  refine .ite (fun _ => .bad) fun hg => ?_
  have hg : implAllowed ss.state .play = true := Bool.not_not_eq.mp hg
  refine .ite (fun _ => .bad) fun _ => ?_
  refine .ite (fun hh => .refused (by simpa using hh)) fun _ => ?_
  refine .ite (fun hs => .moved rfl (.playing (by simpa using hs))) fun _ => ?_
  exact .ite (fun _ => .moved rfl (.play hg)) fun _ => .moved rfl (.play hg)

theorem doRecord_spec (ss : Session) (c : Nat) (r : Request) : Outcome ss .record (doRecord ss c r) := by
  unfold doRecord
  refine .ite (fun _ => .bad) fun hs => ?_
  refine .ite (fun _ => .bad) fun hn => ?_
  have hs : ss.state = .preRecord := by simpa using hs
  have hn : ss.medias.length = ss.nAnn := by simpa using hn
  refine .ite (fun _ => .bad) fun _ => ?_
  refine .ite (fun hh => .refused (by simpa using hh)) fun _ => ?_
  exact .ite (fun _ => .moved rfl (.record hs hn)) fun _ => .moved rfl (.record hs hn)

theorem doPause_spec (ss : Session) (r : Request) : Outcome ss .pause (doPause ss r) := by
  unfold doPause
  refine .ite (fun _ => .bad) fun h0 => ?_
  have h0 : ss.state ≠ .initial := by simpa using h0
  refine .ite (fun hh => .refused (by simpa using hh)) fun _ => ?_
  have hp := fun tc => Moves.pause (ss := ss) (tc := tc) h0
  cases hs : ss.state <;> rw [hs] at h0 hp
  · exact absurd rfl h0
  · exact .moved rfl (.paused (by rwa [hs]) (by rw [hs]; rfl))
  · exact .ite (fun _ => .moved rfl (hp _)) fun _ => .moved rfl (hp _)
  · exact .moved rfl (.paused (by rwa [hs]) (by rw [hs]; rfl))
  · exact .ite (fun _ => .moved rfl (hp _)) fun _ => .moved rfl (hp _)

theorem sessInner_spec (cfg : Config) (ss : Session) (c : Nat) (r : Request) :
    Outcome ss r.method (sessInner cfg ss c r) := by
  unfold sessInner
  refine .ite (fun _ => .bad) fun _ => ?_
  cases r.method with
  | options => exact .moved rfl (.neutral rfl)
  | describe => exact .refused (show (501 : Nat) ≠ 200 by decide)
  | announce => exact doAnnounce_spec ss r
  | setup => exact doSetup_spec cfg ss r
  | play => exact doPlay_spec ss c r
  | record => exact doRecord_spec ss c r
  | pause => exact doPause_spec ss r
  | teardown => exact .moved rfl .teardown
  | getParameter =>
    refine .ite (fun _ => ?_) fun _ => .moved rfl (.neutral rfl)
    by_cases h : r.hStatus = 200
    · exact .moved h (.neutral rfl)
    · exact .refused h
  | setParameter =>
    refine .ite (fun _ => ?_) fun _ => .refused (show (501 : Nat) ≠ 200 by decide)
    by_cases h : r.hStatus = 200
    · exact .moved h (.neutral rfl)
    · exact .refused h

theorem sessInner_moves (cfg : Config) (ss : Session) (c : Nat) (r : Request)
    (h : (sessInner cfg ss c r).2.status = 200) : Moves ss r.method (sessInner cfg ss c r).1 :=
  (sessInner_spec cfg ss c r).resolve_left (fun hn => hn.1 h) |>.2

theorem sessInner_frame (cfg : Config) (ss : Session) (c : Nat) (r : Request) :
    (sessInner cfg ss c r).1.id = ss.id ∧ (sessInner cfg ss c r).1.conns = ss.conns := by
  rcases sessInner_spec cfg ss c r with ⟨_, h⟩ | ⟨_, h⟩
  · rw [h]; exact ⟨rfl, rfl⟩
  · exact h.frame

/-- everything besides the state that the code checks before answering 200: with the state guard
it makes a request succeed (`C02.legal_wellformed_ok`), so the refinement theorems are not vacuous -/
def WellFormed (cfg : Config) (ss : Session) (c : Nat) (r : Request) : Prop :=
  (ss.tcpConn = none ∨ ss.tcpConn = some c) ∧
  (match r.method with
   | .announce => r.ct = 1 ∧ r.sdpOk = true ∧ 0 < r.nAnn ∧ r.hStatus = 200
   | .setup => ∃ ts t i, r.trs = some ts ∧ pickTransport cfg ts = some t ∧ setupChecks ss r t = none ∧
        r.hStatus = 200 ∧ r.track = some i ∧ i ∉ ss.medias ∧
        (if ss.state = .preRecord then r.path = ss.path ∧ i < ss.nAnn else i < cfg.nMedias) ∧
        ¬ (ss.state = .initial ∧ t.proto = .udp ∧ r.portBusy = true)
   | .play => (ss.state = .prePlay → r.path = ss.path) ∧ r.hStatus = 200
   | .record => ss.medias.length = ss.nAnn ∧ r.path = ss.path ∧ r.hStatus = 200
   | .pause => r.hStatus = 200
   | .getParameter => cfg.h.getParameter = true → r.hStatus = 200
   | .setParameter => cfg.h.setParameter = true ∧ r.hStatus = 200
   | .describe => False
   | _ => True)

theorem sessInner_teardown (cfg : Config) (ss : Session) (c : Nat) (r : Request) (hm : r.method = .teardown)
    (he : (sessInner cfg ss c r).2.err ≠ .fail) : (sessInner cfg ss c r).2.status = 200 := by
  unfold sessInner at he ⊢
  split
  · rename_i hc; rw [if_pos hc] at he; exact absurd rfl he
  · rw [hm]; rfl

theorem sessHandle_cases (cfg : Config) (ss : Session) (c : Nat) (r : Request) :
    let p := sessInner cfg { ss with conns := addConn ss.conns c } c r
    ((sessHandle cfg ss c r).ended = false ∧ (r.method = .teardown → p.2.err = .fail) ∧
      (sessHandle cfg ss c r).ss = p.1) ∨
    ((sessHandle cfg ss c r).ended = true ∧ r.method = .teardown ∧ p.2.err ≠ .fail ∧
      (sessHandle cfg ss c r).res = p.2 ∧ (sessHandle cfg ss c r).ss = { p.1 with conns := p.1.conns.erase c }) := by
  unfold sessHandle
  dsimp only
  by_cases he : ((sessInner cfg { ss with conns := addConn ss.conns c } c r).2.err != .fail) = true
  · rw [if_pos he]
    by_cases hm : (r.method == .teardown) = true
    · rw [if_pos hm]
      have hm : r.method = .teardown := by simpa using hm
      exact .inr ⟨rfl, hm, by simpa using he, by simp [hm], rfl⟩
    · rw [if_neg hm]; exact .inl ⟨rfl, fun h => absurd (by simpa using h) hm, rfl⟩
  · rw [if_neg he]; exact .inl ⟨rfl, fun _ => by simpa using he, rfl⟩

theorem sessHandle_id (cfg : Config) (ss : Session) (c : Nat) (r : Request) :
    (sessHandle cfg ss c r).ss.id = ss.id := by
  rcases sessHandle_cases cfg ss c r with ⟨_, _, h⟩ | ⟨_, _, _, _, h⟩ <;> rw [h] <;> exact (sessInner_frame cfg _ c r).1

theorem sessHandle_conns (cfg : Config) (ss : Session) (c : Nat) (r : Request) :
    (sessHandle cfg ss c r).ss.conns =
      if (sessHandle cfg ss c r).ended then (addConn ss.conns c).erase c else addConn ss.conns c := by
  rcases sessHandle_cases cfg ss c r with ⟨he, _, h⟩ | ⟨he, _, _, _, h⟩ <;> rw [h, he]
  · exact (sessInner_frame cfg _ c r).2
  · exact congrArg (·.erase c) (sessInner_frame cfg _ c r).2

theorem sessHandle_ended (cfg : Config) (ss : Session) (c : Nat) (r : Request)
    (h : (sessHandle cfg ss c r).ended = true) :
    r.method = .teardown ∧ (sessHandle cfg ss c r).res.status = 200 ∧ (sessHandle cfg ss c r).res.err ≠ .fail := by
  rcases sessHandle_cases cfg ss c r with ⟨he, _, _⟩ | ⟨_, hm, he, hr, _⟩
  · rw [h] at he; cases he
  · rw [hr]; exact ⟨hm, sessInner_teardown cfg _ c r hm he, he⟩

end Rtsp.Sess
