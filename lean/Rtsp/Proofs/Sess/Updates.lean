import Rtsp.Model.Session
import Rtsp.Proofs.Common.Keyed
/-
What the elementary updates of the server model (`putSession`, `setConnSess`, `endSession`, `setMode`,
`arm`) and its two lookups do to the list of sessions, the list of connections and the log; Go's `chRemoveConn`
rule (model: `endsWhenUnused`) as a proposition; `setConnSess` as a map of `relink`, `addConn` as insertion into a set.
-/
namespace Rtsp.Sess

def sessIds (srv : Server) : List Nat := srv.sessions.map (·.id)

theorem isStreaming_iff (s : SState) : isStreaming s = true ↔ s = .play ∨ s = .record := by
  cases s <;> decide

theorem endsWhenUnused_iff (ss : Session) :
    endsWhenUnused ss = true ↔ ss.conns = [] ∧ (isStreaming ss.state = true → ss.transport = some .tcp) := by
  cases h : isStreaming ss.state <;> simp [endsWhenUnused, h, and_comm]

theorem findSession_some {srv : Server} {id : Nat} {ss : Session} (h : findSession srv id = some ss) :
    ss ∈ srv.sessions ∧ ss.id = id := Keyed.find?_some Session.id h

theorem findConn_some {srv : Server} {c : Nat} {cn : Conn} (h : findConn srv c = some cn) :
    cn ∈ srv.conns ∧ cn.id = c := Keyed.find?_some Conn.id h

theorem findConn_none_iff {srv : Server} {c : Nat} : findConn srv c = none ↔ ∀ cn ∈ srv.conns, cn.id ≠ c :=
  Keyed.find?_none Conn.id

theorem putSession_ids (srv : Server) (ss : Session) : sessIds (putSession srv ss) = sessIds srv :=
  Keyed.map_key_map Session.id srv.sessions (Keyed.key_replace Session.id ss)

theorem mem_putSession {srv : Server} {s x : Session} (hx : x ∈ (putSession srv s).sessions) :
    x = s ∨ (x ∈ srv.sessions ∧ x.id ≠ s.id) := Keyed.mem_replace Session.id hx

theorem putSession_mem_self {srv : Server} {s ss : Session} (hm : ss ∈ srv.sessions) (hid : s.id = ss.id) :
    s ∈ (putSession srv s).sessions := Keyed.mem_replace_new Session.id hm hid

theorem putSession_mem_other {srv : Server} {x s : Session} (hx : x ∈ srv.sessions) (hne : x.id ≠ s.id) :
    x ∈ (putSession srv s).sessions := Keyed.mem_replace_old Session.id hx hne

@[simp] theorem putSession_log (srv : Server) (ss : Session) : (putSession srv ss).log = srv.log := rfl
@[simp] theorem putSession_next (srv : Server) (ss : Session) : (putSession srv ss).nextSid = srv.nextSid := rfl
@[simp] theorem setConnSess_sessions (srv : Server) (c : Nat) (s : Option Nat) :
    (setConnSess srv c s).sessions = srv.sessions := rfl
@[simp] theorem setConnSess_log (srv : Server) (c : Nat) (s : Option Nat) : (setConnSess srv c s).log = srv.log := rfl
@[simp] theorem setConnSess_next (srv : Server) (c : Nat) (s : Option Nat) :
    (setConnSess srv c s).nextSid = srv.nextSid := rfl

theorem findSession_none_iff {srv : Server} {id : Nat} : findSession srv id = none ↔ ∀ ss ∈ srv.sessions, ss.id ≠ id :=
  Keyed.find?_none Session.id

theorem mem_endSession {srv : Server} {sid : Nat} {x : Session} :
    x ∈ (endSession srv sid).sessions ↔ x ∈ srv.sessions ∧ x.id ≠ sid := by
  unfold endSession
  cases hf : findSession srv sid with
  | none => exact ⟨fun h => ⟨h, findSession_none_iff.mp hf x h⟩, And.left⟩
  | some ss => simp [List.mem_filter]

theorem sessIds_endSession (srv : Server) (sid : Nat) : sessIds (endSession srv sid) = (sessIds srv).filter (· != sid) := by
  unfold endSession
  cases hf : findSession srv sid with
  | none =>
    refine (List.filter_eq_self.mpr fun id hid => ?_).symm
    obtain ⟨ss, hss, rfl⟩ := List.mem_map.mp hid
    simpa using findSession_none_iff.mp hf ss hss
  | some ss => unfold sessIds; simp [List.filter_map, Function.comp_def]

theorem mem_sessIds_endSession {srv : Server} {sid id : Nat} :
    id ∈ sessIds (endSession srv sid) ↔ id ∈ sessIds srv ∧ id ≠ sid := by
  rw [sessIds_endSession, List.mem_filter, bne_iff_ne]

theorem endSession_conns_sub (srv : Server) (sid : Nat) : ∀ cn ∈ (endSession srv sid).conns, cn ∈ srv.conns := by
  unfold endSession
  split
  · exact fun _ h => h
  · exact fun cn h => (List.mem_filter.mp h).1

@[simp] theorem setMode_sessions (srv : Server) (c : Nat) (e : Err) : (setMode srv c e).sessions = srv.sessions := by
  cases e <;> rfl
@[simp] theorem setMode_log (srv : Server) (c : Nat) (e : Err) : (setMode srv c e).log = srv.log := by
  cases e <;> rfl
@[simp] theorem setMode_next (srv : Server) (c : Nat) (e : Err) : (setMode srv c e).nextSid = srv.nextSid := by
  cases e <;> rfl

@[simp] theorem arm_sessions (b srv : Server) (c : Nat) : (arm b srv c).sessions = srv.sessions := rfl
@[simp] theorem arm_log (b srv : Server) (c : Nat) : (arm b srv c).log = srv.log := rfl
@[simp] theorem arm_next (b srv : Server) (c : Nat) : (arm b srv c).nextSid = srv.nextSid := rfl

def relink (c : Nat) (v : Option Nat) (x : Conn) : Conn := if x.id == c then { x with sess := v } else x

theorem setConnSess_eq (srv : Server) (c : Nat) (v : Option Nat) :
    setConnSess srv c v = { srv with conns := srv.conns.map (relink c v) } := rfl

theorem relink_id (c : Nat) (v : Option Nat) (x : Conn) : (relink c v x).id = x.id := by
  unfold relink; split <;> rfl

theorem relink_ne {c : Nat} {v : Option Nat} {x : Conn} (h : x.id ≠ c) : relink c v x = x := by
  unfold relink; simp [h]

theorem relink_eq {c : Nat} {v : Option Nat} {x : Conn} (h : x.id = c) : (relink c v x).sess = v := by
  unfold relink; simp [h]

theorem filter_map_relink (l : List Conn) (c : Nat) (v : Option Nat) :
    (l.map (relink c v)).filter (·.id != c) = l.filter (·.id != c) :=
  Keyed.filter_ne_map Conn.id l (relink_id c v) fun _ => relink_ne

theorem addConn_nodup {l : List Nat} (h : l.Nodup) (c : Nat) : (addConn l c).Nodup := by
  unfold addConn
  split
  · exact h
  · rename_i hc
    exact nodup_snoc h (by simpa using hc)

theorem mem_addConn {l : List Nat} {c x : Nat} : x ∈ addConn l c ↔ x ∈ l ∨ x = c := by
  unfold addConn
  split
  · rename_i hc
    have : c ∈ l := by simpa using hc
    constructor
    · exact Or.inl
    · rintro (h | rfl); exact h; exact this
  · simp

theorem addConn_erase (l : List Nat) (c : Nat) : (addConn l c).erase c = l.erase c := by
  unfold addConn
  split
  · rfl
  · rename_i hc
    have hn : c ∉ l := by simpa using hc
    rw [List.erase_append_right _ hn, List.erase_of_not_mem hn]
    simp

end Rtsp.Sess
