import Rtsp.Model.Session
import Rtsp.Proofs.Sess.Wf
/-
C02: a request only touches the session it addresses — the session its connection is associated
with, or the one named by its Session header, or the one it creates.  Every other session record is
literally unchanged (state, transport, medias, connections) and stays alive.
-/
namespace Rtsp.Sess

theorem closeConn_mem_other {srv : Server} {x : Session} {c : Nat} (hx : x ∈ srv.sessions)
    (hl : ∀ cn ∈ srv.conns, cn.id = c → cn.sess ≠ some x.id) : x ∈ (closeConn srv c).sessions := by
  rcases closeConn_cases srv c with ⟨_, e⟩ | e | ⟨cn, ss, hf, hs, _, e⟩ <;> rw [e]
  · exact hx
  · exact hx
  · have hne : x.id ≠ ss.id := fun he => hl cn (findConn_some hf).1 (findConn_some hf).2 (he ▸ hs)
    have hput := putSession_mem_other (srv := { srv with conns := srv.conns.filter (·.id != c) })
      (s := { ss with conns := ss.conns.erase c }) hx hne
    split
    · exact mem_endSession.mpr ⟨hput, hne⟩
    · exact hput

theorem runInSessionWith_mem_other (cfg : Config) {srv : Server} {x ss : Session} (c : Nat) (r : Request)
    (hx : x ∈ srv.sessions) (hne : x.id ≠ ss.id) : x ∈ (runInSessionWith cfg srv c ss r).1.sessions := by
  have hid := sessHandle_id cfg ss c r
  unfold runInSessionWith
  dsimp only
  have hput : x ∈ (putSession srv (sessHandle cfg ss c r).ss).sessions :=
    putSession_mem_other hx (by rw [hid]; exact hne)
  split
  · exact mem_endSession.mpr ⟨hput, hne⟩
  · exact hput

theorem runInSessionWith_link (cfg : Config) {srv : Server} {ss : Session} (c : Nat) (r : Request) :
    ∀ cn' ∈ (runInSessionWith cfg srv c ss r).1.conns, cn'.id = c → cn'.sess = none ∨ cn'.sess = some ss.id := by
  intro cn' hm hcid
  unfold runInSessionWith at hm
  dsimp only at hm
  split at hm
  · obtain ⟨y, _, rfl⟩ := List.mem_map.mp (endSession_conns_sub _ _ cn' hm)
    exact .inl (relink_eq ((relink_id _ _ _).symm.trans hcid))
  · obtain ⟨y, _, rfl⟩ := List.mem_map.mp hm
    exact .inr (relink_eq ((relink_id _ _ _).symm.trans hcid))

theorem connInner_frame (cfg : Config) {srv : Server} (hw : WFc srv) {cn : Conn} (hcn : cn ∈ srv.conns)
    (r : Request) {x : Session} (hx : x ∈ srv.sessions) (h1 : cn.sess ≠ some x.id) (h2 : r.sid ≠ .id x.id) :
    x ∈ (connInner cfg srv cn r).1.sessions ∧
    ∀ cn' ∈ (connInner cfg srv cn r).1.conns, cn'.id = cn.id → cn'.sess ≠ some x.id := by
  have hrun : ∀ {s : Server} {ss : Session} {r : Request}, x ∈ s.sessions → x.id ≠ ss.id →
      x ∈ (runInSessionWith cfg s cn.id ss r).1.sessions ∧
      ∀ cn' ∈ (runInSessionWith cfg s cn.id ss r).1.conns, cn'.id = cn.id → cn'.sess ≠ some x.id := by
    intro s ss r hxs hne
    refine ⟨runInSessionWith_mem_other cfg _ r hxs hne, fun cn' hm hid => ?_⟩
    rcases runInSessionWith_link cfg cn.id r cn' hm hid with h | h <;> rw [h]
    · exact nofun
    · exact fun he => hne (Option.some.inj he).symm
  rcases connInner_routed cfg srv cn r with e | ⟨ss, _, hl, e⟩ | ⟨_, e⟩ <;> rw [e]
  · exact ⟨hx, fun cn' hm hid => hw.conn_unique hm hcn hid ▸ h1⟩
  · refine hrun hx fun he => ?_
    rcases hl with ⟨_, hl⟩ | hl
    · exact h2 (he ▸ hl)
    · exact h1 (he ▸ hl)
  · exact hrun (List.mem_append.mpr (.inl hx)) (Nat.ne_of_lt (hw.sessLt x hx))

theorem handleRequest_bystander (cfg : Config) {srv : Server} (hw : WFc srv) {cn : Conn} (hcn : cn ∈ srv.conns)
    (r : Request) {x : Session} (hx : x ∈ srv.sessions) (h1 : cn.sess ≠ some x.id) (h2 : r.sid ≠ .id x.id) :
    x ∈ (handleRequest cfg srv cn r).1.sessions := by
  obtain ⟨hm, hl⟩ := connInner_frame cfg hw hcn r hx h1 h2
  rw [handleRequest_eq]
  split
  · have hfl : FlagsKept fun s => ∀ cn' ∈ s.conns, cn'.id = cn.id → cn'.sess ≠ some x.id := by
      intro s f h hf y hy hid
      obtain ⟨z, hz, rfl⟩ := List.mem_map.mp hy
      rw [(hf z).2]; exact h z hz ((hf z).1 ▸ hid)
    exact closeConn_mem_other (srv := arm srv _ cn.id) hm (hfl.arm hl srv cn.id)
  · show x ∈ (setMode _ cn.id _).sessions
    rw [setMode_sessions]; exact hm

end Rtsp.Sess
