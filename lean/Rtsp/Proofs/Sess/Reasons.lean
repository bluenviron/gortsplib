import Rtsp.Model.Session
import Rtsp.Proofs.Sess.Step
import Rtsp.Proofs.Sess.Dispatch
/-
C02, "a session ends … on TEARDOWN, or when its last connection goes away …": a session disappears
in a step only for one of the listed reasons.
-/
namespace Rtsp.Sess

theorem closeConn_ids {srv : Server} {c id : Nat} (hid : id ∈ sessIds srv) :
    id ∈ sessIds (closeConn srv c) ∨
    ∃ cn ss, findConn srv c = some cn ∧ cn.sess = some id ∧ findSession srv id = some ss ∧
      (∀ x ∈ ss.conns, x = c) ∧ endsWhenUnused { ss with conns := ss.conns.erase c } = true := by
  rcases closeConn_cases srv c with ⟨_, e⟩ | e | ⟨cn, ss, hf, hs, hss, e⟩ <;> rw [e]
  · exact .inl hid
  · exact .inl hid
  · split
    next hrule =>
      by_cases he : id = ss.id
      · subst he
        -- nothing is left once `c` is erased: the session listed `c` alone, or nothing
        have : ∀ x ∈ ss.conns, x = c := by
          rcases List.erase_eq_nil_iff.mp ((endsWhenUnused_iff _).mp hrule).1 with e | e <;> simp [e]
        exact .inr ⟨cn, ss, hf, hs, hss, this, hrule⟩
      · exact .inl (mem_sessIds_endSession.mpr ⟨by rw [putSession_ids]; exact hid, he⟩)
    · exact .inl (by rw [putSession_ids]; exact hid)

theorem runInSessionWith_ids (cfg : Config) {srv : Server} {c id : Nat} (ss : Session) (r : Request)
    (hid : id ∈ sessIds srv) :
    id ∈ sessIds (runInSessionWith cfg srv c ss r).1 ∨
      (r.method = .teardown ∧ (runInSessionWith cfg srv c ss r).2.status = 200 ∧
        (runInSessionWith cfg srv c ss r).2.err ≠ .fail) := by
  have hput : id ∈ sessIds (putSession srv (sessHandle cfg ss c r).ss) := by rw [putSession_ids]; exact hid
  unfold runInSessionWith
  dsimp only
  split
  next hend =>
    by_cases he : id = ss.id
    · exact .inr (sessHandle_ended cfg ss c r hend)
    · exact .inl (mem_sessIds_endSession.mpr ⟨hput, he⟩)
  · exact .inl hput

theorem connInner_ids (cfg : Config) {srv : Server} {id : Nat} (cn : Conn) (r : Request)
    (hid : id ∈ sessIds srv) :
    id ∈ sessIds (connInner cfg srv cn r).1 ∨
      (r.method = .teardown ∧ (connInner cfg srv cn r).2.status = 200 ∧ (connInner cfg srv cn r).2.err ≠ .fail) := by
  rcases connInner_routed cfg srv cn r with e | ⟨ss, _, _, e⟩ | ⟨_, e⟩ <;> rw [e]
  · exact .inl hid
  · exact runInSessionWith_ids cfg ss _ hid
  · refine runInSessionWith_ids cfg _ _ ?_
    exact List.mem_map.mpr <| (List.mem_map.mp hid).imp fun _ h => ⟨List.mem_append.mpr (.inl h.1), h.2⟩

end Rtsp.Sess
