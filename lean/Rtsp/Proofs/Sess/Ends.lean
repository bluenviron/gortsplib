import Rtsp.Model.Session
import Rtsp.Proofs.Sess.Step
import Rtsp.Proofs.Sess.Dispatch
/-
C02, "a session ends exactly once": bookkeeping invariant of the OnSessionOpen / OnSessionClose log
over all event histories.
-/
namespace Rtsp.Sess

def openCount (srv : Server) (id : Nat) : Nat := srv.log.count (.sessOpen id)
def closeCount (srv : Server) (id : Nat) : Nat := srv.log.count (.sessClose id)

/-- every identifier below `nextSid` was opened once; it was closed once if its session is gone
and not at all while it is alive; nothing else is in the log -/
structure LogInv (srv : Server) : Prop where
  lt : ∀ id ∈ sessIds srv, id < srv.nextSid
  opens : ∀ id, openCount srv id = if id < srv.nextSid then 1 else 0
  closes : ∀ id, closeCount srv id = if id < srv.nextSid ∧ id ∉ sessIds srv then 1 else 0

theorem logInv_init : LogInv {} := by
  constructor <;> simp [sessIds, openCount, closeCount]

theorem LogInv.congr {a b : Server} (h : LogInv a) (hi : sessIds b = sessIds a) (hn : b.nextSid = a.nextSid)
    (hl : b.log = a.log) : LogInv b := by
  constructor
  · intro id hid; rw [hn]; exact h.lt id (hi ▸ hid)
  · intro id; unfold openCount; rw [hl, hn]; exact h.opens id
  · intro id; unfold closeCount; rw [hl, hn, hi]; exact h.closes id

theorem LogInv.endSession {srv : Server} (h : LogInv srv) (sid : Nat) : LogInv (endSession srv sid) := by
  have hids := sessIds_endSession srv sid
  unfold Sess.endSession at hids ⊢
  cases hf : findSession srv sid with
  | none => exact h
  | some ss =>
    rw [hf] at hids
    have hin : sid ∈ sessIds srv := List.mem_map.mpr ⟨ss, findSession_some hf⟩
    constructor
    · intro id hid'
      rw [hids] at hid'
      exact h.lt id (List.mem_filter.mp hid').1
    · intro id
      have := h.opens id
      unfold openCount at this ⊢
      simpa [List.count_append] using this
    · intro id
      have := h.closes id
      unfold closeCount at this ⊢
      rw [hids]
      by_cases he : id = sid
      · subst he; simp [List.count_append, this, hin, h.lt id hin]
      · simp [List.count_append, this, List.mem_filter, he, Ne.symm he]

theorem LogInv.withConns {srv : Server} (h : LogInv srv) (cs : List Conn) : LogInv { srv with conns := cs } :=
  h.congr rfl rfl rfl

theorem LogInv.putSession {srv : Server} (h : LogInv srv) (ss : Session) : LogInv (putSession srv ss) :=
  h.congr (putSession_ids srv ss) rfl rfl

theorem LogInv.setConnSess {srv : Server} (h : LogInv srv) (c : Nat) (s : Option Nat) :
    LogInv (setConnSess srv c s) := h.congr rfl rfl rfl

theorem LogInv.closeConn {srv : Server} (h : LogInv srv) (c : Nat) : LogInv (closeConn srv c) := by
  rcases closeConn_cases srv c with ⟨_, e⟩ | e | ⟨_, _, _, _, _, e⟩ <;> rw [e]
  · exact h
  · exact h.withConns _
  · split
    · exact ((h.withConns _).putSession _).endSession _
    · exact (h.withConns _).putSession _

theorem LogInv.runInSessionWith {srv : Server} (h : LogInv srv) (cfg : Config) {c : Nat} {ss : Session} {r : Request} :
    LogInv (runInSessionWith cfg srv c ss r).1 := by
  unfold Sess.runInSessionWith
  dsimp only
  split
  · exact ((h.putSession _).setConnSess _ _).endSession _
  · exact (h.putSession _).setConnSess _ _

theorem LogInv.create {srv : Server} (h : LogInv srv) (ss : Session) (hid : ss.id = srv.nextSid) :
    LogInv (addSession srv ss) := by
  have hids : sessIds (addSession srv ss) = sessIds srv ++ [srv.nextSid] := by
    unfold sessIds addSession; simp [hid]
  have hfresh : srv.nextSid ∉ sessIds srv := fun hm => Nat.lt_irrefl _ (h.lt _ hm)
  constructor
  · intro id hm
    rw [hids] at hm
    rcases List.mem_append.mp hm with hm | hm
    · exact Nat.lt_succ_of_lt (h.lt id hm)
    · exact List.mem_singleton.mp hm ▸ Nat.lt_succ_self _
  · intro id
    have := h.opens id
    unfold openCount at this ⊢
    by_cases he : id = srv.nextSid
    · subst he; simp [addSession, List.count_append, this, hid]
    · have : id < srv.nextSid + 1 ↔ id < srv.nextSid := by omega
      simp [addSession, List.count_append, *, Ne.symm he]
  · intro id
    have := h.closes id
    unfold closeCount at this ⊢
    rw [hids]
    by_cases he : id = srv.nextSid
    · subst he; simp [addSession, List.count_append, this, hfresh]
    · have : id < srv.nextSid + 1 ↔ id < srv.nextSid := by omega
      simp [addSession, List.count_append, *]

theorem LogInv.connInner {srv : Server} (h : LogInv srv) (cfg : Config) (cn : Conn) (r : Request) :
    LogInv (connInner cfg srv cn r).1 := by
  rcases connInner_routed cfg srv cn r with e | ⟨ss, _, _, e⟩ | ⟨_, e⟩ <;> rw [e]
  · exact h
  · exact h.runInSessionWith cfg
  · exact (h.create _ rfl).runInSessionWith cfg

theorem LogInv.kept (cfg : Config) : Kept cfg LogInv where
  connect _ _ _ h _ := h.withConns _
  closeConn _ c h := h.closeConn c
  endSession _ sid h := h.endSession sid
  connInner _ cn r h _ := h.connInner cfg cn r
  flags _ _ h _ := h.withConns _

theorem LogInv.silence {srv : Server} (h : LogInv srv) : LogInv (silence srv) := (LogInv.kept {}).silence h

end Rtsp.Sess
