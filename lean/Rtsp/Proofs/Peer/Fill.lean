import Rtsp.Model.UdpDemux
/-
C19: `clientAddr.fill` (server_udp_listener.go) against `net.IP.Equal`.
-/
namespace Rtsp.Peer

/-- addresses the kernel hands out: 4 or 16 bytes -/
def ValidIP (ip : IP) : Prop := ip.length = 4 ∨ ip.length = 16

instance (ip : IP) : Decidable (ValidIP ip) := by unfold ValidIP; infer_instance

theorem v4InV6Prefix_eq : v4InV6Prefix = [0,0,0,0,0,0,0,0,0,0,0xff,0xff] := by decide

theorem v4InV6Prefix_length : v4InV6Prefix.length = 12 := by decide

theorem copy16_of_length {ip : IP} (h : ip.length = 16) : copy16 ip = ip := by
  unfold copy16
  rw [h, List.take_of_length_le (by omega)]
  simp

theorem fill_v4 {ip : IP} (h : ip.length = 4) (z : String) (p : Int) : fill ip z p = ⟨v4InV6Prefix ++ ip, z, p⟩ := by
  simp [fill, h]

theorem fill_v6 {ip : IP} (h : ip.length = 16) (z : String) (p : Int) : fill ip z p = ⟨ip, z, p⟩ := by
  have : ¬ ip.length = 4 := by omega
  simp [fill, this, copy16_of_length h]

theorem fill_ip_length {ip : IP} (h : ValidIP ip) (z : String) (p : Int) : (fill ip z p).ip.length = 16 := by
  rcases h with h | h
  · rw [fill_v4 h]; simp [v4InV6Prefix_length, h]
  · rw [fill_v6 h]; exact h

theorem fill_port (ip : IP) (z : String) (p : Int) : (fill ip z p).port = p := by
  unfold fill; split <;> rfl

theorem fill_zone (ip : IP) (z : String) (p : Int) : (fill ip z p).zone = z := by
  unfold fill; split <;> rfl

theorem ipEqual_same_len {a b : IP} (h : a.length = b.length) : ipEqual a b = (a == b) := by
  simp [ipEqual, h]

theorem ipEqual_4_16 {a b : IP} (ha : a.length = 4) (hb : b.length = 16) :
    ipEqual a b = (b.take 12 == v4InV6Prefix && a == b.drop 12) := by
  simp [ipEqual, ha, hb]

theorem ipEqual_16_4 {a b : IP} (ha : a.length = 16) (hb : b.length = 4) :
    ipEqual a b = (a.take 12 == v4InV6Prefix && a.drop 12 == b) := by
  simp [ipEqual, ha, hb]

theorem append_eq_iff_take_drop {pre a b : IP} (hp : pre.length = 12) :
    pre ++ a = b ↔ b.take 12 = pre ∧ b.drop 12 = a := by
  constructor
  · intro h; subst h
    constructor
    · rw [← hp]; simp
    · rw [← hp]; simp
  · rintro ⟨h1, h2⟩
    rw [← h1, ← h2]; exact List.take_append_drop 12 b

theorem ClientAddr.mk_eq_iff (i i' : List UInt8) (z z' : String) (p p' : Int) :
    (⟨i, z, p⟩ : ClientAddr) = ⟨i', z', p'⟩ ↔ p = p' ∧ z = z' ∧ i = i' := by
  rw [ClientAddr.mk.injEq]
  exact ⟨fun ⟨h1, h2, h3⟩ => ⟨h3, h2, h1⟩, fun ⟨h3, h2, h1⟩ => ⟨h1, h2, h3⟩⟩

/-- **The map key identifies the source up to Go's address equality.**  For kernel addresses (4 or 16
bytes) two sources get the same `clientAddr` iff the ports are equal, the zones are equal and
`net.IP.Equal` holds: `127.0.0.1` and `::ffff:127.0.0.1` share a key; no other pair of distinct
addresses does, and `fe80::1%eth0` is not `fe80::1%eth1`. -/
theorem C19.fill_injective_mod_v4mapped {a b : IP} (ha : ValidIP a) (hb : ValidIP b) (za zb : String) (pa pb : Int) :
    fill a za pa = fill b zb pb ↔ pa = pb ∧ za = zb ∧ ipEqual a b = true := by
  rcases ha with ha | ha <;> rcases hb with hb | hb
  · rw [fill_v4 ha, fill_v4 hb, ipEqual_same_len (ha.trans hb.symm), ClientAddr.mk_eq_iff,
      List.append_cancel_left_eq, beq_iff_eq]
  · rw [fill_v4 ha, fill_v6 hb, ipEqual_4_16 ha hb, ClientAddr.mk_eq_iff,
      append_eq_iff_take_drop v4InV6Prefix_length, Bool.and_eq_true, beq_iff_eq, beq_iff_eq, eq_comm (a := a)]
  · rw [fill_v6 ha, fill_v4 hb, ipEqual_16_4 ha hb, ClientAddr.mk_eq_iff, eq_comm (a := a),
      append_eq_iff_take_drop v4InV6Prefix_length, Bool.and_eq_true, beq_iff_eq, beq_iff_eq]
  · rw [fill_v6 ha, fill_v6 hb, ipEqual_same_len (ha.trans hb.symm), ClientAddr.mk_eq_iff, beq_iff_eq]

theorem ipEqual_refl (a : IP) : ipEqual a a = true := by simp [ipEqual]

theorem ipEqual_comm (a b : IP) : ipEqual a b = ipEqual b a := by
  unfold ipEqual
  by_cases h : a.length = b.length
  · rw [if_pos h, if_pos h.symm, BEq.comm]
  · rw [if_neg h, if_neg (Ne.symm h)]
    -- the 4/16 clause of one side is the 16/4 clause of the other
    by_cases h1 : a.length = 4 ∧ b.length = 16
    · rw [if_pos h1, if_neg (by omega), if_pos h1.symm, BEq.comm (a := a)]
    · rw [if_neg h1, if_neg (mt And.symm h1)]
      by_cases h2 : a.length = 16 ∧ b.length = 4
      · rw [if_pos h2, if_pos h2.symm, BEq.comm (a := b)]
      · rw [if_neg h2, if_neg (mt And.symm h2)]

/-- `net.IP.Equal` is transitive on kernel addresses (consequence of `C19.fill_injective_mod_v4mapped`). -/
theorem ipEqual_trans {a b c : IP} (ha : ValidIP a) (hb : ValidIP b) (hc : ValidIP c)
    (h1 : ipEqual a b = true) (h2 : ipEqual b c = true) : ipEqual a c = true := by
  have e1 := (C19.fill_injective_mod_v4mapped ha hb "" "" 0 0).2 ⟨rfl, rfl, h1⟩
  have e2 := (C19.fill_injective_mod_v4mapped hb hc "" "" 0 0).2 ⟨rfl, rfl, h2⟩
  exact ((C19.fill_injective_mod_v4mapped ha hc "" "" 0 0).1 (e1.trans e2)).2.2

end Rtsp.Peer
