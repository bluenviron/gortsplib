import Rtsp.Proofs.Peer.Handle
/-
C19: the ownership invariant – a connection is only ever linked to a session whose author has the same
address and zone – under the table operations.
-/
namespace Rtsp.Peer

/-- `c` may drive `o`: the author check of `findOrCreateSession` -/
def SameAddr (c : Conn) (o : Session) : Prop := ipEqual c.ip o.authorIP = true ∧ c.zone = o.authorZone

namespace Server

/-- session ids are below the allocation counter; every link of a connection points below the counter
and, when the session still exists, to a session of the connection's own address -/
structure Inv (sv : Server) : Prop where
  sid_lt : ∀ ss ∈ sv.sessions, ss.id < sv.nextSid
  link   : ∀ cid c, sv.findConn cid = some c → ∀ own, c.session = some own →
             own < sv.nextSid ∧ ∀ o, sv.findSession own = some o → SameAddr c o

theorem inv_empty (udp : Bool) : Inv { udp := udp } := by
  constructor
  · intro ss h; simp at h
  · intro cid c h; simp [findConn] at h

theorem inv_congr {sv sv' : Server} (h : Inv sv) (h1 : sv'.sessions = sv.sessions) (h2 : sv'.conns = sv.conns)
    (h3 : sv'.nextSid = sv.nextSid) : Inv sv' := by
  constructor
  · intro ss hs; rw [h3]; exact h.sid_lt ss (h1 ▸ hs)
  · intro cid c hc own ho
    rw [findConn_congr h2] at hc
    obtain ⟨a, b⟩ := h.link cid c hc own ho
    exact ⟨h3 ▸ a, fun o hfo => b o (by rw [← findSession_congr h1]; exact hfo)⟩

theorem inv_register {sv : Server} (h : Inv sv) (ss : Session) (b : Bool) : Inv (sv.register ss b) :=
  inv_congr h (register_fields sv ss b).1 (register_fields sv ss b).2.1 (register_fields sv ss b).2.2.1

theorem inv_setSession {sv : Server} (h : Inv sv) {ss' old : Session} (hf : sv.findSession ss'.id = some old)
    (hip : ss'.authorIP = old.authorIP) (hz : ss'.authorZone = old.authorZone) : Inv (sv.setSession ss') := by
  constructor
  · exact Keyed.forall_replace Session.id h.sid_lt
      (findSession_id hf ▸ h.sid_lt old (List.mem_of_find?_eq_some hf))
  · intro cid c hc own ho
    obtain ⟨a, b⟩ := h.link cid c hc own ho
    refine ⟨a, fun o hfo => ?_⟩
    rcases findSession_setSession_some hfo with ⟨rfl, rfl⟩ | hfo'
    · have := b old hf
      unfold SameAddr at this ⊢
      rw [hip, hz]; exact this
    · exact b o hfo'

theorem inv_setConnSession {sv : Server} (h : Inv sv) (cid : Nat) (x : Option Nat)
    (hx : ∀ c, sv.findConn cid = some c → ∀ own, x = some own →
      own < sv.nextSid ∧ ∀ o, sv.findSession own = some o → SameAddr c o) :
    Inv (sv.setConnSession cid x) := by
  refine ⟨h.sid_lt, fun cid' c hc own ho => ?_⟩
  obtain ⟨c0, hf, rfl | ⟨rfl, rfl⟩⟩ := findConn_setConnSession_some hc
  · exact h.link cid' c hf own ho
  · exact hx c0 hf own ho

theorem inv_closeSession {sv : Server} (h : Inv sv) (ss : Session) : Inv (sv.closeSession ss) := by
  obtain ⟨e1, _, e3, _⟩ := closeSession_fields sv ss
  constructor
  · intro s hs
    rw [e1] at hs
    rw [e3]; exact h.sid_lt s (List.mem_filter.1 hs).1
  · intro cid c hc own ho
    rw [findConn_closeSession] at hc
    split at hc
    · cases hc
    · obtain ⟨a, b⟩ := h.link cid c hc own ho
      refine ⟨e3 ▸ a, fun o hfo => ?_⟩
      rw [findSession_closeSession] at hfo
      split at hfo
      · cases hfo
      · exact b o hfo

end Server
end Rtsp.Peer
