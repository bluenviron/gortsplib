import Rtsp.Proofs.Peer.Demux
/-
C19: the client listener one datagram at a time (`CL.step_eq`; a foreign address, the any-port latch) and
a strict listener over arbitrary datagram histories (`CL.run_strict`).
-/
namespace Rtsp.Peer

theorem CL.run_cons (s : CL) (d : Dgram) (ds : List Dgram) : s.run (d :: ds) = (s.step d).run ds := rfl

theorem CL.run_append (s : CL) (a b : List Dgram) : s.run (a ++ b) = (s.run a).run b := by
  simp [CL.run, List.foldl_append]

theorem CL.step_eq (s : CL) (d : Dgram) :
    s.step d = if s.Accepts d.ip d.zone d.port then
      { s with readPort := d.port, last := d.now, delivered := (d.len, d.port) :: s.delivered } else s := by
  unfold CL.step
  rw [CL.recv_eq]
  split <;> rfl

/-- strict mode (`h`): `AnyPortEnable` off, or the port has already been latched.  Stated as one equation, so that read
port, address and zone stay by `rfl`. -/
theorem CL.run_strict (s : CL) (ds : List Dgram) (h : ¬ (s.anyPort = true ∧ s.readPort = 0)) :
    ∃ l new, s.run ds = { s with last := l, delivered := new ++ s.delivered } ∧
      ∀ e ∈ new, ∃ d ∈ ds, ipEqual s.readIP d.ip = true ∧ (s.multicast = true ∨ s.readZone = d.zone) ∧
        d.port = s.readPort ∧ e = (d.len, d.port) := by
  induction ds generalizing s with
  | nil => exact ⟨s.last, [], rfl, fun _ he => nomatch he⟩
  | cons d ds ih =>
    rw [CL.run_cons, CL.step_eq]
    split
    · next a =>
      -- a strict listener accepts on the stored port only, so it stays strict
      have hp : d.port = s.readPort := a.2.2.elim id fun x => absurd x h
      obtain ⟨l, new, e, hnew⟩ := ih { s with readPort := d.port, last := d.now, delivered := (d.len, d.port) :: s.delivered }
        (by show ¬ (s.anyPort = true ∧ d.port = 0); rw [hp]; exact h)
      refine ⟨l, new ++ [(d.len, d.port)], ?_, fun x hx => ?_⟩
      · rw [e, List.append_assoc, hp]; rfl
      · rcases List.mem_append.1 hx with hx | hx
        · obtain ⟨d', hd', x1, xz, x2, x3⟩ := hnew x hx
          exact ⟨d', List.mem_cons_of_mem _ hd', x1, xz, x2.trans hp, x3⟩
        · exact ⟨d, List.mem_cons_self, a.1, a.2.1, hp, List.mem_singleton.1 hx⟩
    · obtain ⟨l, new, e, hnew⟩ := ih s h
      refine ⟨l, new, e, fun x hx => ?_⟩
      obtain ⟨d', hd', hd''⟩ := hnew x hx
      exact ⟨d', List.mem_cons_of_mem _ hd', hd''⟩

theorem CL.step_foreign_ip (s : CL) (d : Dgram) (h : ipEqual s.readIP d.ip = false) : s.step d = s := by
  rw [CL.step_eq, if_neg fun a => Bool.false_ne_true (h ▸ a.1)]

theorem CL.step_latch (s : CL) (d : Dgram) (hany : s.anyPort = true) (h0 : s.readPort = 0)
    (hip : ipEqual s.readIP d.ip = true) (hz : s.multicast = true ∨ s.readZone = d.zone) :
    s.step d = { s with readPort := d.port, last := d.now, delivered := (d.len, d.port) :: s.delivered } := by
  rw [CL.step_eq, if_pos ⟨hip, hz, .inr ⟨hany, h0⟩⟩]

end Rtsp.Peer
