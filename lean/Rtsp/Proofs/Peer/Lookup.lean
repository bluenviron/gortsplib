import Rtsp.Model.PeerSession
import Rtsp.Proofs.Common.Keyed
/-
C19: what `findSession` / `findConn` and the counters see after each primitive table operation of
`Model/PeerSession.lean`.
-/
namespace Rtsp.Peer

namespace Server

theorem findSession_id {sv : Server} {sid : Nat} {ss : Session} (h : sv.findSession sid = some ss) : ss.id = sid :=
  (Keyed.find?_some Session.id h).2

theorem findConn_id {sv : Server} {cid : Nat} {c : Conn} (h : sv.findConn cid = some c) : c.id = cid :=
  (Keyed.find?_some Conn.id h).2

theorem findSession_congr {sv sv' : Server} (h : sv'.sessions = sv.sessions) (sid : Nat) :
    sv'.findSession sid = sv.findSession sid := by unfold findSession; rw [h]

theorem findConn_congr {sv sv' : Server} (h : sv'.conns = sv.conns) (cid : Nat) :
    sv'.findConn cid = sv.findConn cid := by unfold findConn; rw [h]

theorem findSession_setSession (sv : Server) (ss : Session) (sid : Nat) :
    (sv.setSession ss).findSession sid =
      (sv.findSession sid).map (fun s => if s.id == ss.id then ss else s) :=
  Keyed.find?_map Session.id sv.sessions sid (Keyed.key_replace Session.id ss)

theorem findSession_setSession_self (sv : Server) (ss old : Session) (h : sv.findSession ss.id = some old) :
    (sv.setSession ss).findSession ss.id = some ss := by
  rw [findSession_setSession, h]
  simp [findSession_id h]

theorem findSession_setSession_ne (sv : Server) (ss : Session) (sid : Nat) (h : sid ≠ ss.id) :
    (sv.setSession ss).findSession sid = sv.findSession sid := by
  rw [findSession_setSession]
  cases hf : sv.findSession sid with
  | none => rfl
  | some s =>
    have hne : ¬ s.id = ss.id := by rw [findSession_id hf]; exact h
    simp [hne]

theorem findSession_setSession_some {sv : Server} {ss s : Session} {sid : Nat}
    (h : (sv.setSession ss).findSession sid = some s) : (sid = ss.id ∧ s = ss) ∨ sv.findSession sid = some s := by
  rw [findSession_setSession] at h
  cases hf : sv.findSession sid with
  | none => rw [hf] at h; cases h
  | some o =>
    rw [hf] at h
    have h : (if o.id == ss.id then ss else o) = s := Option.some.inj h
    split at h
    · next e => exact .inl ⟨(findSession_id hf).symm.trans (eq_of_beq e), h.symm⟩
    · exact .inr (h ▸ rfl)

theorem findSession_setConnSession (sv : Server) (cid : Nat) (x : Option Nat) (sid : Nat) :
    (sv.setConnSession cid x).findSession sid = sv.findSession sid := rfl

theorem findConn_setConnSession (sv : Server) (cid : Nat) (x : Option Nat) (cid' : Nat) :
    (sv.setConnSession cid x).findConn cid' =
      (sv.findConn cid').map (fun c => if c.id == cid then { c with session := x } else c) :=
  Keyed.find?_map Conn.id sv.conns cid' fun _ => ite_both (P := fun y : Conn => y.id = _) rfl rfl

theorem findConn_setConnSession_self (sv : Server) (c : Conn) (x : Option Nat)
    (h : sv.findConn c.id = some c) :
    (sv.setConnSession c.id x).findConn c.id = some { c with session := x } := by
  rw [findConn_setConnSession, h]; simp

theorem findConn_setConnSession_some {sv : Server} {cid cid' : Nat} {x : Option Nat} {c : Conn}
    (h : (sv.setConnSession cid x).findConn cid' = some c) :
    ∃ c0, sv.findConn cid' = some c0 ∧ (c = c0 ∨ (cid' = cid ∧ c = { c0 with session := x })) := by
  rw [findConn_setConnSession] at h
  cases hf : sv.findConn cid' with
  | none => rw [hf] at h; cases h
  | some c0 =>
    rw [hf] at h
    have h : (if c0.id == cid then { c0 with session := x } else c0) = c := Option.some.inj h
    refine ⟨c0, rfl, ?_⟩
    split at h
    · next e => exact .inr ⟨(findConn_id hf).symm.trans (eq_of_beq e), h.symm⟩
    · exact .inl h.symm

theorem findSession_dropConn (sv : Server) (cid : Nat) (sid : Nat) :
    (sv.dropConn cid).findSession sid = sv.findSession sid := rfl

theorem findConn_dropConn (sv : Server) (cid cid' : Nat) :
    (sv.dropConn cid).findConn cid' = if cid' = cid then none else sv.findConn cid' := by
  refine (Keyed.find?_filter Conn.id sv.conns (cid' != cid) fun _ e => by rw [e]).trans ?_
  by_cases h : cid' = cid <;> simp [h, findConn]

theorem dropConn_setConnSession (sv : Server) (cid : Nat) (x : Option Nat) :
    (sv.setConnSession cid x).dropConn cid = sv.dropConn cid :=
  congrArg (fun l => ({ sv with conns := l } : Server))
    (Keyed.filter_ne_map Conn.id sv.conns (fun _ => ite_both (P := fun y : Conn => y.id = _) rfl rfl)
      fun _ h => if_neg fun e => h (beq_iff_eq.mp e))

theorem unregister_fields (sv : Server) (ss : Session) :
    (unregister sv ss).sessions = sv.sessions ∧ (unregister sv ss).conns = sv.conns ∧
    (unregister sv ss).nextSid = sv.nextSid ∧ (unregister sv ss).nextCid = sv.nextCid := by
  unfold unregister; split <;> exact ⟨rfl, rfl, rfl, rfl⟩

theorem register_fields (sv : Server) (ss : Session) (b : Bool) :
    (register sv ss b).sessions = sv.sessions ∧ (register sv ss b).conns = sv.conns ∧
    (register sv ss b).nextSid = sv.nextSid ∧ (register sv ss b).nextCid = sv.nextCid := by
  unfold register; split <;> exact ⟨rfl, rfl, rfl, rfl⟩

theorem closeSession_fields (sv : Server) (ss : Session) :
    (sv.closeSession ss).sessions = sv.sessions.filter (fun s => s.id != ss.id) ∧
    (sv.closeSession ss).conns = sv.conns.filter (fun c => !ss.conns.contains c.id) ∧
    (sv.closeSession ss).nextSid = sv.nextSid ∧ (sv.closeSession ss).nextCid = sv.nextCid := by
  obtain ⟨e1, e2, e3, e4⟩ := unregister_fields { sv with conns := sv.conns.filter (fun c => !ss.conns.contains c.id) } ss
  exact ⟨congrArg (List.filter fun s : Session => s.id != ss.id) e1, e2, e3, e4⟩

theorem findSession_closeSession (sv : Server) (ss : Session) (sid : Nat) :
    (sv.closeSession ss).findSession sid = if sid = ss.id then none else sv.findSession sid := by
  unfold findSession
  rw [(closeSession_fields sv ss).1]
  refine (Keyed.find?_filter Session.id sv.sessions (sid != ss.id) fun _ e => by rw [e]).trans ?_
  by_cases h : sid = ss.id <;> simp [h]

theorem findConn_closeSession (sv : Server) (ss : Session) (cid : Nat) :
    (sv.closeSession ss).findConn cid = if ss.conns.contains cid then none else sv.findConn cid := by
  unfold findConn
  rw [(closeSession_fields sv ss).2.1]
  refine (Keyed.find?_filter Conn.id sv.conns (!ss.conns.contains cid) fun _ e => by rw [e]).trans ?_
  cases ss.conns.contains cid <;> rfl

/-- ids are never reused (Go: connections are pointers) -/
theorem openConn_cases (sv : Server) (cid : Nat) (ip : IP) (zone : String) :
    sv.openConn cid ip zone = sv ∨ (sv.nextCid ≤ cid ∧
      sv.openConn cid ip zone = { sv with conns := sv.conns ++ [⟨cid, ip, zone, none⟩], nextCid := cid + 1 }) := by
  unfold openConn
  split
  · exact .inl rfl
  · exact .inr ⟨by omega, rfl⟩

theorem findConn_snoc (sv : Server) (c : Conn) (n v : Nat) :
    ({ sv with conns := sv.conns ++ [c], nextCid := n } : Server).findConn v =
      (sv.findConn v).or (if c.id = v then some c else none) :=
  Keyed.find?_snoc Conn.id sv.conns c v

end Server
end Rtsp.Peer
