import Rtsp.Proofs.Peer.Invariant
import Rtsp.Proofs.Peer.Fill
/-
C19: histories of the session-ownership model.  Every event is a chain of a few elementary changes of the
tables (`Move`), each made on behalf of one connection and only after the checks listed with it
(`step_moves`).  An invariant is proved once per move and then holds in every reachable state (`runEvs_preserves`);
what a connection can do to the sessions of another address is read off the same list (`frame_move`, `request_frame`).
-/
namespace Rtsp.Peer
namespace Server

/-- what can happen to a server: a connection is accepted, a request arrives on a connection, a
connection goes away (client closed it, read error, timeout) -/
inductive Ev where
  | open (cid : Nat) (ip : IP) (zone : String)
  | req (cid : Nat) (r : Req) (now : Int)
  | close (cid : Nat)

def step (sv : Server) : Ev → Server
  | .open cid ip zone => sv.openConn cid ip zone
  | .req cid r now => (sv.request cid r now).1
  | .close cid => sv.closeConn cid

/-- the server after a history, starting from `Start()` -/
def runEvs (udp : Bool) (evs : List Ev) : Server := evs.foldl step { udp := udp }

/-- connection `c` is live (whatever it is linked to) -/
def Has (sv : Server) (c : Conn) : Prop := ∃ x, sv.findConn c.id = some { c with session := x }

/-- One change of the tables on behalf of connection `c`, with what the code has checked when it makes it.
Two moves are several writes of the model taken together, because an invariant fails in between: `handle`
is `chHandleRequest`, the record stored and the medias stopped / started (after PAUSE's store the listeners
still know a session that no longer streams); `finish` is `c` leaving the session and the end of
`ServerSession.run` (a session torn down by its pinned connection is, for a moment, pinned to a live
connection that is not attached).  Being kept by every move is sufficient for an invariant, not necessary: `drop` and
the `detach` / `finish` that follows it stay two moves, so a predicate that relates `conns` to `ss.conns` (every
connection a session lists is live) fails in between and has to be proved per event. -/
inductive Move (c : Conn) : Server → Server → Prop
  | accept {sv} : sv.nextCid ≤ c.id → c.session = none →
      Move c sv { sv with conns := sv.conns ++ [c], nextCid := c.id + 1 }
  | create {sv} (now : Int) : Move c sv (sv.addSession (newSession sv c now))
  | handle {sv ss res} (now : Int) : sv.findConn c.id = some c → sv.findSession ss.id = some ss → SameAddr c ss →
      Handled (touch ss c.id now) c.id res → Move c sv (stored sv res)
  | link {sv ss} : sv.findConn c.id = some c → sv.findSession ss.id = some ss → SameAddr c ss →
      Move c sv (sv.setConnSession c.id (some ss.id))
  | unlink {sv} : Move c sv (sv.setConnSession c.id none)
  | drop {sv} : Move c sv (sv.dropConn c.id)
  | detach {sv ss} : sv.findConn c.id = none → sv.findSession ss.id = some ss → SameAddr c ss →
      Move c sv (sv.setSession (detach ss c.id))
  | finish {sv ss} : sv.findSession ss.id = some ss → SameAddr c ss →
      Move c sv ((sv.setSession (detach ss c.id)).closeSession (detach ss c.id))

inductive Moves (c : Conn) : Server → Server → Prop
  | refl {sv} : Moves c sv sv
  | head {sv sv1 sv2} : Move c sv sv1 → Moves c sv1 sv2 → Moves c sv sv2

theorem Moves.trans {c : Conn} {a b d : Server} (h1 : Moves c a b) (h2 : Moves c b d) : Moves c a d := by
  induction h1 with
  | refl => exact h2
  | head m _ ih => exact .head m (ih h2)

theorem Moves.one {c : Conn} {a b : Server} (m : Move c a b) : Moves c a b := .head m .refl

theorem Moves.preserves {P : Server → Prop} {c : Conn} (hm : ∀ {a b}, Move c a b → P a → P b) {a b : Server}
    (h : Moves c a b) : P a → P b := by
  induction h with
  | refl => exact id
  | head m _ ih => exact fun hp => ih (hm m hp)

theorem inv_move {c : Conn} {a b : Server} (m : Move c a b) (h : Inv a) : Inv b := by
  cases m with
  | accept hge hn =>
    refine ⟨h.sid_lt, fun cid' c' hc own ho => ?_⟩
    rcases Keyed.find?_snoc_some Conn.id hc with hf | ⟨rfl, _⟩
    · exact h.link cid' c' hf own ho
    · rw [hn] at ho; cases ho
  | create now =>
    -- the new id is the counter: old ids and old links stay below it, and no link points at it
    constructor
    · intro s hs
      show s.id < a.nextSid + 1
      rcases List.mem_append.1 hs with hs | hs
      · exact Nat.lt_succ_of_lt (h.sid_lt s hs)
      · rw [List.mem_singleton.1 hs]; exact Nat.lt_succ_self _
    · intro cid c' hc own ho
      obtain ⟨x, y⟩ := h.link cid c' hc own ho
      refine ⟨Nat.lt_succ_of_lt x, fun o hfo => y o ?_⟩
      rw [findSession_addSession, if_neg (by show a.nextSid ≠ own; omega), Option.or_none] at hfo
      exact hfo
  | @handle ss _ now hc hf hsame hh =>
    obtain ⟨e1, e2, e3, _⟩ := stored_fields a _
    exact inv_congr (inv_setSession (old := ss) h (hh.keeps.1 ▸ hf) hh.keeps.2.1 hh.keeps.2.2.1) e1 e2 e3
  | link hc hf hsame =>
    refine inv_setConnSession h _ _ fun c' hc' own hx => ?_
    cases hx
    rw [hc] at hc'; cases hc'
    exact ⟨h.sid_lt _ (List.mem_of_find?_eq_some hf), fun o ho => by rw [hf] at ho; cases ho; exact hsame⟩
  | unlink => exact inv_setConnSession h _ _ fun _ _ _ hx => nomatch hx
  | drop =>
    refine ⟨h.sid_lt, fun cid' c' hc own ho => ?_⟩
    rw [findConn_dropConn] at hc
    split at hc
    · cases hc
    · exact h.link cid' c' hc own ho
  | @detach ss _ hf _ => exact inv_setSession (ss' := detach ss c.id) h hf rfl rfl
  | @finish ss hf _ => exact inv_closeSession (inv_setSession (ss' := detach ss c.id) h hf rfl rfl) _

theorem Has.of_find {sv : Server} {c : Conn} (h : sv.findConn c.id = some c) : Has sv c := ⟨c.session, h⟩

/-- the end of `ServerConn.run` -/
theorem closeConn_moves {sv : Server} (hi : Inv sv) {c : Conn} (hc : Has sv c) : Moves c sv (sv.closeConn c.id) := by
  obtain ⟨x, hc'⟩ := hc
  rw [closeConn_eq hc']
  cases hb : Option.bind x sv.findSession with
  | none => exact .one .drop
  | some ss =>
    obtain ⟨sid, hl, hs⟩ := Option.bind_eq_some_iff.1 hb
    obtain rfl := findSession_id hs
    -- the session that loses the connection has the connection's address
    have hsame : SameAddr c ss := (hi.link c.id _ hc' ss.id hl).2 ss hs
    have gone : (sv.dropConn c.id).findConn c.id = none := by rw [findConn_dropConn, if_pos rfl]
    show Moves c sv (removeConnFromSession (sv.dropConn c.id) ss c.id)
    rcases removeConnFromSession_cases (sv.dropConn c.id) ss c.id with e | e <;> rw [e]
    · exact .head .drop (.one (.detach gone hs hsame))
    · exact .head .drop (.one (.finish hs hsame))

/-- `handleRequestInSession` once the session is found or created -/
theorem inSessionRun_moves {sv : Server} {c : Conn} {ss : Session} (r : Req) (now : Int)
    (hc : sv.findConn c.id = some c) (hs : sv.findSession ss.id = some ss) (hsame : SameAddr c ss) :
    Moves c sv (inSessionRun sv ss c.id r now).1 ∧ Has (inSessionRun sv ss c.id r now).1 c := by
  rw [inSessionRun_eq]
  have hh := sessionHandle_handled sv (touch ss c.id now) c.id r
  generalize sessionHandle sv (touch ss c.id now) c.id r = res at hh
  have m1 : Move c sv (stored sv res) := .handle now hc hs hsame hh
  have hc3 : (stored sv res).findConn c.id = some c := (findConn_congr (stored_fields sv res).2.1 _).trans hc
  have hs3 : (stored sv res).findSession res.ss.id = some res.ss :=
    (findSession_stored sv res _).trans (findSession_setSession_self sv res.ss ss (hh.keeps.1 ▸ hs))
  have hsame3 : SameAddr c res.ss := by
    unfold SameAddr at hsame ⊢; rw [hh.keeps.2.1, hh.keeps.2.2.1]; exact hsame
  generalize stored sv res = sv3 at m1 hc3 hs3
  unfold finish
  split
  · refine ⟨.head m1 (.head .unlink (.one (.finish (c := c) hs3 hsame3))), none, ?_⟩
    -- the connection that tore the session down is detached from it, so it survives its end
    show (closeSession _ _).findConn c.id = _
    rw [findConn_closeSession, if_neg (by simp [List.mem_filter])]
    exact findConn_setConnSession_self sv3 c none hc3
  · have e : ss.id = res.ss.id := hh.keeps.1.symm
    rw [e]
    exact ⟨.head m1 (.one (.link hc3 hs3 hsame3)), _, findConn_setConnSession_self sv3 c _ hc3⟩

/-- `handleRequestInSession` refuses, or hands the request to a session the connection may drive: one it has found,
or one it has just created -/
theorem inSession_moves {sv : Server} (hi : Inv sv) {c : Conn} (hc : sv.findConn c.id = some c) (r : Req)
    (create : Bool) (now : Int) :
    Moves c sv (inSession sv c r create now).1 ∧ Has (inSession sv c r create now).1 c := by
  have refuse : ∀ {st : Nat}, Moves c sv (sv, st, true).1 ∧ Has (sv, st, true).1 c := ⟨.refl, .of_find hc⟩
  have found : ∀ {sid ss}, sv.findSession sid = some ss → SameAddr c ss →
      Moves c sv (inSessionRun sv ss c.id r now).1 ∧ Has (inSessionRun sv ss c.id r now).1 c :=
    fun hf => inSessionRun_moves r now hc (by rw [findSession_id hf]; exact hf)
  unfold inSession
  cases hcs : c.session with
  | none =>
    simp only
    cases hf : r.sid.bind sv.findSession with
    | some ss =>
      simp only
      split
      · exact refuse
      · next hchk =>
        obtain ⟨sid, _, hfs⟩ := Option.bind_eq_some_iff.1 hf
        exact found hfs (by simpa [SameAddr] using hchk)
    | none =>
      simp only
      split
      · exact refuse
      · -- the new id is the counter, which no session has
        have fresh : sv.findSession sv.nextSid = none :=
          List.find?_eq_none.2 fun s hs => by have := hi.sid_lt s hs; simp; omega
        obtain ⟨m, h⟩ := inSessionRun_moves (sv := sv.addSession (newSession sv c now)) (ss := newSession sv c now) r now hc
          (by rw [findSession_addSession, if_pos rfl]; exact fresh ▸ rfl) ⟨ipEqual_refl _, rfl⟩
        exact ⟨.head (.create now) m, h⟩
  | some own =>
    simp only
    split
    · exact refuse
    · cases hf : sv.findSession own with
      | none => exact refuse
      | some ss => exact found hf ((hi.link c.id c hc own hcs).2 ss hf)

theorem request_moves {sv : Server} (hi : Inv sv) {c : Conn} (hc : sv.findConn c.id = some c) (r : Req) (now : Int) :
    Moves c sv (sv.request c.id r now).1 := by
  rw [request_eq hc]
  rcases route_cases sv c r now with ⟨_, st, e⟩ | ⟨create, e⟩ <;> rw [e]
  · exact .refl
  · obtain ⟨m, h⟩ := inSession_moves hi hc r create now
    -- an error closes the connection
    cases (inSession sv c r create now).2.2
    · exact m
    · exact m.trans (closeConn_moves (m.preserves inv_move hi) h)

theorem step_moves {sv : Server} (hi : Inv sv) (e : Ev) : ∃ c, Moves c sv (sv.step e) := by
  cases e with
  | «open» cid ip zone =>
    refine ⟨⟨cid, ip, zone, none⟩, ?_⟩
    rcases openConn_cases sv cid ip zone with e | ⟨hge, e⟩ <;> rw [step, e]
    · exact .refl
    · exact .one (.accept hge rfl)
  | req cid r now =>
    cases hf : sv.findConn cid with
    | none => exact ⟨default, by rw [step, request, hf]; exact .refl⟩
    | some c =>
      obtain rfl := findConn_id hf
      exact ⟨c, request_moves hi hf r now⟩
  | close cid =>
    cases hf : sv.findConn cid with
    | none => exact ⟨default, by rw [step, closeConn, hf]; exact .refl⟩
    | some c =>
      obtain rfl := findConn_id hf
      exact ⟨c, closeConn_moves hi (.of_find hf)⟩

/-- `Inv` is carried along, since `step_moves` needs it -/
theorem runEvs_preserves {P : Server → Prop} (hm : ∀ {c a b}, Move c a b → P a → P b) {udp : Bool}
    (h0 : P { udp := udp }) (evs : List Ev) : P (runEvs udp evs) :=
  (foldl_inv (P := fun sv => Inv sv ∧ P sv) step
    (fun _ e h => let ⟨_, m⟩ := step_moves h.1 e; ⟨m.preserves inv_move h.1, m.preserves hm h.2⟩)
    evs _ ⟨inv_empty udp, h0⟩).2

theorem inv_runEvs (udp : Bool) (evs : List Ev) : Inv (runEvs udp evs) := runEvs_preserves inv_move (inv_empty udp) evs

theorem frame_move {c : Conn} {o : Session} (hfor : ¬ SameAddr c o) {a b : Server} (m : Move c a b)
    (ho : a.findSession o.id = some o) : b.findSession o.id = some o := by
  -- the sessions a move writes to have the address of `c`
  have ne : ∀ {ss : Session}, a.findSession ss.id = some ss → SameAddr c ss → o.id ≠ ss.id :=
    fun hf hs e => hfor (by rw [← e, ho] at hf; cases hf; exact hs)
  cases m with
  | accept | link | unlink | drop => exact ho
  | create now => rw [findSession_addSession, ho]; rfl
  | @handle ss _ now _ hf hs hh =>
    rw [findSession_stored, findSession_setSession_ne _ _ _ (hh.keeps.1 ▸ ne (ss := ss) hf hs)]; exact ho
  | @detach ss _ hf hs => rw [findSession_setSession_ne _ (detach ss c.id) _ (ne (ss := ss) hf hs)]; exact ho
  | @finish ss hf hs =>
    rw [findSession_closeSession, if_neg (ne (ss := ss) hf hs),
      findSession_setSession_ne _ (detach ss c.id) _ (ne (ss := ss) hf hs)]
    exact ho

theorem request_frame {sv : Server} (h : Inv sv) (c : Conn) (r : Req) (now : Int) (o : Session)
    (hc : sv.findConn c.id = some c) (ho : sv.findSession o.id = some o) (hfor : ¬ SameAddr c o) :
    (sv.request c.id r now).1.findSession o.id = some o :=
  (request_moves h hc r now).preserves (frame_move hfor) ho

end Server
end Rtsp.Peer
