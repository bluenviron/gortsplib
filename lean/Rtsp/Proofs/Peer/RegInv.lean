import Rtsp.Proofs.Peer.Moves
import Rtsp.Proofs.Peer.Demux
/-
C19: the registrations of the server's UDP listeners always belong to a live session that is
streaming over UDP and negotiated exactly that source – in every reachable state.
-/
namespace Rtsp.Peer

theorem get_foldl_remove {α} {meds : List SMedia} {A : IP} {Z : String} {port : SMedia → Int}
    {m : Clients α} {k : ClientAddr} {v : α}
    (h : (meds.foldl (fun m sm => removeClient m A Z (port sm)) m).get k = some v) :
    m.get k = some v ∧ ∀ sm ∈ meds, fill A Z (port sm) ≠ k := by
  induction meds generalizing m with
  | nil => exact ⟨h, fun _ hsm => nomatch hsm⟩
  | cons sm rest ih =>
    obtain ⟨h1, h2⟩ := ih h
    simp only [removeClient, Clients.get_erase] at h1
    split at h1
    · cases h1
    · next hne => exact ⟨h1, List.forall_mem_cons.2 ⟨hne, h2⟩⟩

theorem get_foldl_add (meds : List SMedia) (A : IP) (Z : String) (port : SMedia → Int) (id : Nat)
    (m : Clients (Nat × Nat)) (k : ClientAddr) (v : Nat × Nat)
    (h : (meds.foldl (fun m sm => addClient m A Z (port sm) (id, sm.idx)) m).get k = some v) :
    (∃ sm ∈ meds, fill A Z (port sm) = k ∧ v = (id, sm.idx)) ∨ m.get k = some v := by
  induction meds generalizing m with
  | nil => exact Or.inr h
  | cons sm rest ih =>
    rw [List.foldl_cons] at h
    rcases ih _ h with ⟨sm', hm, hk, hv⟩ | h'
    · exact Or.inl ⟨sm', List.mem_cons_of_mem _ hm, hk, hv⟩
    · simp only [addClient, Clients.get_set] at h'
      by_cases e : fill A Z (port sm) = k
      · rw [if_pos e] at h'
        exact Or.inl ⟨sm, List.mem_cons_self, e, by cases h'; rfl⟩
      · rw [if_neg e] at h'; exact Or.inr h'

namespace Server

/-- every entry of a listener map belongs to a live session that streams over UDP and has a set-up
media whose negotiated source is exactly the key -/
def RegOK (sv : Server) (m : Clients (Nat × Nat)) (port : SMedia → Int) : Prop :=
  ∀ k sid mi, m.get k = some (sid, mi) →
    ∃ ss, sv.findSession sid = some ss ∧ Streaming ss ∧ ss.transport = some .udp ∧
      ∃ sm ∈ ss.medias, sm.idx = mi ∧ k = fill ss.authorIP ss.authorZone (port sm)

def RegInv (sv : Server) : Prop := RegOK sv sv.rtp (·.rtpPort) ∧ RegOK sv sv.rtcp (·.rtcpPort)

/-- the fields of a session record that the registrations depend on -/
def Core (a b : Session) : Prop :=
  b.state = a.state ∧ b.transport = a.transport ∧ b.medias = a.medias ∧
  b.authorIP = a.authorIP ∧ b.authorZone = a.authorZone

theorem core_refl (a : Session) : Core a a := ⟨rfl, rfl, rfl, rfl, rfl⟩

theorem regOK_table {sv sv' : Server} {m : Clients (Nat × Nat)} {port : SMedia → Int} (h : RegOK sv m port)
    (ht : ∀ sid ss, sv.findSession sid = some ss → Streaming ss → ∃ ss', sv'.findSession sid = some ss' ∧ Core ss ss') :
    RegOK sv' m port := by
  intro k sid mi hk
  obtain ⟨ss, hf, hs, hu, sm, hsm, hi, hkey⟩ := h k sid mi hk
  obtain ⟨ss', hf', c1, c2, c3, c4, c5⟩ := ht sid ss hf hs
  refine ⟨ss', hf', ?_, by rw [c2]; exact hu, sm, by rw [c3]; exact hsm, hi, by rw [c4, c5]; exact hkey⟩
  unfold Streaming at hs ⊢; rw [c1]; exact hs

theorem regOK_sub {sv : Server} {m m' : Clients (Nat × Nat)} {port : SMedia → Int} (h : RegOK sv m port)
    (hs : ∀ k v, m'.get k = some v → m.get k = some v) : RegOK sv m' port :=
  fun k sid mi hk => h k sid mi (hs k _ hk)

theorem regOK_no_entry {sv : Server} {m : Clients (Nat × Nat)} {port : SMedia → Int} (h : RegOK sv m port)
    {sid : Nat} {ss : Session} (hf : sv.findSession sid = some ss) (hn : ¬ Streaming ss)
    (k : ClientAddr) (mi : Nat) : m.get k ≠ some (sid, mi) := by
  intro hk
  obtain ⟨ss', hf', hs, _⟩ := h k sid mi hk
  rw [hf] at hf'; cases hf'; exact hn hs

theorem regInv_setSession {sv : Server} (h : RegInv sv) (ss old : Session) (hf : sv.findSession ss.id = some old)
    (hc : Streaming old → Core old ss) : RegInv (sv.setSession ss) := by
  have key : ∀ {m port}, RegOK sv m port → RegOK (sv.setSession ss) m port := fun h =>
    regOK_table h fun sid s hfs hst => by
      by_cases e : sid = ss.id
      · subst e
        rw [hf] at hfs; cases hfs
        exact ⟨ss, findSession_setSession_self sv ss old hf, hc hst⟩
      · exact ⟨s, by rw [findSession_setSession_ne sv ss sid e]; exact hfs, core_refl s⟩
  exact ⟨key h.1, key h.2⟩

theorem regInv_register {sv : Server} (h : RegInv sv) (ss : Session) (rec : Bool)
    (hf : sv.findSession ss.id = some ss) (hs : Streaming ss) : RegInv (register sv ss rec) := by
  have add : ∀ {m port}, RegOK sv m port → ss.transport = some .udp → RegOK sv
      (ss.medias.foldl (fun m sm => addClient m ss.authorIP ss.authorZone (port sm) (ss.id, sm.idx)) m) port := by
    intro m port h hu k sid mi hk
    rcases get_foldl_add ss.medias ss.authorIP ss.authorZone port ss.id m k (sid, mi) hk with ⟨sm, hsm, hkey, hv⟩ | hold
    · cases hv
      exact ⟨ss, hf, hs, hu, sm, hsm, rfl, hkey.symm⟩
    · exact h k sid mi hold
  unfold register
  split
  · next hu =>
    -- `RegOK` reads the sessions only, which `register` leaves alone; RTP is registered for publishers only
    refine ⟨?_, add h.2 hu⟩
    cases rec
    · exact h.1
    · exact add h.1 hu
  · exact h

/-- what `unregister` does to one listener map (`unregister_maps`) -/
def purged (m : Clients (Nat × Nat)) (ss : Session) (port : SMedia → Int) : Clients (Nat × Nat) :=
  if ss.transport = some .udp then
    ss.medias.foldl (fun m sm => removeClient m ss.authorIP ss.authorZone (port sm)) m else m

theorem unregister_maps (sv : Server) (ss : Session) :
    (unregister sv ss).rtp = purged sv.rtp ss (·.rtpPort) ∧ (unregister sv ss).rtcp = purged sv.rtcp ss (·.rtcpPort) := by
  unfold unregister purged; split <;> exact ⟨rfl, rfl⟩

/-- serves both `unregister` after PAUSE and the end of a session: `sv'` has lost or replaced nothing but
the record of `ss`, and its maps are purged of the keys of `ss` (`purged` reads transport, medias and author
only, which neither PAUSE nor a detached connection changes) -/
theorem regInv_purge {sv sv' : Server} (h : RegInv sv) (ss : Session) (hf : sv.findSession ss.id = some ss)
    (htab : ∀ sid, sid ≠ ss.id → sv'.findSession sid = sv.findSession sid)
    (hm : sv'.rtp = purged sv.rtp ss (·.rtpPort) ∧ sv'.rtcp = purged sv.rtcp ss (·.rtcpPort)) :
    RegInv sv' := by
  have key : ∀ {m port}, RegOK sv m port → RegOK sv' (purged m ss port) port := by
    intro m port h k sid mi hk
    -- the entry was there before and its key was not removed
    have hold : m.get k = some (sid, mi) ∧ (ss.transport = some .udp →
        ∀ sm ∈ ss.medias, fill ss.authorIP ss.authorZone (port sm) ≠ k) := by
      unfold purged at hk
      by_cases hu : ss.transport = some .udp
      · rw [if_pos hu] at hk
        exact (get_foldl_remove hk).imp id fun x _ => x
      · rw [if_neg hu] at hk
        exact ⟨hk, fun e => absurd e hu⟩
    obtain ⟨ss0, hf0, hs0, hu0, sm, hsm, hi, hkey⟩ := h k sid mi hold.1
    by_cases e : sid = ss.id
    · subst e
      rw [hf] at hf0; cases hf0
      exact absurd hkey.symm (hold.2 hu0 sm hsm)
    · exact ⟨ss0, by rw [htab sid e]; exact hf0, hs0, hu0, sm, hsm, hi, hkey⟩
  unfold RegInv
  rw [hm.1, hm.2]
  exact ⟨key h.1, key h.2⟩

theorem regInv_stored {sv : Server} (h : RegInv sv) (ss : Session) (cid : Nat) (now : Int) {res : SessRes}
    (hf : sv.findSession ss.id = some ss) (hh : Handled (touch ss cid now) cid res) : RegInv (stored sv res) := by
  -- `touch` leaves state, transport, medias and author as they are
  have hc : Core ss (touch ss cid now) := core_refl ss
  cases hh with
  | same st e => exact regInv_setSession h _ ss hf fun _ => hc
  | prepare st tr ms an hn => exact regInv_setSession h _ ss hf fun x => absurd x hn
  | start st rec hn hst =>
    show RegInv (register (sv.setSession _) _ rec)
    refine regInv_register (regInv_setSession h _ ss ?_ fun x => absurd x hn) _ rec
      (findSession_setSession_self sv _ ss ?_) ?_
    · exact hf
    · exact hf
    · exact hst
  | stop st =>
    show RegInv (unregister (sv.setSession _) _)
    refine regInv_purge h ss hf (fun sid e => ?_) (unregister_maps _ _)
    rw [findSession_congr (unregister_fields _ _).1]
    exact findSession_setSession_ne sv _ sid e

theorem regInv_empty (udp : Bool) : RegInv { udp := udp } := by
  constructor <;> (intro k sid mi hk; simp [Clients.get] at hk)

theorem regInv_move {c : Conn} {a b : Server} (m : Move c a b) (h : RegInv a) : RegInv b := by
  cases m with
  -- these write connections only; `RegInv` reads the sessions and the two listener maps
  | accept | link | unlink | drop => exact h
  | create now =>
    have key : ∀ {m port}, RegOK a m port → RegOK (a.addSession (newSession a c now)) m port := fun h =>
      regOK_table h fun sid s hs _ => ⟨s, by rw [findSession_addSession, hs]; rfl, core_refl s⟩
    exact ⟨key h.1, key h.2⟩
  | @handle ss _ now _ hf _ hh => exact regInv_stored h ss c.id now hf hh
  | @detach ss _ hf _ => exact regInv_setSession h (detach ss c.id) ss hf fun _ => core_refl ss
  | @finish ss hf _ =>
    -- the end of a session takes its registrations with it
    refine regInv_purge h ss hf (fun sid e => ?_) (unregister_maps { a.setSession _ with conns := _ } _)
    rw [findSession_closeSession, if_neg e, findSession_setSession_ne a (detach ss c.id) sid e]

theorem regInv_runEvs (udp : Bool) (evs : List Ev) : RegInv (runEvs udp evs) :=
  runEvs_preserves regInv_move (regInv_empty udp) evs

end Server
end Rtsp.Peer
