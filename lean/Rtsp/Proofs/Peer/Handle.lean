import Rtsp.Proofs.Peer.Lookup
/-
C19: what `ServerSession.handleRequestInner` (model `sessionHandle`) can do to a session record, and case
rules and equations for the operations around it.  The request path of the model is unfolded here and in Moves.lean
(`inSession_moves`; for a connection that does not exist, `step_moves`); `register` / `unregister` in RegInv.lean.
-/
namespace Rtsp.Peer
open Rtsp.Facts
namespace Server

/-! The steps of the model's `inSession`, `inSessionRun`, `removeConnFromSession`, named (`purged` is in
RegInv.lean).  A model edit must be mirrored here: the `rfl` in `inSessionRun_eq`,
`removeConnFromSession_cases` (`unregister_maps` for `purged`) fails otherwise, and so does `inSession_moves` in Moves.lean. -/

/-- `ss` as `runInner` leaves it before the request is looked at -/
def touch (ss : Session) (cid : Nat) (now : Int) : Session :=
  { ss with lastReq := now, conns := if ss.conns.contains cid then ss.conns else ss.conns ++ [cid] }

/-- `ss` once connection `cid` has left it -/
abbrev detach (ss : Session) (cid : Nat) : Session := { ss with conns := ss.conns.filter (· != cid) }

/-- `chHandleRequest` in `ServerSession.runInner`: the record is stored, the medias stopped / started -/
def stored (sv : Server) (res : SessRes) : Server :=
  match res.start with
  | some recording => register (if res.stop then unregister (sv.setSession res.ss) res.ss else sv.setSession res.ss) res.ss recording
  | none => (if res.stop then unregister (sv.setSession res.ss) res.ss else sv.setSession res.ss)

/-- the tail of `ServerConn.handleRequestInSession` -/
def finish (sv3 : Server) (ss : Session) (cid : Nat) (r : Req) (res : SessRes) : Server × Nat × Bool :=
  if !res.err && r.method == .teardown then
    (closeSession ((sv3.setSession (detach res.ss cid)).setConnSession cid none) (detach res.ss cid), res.status, false)
  else
    (sv3.setConnSession cid (some ss.id), res.status, res.err)

theorem inSessionRun_eq (sv : Server) (ss : Session) (cid : Nat) (r : Req) (now : Int) :
    inSessionRun sv ss cid r now =
      finish (stored sv (sessionHandle sv (touch ss cid now) cid r)) ss cid r
        (sessionHandle sv (touch ss cid now) cid r) := rfl

/-- the table after `findOrCreateSession` has created `ss` -/
def addSession (sv : Server) (ss : Session) : Server :=
  { sv with sessions := sv.sessions ++ [ss], nextSid := sv.nextSid + 1 }

theorem findSession_addSession (sv : Server) (new : Session) (sid : Nat) :
    (sv.addSession new).findSession sid =
      (sv.findSession sid).or (if new.id = sid then some new else none) :=
  Keyed.find?_snoc Session.id sv.sessions new sid

/-- the session `findOrCreateSession` creates for connection `c` -/
def newSession (sv : Server) (c : Conn) (now : Int) : Session :=
  { id := sv.nextSid, author := c.id, authorIP := c.ip, authorZone := c.zone, conns := [c.id], lastReq := now }

def Streaming (ss : Session) : Prop := ss.state = .play ∨ ss.state = .record

instance (ss : Session) : Decidable (Streaming ss) := by unfold Streaming; infer_instance

theorem not_streaming_of_state {ss : Session} (h : ss.state = .initial ∨ ss.state = .prePlay ∨ ss.state = .preRecord) :
    ¬ Streaming ss := by
  unfold Streaming
  rcases h with e | e | e <;> rw [e] <;> decide

/-- the answers of `handleRequestInner` by what they do to the record: nothing; ANNOUNCE / SETUP; the
start of streaming (PLAY, RECORD), which sets the pin; its end (PAUSE), which clears it -/
inductive Handled (ss : Session) (cid : Nat) : SessRes → Prop
  | same (st : Nat) (e : Bool) : Handled ss cid { ss, status := st, err := e }
  | prepare (st : SState) (tr : Option Proto) (ms : List SMedia) (an : Nat) :
      ¬ Streaming ss → ¬ (st = .play ∨ st = .record) →
      Handled ss cid (ok { ss with state := st, transport := tr, medias := ms, announced := an })
  | start (st : SState) (recording : Bool) : ¬ Streaming ss → st = .play ∨ st = .record →
      Handled ss cid
        { ss := { ss with state := st, tcpConn := if ss.transport == some .tcp then some cid else ss.tcpConn },
          status := Peer.statusOK, err := false, start := some recording }
  | stop (st : SState) : ¬ (st = .play ∨ st = .record) →
      Handled ss cid
        { ss := { ss with state := st, tcpConn := if ss.transport == some .tcp then none else ss.tcpConn },
          status := Peer.statusOK, err := false, stop := true }

theorem Handled.ite {ss : Session} {cid : Nat} {c : Prop} [Decidable c] {a b : SessRes}
    (ha : c → Handled ss cid a) (hb : ¬ c → Handled ss cid b) : Handled ss cid (if c then a else b) :=
  iteInduction ha hb

theorem Handled.ite_same {ss : Session} {cid : Nat} {c : Prop} [Decidable c] {st : Nat} {e : Bool} {b : SessRes}
    (hb : ¬ c → Handled ss cid b) : Handled ss cid (if c then { ss, status := st, err := e } else b) :=
  .ite (fun _ => .same st e) hb

theorem sessionHandle_handled (sv : Server) (ss : Session) (cid : Nat) (r : Req) :
    Handled ss cid (sessionHandle sv ss cid r) := by
  unfold sessionHandle
  refine .ite_same fun _ => ?_
  cases r.method with
  | options => exact .same _ _
  | getParameter => exact .same _ _
  | teardown => exact .same _ _
  | announce =>
    refine .ite_same fun h => ?_
    exact .prepare _ _ _ _ (not_streaming_of_state (.inl (by simpa using h))) (by decide)
  | setup =>
    refine .ite_same fun h => ?_
    have hn : ¬ Streaming ss := not_streaming_of_state (by simpa [Decidable.or_iff_not_imp_left] using h)
    refine .ite_same fun _ => .ite_same fun _ => .ite (fun _ => ?_) fun _ => ?_
    · refine .ite_same fun _ => .ite_same fun _ => .ite_same fun _ => ?_
      -- the state stays as it is
      exact .prepare ss.state _ _ ss.announced hn hn
    · refine .ite_same fun _ => .ite_same fun _ => .ite_same fun _ =>
        .ite_same fun _ => ?_
      exact .prepare _ _ _ ss.announced hn (by decide)
  | play =>
    refine .ite_same fun h1 => .ite_same fun h2 => ?_
    have h1' : ss.state = .prePlay ∨ ss.state = .play := by simpa [Decidable.or_iff_not_imp_left] using h1
    have h2' : ¬ ss.state = .play := by simpa using h2
    exact .start _ _ (not_streaming_of_state (.inr (.inl (h1'.resolve_right h2')))) (.inl rfl)
  | record =>
    refine .ite_same fun h1 => .ite_same fun _ => ?_
    exact .start _ _ (not_streaming_of_state (.inr (.inr (by simpa using h1)))) (.inr rfl)
  | pause =>
    exact .ite_same fun _ => .ite (fun _ => .stop _ (by decide)) fun _ =>
      .ite (fun _ => .stop _ (by decide)) fun _ => .same _ _

theorem Handled.keeps {ss : Session} {cid : Nat} {res : SessRes} (h : Handled ss cid res) :
    res.ss.id = ss.id ∧ res.ss.authorIP = ss.authorIP ∧ res.ss.authorZone = ss.authorZone ∧ res.ss.conns = ss.conns := by
  cases h <;> exact ⟨rfl, rfl, rfl, rfl⟩

theorem sessionHandle_pinned (sv : Server) (ss : Session) (cid v : Nat) (r : Req)
    (hpin : ss.tcpConn = some v) (hv : v ≠ cid) : sessionHandle sv ss cid r = bad ss := by
  unfold sessionHandle
  exact if_pos (by simp [hpin, hv])

theorem mem_touch {ss : Session} {cid x : Nat} {now : Int} :
    x ∈ (touch ss cid now).conns ↔ x ∈ ss.conns ∨ x = cid := by
  unfold touch
  split
  · next hm => exact ⟨.inl, fun h => h.elim id fun e => e ▸ List.contains_iff_mem.1 hm⟩
  · simp

theorem touch_conns_filter (ss : Session) (cid : Nat) (now : Int) :
    (touch ss cid now).conns.filter (· != cid) = ss.conns.filter (· != cid) := by
  unfold touch
  simp only
  split
  · rfl
  · simp [List.filter_append]

theorem inSessionRun_pinned (sv : Server) (ss : Session) (cid v : Nat) (r : Req) (now : Int)
    (hpin : ss.tcpConn = some v) (hv : v ≠ cid) :
    inSessionRun sv ss cid r now =
      ((sv.setSession (touch ss cid now)).setConnSession cid (some ss.id), Peer.statusBadRequest, true) := by
  rw [inSessionRun_eq, sessionHandle_pinned sv (touch ss cid now) cid v r hpin hv]
  rfl

theorem stored_fields (sv : Server) (res : SessRes) :
    (stored sv res).sessions = (sv.setSession res.ss).sessions ∧ (stored sv res).conns = sv.conns ∧
    (stored sv res).nextSid = sv.nextSid ∧ (stored sv res).nextCid = sv.nextCid := by
  unfold stored
  cases res.start <;> cases res.stop
  · exact ⟨rfl, rfl, rfl, rfl⟩
  · exact unregister_fields _ _
  · exact register_fields _ _ _
  · obtain ⟨a1, a2, a3, a4⟩ := unregister_fields (sv.setSession res.ss) res.ss
    obtain ⟨b1, b2, b3, b4⟩ := register_fields (unregister (sv.setSession res.ss) res.ss) res.ss ‹Bool›
    exact ⟨b1.trans a1, b2.trans a2, b3.trans a3, b4.trans a4⟩

theorem findSession_stored (sv : Server) (res : SessRes) (sid : Nat) :
    (stored sv res).findSession sid = (sv.setSession res.ss).findSession sid :=
  findSession_congr (stored_fields sv res).1 sid

/-- `ServerConn.handleRequestInner` (server_conn.go) -/
theorem route_cases (sv : Server) (c : Conn) (r : Req) (now : Int) :
    (r.sid.isSome = false ∧ ∃ st, route sv c r now = (sv, st, false)) ∨
    ∃ create, route sv c r now = inSession sv c r create now := by
  by_cases h : r.sid.isSome = true
  · refine .inr ?_
    unfold route
    cases r.method <;> simp only [h, if_true] <;> exact ⟨_, rfl⟩
  · refine Or.imp (And.intro (Bool.eq_false_iff.2 h)) id ?_
    unfold route
    cases r.method <;> simp only [h] <;> first | exact .inr ⟨_, rfl⟩ | exact .inl ⟨_, rfl⟩

theorem route_with_sid (sv : Server) (c : Conn) {r : Req} {sid : Nat} (h : r.sid = some sid) (now : Int) :
    ∃ create, route sv c r now = inSession sv c r create now := by
  rcases route_cases sv c r now with ⟨e, _⟩ | h'
  · rw [h] at e; cases e
  · exact h'

theorem removeConnFromSession_cases (sv : Server) (ss : Session) (cid : Nat) :
    removeConnFromSession sv ss cid = sv.setSession (detach ss cid) ∨
    removeConnFromSession sv ss cid = (sv.setSession (detach ss cid)).closeSession (detach ss cid) := by
  unfold removeConnFromSession
  simp only
  split
  · exact .inr rfl
  · exact .inl rfl

/-- the end of `ServerConn.run` for a live connection; the session it is linked to, if that still exists, is told
(`chRemoveConn`) -/
theorem closeConn_eq {sv : Server} {cid : Nat} {c : Conn} (hc : sv.findConn cid = some c) :
    sv.closeConn cid = match c.session.bind sv.findSession with
      | none => sv.dropConn cid
      | some ss => removeConnFromSession (sv.dropConn cid) ss cid := by
  unfold closeConn
  simp only [hc, findSession_dropConn]
  cases c.session with
  | none => rfl
  | some sid => cases sv.findSession sid <;> rfl

theorem request_eq {sv : Server} {cid : Nat} {c : Conn} (hc : sv.findConn cid = some c) (r : Req) (now : Int) :
    sv.request cid r now =
      (if (route sv c r now).2.2 then (route sv c r now).1.closeConn cid else (route sv c r now).1,
        (route sv c r now).2.1) := by
  unfold request
  rw [hc]

theorem inSession_other_ip (sv : Server) (c : Conn) (ss : Session) (sid : Nat) (r : Req) (create : Bool) (now : Int)
    (hnone : c.session = none) (hs : sv.findSession sid = some ss) (hr : r.sid = some sid)
    (hforeign : ipEqual c.ip ss.authorIP = false ∨ c.zone ≠ ss.authorZone) :
    inSession sv c r create now = (sv, Peer.statusBadRequest, true) := by
  unfold inSession
  simp only [hnone, hr, Option.bind_some, hs]
  have : (!ipEqual c.ip ss.authorIP || c.zone != ss.authorZone) = true := by
    rcases hforeign with h | h
    · simp [h]
    · simp [h]
  simp [this]

theorem inSession_pinned (sv : Server) (c : Conn) (ss : Session) (sid v : Nat) (r : Req) (create : Bool) (now : Int)
    (hs : sv.findSession sid = some ss) (hr : r.sid = some sid)
    (hlink : c.session = some sid ∨ (c.session = none ∧ ipEqual c.ip ss.authorIP = true ∧ c.zone = ss.authorZone))
    (hpin : ss.tcpConn = some v) (hv : v ≠ c.id) :
    inSession sv c r create now =
      ((sv.setSession (touch ss c.id now)).setConnSession c.id (some ss.id), Peer.statusBadRequest, true) := by
  unfold inSession
  rcases hlink with h | ⟨h1, h2, h3⟩
  · simp only [h, hr, hs]
    simp [inSessionRun_pinned sv ss c.id v r now hpin hv]
  · simp only [h1, hr, Option.bind_some, hs]
    have : (!ipEqual c.ip ss.authorIP || c.zone != ss.authorZone) = false := by simp [h2, h3]
    simp [this, inSessionRun_pinned sv ss c.id v r now hpin hv]

theorem removeConnFromSession_attached (sv : Server) (ss : Session) (cid : Nat)
    (h : (detach ss cid).conns.isEmpty = false) : removeConnFromSession sv ss cid = sv.setSession (detach ss cid) := by
  unfold removeConnFromSession
  simp only [h, Bool.and_false, Bool.false_eq_true, if_false]

end Server
end Rtsp.Peer
