import Rtsp.Proofs.Peer.Fill
import Rtsp.Proofs.Common.Keyed
/-
C19, the two UDP demultiplexers: the server's `clients` map after any history of `addClient` /
`removeClient` against the specification `registered` (server_udp_listener.go), and the client's read
loop as one `if` (client_udp_listener.go).
-/
namespace Rtsp.Peer

namespace Clients
variable {α : Type}

theorem get_erase (m : Clients α) (k k' : ClientAddr) :
    (m.erase k).get k' = if k = k' then none else m.get k' := by
  induction m with
  | nil => simp [erase, get]
  | cons e rest ih =>
    obtain ⟨ke, v⟩ := e
    unfold erase at ih ⊢
    by_cases h1 : ke = k
    · subst h1
      simp only [List.filter_cons, decide_true, Bool.not_true, Bool.false_eq_true, if_false]
      rw [ih]
      by_cases h2 : ke = k'
      · simp [h2]
      · simp [h2, get]
    · simp only [List.filter_cons, h1, decide_false, Bool.not_false, if_true]
      by_cases h2 : ke = k'
      · subst h2
        have : ¬ k = ke := fun e => h1 e.symm
        simp [get, this]
      · simp only [get, h2, if_false]
        exact ih

theorem get_set (m : Clients α) (k k' : ClientAddr) (v : α) :
    (m.set k v).get k' = if k = k' then some v else m.get k' := by
  unfold set
  by_cases h : k = k'
  · simp [get, h]
  · simp only [get, h, if_false]
    rw [get_erase]; simp [h]

end Clients

/-- what `serverSessionMedia.start / stop` do to a listener -/
inductive RegOp (α : Type) where
  | add (ip : IP) (zone : String) (port : Int) (cb : α)
  | remove (ip : IP) (zone : String) (port : Int)

def RegOp.ip {α} : RegOp α → IP
  | .add ip _ _ _ => ip
  | .remove ip _ _ => ip

def applyOp {α} (m : Clients α) : RegOp α → Clients α
  | .add ip zone port cb => addClient m ip zone port cb
  | .remove ip zone port => removeClient m ip zone port

/-- the map after a history of registrations, starting from the empty map of `initialize()` -/
def build {α} (ops : List (RegOp α)) : Clients α := ops.foldl applyOp []

/-- **Specification** of "who is registered for source `(ip%zone, port)`", newest operation first,
stated with Go's own address equality and without any reference to `fill` or to the map: the most
recent `addClient` / `removeClient` whose port is `port`, whose zone is `zone` and whose address
`Equal`s `ip` decides. -/
def regNewestFirst {α} : List (RegOp α) → IP → String → Int → Option α
  | [], _, _, _ => none
  | .add ip' z' p' cb :: rest, ip, z, p =>
    if p' = p ∧ z' = z ∧ ipEqual ip' ip = true then some cb else regNewestFirst rest ip z p
  | .remove ip' z' p' :: rest, ip, z, p =>
    if p' = p ∧ z' = z ∧ ipEqual ip' ip = true then none else regNewestFirst rest ip z p

def registered {α} (ops : List (RegOp α)) (ip : IP) (zone : String) (port : Int) : Option α :=
  regNewestFirst ops.reverse ip zone port

theorem build_snoc {α} (ops : List (RegOp α)) (op : RegOp α) :
    build (ops ++ [op]) = applyOp (build ops) op := by
  simp [build, List.foldl_append]

theorem dispatch_build_rev {α} (rops : List (RegOp α)) (hv : ∀ op ∈ rops, ValidIP op.ip)
    (ip : IP) (hip : ValidIP ip) (zone : String) (port : Int) :
    dispatch (build rops.reverse) ip zone port = regNewestFirst rops ip zone port := by
  induction rops with
  | nil => simp [build, dispatch, Clients.get, regNewestFirst]
  | cons op rest ih =>
    have hrest : ∀ op ∈ rest, ValidIP op.ip := fun o ho => hv o (List.mem_cons_of_mem _ ho)
    rw [List.reverse_cons, build_snoc]
    -- both operations act on the key `fill ip' ..`, which is the looked-up key iff the spec's test holds
    cases op with
    | add ip' z' p' _ | remove ip' z' p' =>
      have hop : ValidIP ip' := hv _ List.mem_cons_self
      simp only [applyOp, dispatch, addClient, removeClient, Clients.get_set, Clients.get_erase, regNewestFirst,
        C19.fill_injective_mod_v4mapped hop hip]
      split
      · rfl
      · exact ih hrest

theorem Srv.recv_none {s : Srv} {ip : IP} {zone : String} {port : Int} (len : Nat) (now : Int)
    (h : dispatch s.clients ip zone port = none) : s.recv ip zone port len now = (s, none) := by
  simp [Srv.recv, h]

theorem Srv.recv_some {s : Srv} {ip : IP} {zone : String} {port : Int} {cb : Nat} (len : Nat) (now : Int)
    (h : dispatch s.clients ip zone port = some cb) :
    s.recv ip zone port len now =
      ({ s with log := ⟨cb, len, now⟩ :: s.log, stats := bump s.stats cb len now }, some cb) := by
  simp [Srv.recv, h]

theorem statOf_bump_ne (st : List (Nat × CbStat)) (cb cb' len : Nat) (now : Int) (h : cb' ≠ cb) :
    statOf (bump st cb len now) cb' = statOf st cb' := by
  have h1 : (cb' == cb) = false := by simpa using h
  simp only [statOf, bump, List.lookup_cons, h1]
  rw [Keyed.lookup_filter_ne st h]

theorem statOf_bump_self (st : List (Nat × CbStat)) (cb len : Nat) (now : Int) :
    statOf (bump st cb len now) cb =
      { bytes := (statOf st cb).bytes + len, pkts := (statOf st cb).pkts + 1, last := now } := by
  simp [statOf, bump]

/-- events of a server listener's life: `addClient` / `removeClient`, a datagram read by `run()` -/
inductive SrvEv where
  | reg (op : RegOp Nat)
  | dgram (ip : IP) (zone : String) (port : Int) (len : Nat) (now : Int)

def Srv.step (s : Srv) : SrvEv → Srv
  | .reg (.add ip zone port cb) => s.add ip zone port cb
  | .reg (.remove ip zone port) => s.remove ip zone port
  | .dgram ip zone port len now => (s.recv ip zone port len now).1

def Srv.run (evs : List SrvEv) : Srv := evs.foldl Srv.step {}

def regsOf : List SrvEv → List (RegOp Nat)
  | [] => []
  | .reg op :: rest => op :: regsOf rest
  | .dgram .. :: rest => regsOf rest

theorem Srv.recv_clients (s : Srv) (ip : IP) (zone : String) (port : Int) (len : Nat) (now : Int) :
    (s.recv ip zone port len now).1.clients = s.clients := by
  unfold Srv.recv; split <;> rfl

theorem Srv.foldl_clients (evs : List SrvEv) (s : Srv) :
    (evs.foldl Srv.step s).clients = (regsOf evs).foldl applyOp s.clients := by
  induction evs generalizing s with
  | nil => rfl
  | cons e rest ih =>
    rw [List.foldl_cons, ih]
    cases e with
    | reg op => cases op <;> rfl
    | dgram ip zone port len now =>
      exact congrArg (List.foldl applyOp · (regsOf rest)) (Srv.recv_clients s ip zone port len now)

theorem Srv.run_clients (evs : List SrvEv) : (Srv.run evs).clients = build (regsOf evs) :=
  Srv.foldl_clients evs {}

theorem mem_regsOf {evs : List SrvEv} {op : RegOp Nat} (h : op ∈ regsOf evs) : SrvEv.reg op ∈ evs := by
  induction evs with
  | nil => cases h
  | cons e rest ih =>
    cases e with
    | reg o =>
      rcases List.mem_cons.1 h with rfl | h
      · exact List.mem_cons_self
      · exact List.mem_cons_of_mem _ (ih h)
    | dgram => exact List.mem_cons_of_mem _ (ih h)

structure Dgram where
  ip   : IP
  zone : String := ""
  port : Int
  len  : Nat
  now  : Int

def CL.step (s : CL) (d : Dgram) : CL := (s.recv d.ip d.zone d.port d.len d.now).1

def CL.run (s : CL) (ds : List Dgram) : CL := ds.foldl CL.step s

/-- the filter of `clientUDPListener.run`: address, zone (unicast) and port (unless not yet latched) are the negotiated ones -/
def CL.Accepts (s : CL) (ip : IP) (zone : String) (port : Int) : Prop :=
  ipEqual s.readIP ip = true ∧ (s.multicast = true ∨ s.readZone = zone) ∧
  (port = s.readPort ∨ (s.anyPort = true ∧ s.readPort = 0))

instance (s : CL) (ip : IP) (zone : String) (port : Int) : Decidable (s.Accepts ip zone port) := by
  unfold CL.Accepts; infer_instance

theorem CL.recv_eq (s : CL) (ip : IP) (zone : String) (port : Int) (len : Nat) (now : Int) :
    s.recv ip zone port len now =
      if s.Accepts ip zone port then
        ({ s with readPort := port, last := now, delivered := (len, port) :: s.delivered }, true)
      else (s, false) := by
  have e1 : ((!ipEqual s.readIP ip) = true) ↔ ¬ ipEqual s.readIP ip = true := by simp
  have e2 : ((!s.multicast && s.readZone != zone) = true) ↔ ¬ (s.multicast = true ∨ s.readZone = zone) := by simp
  have e3 : ((s.anyPort && s.readPort == 0) = true) ↔ (s.anyPort = true ∧ s.readPort = 0) := by simp
  have e4 : ((s.readPort != port) = true) ↔ ¬ port = s.readPort := by
    rw [bne_iff_ne]; exact ⟨fun h e => h e.symm, fun h e => h e.symm⟩
  unfold CL.recv
  simp only [e1, e2, e3, e4]
  by_cases a : ipEqual s.readIP ip = true
  · by_cases b : s.multicast = true ∨ s.readZone = zone
    · rw [if_neg (not_not_intro a), if_neg (not_not_intro b)]
      by_cases c : s.anyPort = true ∧ s.readPort = 0
      · rw [if_pos c, if_pos (show s.Accepts ip zone port from ⟨a, b, .inr c⟩)]
      · by_cases d : port = s.readPort
        · -- the port is the one already stored
          rw [if_neg c, if_neg (not_not_intro d), if_pos (show s.Accepts ip zone port from ⟨a, b, .inl d⟩), d]
        · rw [if_neg c, if_pos d, if_neg fun h => h.2.2.elim d c]
    · rw [if_neg (not_not_intro a), if_pos b, if_neg fun h => b h.2.1]
  · rw [if_pos a, if_neg fun h => a h.1]

theorem CL.recv_cfg (s : CL) (ip : IP) (zone : String) (port : Int) (len : Nat) (now : Int) :
    (s.recv ip zone port len now).1.anyPort = s.anyPort ∧ (s.recv ip zone port len now).1.readIP = s.readIP ∧
    (s.recv ip zone port len now).1.readZone = s.readZone ∧ (s.recv ip zone port len now).1.multicast = s.multicast := by
  rw [CL.recv_eq]
  split <;> exact ⟨rfl, rfl, rfl, rfl⟩

end Rtsp.Peer
