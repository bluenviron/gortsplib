import Rtsp.Proofs.Peer.Moves
/-
C19: the connection pin over all histories – a session is pinned exactly while it streams over an
interleaved (TCP) connection, and the pinned connection stays attached while it lives.  A connection id
keeps its address and, once gone, stays gone (`ConnStable`).
-/
namespace Rtsp.Peer
namespace Server

def PinOK (ss : Session) : Prop := ss.tcpConn.isSome = true ↔ (Streaming ss ∧ ss.transport = some .tcp)

theorem pin_none_of_not_streaming {ss : Session} (h : PinOK ss) (hn : ¬ Streaming ss) : ss.tcpConn = none := by
  cases hc : ss.tcpConn with
  | none => rfl
  | some v => exact absurd (h.1 (by rw [hc]; rfl)).1 hn

theorem pinOK_idle {ss : Session} (hn : ¬ Streaming ss) (hp : ss.tcpConn = none) : PinOK ss := by
  unfold PinOK; rw [hp]
  exact ⟨fun h => (by cases h), fun h => absurd h.1 hn⟩


theorem Handled.pin {ss : Session} {cid : Nat} {res : SessRes} (hh : Handled ss cid res) (h : PinOK ss) :
    PinOK res.ss ∧ (res.ss.tcpConn = ss.tcpConn ∨ res.ss.tcpConn = some cid ∨ res.ss.tcpConn = none) := by
  cases hh with
  | same st e => exact ⟨h, .inl rfl⟩
  | prepare st tr ms an hn hst =>
    have hp := pin_none_of_not_streaming h hn
    exact ⟨pinOK_idle hst hp, .inl rfl⟩
  | start st rec hn hst =>
    have hp := pin_none_of_not_streaming h hn
    by_cases ht : (ss.transport == some .tcp) = true
    · rw [if_pos ht]
      exact ⟨⟨fun _ => ⟨hst, eq_of_beq ht⟩, fun _ => rfl⟩, .inr (.inl rfl)⟩
    · rw [if_neg ht]
      refine ⟨⟨fun x => ?_, fun x => absurd (by rw [x.2]; rfl) ht⟩, .inl rfl⟩
      rw [show ss.tcpConn = none from hp] at x; cases x
  | stop st hst =>
    by_cases ht : (ss.transport == some .tcp) = true
    · rw [if_pos ht]
      exact ⟨pinOK_idle hst rfl, .inr (.inr rfl)⟩
    · rw [if_neg ht]
      refine ⟨pinOK_idle hst ?_, .inl rfl⟩
      -- a pin on a session that is not interleaved contradicts `PinOK ss`
      cases hc : ss.tcpConn with
      | none => rfl
      | some v => exact absurd (by rw [(h.1 (by rw [hc]; rfl)).2]; rfl) ht

/-- the address of a connection id never changes: every connection found afterwards was there before
with the same address and zone -/
def ConnStable (sv sv' : Server) : Prop :=
  ∀ cid c', sv'.findConn cid = some c' → ∃ c0, sv.findConn cid = some c0 ∧ c0.ip = c'.ip ∧ c0.zone = c'.zone

theorem connStable_refl (sv : Server) : ConnStable sv sv := fun _ c' h => ⟨c', h, rfl, rfl⟩

theorem connStable_trans {a b c : Server} (h1 : ConnStable a b) (h2 : ConnStable b c) : ConnStable a c := by
  intro cid c' h
  obtain ⟨c1, f1, i1, z1⟩ := h2 cid c' h
  obtain ⟨c0, f0, i0, z0⟩ := h1 cid c1 f1
  exact ⟨c0, f0, i0.trans i1, z0.trans z1⟩

theorem connStable_of_conns {sv sv' : Server} (h : sv'.conns = sv.conns) : ConnStable sv sv' :=
  fun cid c' hc => ⟨c', by rw [← findConn_congr h]; exact hc, rfl, rfl⟩

theorem connStable_setConnSession (sv : Server) (cid : Nat) (x : Option Nat) :
    ConnStable sv (sv.setConnSession cid x) := by
  intro cid' c' hc
  obtain ⟨c0, hf, rfl | ⟨_, rfl⟩⟩ := findConn_setConnSession_some hc <;> exact ⟨_, hf, rfl, rfl⟩

theorem connStable_dropConn (sv : Server) (cid : Nat) : ConnStable sv (sv.dropConn cid) := by
  intro cid' c' hc
  rw [findConn_dropConn] at hc
  split at hc
  · cases hc
  · exact ⟨c', hc, rfl, rfl⟩

theorem connStable_closeSession (sv : Server) (ss : Session) : ConnStable sv (sv.closeSession ss) := by
  intro cid c' hc
  rw [findConn_closeSession] at hc
  split at hc
  · cases hc
  · exact ⟨c', hc, rfl, rfl⟩

theorem connStable_inSessionRun (sv : Server) (ss : Session) (cid : Nat) (r : Req) (now : Int) :
    ConnStable sv (inSessionRun sv ss cid r now).1 := by
  rw [inSessionRun_eq]
  generalize sessionHandle sv (touch ss cid now) cid r = res
  refine connStable_trans (connStable_of_conns (stored_fields sv res).2.1) ?_
  unfold finish
  split
  · exact connStable_trans (connStable_setConnSession (setSession _ _) _ _) (connStable_closeSession _ _)
  · exact connStable_setConnSession _ _ _

/-- every session satisfies `PinOK`; the pinned connection is attached to its session or gone for good
(ids below `nextCid` are never handed out again) -/
structure PinInv (sv : Server) : Prop where
  pin : ∀ sid ss, sv.findSession sid = some ss → PinOK ss
  att : ∀ sid ss v, sv.findSession sid = some ss → ss.tcpConn = some v →
          (v ∈ ss.conns ∨ sv.findConn v = none) ∧ v < sv.nextCid
  cid_lt : ∀ cid c, sv.findConn cid = some c → cid < sv.nextCid

theorem pinInv_empty (udp : Bool) : PinInv { udp := udp } := by
  constructor
  · intro sid ss h; simp [findSession] at h
  · intro sid ss v h; simp [findSession] at h
  · intro cid c h; simp [findConn] at h

theorem pinInv_sub {sv sv' : Server} (h : PinInv sv)
    (hsub : ∀ sid s, sv'.findSession sid = some s → sv.findSession sid = some s)
    (hn : sv'.nextCid = sv.nextCid) (hst : ConnStable sv sv') : PinInv sv' := by
  constructor
  · intro sid ss hf; exact h.pin sid ss (hsub sid ss hf)
  · intro sid ss v hf hv
    obtain ⟨a, b⟩ := h.att sid ss v (hsub sid ss hf) hv
    refine ⟨a.imp id fun a => ?_, hn ▸ b⟩
    -- a connection that is gone stays gone
    cases hc : sv'.findConn v with
    | none => rfl
    | some c' =>
      obtain ⟨c0, f0, _⟩ := hst v c' hc
      rw [a] at f0; cases f0
  · intro cid c' hc
    obtain ⟨c0, f0, _⟩ := hst cid c' hc
    exact hn ▸ h.cid_lt cid c0 f0

theorem pinInv_setSession {sv : Server} (h : PinInv sv) (ss' : Session) (hp : PinOK ss')
    (ha : ∀ v, ss'.tcpConn = some v → (v ∈ ss'.conns ∨ sv.findConn v = none) ∧ v < sv.nextCid) :
    PinInv (sv.setSession ss') := by
  constructor
  · intro sid s hf
    rcases findSession_setSession_some hf with ⟨_, rfl⟩ | e
    · exact hp
    · exact h.pin sid s e
  · intro sid s v hf hv
    rcases findSession_setSession_some hf with ⟨_, rfl⟩ | e
    · exact ha v hv
    · exact h.att sid s v e hv
  · exact h.cid_lt

theorem pinInv_addSession {sv : Server} (h : PinInv sv) (new : Session)
    (hp : new.tcpConn = none) (hs : new.state = .initial) : PinInv (sv.addSession new) := by
  have key : ∀ sid s, (sv.addSession new).findSession sid = some s → s = new ∨ sv.findSession sid = some s :=
    fun _ _ hf => (Keyed.find?_snoc_some Session.id hf).symm.imp (·.1) id
  constructor
  · intro sid s hf
    rcases key sid s hf with rfl | e
    · exact pinOK_idle (not_streaming_of_state (.inl hs)) hp
    · exact h.pin sid s e
  · intro sid s v hf hv
    rcases key sid s hf with rfl | e
    · rw [hp] at hv; cases hv
    · exact h.att sid s v e hv
  · exact h.cid_lt

theorem pinInv_move {c : Conn} {a b : Server} (m : Move c a b) (h : PinInv a) : PinInv b := by
  cases m with
  | accept hge _ =>
    constructor
    · exact h.pin
    · intro sid ss v hf hv
      obtain ⟨x, y⟩ := h.att sid ss v hf hv
      refine ⟨x.imp id fun x => ?_, Nat.lt_succ_of_lt (Nat.lt_of_lt_of_le y hge)⟩
      -- ids are fresh: the new connection is not a pinned one that went away
      rw [findConn_snoc, x, Option.none_or, if_neg (by omega)]
    · intro v c' hc
      show v < c.id + 1
      rcases Keyed.find?_snoc_some Conn.id hc with ho | ⟨_, e⟩
      · have := h.cid_lt v c' ho; omega
      · rw [← e]; exact Nat.lt_succ_self _
  | create now => exact pinInv_addSession h _ rfl rfl
  | @handle ss _ now hc hf _ hh =>
    obtain ⟨p1, p3⟩ := hh.pin (h.pin ss.id ss hf)
    -- the pin of the answer is the old one, or the requesting connection, which `touch` has attached
    refine pinInv_sub (pinInv_setSession h _ p1 fun v hv => ?_) (fun sid s hs => by rw [← findSession_stored]; exact hs)
      (stored_fields _ _).2.2.2 (connStable_of_conns (stored_fields _ _).2.1)
    rw [hh.keeps.2.2.2]
    rcases p3 with e | e | e
    · obtain ⟨x, y⟩ := h.att ss.id ss v hf (e ▸ hv)
      exact ⟨x.imp (fun x => mem_touch.2 (.inl x)) id, y⟩
    · rw [e] at hv; cases hv
      exact ⟨.inl (mem_touch.2 (.inr rfl)), h.cid_lt c.id c hc⟩
    · rw [e] at hv; cases hv
  | link | unlink => exact pinInv_sub h (fun _ _ hs => hs) rfl (connStable_setConnSession _ _ _)
  | drop => exact pinInv_sub h (fun _ _ hs => hs) rfl (connStable_dropConn _ _)
  | @detach ss gone hf _ =>
    -- the pinned connection stays attached unless it is the one that has gone
    refine pinInv_setSession h (detach ss c.id) (h.pin ss.id ss hf) fun v hv => ?_
    obtain ⟨x, y⟩ := h.att ss.id ss v hf hv
    refine ⟨?_, y⟩
    by_cases e : v = c.id
    · exact .inr (e ▸ gone)
    · exact x.imp (fun x => List.mem_filter.2 ⟨x, by simpa using e⟩) id
  | finish hf _ =>
    -- the session ends: everything that is left was there before
    refine pinInv_sub h (fun sid s hs' => ?_) (closeSession_fields _ _).2.2.2 (connStable_closeSession (setSession _ _) _)
    rw [findSession_closeSession] at hs'
    split at hs'
    · cases hs'
    · next e => rwa [findSession_setSession_ne _ (detach _ c.id) sid e] at hs'

theorem pinInv_runEvs (udp : Bool) (evs : List Ev) : PinInv (runEvs udp evs) :=
  runEvs_preserves pinInv_move (pinInv_empty udp) evs

end Server
end Rtsp.Peer
