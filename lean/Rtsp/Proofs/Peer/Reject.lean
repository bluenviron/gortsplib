import Rtsp.Proofs.Peer.Handle
/-
C19: the request of another connection on a pinned session (refused by the first statement of
`ServerSession.handleRequestInner`), computed exactly for every server state: the refusal closes the
connection, which by then is attached to the session, so two writes to the same record have to be merged.
(The other rejection, the author check of `findOrCreateSession`, changes no table: `inSession_other_ip` (`Handle`).)
-/
namespace Rtsp.Peer
open Rtsp.Facts

namespace Server

theorem setSession_setSession (sv : Server) (a b : Session) (h : a.id = b.id) :
    (sv.setSession a).setSession b = sv.setSession b := by
  unfold setSession
  simp only [List.map_map]
  congr 1
  apply List.map_congr_left
  intro x _
  simp only [Function.comp]
  by_cases hx : x.id = a.id
  · have hb : x.id = b.id := hx.trans h
    simp [hx, h]
  · have hb : ¬ x.id = b.id := fun e => hx (e.trans h.symm)
    simp [hx, hb]

theorem setSession_dropConn (sv : Server) (a : Session) (cid : Nat) :
    (sv.dropConn cid).setSession a = (sv.setSession a).dropConn cid := rfl

theorem setSession_setConnSession (sv : Server) (a : Session) (cid : Nat) (x : Option Nat) :
    (sv.setConnSession cid x).setSession a = (sv.setSession a).setConnSession cid x := rfl

theorem request_other_conn (sv : Server) (c : Conn) (ss : Session) (sid v : Nat) (r : Req) (now : Int)
    (hc : sv.findConn c.id = some c)
    (hs : sv.findSession sid = some ss) (hr : r.sid = some sid)
    (hlink : c.session = some sid ∨ (c.session = none ∧ ipEqual c.ip ss.authorIP = true ∧ c.zone = ss.authorZone))
    (hpin : ss.tcpConn = some v) (hv : v ≠ c.id) (hatt : v ∈ ss.conns) :
    sv.request c.id r now =
      ((sv.setSession { ss with lastReq := now, conns := ss.conns.filter (· != c.id) }).dropConn c.id,
        Peer.statusBadRequest) := by
  obtain ⟨create, hroute⟩ := route_with_sid sv c hr now
  have hs' : sv.findSession ss.id = some ss := by rw [findSession_id hs]; exact hs
  rw [request_eq hc, hroute, inSession_pinned sv c ss sid v r create now hs hr hlink hpin hv]
  refine congrArg (·, Peer.statusBadRequest) ?_
  -- the error closes the connection, which by now is linked to the session; the pinned one stays attached
  have hne : (detach (touch ss c.id now) c.id).conns.isEmpty = false := by
    show ((touch ss c.id now).conns.filter (· != c.id)).isEmpty = false
    rw [touch_conns_filter, List.isEmpty_eq_false_iff_exists_mem]
    exact ⟨v, List.mem_filter.2 ⟨hatt, by simpa using hv⟩⟩
  have hrec : detach (touch ss c.id now) c.id = { ss with lastReq := now, conns := ss.conns.filter (· != c.id) } :=
    congrArg (fun l => ({ ss with lastReq := now, conns := l } : Session)) (touch_conns_filter ss c.id now)
  have hc' : ((sv.setSession (touch ss c.id now)).setConnSession c.id (some ss.id)).findConn c.id =
      some { c with session := some ss.id } := findConn_setConnSession_self (sv.setSession _) c _ hc
  have hfs : ((sv.setSession (touch ss c.id now)).setConnSession c.id (some ss.id)).findSession ss.id =
      some (touch ss c.id now) := findSession_setSession_self sv (touch ss c.id now) ss hs'
  show ((sv.setSession (touch ss c.id now)).setConnSession c.id (some ss.id)).closeConn c.id = _
  rw [closeConn_eq hc', Option.bind_some, hfs]
  show removeConnFromSession _ _ _ = _
  rw [dropConn_setConnSession, removeConnFromSession_attached _ _ _ hne, hrec, setSession_dropConn,
    setSession_setSession sv (touch ss c.id now) _ (by rfl)]

end Server
end Rtsp.Peer
