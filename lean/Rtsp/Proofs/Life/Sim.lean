import Rtsp.Proofs.Life.Wg
import Rtsp.Proofs.Life.Monitor
/-
Simulation: every step of the model is matched by the monitor (`sim_step`), hence every run (`run_sim`).
-/
namespace Rtsp.Life

/-- the monitor state is the abstraction of the model state -/
structure Sim (st : State) (m : MState) : Prop where
  opened : ∀ c, c ∈ m.opened ↔ ((st.conn c).phase ≠ .absent ∧ (st.conn c).phase ≠ .spawned)
  closed : ∀ c, c ∈ m.closed ↔ (st.conn c).phase = .closed
  sopened : ∀ s, s ∈ m.sopened ↔ ((st.sess s).phase ≠ .absent ∧ (st.sess s).phase ≠ .spawned)
  sclosed : ∀ s, s ∈ m.sclosed ↔ (st.sess s).phase = .closed
  called : m.closeCalled = st.closeCalled
  returned : m.closeReturned = st.closeReturned

theorem sim_init : Sim Rtsp.Life.init {} := by
  constructor <;> simp [Rtsp.Life.init]

variable {st st' : State} {e : Option Event} {c s : Nat} {m : MState}

/-! `Sim` reads of a record only whether its open and its close notification have been delivered: stage 0, 1 or 2. -/

def CPhase.stage : CPhase → Nat
  | .absent | .spawned => 0
  | .running | .stopping | .joined => 1
  | .closed => 2

def SPhase.stage : SPhase → Nat
  | .absent | .spawned => 0
  | .running | .stopping => 1
  | .closed => 2

theorem CPhase.stage_pos {p : CPhase} : 0 < p.stage ↔ p ≠ .absent ∧ p ≠ .spawned := by cases p <;> decide
theorem CPhase.stage_two {p : CPhase} : p.stage = 2 ↔ p = .closed := by cases p <;> decide
theorem SPhase.stage_pos {p : SPhase} : 0 < p.stage ↔ p ≠ .absent ∧ p ≠ .spawned := by cases p <;> decide
theorem SPhase.stage_two {p : SPhase} : p.stage = 2 ↔ p = .closed := by cases p <;> decide

theorem SPhase.stage_one {p : SPhase} (h : p = .running ∨ p = .stopping) : p.stage = 1 := by
  rcases h with rfl | rfl <;> rfl

theorem Sim.conn_stage (hs : Sim st m) (c : Nat) :
    (c ∈ m.opened ↔ 0 < (st.conn c).phase.stage) ∧ (c ∈ m.closed ↔ (st.conn c).phase.stage = 2) :=
  ⟨(hs.opened c).trans CPhase.stage_pos.symm, (hs.closed c).trans CPhase.stage_two.symm⟩

theorem Sim.sess_stage (hs : Sim st m) (s : Nat) :
    (s ∈ m.sopened ↔ 0 < (st.sess s).phase.stage) ∧ (s ∈ m.sclosed ↔ (st.sess s).phase.stage = 2) :=
  ⟨(hs.sopened s).trans SPhase.stage_pos.symm, (hs.sclosed s).trans SPhase.stage_two.symm⟩

theorem Sim.setConn_lists (hs : Sim st m) {v : Conn} {o cl : List Nat}
    (ho : ∀ i, i ∈ o ↔ if i = c then 0 < v.phase.stage else i ∈ m.opened)
    (hcl : ∀ i, i ∈ cl ↔ if i = c then v.phase.stage = 2 else i ∈ m.closed) :
    Sim (st.setConn c v) { m with opened := o, closed := cl } := by
  refine ⟨fun i => ?_, fun i => ?_, hs.sopened, hs.sclosed, hs.called, hs.returned⟩
  · refine (ho i).trans ?_
    rw [setConn_conn, ← CPhase.stage_pos]
    split
    · exact Iff.rfl
    · exact (hs.conn_stage i).1
  · refine (hcl i).trans ?_
    rw [setConn_conn, ← CPhase.stage_two]
    split
    · exact Iff.rfl
    · exact (hs.conn_stage i).2

theorem Sim.setSess_lists (hs : Sim st m) {w : Sess} {o cl : List Nat}
    (ho : ∀ i, i ∈ o ↔ if i = s then 0 < w.phase.stage else i ∈ m.sopened)
    (hcl : ∀ i, i ∈ cl ↔ if i = s then w.phase.stage = 2 else i ∈ m.sclosed) :
    Sim (st.setSess s w) { m with sopened := o, sclosed := cl } := by
  refine ⟨hs.opened, hs.closed, fun i => ?_, fun i => ?_, hs.called, hs.returned⟩
  · refine (ho i).trans ?_
    rw [setSess_sess, ← SPhase.stage_pos]
    split
    · exact Iff.rfl
    · exact (hs.sess_stage i).1
  · refine (hcl i).trans ?_
    rw [setSess_sess, ← SPhase.stage_two]
    split
    · exact Iff.rfl
    · exact (hs.sess_stage i).2

/-! `hp` names the phase of the old record, so that the stage conditions are closed facts. -/

theorem Sim.setConn (hs : Sim st m) {v : Conn} {p : CPhase} (hp : (st.conn c).phase = p)
    (h : v.phase.stage = p.stage := by rfl) : Sim (st.setConn c v) m := by
  subst hp
  exact hs.setConn_lists (fun i => by split <;> simp_all [(hs.conn_stage c).1])
    (fun i => by split <;> simp_all [(hs.conn_stage c).2])

theorem Sim.setSess (hs : Sim st m) {w : Sess} {p : SPhase} (hp : (st.sess s).phase = p)
    (h : w.phase.stage = p.stage := by rfl) : Sim (st.setSess s w) m := by
  subst hp
  exact hs.setSess_lists (fun i => by split <;> simp_all [(hs.sess_stage s).1])
    (fun i => by split <;> simp_all [(hs.sess_stage s).2])

theorem Sim.connOpen (hs : Sim st m) {v : Conn} {p : CPhase} (hp : (st.conn c).phase = p)
    (h0 : p.stage = 0 := by rfl) (h1 : v.phase.stage = 1 := by rfl) :
    Sim (st.setConn c v) (mnext m (.connOpen c)) := by
  subst hp
  exact hs.setConn_lists (fun i => by split <;> simp_all) (fun i => by split <;> simp_all [(hs.conn_stage c).2])

theorem Sim.connClose (hs : Sim st m) {v : Conn} {p : CPhase} (hp : (st.conn c).phase = p)
    (h1 : p.stage = 1 := by rfl) (h2 : v.phase.stage = 2 := by rfl) :
    Sim (st.setConn c v) (mnext m (.connClose c)) := by
  subst hp
  exact hs.setConn_lists (fun i => by split <;> simp_all [(hs.conn_stage c).1]) (fun i => by split <;> simp_all)

theorem Sim.sessOpen (hs : Sim st m) {w : Sess} (a : Nat) {p : SPhase} (hp : (st.sess s).phase = p)
    (h0 : p.stage = 0 := by rfl) (h1 : w.phase.stage = 1 := by rfl) :
    Sim (st.setSess s w) (mnext m (.sessionOpen s a)) := by
  subst hp
  exact hs.setSess_lists (fun i => by split <;> simp_all) (fun i => by split <;> simp_all [(hs.sess_stage s).2])

theorem Sim.sessClose (hs : Sim st m) {w : Sess} {p : SPhase} (hp : (st.sess s).phase = p)
    (h1 : p.stage = 1 := by rfl) (h2 : w.phase.stage = 2 := by rfl) :
    Sim (st.setSess s w) (mnext m (.sessionClose s)) := by
  subst hp
  exact hs.setSess_lists (fun i => by split <;> simp_all [(hs.sess_stage s).1]) (fun i => by split <;> simp_all)

theorem Sim.flags {a b : Bool} {w n k : Nat} (hs : Sim st m) :
    Sim { st with srvRunning := a, lnRunning := b, wg := w, nConns := n, nSess := k } m :=
  { hs with }

theorem Sim.conn_open (hs : Sim st m) (hi : Inv st) (hw : WgInv st) {p : CPhase} (hp : (st.conn c).phase = p)
    (h : p.stage = 1 := by rfl) : st.closeReturned = false ∧ c ∈ m.opened ∧ c ∉ m.closed := by
  subst hp
  exact ⟨not_returned_of_conn (c := c) hi hw rfl (fun h' => by rw [h'] at h; cases h) (fun h' => by rw [h'] at h; cases h),
    (hs.conn_stage c).1.mpr (by omega), fun hx => by have := (hs.conn_stage c).2.mp hx; omega⟩

theorem Sim.sess_open (hs : Sim st m) (hi : Inv st) (hw : WgInv st) {p : SPhase} (hp : (st.sess s).phase = p)
    (h : p.stage = 1 := by rfl) : st.closeReturned = false ∧ s ∈ m.sopened ∧ s ∉ m.sclosed := by
  subst hp
  exact ⟨not_returned_of_sess (s := s) hi hw rfl (fun h' => by rw [h'] at h; cases h) (fun h' => by rw [h'] at h; cases h),
    (hs.sess_stage s).1.mpr (by omega), fun hx => by have := (hs.sess_stage s).2.mp hx; omega⟩

theorem sim_step {a : Action} (hi : Inv st) (hw : WgInv st) (hs : Sim st m) (h : step st a = some (st', e)) :
    -- not generalizing: with `h` among the discriminants `apply step_elim h` cannot read the motive off the goal
    match (generalizing := false) e with
    | none => Sim st' m
    | some ev => (st.closeReturned = false ∧ mguard m ev) ∧ Sim st' (mnext m ev) := by
  apply step_elim h
  case closeCall =>
    intro hg
    have hnr : st.closeReturned = false := by
      cases hr : st.closeReturned with
      | false => rfl
      | true => exact absurd ((hw.returnedDone hr).1.symm.trans hg) nofun
    exact ⟨⟨hnr, hs.called.trans hg⟩, { hs with called := rfl }⟩
  case closeReturn =>
    intro hg
    have hd := hw.wg_zero_iff.mp hg.2.2
    refine ⟨⟨hg.2.1, hs.called.trans hg.1, fun c hc => ?_, fun s hs' => ?_⟩, { hs with returned := rfl }⟩
    · exact (hs.closed c).mpr (hd.2.2.1 c (hi.conn_lt ((hs.opened c).mp hc).1))
    · exact (hs.sclosed s).mpr (hd.2.2.2 s (hi.sess_lt ((hs.sopened s).mp hs').1))
  case srvExit | lnExit => exact fun _ => hs.flags
  case accept =>
    have h1 : Sim (st.setConn st.nConns { phase := .spawned }) m :=
      hs.setConn (congrArg Conn.phase (hi.connAbsent _ (Nat.le_refl _)))
    exact fun _ => h1.flags
  case createSess =>
    intro c _
    have h1 : Sim (st.setSess st.nSess { phase := .spawned, author := c, conns := [c] }) m :=
      hs.setSess (congrArg Sess.phase (hi.sessAbsent _ (Nat.le_refl _)))
    exact h1.flags
  case connOpenCb =>
    intro c hp
    refine ⟨⟨not_returned_of_conn hi hw hp, fun hx => ?_⟩, hs.connOpen hp⟩
    have := (hs.conn_stage c).1.mp hx; rw [hp] at this; cases this
  case request => exact fun c hg => ⟨hs.conn_open hi hw hg.1, hs⟩
  case stopConn => exact fun c _ _ hp => hs.setConn hp
  case connJoin => exact fun c hg => hs.setConn hg.1
  case dropReader => exact fun c _ _ _ => hs.setConn rfl
  case cancelConn => exact fun c _ => hs.setConn rfl
  case sessCancelConn => exact fun _ c _ => hs.setConn rfl
  case connCloseCb =>
    intro c hp
    have h1 : Sim (st.setConn c { st.conn c with phase := .closed }) (mnext m (.connClose c)) := hs.connClose hp
    exact ⟨hs.conn_open hi hw hp, h1.flags⟩
  case pktTcp =>
    exact fun c s hg => ⟨hs.sess_open hi hw rfl (SPhase.stage_one (hi.tcpLink c s hg.2.1 hg.2.2 hg.1).1), hs⟩
  case pktUdp => exact fun s hg => ⟨hs.sess_open hi hw rfl (SPhase.stage_one (hi.udpPhase s hg)), hs⟩
  case sessOpenCb =>
    intro s hp
    refine ⟨⟨not_returned_of_sess hi hw hp, fun hx => ?_,
      (hs.opened _).mpr (hi.authorOpen s (hp ▸ nofun))⟩, hs.sessOpen _ hp⟩
    have := (hs.sess_stage s).1.mp hx; rw [hp] at this; cases this
  case removeConn => exact fun _ s _ => hs.setSess rfl
  case cancelSess => exact fun s _ => hs.setSess rfl
  case stopSess => exact fun s _ _ hp => hs.setSess hp
  case sessCloseCb =>
    intro s hg
    have h1 : Sim (st.setSess s { st.sess s with phase := .closed, udp := false }) (mnext m (.sessionClose s)) :=
      hs.sessClose hg.1
    exact ⟨hs.sess_open hi hw hg.1, h1.flags⟩
  case sreq =>
    intro s c k hg
    have h1 : Sim (st.setConn c (reqConn k s (st.conn c))) m := hs.setConn rfl (by cases k <;> rfl)
    have hso := hs.sess_open hi hw hg.1
    rcases req_cases k s c (st.conn c) (st.sess s) with rfl | ⟨_, _, _, h2, h3⟩
    · exact h1.setSess (s := s) hg.1
    · rw [h3]
      exact ⟨⟨hso.1, hso.2, (hs.conn_open hi hw hg.2.1).2⟩, h1.setSess (s := s) rfl (by rw [h2]; rfl)⟩

theorem run_sim {as : List Action} : ∀ {st st' : State} {tr : List Event} {m : MState}, Inv st → WgInv st → Sim st m →
    run st as = some (st', tr) → ∃ m', mrun m tr = some m' ∧ Sim st' m' := by
  induction as with
  | nil => intro st st' tr m hi hw hs h; cases h; exact ⟨m, rfl, hs⟩
  | cons a as ih =>
    intro st st' tr m hi hw hs h
    obtain ⟨st1, e, tr1, hst, hr, rfl⟩ := isRun.cons_some h
    have h1 := sim_step hi hw hs hst
    cases e with
    | none => exact ih (hi.step hst) (hw.step hi hst) h1 hr
    | some ev =>
      obtain ⟨m2, hm2, hs2⟩ := ih (hi.step hst) (hw.step hi hst) h1.2 hr
      exact ⟨m2, by simp only [Option.toList, List.singleton_append, mrun,
        mstep_iff.mpr ⟨hs.returned.trans h1.1.1, h1.1.2, rfl⟩, hm2], hs2⟩

end Rtsp.Life
