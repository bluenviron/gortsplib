import Rtsp.Proofs.Life.Rank
import Rtsp.Proofs.Life.Wg
/-
Deadlock freedom of the cancel-driven part (`progress`); the two shutdowns of the server model (`closeShutdown`,
`sessShutdown`); executions of the model and termination of `Close` along every fair one.
-/
namespace Rtsp.Life

variable {st st' : State} {e : Option Event} {c s : Nat}

def enabled (st : State) (a : Action) : Prop := ∃ r, step st a = some r

/-- a connection waits for its reader only, and the reader exits once the connection is stopping -/
theorem conn_progress (hp : (st.conn c).phase ≠ .absent) (hcl : (st.conn c).phase ≠ .closed)
    (hc : st.connCancelled c = true) : ∃ a, a.own = true ∧ enabled st a := by
  cases hph : (st.conn c).phase with
  | absent => exact absurd hph hp
  | closed => exact absurd hph hcl
  | spawned => exact ⟨.connOpenCb c, rfl, by simp [enabled, step, hph]⟩
  | running => exact ⟨.connExit c, rfl, by simp [enabled, step, hph, hc]⟩
  | stopping =>
    cases hrd : (st.conn c).reader with
    | true => exact ⟨.readerExit c, rfl, by simp [enabled, step, hph, hrd]⟩
    | false => exact ⟨.connJoin c, rfl, by simp [enabled, step, hph, hrd]⟩
  | joined => exact ⟨.connCloseCb c, rfl, by simp [enabled, step, hph]⟩

theorem sess_progress (hi : Inv st) (hp : (st.sess s).phase ≠ .absent) (hcl : (st.sess s).phase ≠ .closed)
    (hc : st.sessCancelled s = true) : ∃ a, a.own = true ∧ enabled st a := by
  cases hph : (st.sess s).phase with
  | absent => exact absurd hph hp
  | closed => exact absurd hph hcl
  | spawned => exact ⟨.sessOpenCb s, rfl, by simp [enabled, step, hph]⟩
  | running => exact ⟨.sessExit s, rfl, by simp [enabled, step, hph, hc]⟩
  | stopping =>
    by_cases hall : ∀ c, c ∈ (st.sess s).conns → (st.conn c).phase = .closed
    · refine ⟨.sessCloseCb s, rfl, ?_⟩
      have : allConnsClosed st (st.sess s).conns = true := by
        simp only [allConnsClosed, List.all_eq_true]
        intro c hc'; simp [hall c hc']
      simp [enabled, step, hph, this]
    · obtain ⟨c, hc'⟩ := Classical.not_forall.mp hall
      obtain ⟨hmem, hncl⟩ := Classical.not_imp.mp hc'
      cases hcc : (st.conn c).cancelled with
      | false => exact ⟨.sessCancelConn s c, rfl, by simp [enabled, step, hph, hmem, hcc]⟩
      | true =>
        exact conn_progress (hi.connPresent c (hi.connsBound s c hmem)) hncl
          (by simp only [State.connCancelled, hcc, Bool.true_or])

theorem setSess_keeps {s' : Nat} {w : Sess} (hw : w.phase ≠ .absent)
    (hcw : (st.sess s').cancelled = true → w.cancelled = true)
    (hp : (st.sess s).phase ≠ .absent) (hc : (st.sess s).cancelled = true) :
    ((st.setSess s' w).sess s).phase ≠ .absent ∧ ((st.setSess s' w).sess s).cancelled = true := by
  rw [setSess_sess]; split
  · subst s; exact ⟨hw, hcw hc⟩
  · exact ⟨hp, hc⟩

/-- the actions that write a session record keep both; a new session gets a fresh index -/
theorem sess_cancelled_mono {a : Action} (hi : Inv st) (h : step st a = some (st', e))
    (hp : (st.sess s).phase ≠ .absent) (hc : (st.sess s).cancelled = true) :
    (st'.sess s).phase ≠ .absent ∧ (st'.sess s).cancelled = true := by
  apply step_elim h
  case createSess =>
    intro c _
    have : s ≠ st.nSess := Nat.ne_of_lt (hi.sess_lt hp)
    exact (setSess_sess_ne st _ this).symm ▸ ⟨hp, hc⟩
  case removeConn => exact fun _ _ hg => setSess_keeps (fun h => nomatch hg.2.2.symm.trans h) id hp hc
  case sessOpenCb => exact fun _ _ => setSess_keeps nofun id hp hc
  case stopSess => exact fun _ _ _ _ => setSess_keeps nofun (fun _ => rfl) hp hc
  case sessCloseCb => exact fun _ _ => setSess_keeps nofun id hp hc
  case cancelSess => exact fun _ hp' => setSess_keeps hp' (fun _ => rfl) hp hc
  case sreq =>
    exact fun s' c' k hg => setSess_keeps (st := st.setConn c' _) (by cases k <;> simp [reqSess, hg.1])
      (by cases k <;> simp [reqSess]) hp hc
  all_goals intros; exact ⟨hp, hc⟩

/-- **no deadlock**: the wait-for relation has no cycle (sessions wait for connections, connections for their
reader, `Close` for everybody; nobody waits for a session) -/
theorem progress (hi : Inv st) (hw : WgInv st) (hc : st.cancelled = true) (hr : st.closeReturned = false) :
    ∃ a, a.own = true ∧ enabled st a := by
  by_cases h1 : st.srvRunning = true
  · exact ⟨.srvExit, rfl, by simp [enabled, step, h1, hc]⟩
  by_cases h2 : st.lnRunning = true
  · exact ⟨.lnExit, rfl, by simp [enabled, step, h1, h2]⟩
  by_cases h3 : ∀ c, c < st.nConns → (st.conn c).phase = .closed
  · by_cases h4 : ∀ s, s < st.nSess → (st.sess s).phase = .closed
    · -- everything has finished: wg = 0
      have hwg : st.wg = 0 := hw.wg_zero_iff.mpr ⟨by simpa using h1, by simpa using h2, h3, h4⟩
      have hcc : st.closeCalled = true := hi.cancelledIff.symm.trans hc
      exact ⟨.closeReturn, rfl, by simp [enabled, step, hcc, hr, hwg]⟩
    · obtain ⟨s, hs⟩ := Classical.not_forall.mp h4
      obtain ⟨hs1, hs2⟩ := Classical.not_imp.mp hs
      exact sess_progress hi (hi.sessPresent s hs1) hs2 (by simp only [State.sessCancelled, hc, Bool.or_true])
  · obtain ⟨c, hc'⟩ := Classical.not_forall.mp h3
    obtain ⟨hc1, hc2⟩ := Classical.not_imp.mp hc'
    exact conn_progress (hi.connPresent c hc1) hc2 (by simp only [State.connCancelled, hc, Bool.or_true])

/-- each own action is a single `if guard then some _ else none` -/
theorem enabled_own_iff {a : Action} (ha : a.own = true) : enabled st a ↔ ownGuard st a = true := by
  cases a <;> first | exact ite_some_isSome | exact nomatch ha

theorem env_step {a : Action} (hi : Inv st) (hc : st.cancelled = true) (hsrv : st.srvRunning = false)
    (h : step st a = some (st', e)) :
    rank st' < rank st ∨ (rank st' ≤ rank st ∧ ∀ b, b.own = true → enabled st b → enabled st' b) :=
  (rank_step hi h).imp id fun h' => ⟨(h'.2 hc hsrv).1, fun b hb hen =>
    (enabled_own_iff hb).mpr (((h'.2 hc hsrv).2 b).trans ((enabled_own_iff hb).mp hen))⟩

/-- `Server.Close`: once `s.ctx` is cancelled every goroutine winds down and `Close` returns, with nothing left running -/
theorem closeShutdown : Shutdown step (·.own = true) (fun st => Inv st ∧ WgInv st ∧ st.cancelled = true)
    (fun st => st.closeReturned = true ∧ st.allDone) rank where
  inv hp hs := ⟨hp.1.step hs, hp.2.1.step hp.1 hs, (step_flags hs).1 hp.2.2⟩
  dec hp ha hs := rank_own hp.1 ha hs
  prog hp hg := progress hp.1 hp.2.1 hp.2.2 (Bool.eq_false_iff.mpr fun hr => hg ⟨hr, allDone_of_returned hp.2.1 hr⟩)

/-- `ServerSession.Close` / `ServerStream.Close`: a cancelled session winds down, whatever the server does -/
theorem sessShutdown (s : Nat) : Shutdown step (·.own = true)
    (fun st => Inv st ∧ (st.sess s).phase ≠ .absent ∧ (st.sess s).cancelled = true)
    (fun st => (st.sess s).phase = .closed) rank where
  inv hp hs := ⟨hp.1.step hs, sess_cancelled_mono hp.1 hs hp.2.1 hp.2.2⟩
  dec hp ha hs := rank_own hp.1 ha hs
  prog hp hg := sess_progress hp.1 hp.2.1 hg (by simp only [State.sessCancelled, hp.2.2, Bool.true_or])

/-- An infinite execution of the model: `σ n` is the state after `n` steps, `α n` the action taken at step
`n` (`none` = nobody moves; a finite maximal run is an execution that stutters from some point on). -/
structure Exec where
  σ : Nat → State
  α : Nat → Option Action
  ok : ∀ n, match α n with
    | none => σ (n + 1) = σ n
    | some a => ∃ e, step (σ n) a = some (σ (n + 1), e)

/-- **Weak fairness of every goroutine's own steps**: an own (cancel-driven) action that is enabled from
some point on without interruption is eventually taken.  Nothing is assumed about the environment
(requests, packets, peer failures, API calls may occur in any number and order, or not at all).  It is
`WeaklyFair x.σ x.α (·.own = true) enabled` (`Life/System`) written out. -/
def Exec.Fair (x : Exec) : Prop :=
  ∀ a, a.own = true → ∀ n, (∀ k, n ≤ k → enabled (x.σ k) a) → ∃ k, n ≤ k ∧ x.α k = some a

variable (x : Exec)

theorem Exec.isExec : IsExec step x.σ x.α := fun n => by
  have := x.ok n
  constructor
  · intro h; simpa only [h] using this
  · intro a h; simpa only [h] using this

/-- Termination of `Close` along every fair execution, with the environment (peers, API user) interleaving. -/
theorem close_terminates_fair (hi : Inv (x.σ 0)) (hw : WgInv (x.σ 0)) (hc : (x.σ 0).cancelled = true)
    (hf : x.Fair) : ∃ n, (x.σ n).closeReturned = true ∧ (x.σ n).allDone := by
  -- first the server loop exits (`srvExit`), for good; from there on `env_step` applies
  exact closeShutdown.fair x.isExec hf ⟨hi, hw, hc⟩
    (Q := fun st => st.srvRunning = false) (a0 := .srvExit) rfl (fun hp hq => by simp [step, hq, hp.2.2])
    (fun hs hq => hq.elim (fun ha => by subst ha; exact congrArg (·.1.srvRunning) (ite_some_eq hs).2)
      (step_flags hs).2)
    (fun hp hq _ hs => env_step hp.1 hp.2.2 hq hs)

end Rtsp.Life
