import Rtsp.Model.Lifecycle
/-
Counting live goroutines: the value the `sync.WaitGroup` counter must have.
-/
namespace Rtsp.Life

def sumTo : Nat → (Nat → Nat) → Nat
  | 0, _ => 0
  | n + 1, f => sumTo n f + f n

theorem sumTo_congr {n : Nat} {f g : Nat → Nat} (h : ∀ i, i < n → f i = g i) : sumTo n f = sumTo n g := by
  induction n with
  | zero => rfl
  | succ n ih =>
    simp only [sumTo]
    rw [ih (fun i hi => h i (Nat.lt_succ_of_lt hi)), h n (Nat.lt_succ_self n)]

theorem sumTo_update {n c : Nat} {f g : Nat → Nat} (hc : c < n) (h : ∀ i, i ≠ c → g i = f i) :
    sumTo n g + f c = sumTo n f + g c := by
  induction n with
  | zero => omega
  | succ n ih =>
    simp only [sumTo]
    by_cases hcn : c = n
    · subst hcn
      have : sumTo c g = sumTo c f := sumTo_congr (fun i hi => h i (by omega))
      rw [this]; omega
    · have h1 := ih (by omega)
      have h2 : g n = f n := h n (fun hx => hcn hx.symm)
      rw [h2]; omega

/-- number of `i < n` with `p i` -/
def cnt : Nat → (Nat → Bool) → Nat
  | 0, _ => 0
  | n + 1, p => cnt n p + (if p n then 1 else 0)

theorem cnt_eq_sumTo (n : Nat) (p : Nat → Bool) : cnt n p = sumTo n fun i => if p i then 1 else 0 := by
  induction n with
  | zero => rfl
  | succ n ih => simp only [cnt, sumTo, ih]

theorem cnt_eq_countP (n : Nat) (p : Nat → Bool) : cnt n p = (List.range n).countP p := by
  induction n with
  | zero => rfl
  | succ n ih => rw [cnt, ih, List.range_succ, List.countP_append, List.countP_singleton]

theorem cnt_congr {n : Nat} {p q : Nat → Bool} (h : ∀ i, i < n → p i = q i) : cnt n p = cnt n q := by
  rw [cnt_eq_countP, cnt_eq_countP]
  exact List.countP_congr fun i hi => by rw [h i (List.mem_range.mp hi)]

theorem cnt_update {n c : Nat} {p q : Nat → Bool} (hc : c < n) (h : ∀ i, i ≠ c → q i = p i) :
    cnt n q + (if p c then 1 else 0) = cnt n p + (if q c then 1 else 0) := by
  rw [cnt_eq_sumTo, cnt_eq_sumTo]
  exact sumTo_update (f := fun i => if p i then 1 else 0) (g := fun i => if q i then 1 else 0) hc fun i hi => by
    simp only [h i hi]

theorem cnt_eq_zero {n : Nat} {p : Nat → Bool} : cnt n p = 0 ↔ ∀ i, i < n → p i = false := by
  simp [cnt_eq_countP, List.countP_eq_zero]

theorem cnt_pos {n c : Nat} {p : Nat → Bool} (hc : c < n) (hp : p c = true) : 0 < cnt n p := by
  rw [cnt_eq_countP]
  exact List.countP_pos_iff.mpr ⟨c, List.mem_range.mpr hc, hp⟩

def connLive (conn : Nat → Conn) (c : Nat) : Bool := (conn c).phase != .closed
def sessLive (sess : Nat → Sess) (s : Nat) : Bool := (sess s).phase != .closed

/-- goroutines registered in `s.wg` that have not called `wg.Done()` yet -/
def live (st : State) : Nat :=
  (if st.srvRunning then 1 else 0) + (if st.lnRunning then 1 else 0) +
  cnt st.nConns (connLive st.conn) + cnt st.nSess (sessLive st.sess)

end Rtsp.Life
