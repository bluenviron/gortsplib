import Rtsp.Model.Lifecycle
/-
Facts about the monitor `accepts` (Model/Lifecycle.lean): its step as guard and effect, how its state reflects the
trace read so far, and the decomposition of an accepted trace at one of its events.
-/
namespace Rtsp.Life

theorem mrun_append (m : MState) (a b : List Event) :
    mrun m (a ++ b) = (mrun m a).bind (fun m' => mrun m' b) := by
  induction a generalizing m with
  | nil => simp [mrun]
  | cons e es ih =>
    simp only [List.cons_append, mrun]
    cases mstep m e with
    | none => simp
    | some m' => simpa using ih m'

theorem mrun_cons_some {m m2 : MState} {e : Event} {es : List Event} (h : mrun m (e :: es) = some m2) :
    ∃ m1, mstep m e = some m1 ∧ mrun m1 es = some m2 := by
  simp only [mrun] at h
  cases hm : mstep m e with
  | none => simp [hm] at h
  | some m1 => exact ⟨m1, rfl, by simpa [hm] using h⟩

theorem mrun_append_some {m m2 : MState} {a b : List Event} (h : mrun m (a ++ b) = some m2) :
    ∃ m1, mrun m a = some m1 ∧ mrun m1 b = some m2 := by
  rw [mrun_append] at h
  cases hm : mrun m a with
  | none => simp [hm] at h
  | some m1 => exact ⟨m1, rfl, by simpa [hm] using h⟩

def mguard (m : MState) : Event → Prop
  | .connOpen c => c ∉ m.opened
  | .connClose c => c ∈ m.opened ∧ c ∉ m.closed
  | .sessionOpen s c => s ∉ m.sopened ∧ c ∈ m.opened
  | .sessionClose s => s ∈ m.sopened ∧ s ∉ m.sclosed
  | .request c => c ∈ m.opened ∧ c ∉ m.closed
  | .sreq s c => (s ∈ m.sopened ∧ s ∉ m.sclosed) ∧ (c ∈ m.opened ∧ c ∉ m.closed)
  | .packet s => s ∈ m.sopened ∧ s ∉ m.sclosed
  | .closeCalled => m.closeCalled = false
  | .closeReturned => m.closeCalled = true ∧ (∀ c, c ∈ m.opened → c ∈ m.closed) ∧ (∀ s, s ∈ m.sopened → s ∈ m.sclosed)

def mnext (m : MState) : Event → MState
  | .connOpen c => { m with opened := c :: m.opened }
  | .connClose c => { m with closed := c :: m.closed }
  | .sessionOpen s _ => { m with sopened := s :: m.sopened }
  | .sessionClose s => { m with sclosed := s :: m.sclosed }
  | .request _ | .sreq _ _ | .packet _ => m
  | .closeCalled => { m with closeCalled := true }
  | .closeReturned => { m with closeReturned := true }

theorem mstep_iff {m m' : MState} {e : Event} :
    mstep m e = some m' ↔ (m.closeReturned = false ∧ mguard m e ∧ mnext m e = m') := by
  cases hr : m.closeReturned <;> cases e <;>
    simp [mstep, mguard, mnext, hr, MState.connOpen, MState.sessOpen] <;> try (intros; constructor <;> intros <;> simp_all)

section
variable (m : MState) (e : Event)

theorem mnext_opened (c : Nat) : c ∈ (mnext m e).opened ↔ c ∈ m.opened ∨ e = .connOpen c := by
  cases e <;> simp [mnext, eq_comm, or_comm]
theorem mnext_closed (c : Nat) : c ∈ (mnext m e).closed ↔ c ∈ m.closed ∨ e = .connClose c := by
  cases e <;> simp [mnext, eq_comm, or_comm]
theorem mnext_sopened (s : Nat) : s ∈ (mnext m e).sopened ↔ s ∈ m.sopened ∨ ∃ c, e = .sessionOpen s c := by
  cases e <;> simp [mnext, eq_comm, or_comm]
theorem mnext_sclosed (s : Nat) : s ∈ (mnext m e).sclosed ↔ s ∈ m.sclosed ∨ e = .sessionClose s := by
  cases e <;> simp [mnext, eq_comm, or_comm]
theorem mnext_called : (mnext m e).closeCalled = true ↔ m.closeCalled = true ∨ e = .closeCalled := by
  cases e <;> simp [mnext]
theorem mnext_returned : (mnext m e).closeReturned = true ↔ m.closeReturned = true ∨ e = .closeReturned := by
  cases e <;> simp [mnext]

end

/-- is this event the open notification of session `s` (whoever the author)? -/
def isSessOpen (s : Nat) : Event → Bool
  | .sessionOpen s' _ => s' == s
  | _ => false

/-- how the monitor state reflects the trace processed so far -/
structure TrInv (tr : List Event) (m : MState) : Prop where
  opened : ∀ c, c ∈ m.opened ↔ Event.connOpen c ∈ tr
  closed : ∀ c, c ∈ m.closed ↔ Event.connClose c ∈ tr
  sopened : ∀ s, s ∈ m.sopened ↔ ∃ c, Event.sessionOpen s c ∈ tr
  sclosed : ∀ s, s ∈ m.sclosed ↔ Event.sessionClose s ∈ tr
  called : m.closeCalled = true ↔ Event.closeCalled ∈ tr
  returned : m.closeReturned = true ↔ Event.closeReturned ∈ tr

theorem TrInv.init : TrInv [] {} := by
  constructor <;> simp

theorem TrInv.step {tr : List Event} {m m' : MState} {e : Event} (h : TrInv tr m) (hs : mstep m e = some m') :
    TrInv (tr ++ [e]) m' := by
  obtain ⟨_, _, rfl⟩ := mstep_iff.mp hs
  have mem : ∀ x : Event, x ∈ tr ++ [e] ↔ x ∈ tr ∨ e = x := fun x => by
    rw [List.mem_append, List.mem_singleton, eq_comm]
  refine ⟨fun c => ?_, fun c => ?_, fun s => ?_, fun s => ?_, ?_, ?_⟩
  · rw [mnext_opened, h.opened, mem]
  · rw [mnext_closed, h.closed, mem]
  · rw [mnext_sopened, h.sopened, ← exists_or]; exact exists_congr fun c => (mem _).symm
  · rw [mnext_sclosed, h.sclosed, mem]
  · rw [mnext_called, h.called, mem]
  · rw [mnext_returned, h.returned, mem]

theorem TrInv.run {tr2 : List Event} : ∀ {tr : List Event} {m m' : MState}, TrInv tr m → mrun m tr2 = some m' →
    TrInv (tr ++ tr2) m' := by
  induction tr2 with
  | nil => intro tr m m' h hr; simp [mrun] at hr; subst hr; simpa using h
  | cons e es ih =>
    intro tr m m' h hr
    obtain ⟨m1, h1, h2⟩ := mrun_cons_some hr
    have := ih (h.step h1) h2
    simpa using this

theorem mrun_mono {es : List Event} : ∀ {m m' : MState}, mrun m es = some m' →
    (∀ c, c ∈ m.opened → c ∈ m'.opened) ∧ (∀ c, c ∈ m.closed → c ∈ m'.closed) ∧
    (∀ s, s ∈ m.sopened → s ∈ m'.sopened) ∧ (∀ s, s ∈ m.sclosed → s ∈ m'.sclosed) := by
  induction es with
  | nil => intro m m' h; cases h; exact ⟨fun _ => id, fun _ => id, fun _ => id, fun _ => id⟩
  | cons e es ih =>
    intro m m' h
    obtain ⟨m1, h1, h2⟩ := mrun_cons_some h
    obtain ⟨_, _, rfl⟩ := mstep_iff.mp h1
    have b := ih h2
    exact ⟨fun c hc => b.1 c ((mnext_opened m e c).mpr (.inl hc)),
      fun c hc => b.2.1 c ((mnext_closed m e c).mpr (.inl hc)),
      fun s hs => b.2.2.1 s ((mnext_sopened m e s).mpr (.inl hs)),
      fun s hs => b.2.2.2 s ((mnext_sclosed m e s).mpr (.inl hs))⟩

theorem accepts_split {a b : List Event} {e : Event} (h : accepts (a ++ e :: b) = true) :
    ∃ m1 m3, TrInv a m1 ∧ m1.closeReturned = false ∧ mguard m1 e ∧ mrun (mnext m1 e) b = some m3 := by
  unfold accepts at h
  cases hm : mrun {} (a ++ e :: b) with
  | none => simp [hm] at h
  | some m3 =>
    obtain ⟨m1, h1, h2⟩ := mrun_append_some hm
    obtain ⟨m2, h3, h4⟩ := mrun_cons_some h2
    obtain ⟨hr, hg, rfl⟩ := mstep_iff.mp h3
    exact ⟨m1, m3, by simpa using TrInv.init.run h1, hr, hg, h4⟩

theorem guard_later {a b : List Event} {e0 e : Event} (h : accepts (a ++ e0 :: b) = true) (he : e ∈ b) :
    ∃ tr m, TrInv tr m ∧ e0 ∈ tr ∧ mguard m e := by
  obtain ⟨b1, b2, rfl⟩ := List.append_of_mem he
  rw [← List.cons_append, ← List.append_assoc] at h
  obtain ⟨m, _, inv, _, hg, _⟩ := accepts_split h
  exact ⟨_, m, inv, List.mem_append_right a List.mem_cons_self, hg⟩

theorem mrun_of_returned {m m' : MState} {es : List Event} (hr : m.closeReturned = true)
    (h : mrun m es = some m') : es = [] := by
  cases es with
  | nil => rfl
  | cons e es =>
    obtain ⟨m1, h1, _⟩ := mrun_cons_some h
    exact absurd (hr.symm.trans (mstep_iff.mp h1).1) nofun

end Rtsp.Life
