import Rtsp.Proofs.Life.Progress
/-
Witnesses for the hypotheses of `close_terminates_fair` (`Progress`): every finite run of the model that ends with
`Close` returned extends (by stuttering) to a fair execution.
-/
namespace Rtsp.Life

/-- state after the first `n` actions of a list (stops at the first action that is not enabled) -/
def stateAfter (st : State) : List Action → Nat → State
  | [], _ => st
  | _ :: _, 0 => st
  | a :: as, n + 1 =>
    match step st a with
    | some (st', _) => stateAfter st' as n
    | none => st

def actionAt (st : State) : List Action → Nat → Option Action
  | [], _ => none
  | a :: _, 0 => match step st a with | some _ => some a | none => none
  | a :: as, n + 1 =>
    match step st a with
    | some (st', _) => actionAt st' as n
    | none => none

theorem stateAfter_ok (as : List Action) : ∀ (st : State) (n : Nat),
    match actionAt st as n with
    | none => stateAfter st as (n + 1) = stateAfter st as n
    | some a => ∃ e, step (stateAfter st as n) a = some (stateAfter st as (n + 1), e) := by
  induction as with
  | nil => intro st n; simp [actionAt, stateAfter]
  | cons a as ih =>
    intro st n
    cases n with
    | zero =>
      simp only [actionAt, stateAfter]
      cases hs : step st a with
      | none => simp
      | some r =>
        obtain ⟨st', e⟩ := r
        simp only
        cases as <;> simp [stateAfter] <;> exact ⟨e, hs⟩
    | succ n =>
      simp only [actionAt, stateAfter]
      cases hs : step st a with
      | none => simp
      | some r =>
        obtain ⟨st', e⟩ := r
        simp only
        exact ih st' n

/-- the execution that performs `as` from `st` and then stutters -/
def Exec.ofList (st : State) (as : List Action) : Exec where
  σ := stateAfter st as
  α := actionAt st as
  ok := stateAfter_ok as st

theorem stateAfter_run {as : List Action} : ∀ {st st' : State} {tr : List Event}, run st as = some (st', tr) →
    ∀ n, as.length ≤ n → stateAfter st as n = st' := by
  induction as with
  | nil => intro st st' tr h n _; cases h; rfl
  | cons a as ih =>
    intro st st' tr h n hn
    obtain ⟨st1, e, _, hs, hr, _⟩ := isRun.cons_some h
    cases n with
    | zero => simp at hn
    | succ n =>
      simp only [stateAfter, hs]
      exact ih hr n (by simpa using hn)

theorem no_own_after_return {st : State} (hi : Inv st) (hw : WgInv st) (hr : st.closeReturned = true)
    {a : Action} (ha : a.own = true) : ¬ enabled st a := by
  intro hen
  have hg := (enabled_own_iff ha).mp hen
  have hd := allDone_of_returned hw hr
  have hcc := conn_closed_of_returned hi hw hr
  have hsc := sess_closed_of_returned hi hw hr
  cases a <;> simp [Action.own] at ha <;> simp [ownGuard, hr, hd.1, hd.2.1] at hg
  case connOpenCb c => rcases hcc c with h | h <;> simp [hg] at h
  case connExit c => rcases hcc c with h | h <;> simp [hg.1] at h
  case readerExit c => rcases hcc c with h | h <;> simp [hg.2] at h
  case connJoin c => rcases hcc c with h | h <;> simp [hg.1] at h
  case connCloseCb c => rcases hcc c with h | h <;> simp [hg] at h
  case sessOpenCb s => rcases hsc s with h | h <;> simp [hg] at h
  case sessExit s => rcases hsc s with h | h <;> simp [hg.1] at h
  case sessCancelConn s c => rcases hsc s with h | h <;> simp [hg.1.1] at h
  case sessCloseCb s => rcases hsc s with h | h <;> simp [hg.1] at h

theorem Exec.ofList_fair {st st' : State} {as : List Action} {tr : List Event} (hi : Inv st) (hw : WgInv st)
    (h : run st as = some (st', tr)) (hr : st'.closeReturned = true) : (Exec.ofList st as).Fair := by
  intro a ha n hen
  exfalso
  have ⟨hi', hw'⟩ := run_inv hi hw h
  have := hen (n + as.length) (by omega)
  simp only [Exec.ofList] at this
  rw [stateAfter_run h (n + as.length) (by omega)] at this
  exact no_own_after_return hi' hw' hr ha this

/-- a server with one playing TCP session, on which `Close` has just been called -/
def exPre : List Action := [.accept, .connOpenCb 0, .createSess 0, .sessOpenCb 0, .sreq 0 0 .playTcp, .closeCall]
/-- a packet callback racing with the shutdown, then the nine shutdown steps, up to `Close` returned -/
def exPost : List Action := [.pktTcp 0, .srvExit, .sessExit 0, .connExit 0, .readerExit 0, .connJoin 0,
  .connCloseCb 0, .sessCloseCb 0, .lnExit, .closeReturn]

end Rtsp.Life
