import Rtsp.Proofs.Life.Steps
/-
The structural invariant of the life-cycle model.  It asks something of each connection record given the sessions
(`ConnOk`) and of each session record given the connections (`SessOk`); a step rewrites or adds one record, so
preservation is the new record being in order and the two cross references (`tcpLink`, `authorOpen`) surviving.
`authorOpen` is what the monitor asks of `sessionOpen s c`; `cancelledIff`: only `Server.Close` cancels `s.ctx`.
-/
namespace Rtsp.Life

structure Inv (st : State) : Prop where
  connAbsent : ∀ c, st.nConns ≤ c → st.conn c = {}
  sessAbsent : ∀ s, st.nSess ≤ s → st.sess s = {}
  connPresent : ∀ c, c < st.nConns → (st.conn c).phase ≠ .absent
  sessPresent : ∀ s, s < st.nSess → (st.sess s).phase ≠ .absent
  /-- the reader goroutine lives only between `OnConnOpen` and `reader.wait()` -/
  readerPhase : ∀ c, (st.conn c).reader = true → (st.conn c).phase = .running ∨ (st.conn c).phase = .stopping
  tcpReader : ∀ c, (st.conn c).tcp = true → (st.conn c).reader = true
  /-- a reader that delivers interleaved frames belongs to a connection its session still waits for -/
  tcpLink : ∀ c s, (st.conn c).reader = true → (st.conn c).tcp = true → (st.conn c).session = some s →
      ((st.sess s).phase = .running ∨ (st.sess s).phase = .stopping) ∧ c ∈ (st.sess s).conns
  udpPhase : ∀ s, (st.sess s).udp = true → (st.sess s).phase = .running ∨ (st.sess s).phase = .stopping
  connsBound : ∀ s c, c ∈ (st.sess s).conns → c < st.nConns
  sessRef : ∀ c s, (st.conn c).session = some s → s < st.nSess
  authorOpen : ∀ s, (st.sess s).phase ≠ .absent →
      (st.conn (st.sess s).author).phase ≠ .absent ∧ (st.conn (st.sess s).author).phase ≠ .spawned
  cancelledIff : st.cancelled = st.closeCalled

theorem inv_init : Inv Rtsp.Life.init := by
  constructor <;> simp [Rtsp.Life.init]

variable {st st' : State} {e : Option Event} {c s : Nat}

theorem Inv.conn_lt (hi : Inv st) (h : (st.conn c).phase ≠ .absent) : c < st.nConns :=
  Nat.lt_of_not_le fun hle => h (congrArg Conn.phase (hi.connAbsent c hle))

theorem Inv.sess_lt (hi : Inv st) (h : (st.sess s).phase ≠ .absent) : s < st.nSess :=
  Nat.lt_of_not_le fun hle => h (congrArg Sess.phase (hi.sessAbsent s hle))

theorem Inv.conn_lt_of (hi : Inv st) {p : CPhase} (h : (st.conn c).phase = p) (hp : p ≠ .absent := by decide) :
    c < st.nConns :=
  hi.conn_lt (h ▸ hp)

theorem Inv.sess_lt_of (hi : Inv st) {p : SPhase} (h : (st.sess s).phase = p) (hp : p ≠ .absent := by decide) :
    s < st.nSess :=
  hi.sess_lt (h ▸ hp)

theorem Inv.conn_lt_of_reader (hi : Inv st) (h : (st.conn c).reader = true) : c < st.nConns :=
  (hi.readerPhase c h).elim (hi.conn_lt_of ·) (hi.conn_lt_of ·)

theorem Inv.no_reader (hi : Inv st) {p : CPhase} (hp : (st.conn c).phase = p) (h1 : p ≠ .running := by decide)
    (h2 : p ≠ .stopping := by decide) : (st.conn c).reader = false ∧ (st.conn c).tcp = false := by
  subst hp
  have hr : (st.conn c).reader = false := by
    cases hr : (st.conn c).reader with
    | false => rfl
    | true => exact (hi.readerPhase c hr).elim (absurd · h1) (absurd · h2)
  refine ⟨hr, ?_⟩
  cases ht : (st.conn c).tcp with
  | false => rfl
  | true => exact (hi.tcpReader c ht).symm.trans hr

/-- what `Inv` asks of the record `v` of connection `c` -/
structure ConnOk (sess : Nat → Sess) (nSess : Nat) (c : Nat) (v : Conn) : Prop where
  readerPhase : v.reader = true → v.phase = .running ∨ v.phase = .stopping
  tcpReader : v.tcp = true → v.reader = true
  tcpLink : ∀ s, v.tcp = true → v.session = some s →
    ((sess s).phase = .running ∨ (sess s).phase = .stopping) ∧ c ∈ (sess s).conns
  sessRef : ∀ s, v.session = some s → s < nSess

/-- what `Inv` asks of the record `w` of a session -/
structure SessOk (conn : Nat → Conn) (nConns : Nat) (w : Sess) : Prop where
  udpPhase : w.udp = true → w.phase = .running ∨ w.phase = .stopping
  connsBound : ∀ c, c ∈ w.conns → c < nConns
  authorOpen : w.phase ≠ .absent → (conn w.author).phase ≠ .absent ∧ (conn w.author).phase ≠ .spawned

theorem Inv.connOk (hi : Inv st) (c : Nat) : ConnOk st.sess st.nSess c (st.conn c) :=
  ⟨hi.readerPhase c, hi.tcpReader c, fun s ht => hi.tcpLink c s (hi.tcpReader c ht) ht, hi.sessRef c⟩

theorem Inv.sessOk (hi : Inv st) (s : Nat) : SessOk st.conn st.nConns (st.sess s) :=
  ⟨hi.udpPhase s, hi.connsBound s, hi.authorOpen s⟩

theorem Inv.of_records (ha : ∀ c, st.nConns ≤ c → st.conn c = {}) (hb : ∀ s, st.nSess ≤ s → st.sess s = {})
    (hcp : ∀ c, c < st.nConns → (st.conn c).phase ≠ .absent) (hsp : ∀ s, s < st.nSess → (st.sess s).phase ≠ .absent)
    (hc : ∀ c, ConnOk st.sess st.nSess c (st.conn c)) (hs : ∀ s, SessOk st.conn st.nConns (st.sess s))
    (hf : st.cancelled = st.closeCalled) : Inv st :=
  ⟨ha, hb, hcp, hsp, fun c => (hc c).readerPhase, fun c => (hc c).tcpReader, fun c s _ => (hc c).tcpLink s,
   fun s => (hs s).udpPhase, fun s => (hs s).connsBound, fun c => (hc c).sessRef, fun s => (hs s).authorOpen, hf⟩

theorem Inv.flags {a b r : Bool} {w : Nat} (hi : Inv st) :
    Inv { st with srvRunning := a, lnRunning := b, wg := w, closeReturned := r } :=
  { hi with }

theorem Inv.setConn (hi : Inv st) (hc : c < st.nConns) {v : Conn} (hv : ConnOk st.sess st.nSess c v)
    (hopen : v.phase = (st.conn c).phase ∨ (v.phase ≠ .absent ∧ v.phase ≠ .spawned)) : Inv (st.setConn c v) := by
  refine .of_records (fun i hi' => ?_) hi.sessAbsent (fun i hi' => ?_) hi.sessPresent (fun i => ?_) (fun j => ?_)
    hi.cancelledIff
  · exact (setConn_conn_ne st v (Nat.ne_of_gt (Nat.lt_of_lt_of_le hc hi'))).trans (hi.connAbsent i hi')
  · rw [setConn_conn]; split
    · exact hopen.elim (fun h => h ▸ hi.connPresent c hc) (·.1)
    · exact hi.connPresent i hi'
  · rw [setConn_conn]; split
    · subst i; exact hv
    · exact hi.connOk i
  · refine { hi.sessOk j with authorOpen := fun hp => ?_ }
    have h := hi.authorOpen j hp
    rw [setConn_conn]; split
    · rename_i ha
      exact hopen.elim (fun h' => by rw [h', ← ha]; exact h) id
    · exact h

theorem Inv.setSess (hi : Inv st) (hs : s < st.nSess) {w : Sess} (hp : w.phase ≠ .absent)
    (hu : w.udp = true → w.phase = .running ∨ w.phase = .stopping) (hb : ∀ c, c ∈ w.conns → c < st.nConns)
    (hlink : ∀ c, (st.conn c).tcp = true →
      ((st.sess s).phase = .running ∨ (st.sess s).phase = .stopping) ∧ c ∈ (st.sess s).conns →
      (w.phase = .running ∨ w.phase = .stopping) ∧ c ∈ w.conns)
    (ha : w.author = (st.sess s).author := by rfl) : Inv (st.setSess s w) := by
  refine .of_records hi.connAbsent (fun j hj => ?_) hi.connPresent (fun j hj => ?_) (fun i => ?_) (fun j => ?_)
    hi.cancelledIff
  · exact (setSess_sess_ne st w (Nat.ne_of_gt (Nat.lt_of_lt_of_le hs hj))).trans (hi.sessAbsent j hj)
  · rw [setSess_sess]; split
    · exact hp
    · exact hi.sessPresent j hj
  · have h := hi.connOk i
    refine { h with tcpLink := fun s' ht hs' => ?_ }
    rw [setSess_sess]; split
    · subst s'; exact hlink i ht (h.tcpLink _ ht hs')
    · exact h.tcpLink s' ht hs'
  · rw [setSess_sess]; split
    · exact ⟨hu, hb, fun _ => ha ▸ hi.authorOpen s (hi.sessPresent s hs)⟩
    · exact hi.sessOk j

theorem Inv.addConn (hi : Inv st) {v : Conn} (hp : v.phase ≠ .absent)
    (hv : ConnOk st.sess st.nSess st.nConns v) :
    Inv { st.setConn st.nConns v with nConns := st.nConns + 1, wg := st.wg + 1 } := by
  refine .of_records (fun i hi' => ?_) hi.sessAbsent (fun i hi' => ?_) hi.sessPresent (fun i => ?_) (fun j => ?_)
    hi.cancelledIff
  · exact (setConn_conn_ne st v (Nat.ne_of_gt hi')).trans (hi.connAbsent i (Nat.le_of_succ_le hi'))
  · dsimp only [setConn_sess, setSess_conn]
    rw [setConn_conn]; split
    · exact hp
    · exact hi.connPresent i (Nat.lt_of_le_of_ne (Nat.le_of_lt_succ hi') ‹_›)
  · dsimp only [setConn_sess, setSess_conn]
    rw [setConn_conn]; split
    · subst i; exact hv
    · exact hi.connOk i
  · have h := hi.sessOk j
    refine { h with connsBound := fun x hx => Nat.lt_succ_of_lt (h.connsBound x hx), authorOpen := fun hp => ?_ }
    dsimp only [setConn_sess, setSess_conn]
    -- the author exists already
    rw [setConn_conn_ne st v (Nat.ne_of_lt (hi.conn_lt (h.authorOpen hp).1))]; exact h.authorOpen hp

theorem Inv.addSess (hi : Inv st) {w : Sess} (hp : w.phase ≠ .absent) (hw : SessOk st.conn st.nConns w) :
    Inv { st.setSess st.nSess w with nSess := st.nSess + 1, wg := st.wg + 1 } := by
  refine .of_records hi.connAbsent (fun j hj => ?_) hi.connPresent (fun j hj => ?_) (fun i => ?_) (fun j => ?_)
    hi.cancelledIff
  · exact (setSess_sess_ne st w (Nat.ne_of_gt hj)).trans (hi.sessAbsent j (Nat.le_of_succ_le hj))
  · dsimp only [setConn_sess, setSess_conn]
    rw [setSess_sess]; split
    · exact hp
    · exact hi.sessPresent j (Nat.lt_of_le_of_ne (Nat.le_of_lt_succ hj) ‹_›)
  · have h := hi.connOk i
    refine { h with sessRef := fun s' hs' => Nat.lt_succ_of_lt (h.sessRef s' hs'), tcpLink := fun s' ht hs' => ?_ }
    dsimp only [setConn_sess, setSess_conn]
    rw [setSess_sess_ne st w (Nat.ne_of_lt (h.sessRef s' hs'))]; exact h.tcpLink s' ht hs'
  · dsimp only [setConn_sess, setSess_conn]
    rw [setSess_sess]; split
    · exact hw
    · exact hi.sessOk j

theorem Inv.cancelConn (hi : Inv st) (hc : c < st.nConns) :
    Inv (st.setConn c { st.conn c with cancelled := true }) :=
  hi.setConn hc { hi.connOk c with } (.inl rfl)

theorem Inv.step {a : Action} (hi : Inv st) (h : step st a = some (st', e)) : Inv st' := by
  apply step_elim h
  case closeCall => exact fun _ => { hi with cancelledIff := rfl }
  case closeReturn | srvExit | lnExit => exact fun _ => hi.flags
  case request | pktUdp => exact fun _ _ => hi
  case pktTcp => exact fun _ _ _ => hi
  case accept => exact fun _ => hi.addConn nofun ⟨nofun, nofun, fun _ => nofun, fun _ => nofun⟩
  case createSess =>
    intro c hg
    have hp : (st.conn c).phase ≠ .absent ∧ (st.conn c).phase ≠ .spawned := by rw [hg.1]; decide
    refine hi.addSess nofun ⟨nofun, fun x hx => ?_, fun _ => hp⟩
    rw [List.mem_singleton.mp hx]; exact hi.conn_lt hp.1
  case connOpenCb =>
    exact fun c hp => hi.setConn (hi.conn_lt_of hp)
      { hi.connOk c with readerPhase := fun _ => .inl rfl, tcpReader := fun _ => rfl } (.inr ⟨nofun, nofun⟩)
  case stopConn =>
    exact fun c _ _ hp => hi.setConn (hi.conn_lt_of hp) { hi.connOk c with readerPhase := fun _ => .inr rfl }
      (.inr ⟨nofun, nofun⟩)
  case dropReader =>
    exact fun c _ _ hr => hi.setConn (hi.conn_lt_of_reader hr)
      { hi.connOk c with readerPhase := nofun, tcpReader := nofun, tcpLink := fun _ => nofun } (.inl rfl)
  case connJoin =>
    exact fun c hg => hi.setConn (hi.conn_lt_of hg.1)
      { hi.connOk c with readerPhase := fun hr => nomatch hg.2.symm.trans hr } (.inr ⟨nofun, nofun⟩)
  case connCloseCb =>
    intro c hp
    have h1 : Inv (st.setConn c { st.conn c with phase := .closed }) :=
      hi.setConn (hi.conn_lt_of hp) { hi.connOk c with readerPhase := fun h => nomatch (hi.no_reader hp).1.symm.trans h }
        (.inr ⟨nofun, nofun⟩)
    exact h1.flags
  case cancelConn => exact fun c hp => hi.cancelConn (hi.conn_lt hp)
  case sessCancelConn => exact fun s c hg => hi.cancelConn (hi.connsBound s c hg.2.1)
  case removeConn =>
    -- the joined connection has no reader, so it is not among those delivering frames
    exact fun c s hg => hi.setSess (hi.sess_lt_of hg.2.2) (by rw [hg.2.2]; decide) (hi.udpPhase s)
      (fun x hx => hi.connsBound s x (List.mem_of_mem_erase hx))
      (fun c' ht hl => ⟨hl.1, (List.mem_erase_of_ne
        (by rintro rfl; exact nomatch (hi.no_reader hg.2.1).2.symm.trans ht)).2 hl.2⟩)
  case sessOpenCb =>
    exact fun s hp => hi.setSess (hi.sess_lt_of hp) nofun (fun _ => .inl rfl) (hi.connsBound s)
      (fun _ _ hl => ⟨.inl rfl, hl.2⟩)
  case stopSess =>
    exact fun s _ _ hp => hi.setSess (hi.sess_lt_of hp) nofun (fun _ => .inr rfl) (hi.connsBound s)
      (fun _ _ hl => ⟨.inr rfl, hl.2⟩)
  case cancelSess =>
    exact fun s hp => hi.setSess (hi.sess_lt hp) hp (hi.udpPhase s) (hi.connsBound s) (fun _ _ hl => hl)
  case sessCloseCb =>
    intro s hg
    -- the connections the session waited for are closed: none of them delivers frames
    have h1 : Inv (st.setSess s { st.sess s with phase := .closed, udp := false }) :=
      hi.setSess (hi.sess_lt_of hg.1) nofun nofun (hi.connsBound s)
        (fun c' ht hl => nomatch (hi.no_reader (hg.2 c' hl.2)).2.symm.trans ht)
    exact h1.flags
  case sreq =>
    intro s c k hg
    have hc := hi.conn_lt_of hg.2.1
    have hs := hi.sess_lt_of hg.1
    rcases req_cases k s c (st.conn c) (st.sess s) with rfl | ⟨t, u, h1, h2, _⟩
    · -- TEARDOWN: detach the connection, then stop the session
      have hi1 : Inv (st.setConn c (reqConn .teardown s (st.conn c))) :=
        hi.setConn hc { hi.connOk c with tcpReader := nofun, tcpLink := fun _ => nofun, sessRef := fun _ => nofun }
          (.inl rfl)
      exact hi1.setSess hs nofun (fun _ => .inr rfl) (fun x hx => hi.connsBound s x (List.mem_of_mem_erase hx))
        (fun c' ht hl => ⟨.inr rfl, (List.mem_erase_of_ne (by rintro rfl; simp [reqConn] at ht)).2 hl.2⟩)
    · -- any other request: attach the connection to the session, then point the connection at it
      rw [h1, h2]
      have hmem : ∀ c', c' ∈ (st.sess s).conns → c' ∈ c :: (st.sess s).conns.erase c := fun c' h' => by
        by_cases hcc : c' = c
        · exact hcc ▸ List.mem_cons_self
        · exact List.mem_cons_of_mem _ ((List.mem_erase_of_ne hcc).2 h')
      have hi1 : Inv (st.setSess s { st.sess s with conns := c :: (st.sess s).conns.erase c, udp := u }) :=
        hi.setSess hs (by rw [hg.1]; decide) (fun _ => .inl hg.1)
          (fun x hx => (List.mem_cons.mp hx).elim (· ▸ hc) (fun hx => hi.connsBound s x (List.mem_of_mem_erase hx)))
          (fun c' _ hl => ⟨hl.1, hmem c' hl.2⟩)
      exact hi1.setConn hc
        { hi.connOk c with
          tcpReader := fun _ => hg.2.2.1
          tcpLink := fun s' _ hs' => by
            cases hs'; show _ ∧ c ∈ ((st.setSess s _).sess s).conns
            rw [setSess_sess_same]; exact ⟨.inl hg.1, List.mem_cons_self⟩
          sessRef := fun s' hs' => by cases hs'; exact hs }
        (.inl rfl)

end Rtsp.Life
