import Rtsp.Model.Lifecycle
import Rtsp.Proofs.Life.System
/-
The client model: its traces are accepted by the client monitor, and `Client.Close` terminates (`kcloseShutdown`);
executions of the client model and their fairness.
-/
namespace Rtsp.Life

structure KInv (k : Client) : Prop where
  doneQuiet : k.phase = .done → k.reader = false ∧ k.udp = false ∧ k.tcp = false
  returnedDone : k.closeReturned = true → k.phase = .done ∧ k.closeCalled = true
  calledCancelled : k.closeCalled = true → k.cancelled = true
  tcpReader : k.tcp = true → k.reader = true
  readerConnected : k.reader = true → k.connected = true

theorem kinv_init : KInv {} := by constructor <;> simp

theorem kstep_cases {k k' : Client} {a : KAction} {e : Option Event} (h : kstep k a = some (k', e)) :
    match a with
    | .closeCall => k.closeCalled = false ∧ k' = { k with closeCalled := true, cancelled := true } ∧ e = some .closeCalled
    | .closeReturn => (k.closeCalled = true ∧ k.closeReturned = false ∧ k.phase = .done) ∧
        k' = { k with closeReturned := true } ∧ e = some .closeReturned
    | .connect => (k.phase = .running ∧ k.connected = false) ∧ k' = { k with connected := true, reader := true } ∧ e = none
    | .apiRequest => (k.phase = .running ∧ k.connected = true) ∧ k' = k ∧ e = some (.request 0)
    | .playTcp => (k.phase = .running ∧ k.connected = true ∧ k.reader = true) ∧ k' = { k with tcp := true } ∧ e = some (.request 0)
    | .playUdp => (k.phase = .running ∧ k.connected = true) ∧ k' = { k with udp := true } ∧ e = some (.request 0)
    | .pause => (k.phase = .running ∧ k.connected = true) ∧ k' = { k with udp := false, tcp := false } ∧ e = some (.request 0)
    | .pktTcp => (k.reader = true ∧ k.tcp = true) ∧ k' = k ∧ e = some (.packet 0)
    | .pktUdp => k.udp = true ∧ k' = k ∧ e = some (.packet 0)
    | .readerFail => k.reader = true ∧ k' = { k with reader := false, tcp := false } ∧ e = none
    | .exit => (k.phase = .running ∧ (k.cancelled = true ∨ (k.connected = true ∧ k.reader = false))) ∧
        k' = { k with phase := .closing, cancelled := true } ∧ e = none
    | .fail => k.phase = .running ∧ k' = { k with phase := .closing, cancelled := true } ∧ e = none
    | .stopTransports => (k.phase = .closing ∧ (k.udp = true ∨ k.tcp = true)) ∧ k' = { k with udp := false, tcp := false } ∧ e = none
    | .teardown => (k.phase = .closing ∧ k.udp = false ∧ k.tcp = false ∧ k.connected = true ∧ k.teardownSent = false) ∧
        k' = { k with teardownSent := true } ∧ e = some (.request 0)
    | .readerClose => (k.phase = .closing ∧ k.udp = false ∧ k.tcp = false ∧ k.reader = true) ∧
        k' = { k with reader := false, connected := false } ∧ e = none
    | .finish => (k.phase = .closing ∧ k.udp = false ∧ k.tcp = false ∧ k.reader = false) ∧
        k' = { k with phase := .done } ∧ e = none := by
  cases a <;> obtain ⟨hg, hx⟩ := ite_some_eq h <;> cases hx <;> refine ⟨?_, rfl, rfl⟩ <;>
    simpa only [Bool.and_eq_true, Bool.or_eq_true, Bool.not_eq_true', beq_iff_eq, and_assoc] using hg

theorem KInv.step {k k' : Client} {a : KAction} {e : Option Event} (hi : KInv k) (h : kstep k a = some (k', e)) :
    KInv k' := by
  have hc := kstep_cases h
  cases a <;> simp only at hc <;> obtain ⟨hg, rfl, _⟩ := hc
  case closeCall =>
    exact { hi with returnedDone := fun h => ⟨(hi.returnedDone h).1, rfl⟩, calledCancelled := fun _ => rfl }
  case closeReturn => exact { hi with returnedDone := fun _ => ⟨hg.2.2, hg.1⟩ }
  case connect =>
    exact { hi with doneQuiet := fun h => (nomatch hg.1.symm.trans h), tcpReader := fun _ => rfl,
                    readerConnected := fun _ => rfl }
  case apiRequest => exact hi
  case playTcp => exact { hi with doneQuiet := fun h => (nomatch hg.1.symm.trans h), tcpReader := fun _ => hg.2.2 }
  case playUdp => exact { hi with doneQuiet := fun h => (nomatch hg.1.symm.trans h )}
  case pause => exact { hi with doneQuiet := fun h => ⟨(hi.doneQuiet h).1, rfl, rfl⟩, tcpReader := nofun }
  case pktTcp => exact hi
  case pktUdp => exact hi
  case readerFail =>
    exact { hi with doneQuiet := fun h => ⟨rfl, (hi.doneQuiet h).2.1, rfl⟩, tcpReader := nofun,
                    readerConnected := nofun }
  case exit =>
    exact { hi with doneQuiet := nofun, returnedDone := fun h => (nomatch hg.1.symm.trans (hi.returnedDone h).1),
                    calledCancelled := fun _ => rfl }
  case fail =>
    exact { hi with doneQuiet := nofun, returnedDone := fun h => (nomatch hg.symm.trans (hi.returnedDone h).1),
                    calledCancelled := fun _ => rfl }
  case stopTransports => exact { hi with doneQuiet := fun h => ⟨(hi.doneQuiet h).1, rfl, rfl⟩, tcpReader := nofun }
  case teardown => exact { hi with }
  case readerClose =>
    exact { hi with doneQuiet := fun h => ⟨rfl, (hi.doneQuiet h).2⟩, tcpReader := fun h => (nomatch hg.2.2.1.symm.trans h),
                    readerConnected := nofun }
  case finish =>
    exact { hi with doneQuiet := fun _ => ⟨hg.2.2.2, hg.2.1, hg.2.2.1⟩,
                    returnedDone := fun h => ⟨rfl, (hi.returnedDone h).2⟩ }

theorem kisRun : IsRun kstep krun where
  nil _ := rfl
  cons k a as := by
    rw [krun]
    rcases kstep k a with _ | ⟨k1, e⟩
    · rfl
    · dsimp only [Option.bind_some]
      cases krun k1 as <;> rfl

/-- after `Close` returned the client is `done`, hence quiet: no callback -/
theorem ksim_step {k k' : Client} {a : KAction} {e : Option Event} (hi : KInv k)
    (h : kstep k a = some (k', e)) :
    match e with
    | none => (k'.closeCalled, k'.closeReturned) = (k.closeCalled, k.closeReturned)
    | some ev => kmstep (k.closeCalled, k.closeReturned) ev = some (k'.closeCalled, k'.closeReturned) := by
  have hc := kstep_cases h
  cases e with
  | none => cases a <;> simp only at hc <;> obtain ⟨hg, rfl, he⟩ := hc <;> simp_all
  | some ev =>
    cases hr : k.closeReturned with
    | true =>
      have hd := hi.returnedDone hr
      have hq := hi.doneQuiet hd.1
      cases a <;> simp only at hc <;> obtain ⟨hg, _, he⟩ := hc <;> simp_all
    | false =>
      cases a <;> simp only at hc <;> obtain ⟨hg, rfl, he⟩ := hc <;> simp at he <;> subst he <;>
        simp_all [kmstep]

theorem krun_sim {as : List KAction} : ∀ {k k' : Client} {tr : List Event}, KInv k →
    krun k as = some (k', tr) →
    kmrun (k.closeCalled, k.closeReturned) tr = some (k'.closeCalled, k'.closeReturned) ∧ KInv k' := by
  induction as with
  | nil => intro k k' tr hi h; cases h; exact ⟨rfl, hi⟩
  | cons a as ih =>
    intro k k' tr hi h
    obtain ⟨k1, e, tr1, hst, hr, rfl⟩ := kisRun.cons_some h
    have h1 := ksim_step hi hst
    obtain ⟨h2, h3⟩ := ih (hi.step hst) hr
    cases e with
    | none => exact ⟨(congrArg (kmrun · tr1) h1).symm.trans h2, h3⟩
    | some ev => exact ⟨by simp only [Option.toList, List.singleton_append, kmrun, h1, h2], h3⟩

/-- `exit` and `finish` change the phase only, so any weights with running > closing > done do; the other summands
are what `stopTransports`, `readerClose`, `teardown` and `closeReturn` take away. -/
def krank (k : Client) : Nat :=
  (match k.phase with | .running => 8 | .closing => 5 | .done => 0) +
  (if k.udp || k.tcp then 1 else 0) + (if k.reader then 1 else 0) + (if k.teardownSent then 0 else 1) +
  (if k.closeReturned then 0 else 1)

theorem krank_own {k k' : Client} {a : KAction} {e : Option Event} (ha : a.own = true)
    (h : kstep k a = some (k', e)) : krank k' < krank k := by
  have hc := kstep_cases h
  cases a <;> simp [KAction.own] at ha <;> simp only at hc <;> obtain ⟨hg, rfl, _⟩ := hc <;>
    simp [krank] <;> simp_all <;> omega

theorem kprogress {k : Client} (hi : KInv k) (hc : k.closeCalled = true) (hr : k.closeReturned = false) :
    ∃ a, a.own = true ∧ ∃ r, kstep k a = some r := by
  have hcan := hi.calledCancelled hc
  cases hp : k.phase with
  | running => exact ⟨.exit, rfl, by simp [kstep, hp, hcan]⟩
  | done => exact ⟨.closeReturn, rfl, by simp [kstep, hp, hc, hr]⟩
  | closing =>
    cases hu : k.udp with
    | true => exact ⟨.stopTransports, rfl, by simp [kstep, hp, hu]⟩
    | false =>
      cases ht : k.tcp with
      | true => exact ⟨.stopTransports, rfl, by simp [kstep, hp, ht]⟩
      | false =>
        cases hrd : k.reader with
        | true => exact ⟨.readerClose, rfl, by simp [kstep, hp, hu, ht, hrd]⟩
        | false => exact ⟨.finish, rfl, by simp [kstep, hp, hu, ht, hrd]⟩

theorem kstep_mono {k k' : Client} {a : KAction} {e : Option Event} (h : kstep k a = some (k', e)) :
    (k.closeCalled = true → k'.closeCalled = true) ∧ (k.phase ≠ .running → k'.phase ≠ .running) := by
  have hcs := kstep_cases h
  cases a <;> simp only at hcs <;> obtain ⟨hg, rfl, _⟩ := hcs <;> simp_all

/-- `Client.Close`: once it was called, `runInner` returns and `doClose` runs to its end -/
theorem kcloseShutdown : Shutdown kstep (·.own = true) (fun k => KInv k ∧ k.closeCalled = true)
    (·.closeReturned = true) krank where
  inv hp hs := ⟨hp.1.step hs, (kstep_mono hs).1 hp.2⟩
  dec _ ha hs := krank_own ha hs
  prog hp hg := kprogress hp.1 hp.2 (Bool.eq_false_iff.mpr hg)

-- an infinite execution of the client model, as `Exec` is one of the server model
structure KExec where
  σ : Nat → Client
  α : Nat → Option KAction
  ok : ∀ n, match α n with
    | none => σ (n + 1) = σ n
    | some a => ∃ e, kstep (σ n) a = some (σ (n + 1), e)

def kenabled (k : Client) (a : KAction) : Prop := ∃ r, kstep k a = some r

/-- weak fairness of the own steps of `Client.run` / `doClose` -/
def KExec.Fair (x : KExec) : Prop :=
  ∀ a, a.own = true → ∀ n, (∀ k, n ≤ k → kenabled (x.σ k) a) → ∃ k, n ≤ k ∧ x.α k = some a

theorem kenv_step {k k' : Client} {a : KAction} {e : Option Event} (hc : k.closeCalled = true)
    (hp : k.phase ≠ .running) (ha : a.own = false) (h : kstep k a = some (k', e)) :
    k' = k ∨ krank k' < krank k := by
  have hcs := kstep_cases h
  cases a <;> simp [KAction.own] at ha <;> simp only at hcs <;> obtain ⟨hg, rfl, _⟩ := hcs
  case readerFail => right; cases hu : k.udp <;> cases ht : k.tcp <;> simp [krank, hg, hu, ht] <;> omega
  all_goals simp_all [krank]

variable (x : KExec)

theorem KExec.isExec : IsExec kstep x.σ x.α := fun n => by
  have := x.ok n
  constructor
  · intro h; simpa only [h] using this
  · intro a h; simpa only [h] using this

end Rtsp.Life
