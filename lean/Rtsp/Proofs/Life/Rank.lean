import Rtsp.Proofs.Life.Inv
import Rtsp.Proofs.Life.Count
/-
Termination measure of the cancel-driven part of the model (`rank`) and what a step does to it (`rank_step`).
-/
namespace Rtsp.Life

/-- A bound on the own steps a connection goroutine and its reader still take.  From `spawned`: `connOpenCb`,
`connExit`, `connJoin`, `connCloseCb` and the `readerExit` of the reader that `connOpenCb` starts, hence 5 > 3 + 1;
one more as long as `sessCancelConn` can still cancel it. -/
def rankConn (cn : Conn) : Nat :=
  (match cn.phase with
   | .absent => 0 | .spawned => 5 | .running => 3 | .stopping => 2 | .joined => 1 | .closed => 0) +
  (if cn.reader then 1 else 0) + (if cn.cancelled then 0 else 1)

/-- from `spawned`: `sessOpenCb`, `sessExit`, `sessCloseCb` -/
def rankSess (ss : Sess) : Nat :=
  match ss.phase with
  | .absent => 0 | .spawned => 3 | .running => 2 | .stopping => 1 | .closed => 0

def rank (st : State) : Nat :=
  (if st.srvRunning then 1 else 0) + (if st.lnRunning then 1 else 0) + (if st.closeReturned then 0 else 1) +
  sumTo st.nConns (fun c => rankConn (st.conn c)) + sumTo st.nSess (fun s => rankSess (st.sess s))

variable {st st' : State} {e : Option Event} {c s : Nat}

theorem rank_setConn (v : Conn) (hc : c < st.nConns) :
    rank (st.setConn c v) + rankConn (st.conn c) = rank st + rankConn v := by
  have h := sumTo_update (n := st.nConns) (c := c) (f := fun i => rankConn (st.conn i))
    (g := fun i => rankConn ((st.setConn c v).conn i)) hc (fun i hi => by simp [setConn_conn, hi])
  simp only [rank, setConn_flags, setConn_nConns, setConn_nSess, setConn_sess]
  simp only [setConn_conn_same] at h
  omega

theorem rank_setSess (v : Sess) (hs : s < st.nSess) :
    rank (st.setSess s v) + rankSess (st.sess s) = rank st + rankSess v := by
  have h := sumTo_update (n := st.nSess) (c := s) (f := fun i => rankSess (st.sess i))
    (g := fun i => rankSess ((st.setSess s v).sess i)) hs (fun i hi => by simp [setSess_sess, hi])
  simp only [rank, setSess_flags, setSess_nConns, setSess_nSess, setSess_conn]
  simp only [setSess_sess_same] at h
  omega

theorem rank_setConn_lt {v : Conn} (hc : c < st.nConns) (h : rankConn v < rankConn (st.conn c)) :
    rank (st.setConn c v) < rank st := by
  have := rank_setConn (st := st) v hc; omega

theorem rank_setConn_le {v : Conn} (hc : c < st.nConns) (h : rankConn v ≤ rankConn (st.conn c)) :
    rank (st.setConn c v) ≤ rank st := by
  have := rank_setConn (st := st) v hc; omega

theorem rank_setSess_lt {v : Sess} (hs : s < st.nSess) (h : rankSess v < rankSess (st.sess s)) :
    rank (st.setSess s v) < rank st := by
  have := rank_setSess (st := st) v hs; omega

theorem rank_setSess_le {v : Sess} (hs : s < st.nSess) (h : rankSess v ≤ rankSess (st.sess s)) :
    rank (st.setSess s v) ≤ rank st := by
  have := rank_setSess (st := st) v hs; omega

/-- the guard of an own action: the condition of its `if` in `step`, verbatim (`enabled_own_iff` unfolds both) -/
def ownGuard (st : State) : Action → Bool
  | .closeReturn => st.closeCalled && !st.closeReturned && st.wg == 0
  | .srvExit => st.srvRunning && st.cancelled
  | .lnExit => st.lnRunning && !st.srvRunning
  | .connOpenCb c => (st.conn c).phase == .spawned
  | .connExit c => (st.conn c).phase == .running && (st.connCancelled c || !(st.conn c).reader)
  | .readerExit c => (st.conn c).reader && (st.conn c).phase == .stopping
  | .connJoin c => (st.conn c).phase == .stopping && !(st.conn c).reader
  | .connCloseCb c => (st.conn c).phase == .joined
  | .sessOpenCb s => (st.sess s).phase == .spawned
  | .sessExit s => (st.sess s).phase == .running && st.sessCancelled s
  | .sessCancelConn s c => (st.sess s).phase == .stopping && (st.sess s).conns.contains c && !(st.conn c).cancelled
  | .sessCloseCb s => (st.sess s).phase == .stopping && allConnsClosed st (st.sess s).conns
  | _ => false

theorem ownGuard_congr
    (hf : st'.closeCalled = st.closeCalled ∧ st'.closeReturned = st.closeReturned ∧ st'.wg = st.wg ∧
      st'.srvRunning = st.srvRunning ∧ st'.lnRunning = st.lnRunning ∧ st'.cancelled = st.cancelled)
    (hc : ∀ c, (st'.conn c).phase = (st.conn c).phase ∧ (st'.conn c).reader = (st.conn c).reader ∧
      (st'.conn c).cancelled = (st.conn c).cancelled)
    (hs : ∀ s, (st'.sess s).phase = (st.sess s).phase ∧ st'.sessCancelled s = st.sessCancelled s ∧
      ((st.sess s).phase = .stopping → (st'.sess s).conns = (st.sess s).conns)) (a : Action) :
    ownGuard st' a = ownGuard st a := by
  obtain ⟨f1, f2, f3, f4, f5, f6⟩ := hf
  cases a <;> simp only [ownGuard, State.connCancelled, f1, f2, f3, f4, f5, f6, (hc _).1, (hc _).2.1, (hc _).2.2, (hs _).1,
    (hs _).2.1]
  case sessCancelConn s c =>
    by_cases hp : (st.sess s).phase = .stopping
    · rw [(hs s).2.2 hp]
    · rw [beq_eq_false_iff_ne.mpr hp]; rfl
  case sessCloseCb s =>
    by_cases hp : (st.sess s).phase = .stopping
    · simp only [(hs s).2.2 hp, allConnsClosed, (hc _).1]
    · rw [beq_eq_false_iff_ne.mpr hp]; rfl

theorem ownGuard_setConn {v : Conn} (hp : v.phase = (st.conn c).phase) (hr : v.reader = (st.conn c).reader)
    (hcan : v.cancelled = (st.conn c).cancelled) (a : Action) : ownGuard (st.setConn c v) a = ownGuard st a := by
  refine ownGuard_congr (st := st) (st' := st.setConn c v) ⟨rfl, rfl, rfl, rfl, rfl, rfl⟩ (fun i => ?_) (fun j => ⟨rfl, rfl, fun _ => rfl⟩) a
  rw [setConn_conn]; split
  · subst i; exact ⟨hp, hr, hcan⟩
  · exact ⟨rfl, rfl, rfl⟩

theorem ownGuard_setSess {w : Sess} (hp : w.phase = (st.sess s).phase)
    (hcan : (w.cancelled || st.cancelled) = st.sessCancelled s)
    (hconns : (st.sess s).phase = .stopping → w.conns = (st.sess s).conns) (a : Action) :
    ownGuard (st.setSess s w) a = ownGuard st a := by
  refine ownGuard_congr (st := st) (st' := st.setSess s w) ⟨rfl, rfl, rfl, rfl, rfl, rfl⟩ (fun i => ⟨rfl, rfl, rfl⟩) (fun j => ?_) a
  simp only [State.sessCancelled, setSess_sess, setSess_flags]; split
  · subst j; exact ⟨hp, hcan, hconns⟩
  · exact ⟨rfl, rfl, fun _ => rfl⟩
theorem rankConn_reqConn (k : ReqKind) (s : Nat) (cn : Conn) : rankConn (reqConn k s cn) = rankConn cn := by
  cases k <;> rfl

theorem rank_step {a : Action} (hi : Inv st) (h : step st a = some (st', e)) :
    rank st' < rank st ∨ (a.own = false ∧ (st.cancelled = true → st.srvRunning = false →
      rank st' ≤ rank st ∧ ∀ b, ownGuard st' b = ownGuard st b)) := by
  apply step_elim h
  case closeReturn => exact fun hg => .inl (by simp [rank, hg.2.1])
  case srvExit | lnExit => exact fun hg => .inl (by simp [rank, hg.1])
  case connOpenCb =>
    exact fun c hp => .inl (rank_setConn_lt (hi.conn_lt_of hp) (by simp [rankConn, hp, (hi.no_reader hp).1]))
  case stopConn =>
    exact fun c _ _ hp => .inl (rank_setConn_lt (hi.conn_lt_of hp) (by simp [rankConn, hp]; omega))
  case dropReader =>
    exact fun c _ _ hr => .inl (rank_setConn_lt (hi.conn_lt_of_reader hr) (by simp [rankConn, hr]))
  case connJoin => exact fun c hg => .inl (rank_setConn_lt (hi.conn_lt_of hg.1) (by simp [rankConn, hg.1]))
  case connCloseCb =>
    exact fun c hp => .inl (rank_setConn_lt (st := st) (hi.conn_lt_of hp) (by simp [rankConn, hp]))
  case sessCancelConn =>
    exact fun s c hg => .inl (rank_setConn_lt (hi.connsBound s c hg.2.1) (by simp [rankConn, hg.2.2]))
  case sessOpenCb => exact fun s hp => .inl (rank_setSess_lt (hi.sess_lt_of hp) (by simp [rankSess, hp]))
  case stopSess => exact fun s _ _ hp => .inl (rank_setSess_lt (hi.sess_lt_of hp) (by simp [rankSess, hp]))
  case sessCloseCb =>
    exact fun s hg => .inl (rank_setSess_lt (st := st) (hi.sess_lt_of hg.1) (by simp [rankSess, hg.1]))
  case closeCall =>
    exact fun hg => .inr ⟨rfl, fun hc _ => nomatch hg.symm.trans (hi.cancelledIff.symm.trans hc)⟩
  case accept => exact fun hg => .inr ⟨rfl, fun _ hsrv => nomatch hsrv.symm.trans hg.2⟩
  case createSess => exact fun _ hg => .inr ⟨rfl, fun _ hsrv => nomatch hsrv.symm.trans hg.2.2.2⟩
  case request | pktUdp => exact fun _ _ => .inr ⟨rfl, fun _ _ => ⟨Nat.le_refl _, fun _ => rfl⟩⟩
  case pktTcp => exact fun _ _ _ => .inr ⟨rfl, fun _ _ => ⟨Nat.le_refl _, fun _ => rfl⟩⟩
  case cancelConn =>
    intro c hp
    cases hcc : (st.conn c).cancelled with
    | false => exact .inl (rank_setConn_lt (hi.conn_lt hp) (by simp [rankConn, hcc]))
    | true =>
      exact .inr ⟨rfl, fun _ _ => ⟨rank_setConn_le (hi.conn_lt hp) (by simp [rankConn]),
        fun b => ownGuard_setConn (by rfl) (by rfl) (by exact hcc.symm) b⟩⟩
  case removeConn =>
    exact fun c s hg => .inr ⟨rfl, fun _ _ => ⟨rank_setSess_le (hi.sess_lt_of hg.2.2) (by simp [rankSess]),
      fun b => ownGuard_setSess (by rfl) (by rfl) (by exact fun h => nomatch hg.2.2.symm.trans h) b⟩⟩
  case cancelSess =>
    exact fun s hp => .inr ⟨rfl, fun hc _ => ⟨rank_setSess_le (hi.sess_lt hp) (by simp [rankSess]),
      fun b => ownGuard_setSess (by rfl) (by simp only [State.sessCancelled, hc, Bool.or_true])
        (by exact fun _ => rfl) b⟩⟩
  case sreq =>
    intro s c k hg
    have h1 : rank (st.setConn c (reqConn k s (st.conn c))) ≤ rank st :=
      rank_setConn_le (hi.conn_lt_of hg.2.1) (Nat.le_of_eq (rankConn_reqConn k s _))
    have hs : s < (st.setConn c (reqConn k s (st.conn c))).nSess := hi.sess_lt_of hg.1
    rcases req_cases k s c (st.conn c) (st.sess s) with rfl | ⟨_, _, e1, e2, _⟩
    · -- TEARDOWN stops the session
      have h2 := rank_setSess_lt (v := reqSess .teardown c (st.sess s)) hs (by simp [rankSess, reqSess, hg.1])
      exact .inl (by omega)
    · -- any other request leaves a running session running and its connection running
      have h2 := rank_setSess_le (v := reqSess k c (st.sess s)) hs (by rw [e2]; simp [rankSess])
      refine .inr ⟨rfl, fun _ _ => ⟨by omega, fun b => ?_⟩⟩
      rw [e1, e2]
      exact (ownGuard_setSess (by rfl) (by rfl) (by exact fun h => nomatch hg.1.symm.trans h) b).trans
        (ownGuard_setConn (by rfl) (by rfl) (by rfl) b)

theorem rank_own {a : Action} (hi : Inv st) (ha : a.own = true) (h : step st a = some (st', e)) :
    rank st' < rank st :=
  (rank_step hi h).resolve_right fun h' => nomatch ha.symm.trans h'.1

end Rtsp.Life
