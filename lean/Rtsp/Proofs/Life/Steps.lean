import Rtsp.Model.Lifecycle
import Rtsp.Proofs.Life.System
/-
What `step st a = some (st', e)` says, action by action (`step_elim`); lookups in updated states; runs.
-/
namespace Rtsp.Life

variable {st st' : State} {e : Option Event}

theorem req_cases (k : ReqKind) (s c : Nat) (cn : Conn) (ss : Sess) :
    k = .teardown ∨ ∃ t u, reqConn k s cn = { cn with session := some s, tcp := t } ∧
      reqSess k c ss = { ss with conns := c :: ss.conns.erase c, udp := u } ∧ reqEvent k s c = some (.sreq s c) := by
  cases k
  case teardown => exact .inl rfl
  all_goals exact .inr ⟨_, _, rfl, rfl, rfl⟩

@[simp] theorem setConn_conn_same (st : State) (c : Nat) (v : Conn) : (st.setConn c v).conn c = v := by
  simp [State.setConn]
theorem setConn_conn_ne (st : State) {c i : Nat} (v : Conn) (h : i ≠ c) : (st.setConn c v).conn i = st.conn i := by
  simp [State.setConn, h]
theorem setConn_conn (st : State) (c i : Nat) (v : Conn) :
    (st.setConn c v).conn i = if i = c then v else st.conn i := by simp [State.setConn]
@[simp] theorem setConn_sess (st : State) (c : Nat) (v : Conn) : (st.setConn c v).sess = st.sess := rfl
@[simp] theorem setSess_sess_same (st : State) (s : Nat) (v : Sess) : (st.setSess s v).sess s = v := by
  simp [State.setSess]
theorem setSess_sess_ne (st : State) {s i : Nat} (v : Sess) (h : i ≠ s) : (st.setSess s v).sess i = st.sess i := by
  simp [State.setSess, h]
theorem setSess_sess (st : State) (s i : Nat) (v : Sess) :
    (st.setSess s v).sess i = if i = s then v else st.sess i := by simp [State.setSess]
@[simp] theorem setSess_conn (st : State) (s : Nat) (v : Sess) : (st.setSess s v).conn = st.conn := rfl
@[simp] theorem setConn_nConns (st : State) (c : Nat) (v : Conn) : (st.setConn c v).nConns = st.nConns := rfl
@[simp] theorem setConn_nSess (st : State) (c : Nat) (v : Conn) : (st.setConn c v).nSess = st.nSess := rfl
@[simp] theorem setSess_nConns (st : State) (s : Nat) (v : Sess) : (st.setSess s v).nConns = st.nConns := rfl
@[simp] theorem setSess_nSess (st : State) (s : Nat) (v : Sess) : (st.setSess s v).nSess = st.nSess := rfl
@[simp] theorem setConn_flags (st : State) (c : Nat) (v : Conn) :
    (st.setConn c v).srvRunning = st.srvRunning ∧ (st.setConn c v).lnRunning = st.lnRunning ∧
    (st.setConn c v).cancelled = st.cancelled ∧ (st.setConn c v).wg = st.wg ∧
    (st.setConn c v).closeCalled = st.closeCalled ∧ (st.setConn c v).closeReturned = st.closeReturned :=
  ⟨rfl, rfl, rfl, rfl, rfl, rfl⟩
@[simp] theorem setSess_flags (st : State) (s : Nat) (v : Sess) :
    (st.setSess s v).srvRunning = st.srvRunning ∧ (st.setSess s v).lnRunning = st.lnRunning ∧
    (st.setSess s v).cancelled = st.cancelled ∧ (st.setSess s v).wg = st.wg ∧
    (st.setSess s v).closeCalled = st.closeCalled ∧ (st.setSess s v).closeReturned = st.closeReturned :=
  ⟨rfl, rfl, rfl, rfl, rfl, rfl⟩

-- `step st a` is `if guard then some (st', e) else none`: feed the result to the hypothesis `t` of `step_elim`, whose
-- hole `?_` is the guard, read off as a proposition
set_option hygiene false in
macro "step_case " t:term : tactic => `(tactic| (
  obtain ⟨hg, hx⟩ := ite_some_eq h
  cases hx
  refine $t
  simpa only [Bool.and_eq_true, Bool.or_eq_true, Bool.not_eq_true', beq_iff_eq, bne_iff_ne, and_assoc,
    List.contains_iff_mem] using hg))

/-- One hypothesis per action, carrying the guard and the result; two actions that differ in the guard only
(`connExit`/`connFail`, `readerExit`/`readerFail`, `sessExit`/`sessFail`) share one. -/
theorem step_elim {motive : Action → State → Option Event → Prop} {a : Action} (h : step st a = some (st', e))
    (closeCall : st.closeCalled = false →
      motive .closeCall { st with closeCalled := true, cancelled := true } (some .closeCalled))
    (closeReturn : st.closeCalled = true ∧ st.closeReturned = false ∧ st.wg = 0 →
      motive .closeReturn { st with closeReturned := true } (some .closeReturned))
    (srvExit : st.srvRunning = true ∧ st.cancelled = true →
      motive .srvExit { st with srvRunning := false, wg := st.wg - 1 } none)
    (lnExit : st.lnRunning = true ∧ st.srvRunning = false →
      motive .lnExit { st with lnRunning := false, wg := st.wg - 1 } none)
    (accept : st.lnRunning = true ∧ st.srvRunning = true →
      motive .accept { (st.setConn st.nConns { phase := .spawned }) with nConns := st.nConns + 1, wg := st.wg + 1 }
        none)
    (connOpenCb : ∀ c, (st.conn c).phase = .spawned →
      motive (.connOpenCb c) (st.setConn c { st.conn c with phase := .running, reader := true }) (some (.connOpen c)))
    (request : ∀ c, (st.conn c).phase = .running ∧ (st.conn c).reader = true →
      motive (.request c) st (some (.request c)))
    (createSess : ∀ c, (st.conn c).phase = .running ∧ (st.conn c).reader = true ∧ (st.conn c).session = none ∧
        st.srvRunning = true →
      motive (.createSess c) { (st.setSess st.nSess { phase := .spawned, author := c, conns := [c] }) with
        nSess := st.nSess + 1, wg := st.wg + 1 } none)
    (stopConn : ∀ c a, (a = .connFail c ∨ a = .connExit c ∧ (st.connCancelled c = true ∨ (st.conn c).reader = false)) →
      (st.conn c).phase = .running →
      motive a (st.setConn c { st.conn c with phase := .stopping, cancelled := true }) none)
    (dropReader : ∀ c a, (a = .readerFail c ∨ a = .readerExit c ∧ (st.conn c).phase = .stopping) →
      (st.conn c).reader = true → motive a (st.setConn c { st.conn c with reader := false, tcp := false }) none)
    (connJoin : ∀ c, (st.conn c).phase = .stopping ∧ (st.conn c).reader = false →
      motive (.connJoin c) (st.setConn c { st.conn c with phase := .joined }) none)
    (removeConn : ∀ c s, (st.conn c).session = some s ∧ (st.conn c).phase = .joined ∧ (st.sess s).phase = .running →
      motive (.removeConn c) (st.setSess s { st.sess s with conns := (st.sess s).conns.erase c }) none)
    (connCloseCb : ∀ c, (st.conn c).phase = .joined →
      motive (.connCloseCb c) { (st.setConn c { st.conn c with phase := .closed }) with wg := st.wg - 1 }
        (some (.connClose c)))
    (cancelConn : ∀ c, (st.conn c).phase ≠ .absent →
      motive (.cancelConn c) (st.setConn c { st.conn c with cancelled := true }) none)
    (pktTcp : ∀ c s, (st.conn c).session = some s ∧ (st.conn c).reader = true ∧ (st.conn c).tcp = true →
      motive (.pktTcp c) st (some (.packet s)))
    (sessOpenCb : ∀ s, (st.sess s).phase = .spawned →
      motive (.sessOpenCb s) (st.setSess s { st.sess s with phase := .running })
        (some (.sessionOpen s (st.sess s).author)))
    (sreq : ∀ s c k, (st.sess s).phase = .running ∧ (st.conn c).phase = .running ∧ (st.conn c).reader = true ∧
        ((st.conn c).session = none ∨ (st.conn c).session = some s) →
      motive (.sreq s c k) ((st.setConn c (reqConn k s (st.conn c))).setSess s (reqSess k c (st.sess s)))
        (reqEvent k s c))
    (pktUdp : ∀ s, (st.sess s).udp = true → motive (.pktUdp s) st (some (.packet s)))
    (stopSess : ∀ s a, (a = .sessFail s ∨ a = .sessExit s ∧ st.sessCancelled s = true) →
      (st.sess s).phase = .running →
      motive a (st.setSess s { st.sess s with phase := .stopping, cancelled := true }) none)
    (sessCancelConn : ∀ s c, (st.sess s).phase = .stopping ∧ c ∈ (st.sess s).conns ∧ (st.conn c).cancelled = false →
      motive (.sessCancelConn s c) (st.setConn c { st.conn c with cancelled := true }) none)
    (sessCloseCb : ∀ s, (st.sess s).phase = .stopping ∧ (∀ c, c ∈ (st.sess s).conns → (st.conn c).phase = .closed) →
      motive (.sessCloseCb s) { (st.setSess s { st.sess s with phase := .closed, udp := false }) with wg := st.wg - 1 }
        (some (.sessionClose s)))
    (cancelSess : ∀ s, (st.sess s).phase ≠ .absent →
      motive (.cancelSess s) (st.setSess s { st.sess s with cancelled := true }) none) :
    motive a st' e := by
  -- an action whose `step` is one `if` with the stated guard: `step_case`; `connExit`, `readerExit`, `sessExit` first
  -- split their guard into the shared and the extra part; `removeConn`, `pktTcp` first unfold the `match` on the
  -- connection's session, `sessCloseCb` unfolds `allConnsClosed`
  cases a
  case closeCall => step_case closeCall ?_
  case closeReturn => step_case closeReturn ?_
  case srvExit => step_case srvExit ?_
  case lnExit => step_case lnExit ?_
  case accept => step_case accept ?_
  case connOpenCb c => step_case connOpenCb c ?_
  case request c => step_case request c ?_
  case createSess c => step_case createSess c ?_
  case connFail c => step_case stopConn c _ (.inl rfl) ?_
  case connExit c =>
    obtain ⟨hg, hx⟩ := ite_some_eq h
    cases hx
    simp only [Bool.and_eq_true, Bool.or_eq_true, Bool.not_eq_true', beq_iff_eq] at hg
    exact stopConn c _ (.inr ⟨rfl, hg.2⟩) hg.1
  case readerFail c => step_case dropReader c _ (.inl rfl) ?_
  case readerExit c =>
    obtain ⟨hg, hx⟩ := ite_some_eq h
    cases hx
    simp only [Bool.and_eq_true, beq_iff_eq] at hg
    exact dropReader c _ (.inr ⟨rfl, hg.2⟩) hg.1
  case connJoin c => step_case connJoin c ?_
  case connCloseCb c => step_case connCloseCb c ?_
  case cancelConn c => step_case cancelConn c ?_
  case sessOpenCb s => step_case sessOpenCb s ?_
  case sreq s c k => step_case sreq s c k ?_
  case pktUdp s => step_case pktUdp s ?_
  case sessFail s => step_case stopSess s _ (.inl rfl) ?_
  case sessExit s =>
    obtain ⟨hg, hx⟩ := ite_some_eq h
    cases hx
    simp only [Bool.and_eq_true, beq_iff_eq] at hg
    exact stopSess s _ (.inr ⟨rfl, hg.2⟩) hg.1
  case sessCancelConn s c => step_case sessCancelConn s c ?_
  case cancelSess s => step_case cancelSess s ?_
  case sessCloseCb s =>
    obtain ⟨hg, hx⟩ := ite_some_eq h
    cases hx
    exact sessCloseCb s (by simpa only [Bool.and_eq_true, beq_iff_eq, allConnsClosed, List.all_eq_true] using hg)
  case removeConn c =>
    simp only [step] at h
    split at h
    · rename_i s hs
      obtain ⟨hg, hx⟩ := ite_some_eq h
      cases hx
      simp only [Bool.and_eq_true, beq_iff_eq] at hg
      exact removeConn c s ⟨hs, hg⟩
    · exact nomatch h
  case pktTcp c =>
    simp only [step] at h
    split at h
    · rename_i s hs
      obtain ⟨hg, hx⟩ := ite_some_eq h
      cases hx
      simp only [Bool.and_eq_true] at hg
      exact pktTcp c s ⟨hs, hg⟩
    · exact nomatch h
theorem step_flags {a : Action} (h : step st a = some (st', e)) :
    (st.cancelled = true → st'.cancelled = true) ∧ (st.srvRunning = false → st'.srvRunning = false) := by
  apply step_elim h
  case closeCall => exact fun _ => ⟨fun _ => rfl, id⟩
  case srvExit => exact fun _ => ⟨id, fun _ => rfl⟩
  all_goals intros; exact ⟨id, id⟩

theorem isRun : IsRun step run where
  nil _ := rfl
  cons st a as := by
    rw [run]
    rcases step st a with _ | ⟨st1, e⟩
    · rfl
    · dsimp only [Option.bind_some]
      cases run st1 as <;> rfl

end Rtsp.Life
