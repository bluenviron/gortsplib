import Rtsp.Proofs.Life.Inv
import Rtsp.Proofs.Life.Count
/-
`Server.wg` counts exactly the goroutines that are still alive (`wg = live`), hence `wg.Wait()` returns
exactly when everything has finished.
-/
namespace Rtsp.Life

variable {st st' : State} {e : Option Event} {c s : Nat}

theorem live_setConn (v : Conn) (hc : c < st.nConns) :
    live (st.setConn c v) + (if connLive st.conn c then 1 else 0) = live st + (if v.phase != .closed then 1 else 0) := by
  have h := cnt_update (n := st.nConns) (c := c) (p := connLive st.conn) (q := connLive (st.setConn c v).conn) hc
    (fun i hi => by simp [connLive, setConn_conn, hi])
  have h3 : connLive (st.setConn c v).conn c = (v.phase != .closed) := by simp [connLive]
  rw [h3] at h
  simp only [live, setConn_flags, setConn_nConns, setConn_nSess, setConn_sess]
  omega

theorem live_setSess (v : Sess) (hs : s < st.nSess) :
    live (st.setSess s v) + (if sessLive st.sess s then 1 else 0) = live st + (if v.phase != .closed then 1 else 0) := by
  have h := cnt_update (n := st.nSess) (c := s) (p := sessLive st.sess) (q := sessLive (st.setSess s v).sess) hs
    (fun i hi => by simp [sessLive, setSess_sess, hi])
  have h3 : sessLive (st.setSess s v).sess s = (v.phase != .closed) := by simp [sessLive]
  rw [h3] at h
  simp only [live, setSess_flags, setSess_nConns, setSess_nSess, setSess_conn]
  omega

theorem live_addConn (v : Conn) (hv : v.phase ≠ .closed) :
    live { st.setConn st.nConns v with nConns := st.nConns + 1, wg := st.wg + 1 } = live st + 1 := by
  have h1 : cnt st.nConns (connLive (st.setConn st.nConns v).conn) = cnt st.nConns (connLive st.conn) :=
    cnt_congr (fun i hi => by simp [connLive, setConn_conn, Nat.ne_of_lt hi])
  have h3 : connLive (st.setConn st.nConns v).conn st.nConns = true := by simp [connLive, hv]
  simp only [live, cnt, h1, h3, setConn_sess]
  simp
  omega

theorem live_addSess (w : Sess) (hw : w.phase ≠ .closed) :
    live { st.setSess st.nSess w with nSess := st.nSess + 1, wg := st.wg + 1 } = live st + 1 := by
  have h1 : cnt st.nSess (sessLive (st.setSess st.nSess w).sess) = cnt st.nSess (sessLive st.sess) :=
    cnt_congr (fun i hi => by simp [sessLive, setSess_sess, Nat.ne_of_lt hi])
  have h3 : sessLive (st.setSess st.nSess w).sess st.nSess = true := by simp [sessLive, hw]
  simp only [live, cnt, h1, h3, setSess_conn]
  simp
  omega

/-- `wg` is the number of live goroutines; `Close` has returned only if it was called and `wg = 0` -/
structure WgInv (st : State) : Prop where
  wgCount : st.wg = live st
  returnedDone : st.closeReturned = true → st.closeCalled = true ∧ st.wg = 0

theorem wgInv_init : WgInv Rtsp.Life.init := by
  constructor <;> simp [Rtsp.Life.init, live, cnt]

theorem live_pos_of_conn (hc : c < st.nConns) (h : (st.conn c).phase ≠ .closed) : 0 < live st := by
  have := cnt_pos (n := st.nConns) (p := connLive st.conn) hc (by simp [connLive, h])
  simp only [live]; omega

theorem live_pos_of_sess (hs : s < st.nSess) (h : (st.sess s).phase ≠ .closed) : 0 < live st := by
  have := cnt_pos (n := st.nSess) (p := sessLive st.sess) hs (by simp [sessLive, h])
  simp only [live]; omega

theorem live_zero_iff : live st = 0 ↔ st.allDone := by
  simp only [live, State.allDone]
  constructor
  · intro h
    have h1 : cnt st.nConns (connLive st.conn) = 0 := by omega
    have h2 : cnt st.nSess (sessLive st.sess) = 0 := by omega
    refine ⟨?_, ?_, ?_, ?_⟩
    · cases hx : st.srvRunning <;> simp [hx] at h ⊢
    · cases hx : st.lnRunning <;> simp [hx] at h ⊢
    · intro c hc; have := cnt_eq_zero.mp h1 c hc; simpa [connLive] using this
    · intro s hs; have := cnt_eq_zero.mp h2 s hs; simpa [sessLive] using this
  · rintro ⟨h1, h2, h3, h4⟩
    have h5 : cnt st.nConns (connLive st.conn) = 0 := cnt_eq_zero.mpr (fun i hi => by simp [connLive, h3 i hi])
    have h6 : cnt st.nSess (sessLive st.sess) = 0 := cnt_eq_zero.mpr (fun i hi => by simp [sessLive, h4 i hi])
    simp [h1, h2, h5, h6]

theorem WgInv.wg_zero_iff (hw : WgInv st) : st.wg = 0 ↔ st.allDone :=
  hw.wgCount ▸ live_zero_iff

/-! A step leaves `wg` and `live` alone (`frame`), adds one to both (`add`) or takes one from both (`done`). -/

theorem WgInv.frame (hw : WgInv st) (hl : live st' = live st) (h0 : st'.wg = st.wg)
    (h1 : st'.closeCalled = st.closeCalled) (h2 : st'.closeReturned = st.closeReturned) : WgInv st' :=
  ⟨by rw [h0, hl]; exact hw.wgCount, by rw [h0, h1, h2]; exact hw.returnedDone⟩

theorem WgInv.add (hw : WgInv st) (hpos : 0 < live st) (hl : live st' = live st + 1) (h0 : st'.wg = st.wg + 1)
    (h2 : st'.closeReturned = st.closeReturned) : WgInv st' := by
  refine ⟨by rw [h0, hl, hw.wgCount], fun hr => ?_⟩
  have := (hw.returnedDone (h2 ▸ hr)).2
  have := hw.wgCount
  omega

theorem WgInv.done (hw : WgInv st) (hl : live st' + 1 = live st) (h0 : st'.wg = st.wg - 1)
    (h1 : st'.closeCalled = st.closeCalled) (h2 : st'.closeReturned = st.closeReturned) : WgInv st' := by
  have := hw.wgCount
  refine ⟨by omega, fun hr => ?_⟩
  have := hw.returnedDone (h2 ▸ hr)
  exact ⟨h1 ▸ this.1, by omega⟩

theorem WgInv.setConn (hw : WgInv st) (hc : c < st.nConns) {v : Conn} {p : CPhase} (hp : (st.conn c).phase = p)
    (h : (v.phase != .closed) = (p != .closed) := by rfl) : WgInv (st.setConn c v) := by
  refine hw.frame ?_ rfl rfl rfl
  have := live_setConn (st := st) v hc
  rw [h, connLive, hp] at this
  exact Nat.add_right_cancel this

theorem WgInv.setSess (hw : WgInv st) (hs : s < st.nSess) {w : Sess} {p : SPhase} (hp : (st.sess s).phase = p)
    (h : (w.phase != .closed) = (p != .closed) := by rfl) : WgInv (st.setSess s w) := by
  refine hw.frame ?_ rfl rfl rfl
  have := live_setSess (st := st) w hs
  rw [h, sessLive, hp] at this
  exact Nat.add_right_cancel this

theorem WgInv.step {a : Action} (hi : Inv st) (hw : WgInv st) (h : step st a = some (st', e)) : WgInv st' := by
  apply step_elim h
  case closeCall => exact fun _ => ⟨hw.wgCount, fun hr => ⟨rfl, (hw.returnedDone hr).2⟩⟩
  case closeReturn => exact fun hg => ⟨hw.wgCount, fun _ => ⟨hg.1, hg.2.2⟩⟩
  case srvExit => exact fun hg => hw.done (by simp [live, hg.1]; omega) rfl rfl rfl
  case lnExit => exact fun hg => hw.done (by simp [live, hg.1]; omega) rfl rfl rfl
  case accept => exact fun hg => hw.add (by simp [live, hg.1]; omega) (live_addConn _ nofun) rfl rfl
  case createSess => exact fun c hg => hw.add (by simp [live, hg.2.2.2]; omega) (live_addSess _ nofun) rfl rfl
  case request | pktUdp => exact fun _ _ => hw
  case pktTcp => exact fun _ _ _ => hw
  case connOpenCb => exact fun c hp => hw.setConn (hi.conn_lt_of hp) hp
  case stopConn => exact fun c _ _ hp => hw.setConn (hi.conn_lt_of hp) hp
  case dropReader => exact fun c _ _ hr => hw.setConn (hi.conn_lt_of_reader hr) rfl
  case connJoin => exact fun c hg => hw.setConn (hi.conn_lt_of hg.1) hg.1
  case cancelConn => exact fun c hp => hw.setConn (hi.conn_lt hp) rfl
  case sessCancelConn => exact fun s c hg => hw.setConn (hi.connsBound s c hg.2.1) rfl
  case connCloseCb =>
    intro c hp
    have := live_setConn (st := st) { st.conn c with phase := .closed } (hi.conn_lt_of hp)
    simp only [connLive, hp] at this
    exact hw.done this rfl rfl rfl
  case removeConn => exact fun c s hg => hw.setSess (hi.sess_lt_of hg.2.2) rfl
  case sessOpenCb => exact fun s hp => hw.setSess (hi.sess_lt_of hp) hp
  case stopSess => exact fun s _ _ hp => hw.setSess (hi.sess_lt_of hp) hp
  case cancelSess => exact fun s hp => hw.setSess (hi.sess_lt hp) rfl
  case sessCloseCb =>
    intro s hg
    have := live_setSess (st := st) { st.sess s with phase := .closed, udp := false } (hi.sess_lt_of hg.1)
    simp only [sessLive, hg.1] at this
    exact hw.done this rfl rfl rfl
  case sreq =>
    intro s c k hg
    have h1 : WgInv (st.setConn c (reqConn k s (st.conn c))) :=
      hw.setConn (hi.conn_lt_of hg.2.1) rfl (by cases k <;> rfl)
    refine h1.setSess (s := s) (hi.sess_lt_of hg.1) hg.1 ?_
    rcases req_cases k s c (st.conn c) (st.sess s) with rfl | ⟨_, _, _, h2, _⟩
    · rfl
    · rw [h2, hg.1]

theorem allDone_of_returned (hw : WgInv st) (hr : st.closeReturned = true) : st.allDone :=
  hw.wg_zero_iff.mp (hw.returnedDone hr).2

theorem conn_closed_of_returned (hi : Inv st) (hw : WgInv st) (hr : st.closeReturned = true) (c : Nat) :
    (st.conn c).phase = .closed ∨ (st.conn c).phase = .absent := by
  by_cases hc : c < st.nConns
  · exact Or.inl ((allDone_of_returned hw hr).2.2.1 c hc)
  · right; rw [hi.connAbsent c (by omega)]

theorem sess_closed_of_returned (hi : Inv st) (hw : WgInv st) (hr : st.closeReturned = true) (s : Nat) :
    (st.sess s).phase = .closed ∨ (st.sess s).phase = .absent := by
  by_cases hs : s < st.nSess
  · exact Or.inl ((allDone_of_returned hw hr).2.2.2 s hs)
  · right; rw [hi.sessAbsent s (by omega)]

theorem not_returned_of_conn (hi : Inv st) (hw : WgInv st) {p : CPhase} (hp : (st.conn c).phase = p)
    (h1 : p ≠ .absent := by decide) (h2 : p ≠ .closed := by decide) : st.closeReturned = false := by
  cases hr : st.closeReturned with
  | false => rfl
  | true => subst hp; exact (conn_closed_of_returned hi hw hr c).elim (absurd · h2) (absurd · h1)

theorem not_returned_of_sess (hi : Inv st) (hw : WgInv st) {p : SPhase} (hp : (st.sess s).phase = p)
    (h1 : p ≠ .absent := by decide) (h2 : p ≠ .closed := by decide) : st.closeReturned = false := by
  cases hr : st.closeReturned with
  | false => rfl
  | true => subst hp; exact (sess_closed_of_returned hi hw hr s).elim (absurd · h2) (absurd · h1)

theorem run_inv {as : List Action} {st st' : State} {tr : List Event} (hi : Inv st) (hw : WgInv st)
    (h : run st as = some (st', tr)) : Inv st' ∧ WgInv st' :=
  isRun.preserves (P := fun st => Inv st ∧ WgInv st) (fun hp hs => ⟨hp.1.step hs, hp.2.step hp.1 hs⟩) ⟨hi, hw⟩ h

end Rtsp.Life
