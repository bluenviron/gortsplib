/-
A labelled transition system `step : S → A → Option (S × Option E)`, with nothing of the life-cycle model in it: finite
runs (`IsRun`), a shutdown scheme (`Shutdown`: an invariant, a measure that every own step decreases, progress until the
goal) with its three consequences — a short path of own steps reaches the goal (`path`), every path of own steps is short
and a maximal one ends in the goal (`own_paths`), every weakly fair execution reaches the goal whatever the environment
does (`fair`).  The server's `Close`, a session's `Close` and the client's `Close` are the instances.
-/
namespace Rtsp.Life

theorem ite_some_eq {α : Type} {g : Bool} {x y : α} (h : (if g = true then some x else none) = some y) :
    g = true ∧ y = x := by
  cases g
  · exact nomatch h
  · exact ⟨rfl, (Option.some.inj h).symm⟩

theorem ite_some_isSome {α : Type} {g : Bool} {x : α} :
    (∃ r, (if g = true then some x else none) = some r) ↔ g = true :=
  ⟨fun h => h.elim fun _ h => (ite_some_eq h).1, fun hg => ⟨x, if_pos hg⟩⟩

variable {S A E : Type} {step : S → A → Option (S × Option E)} {run : S → List A → Option (S × List E)}

/-- `run` performs a list of actions with `step` and collects the events -/
structure IsRun (step : S → A → Option (S × Option E)) (run : S → List A → Option (S × List E)) : Prop where
  nil : ∀ s, run s [] = some (s, [])
  cons : ∀ s a as, run s (a :: as) =
    (step s a).bind fun r => (run r.1 as).map fun r' => (r'.1, r.2.toList ++ r'.2)

namespace IsRun
variable (hr : IsRun step run) {s s' : S} {a : A} {as : List A} {tr : List E}
include hr

theorem cons_some (h : run s (a :: as) = some (s', tr)) :
    ∃ s1 e tr1, step s a = some (s1, e) ∧ run s1 as = some (s', tr1) ∧ tr = e.toList ++ tr1 := by
  rw [hr.cons] at h
  obtain ⟨⟨s1, e⟩, hs, h⟩ := Option.bind_eq_some_iff.mp h
  obtain ⟨⟨s2, tr1⟩, h1, h2⟩ := Option.map_eq_some_iff.mp h
  cases h2
  exact ⟨s1, e, tr1, hs, h1, rfl⟩

theorem cons_of {s1 : S} {e : Option E} (hs : step s a = some (s1, e)) (h : run s1 as = some (s', tr)) :
    run s (a :: as) = some (s', e.toList ++ tr) := by
  rw [hr.cons, hs, Option.bind_some, h, Option.map_some]

theorem append_some {a b : List A} : ∀ {s s2 : S} {tr : List E}, run s (a ++ b) = some (s2, tr) →
    ∃ s1 tr1 tr2, run s a = some (s1, tr1) ∧ run s1 b = some (s2, tr2) ∧ tr = tr1 ++ tr2 := by
  induction a with
  | nil => intro s s2 tr h; exact ⟨s, [], tr, hr.nil s, h, rfl⟩
  | cons x xs ih =>
    intro s s2 tr h
    obtain ⟨s', e, _, hs, h', rfl⟩ := hr.cons_some h
    obtain ⟨s1, tr1, tr2, h1, h2, rfl⟩ := ih h'
    exact ⟨s1, e.toList ++ tr1, tr2, hr.cons_of hs h1, h2, (List.append_assoc ..).symm⟩

theorem preserves {P : S → Prop} (hstep : ∀ {s s' a e}, P s → step s a = some (s', e) → P s') :
    ∀ {as : List A} {s s' : S} {tr : List E}, P s → run s as = some (s', tr) → P s' := by
  intro as
  induction as with
  | nil => intro s s' tr hp h; cases (hr.nil s).symm.trans h; exact hp
  | cons a as ih =>
    intro s s' tr hp h
    obtain ⟨s1, e, tr1, hs, h', _⟩ := hr.cons_some h
    exact ih (hstep hp hs) h'

end IsRun

theorem eventually_constant (f : Nat → Nat) (h : ∀ k, f (k + 1) ≤ f k) : ∃ n, ∀ k, n ≤ k → f k = f n := by
  have mono : ∀ n k, n ≤ k → f k ≤ f n := fun n k hk => by
    induction hk with
    | refl => exact Nat.le_refl _
    | step _ ih => exact Nat.le_trans (h _) ih
  suffices key : ∀ v n, f n ≤ v → ∃ m, ∀ k, m ≤ k → f k = f m from key (f 0) 0 (Nat.le_refl _)
  intro v
  induction v with
  | zero => exact fun n hn => ⟨n, fun k hk => by have := mono n k hk; omega⟩
  | succ v ih =>
    intro n hn
    by_cases hex : ∃ k, n ≤ k ∧ f k < f n
    · obtain ⟨k, _, hk2⟩ := hex
      exact ih k (by omega)
    · exact ⟨n, fun k hk => by have := mono n k hk; have : ¬ f k < f n := fun hlt => hex ⟨k, hk, hlt⟩; omega⟩

variable {σ : Nat → S} {α : Nat → Option A} {own : A → Prop} {en : S → A → Prop}

/-- an own action that is enabled from some point on without interruption is eventually taken -/
def WeaklyFair (σ : Nat → S) (α : Nat → Option A) (own : A → Prop) (en : S → A → Prop) : Prop :=
  ∀ a, own a → ∀ n, (∀ k, n ≤ k → en (σ k) a) → ∃ k, n ≤ k ∧ α k = some a

theorem WeaklyFair.shift (hf : WeaklyFair σ α own en) (m : Nat) :
    WeaklyFair (fun k => σ (m + k)) (fun k => α (m + k)) own en := by
  intro a ha n hen
  obtain ⟨k, hk, hα⟩ := hf a ha (m + n) (fun k hk => by
    have : en (σ (m + (k - m))) a := hen (k - m) (by omega)
    rwa [show m + (k - m) = k by omega] at this)
  refine ⟨k - m, by omega, ?_⟩
  show α (m + (k - m)) = some a
  rw [show m + (k - m) = k by omega]; exact hα

theorem WeaklyFair.eventually (hf : WeaklyFair σ α own en) {a0 : A} (h0 : own a0) {Q : S → Prop}
    (hen : ∀ n, ¬ Q (σ n) → en (σ n) a0) (htake : ∀ n, α n = some a0 → Q (σ (n + 1))) : ∃ n, Q (σ n) := by
  apply Classical.byContradiction
  intro hne
  have hall : ∀ n, ¬ Q (σ n) := fun n hq => hne ⟨n, hq⟩
  obtain ⟨k, _, hk⟩ := hf a0 h0 0 (fun k _ => hen k (hall k))
  exact hall (k + 1) (htake k hk)

/-- the measure is eventually constant; were the goal never reached, an own action would be enabled from there on
for ever, be taken by fairness, and decrease the measure -/
theorem WeaklyFair.reaches (hf : WeaklyFair σ α own en) {rank : S → Nat} {G : S → Prop}
    (hle : ∀ n, rank (σ (n + 1)) ≤ rank (σ n))
    (hown : ∀ n a, own a → α n = some a → rank (σ (n + 1)) < rank (σ n))
    (hpersist : ∀ n a, own a → rank (σ (n + 1)) = rank (σ n) → en (σ n) a → en (σ (n + 1)) a)
    (hprog : ∀ n, ¬ G (σ n) → ∃ a, own a ∧ en (σ n) a) : ∃ n, G (σ n) := by
  obtain ⟨n2, hn2⟩ := eventually_constant (fun k => rank (σ k)) hle
  apply Classical.byContradiction
  intro hnever
  obtain ⟨a, ha, hen⟩ := hprog n2 (fun hg => hnever ⟨n2, hg⟩)
  have hstay : ∀ k, en (σ (n2 + k)) a := by
    intro k
    induction k with
    | zero => exact hen
    | succ k ih =>
      exact hpersist (n2 + k) a ha ((hn2 (n2 + k + 1) (by omega)).trans (hn2 (n2 + k) (by omega)).symm) ih
  obtain ⟨k, hk1, hk2⟩ := hf a ha n2 (fun k hk => by
    have := hstay (k - n2)
    rwa [show n2 + (k - n2) = k by omega] at this)
  have hlt := hown k a ha hk2
  have h1 : rank (σ k) = rank (σ n2) := hn2 k hk1
  have h2 : rank (σ (k + 1)) = rank (σ n2) := hn2 (k + 1) (by omega)
  omega

/-- at each position nobody moves, or somebody takes a step -/
def IsExec (step : S → A → Option (S × Option E)) (σ : Nat → S) (α : Nat → Option A) : Prop :=
  ∀ n, (α n = none → σ (n + 1) = σ n) ∧ ∀ a, α n = some a → ∃ e, step (σ n) a = some (σ (n + 1), e)

theorem IsExec.next (hx : IsExec step σ α) (n : Nat) :
    σ (n + 1) = σ n ∨ ∃ a e, step (σ n) a = some (σ (n + 1), e) := by
  cases hα : α n with
  | none => exact .inl ((hx n).1 hα)
  | some a => exact .inr ⟨a, (hx n).2 a hα⟩

theorem IsExec.preserves (hx : IsExec step σ α) {P : S → Prop}
    (hstep : ∀ {s s' a e}, P s → step s a = some (s', e) → P s') {n : Nat} (h : P (σ n)) : ∀ k, P (σ (n + k)) := by
  intro k
  induction k with
  | zero => exact h
  | succ k ih =>
    rcases hx.next (n + k) with heq | ⟨a, e, hs⟩
    · exact heq ▸ ih
    · exact hstep ih hs

/-- A cancel-driven shutdown: within `P` every own step decreases `rank`, and as long as the goal `G` is not reached
some own step is enabled. -/
structure Shutdown (step : S → A → Option (S × Option E)) (own : A → Prop) (P G : S → Prop) (rank : S → Nat) : Prop where
  inv : ∀ {s s' a e}, P s → step s a = some (s', e) → P s'
  dec : ∀ {s s' a e}, P s → own a → step s a = some (s', e) → rank s' < rank s
  prog : ∀ {s}, P s → ¬ G s → ∃ a, own a ∧ ∃ r, step s a = some r

namespace Shutdown
variable {own : A → Prop} {P G : S → Prop} {rank : S → Nat} (hd : Shutdown step own P G rank)
include hd

theorem path (hr : IsRun step run) {s : S} : P s →
    ∃ as s' tr, (∀ a, a ∈ as → own a) ∧ as.length ≤ rank s ∧ run s as = some (s', tr) ∧ G s' := by
  induction hn : rank s using Nat.strongRecOn generalizing s with
  | _ n ih =>
    intro hp
    by_cases hg : G s
    · exact ⟨[], s, [], nofun, Nat.zero_le _, hr.nil s, hg⟩
    · obtain ⟨a, ha, ⟨s1, e⟩, hs⟩ := hd.prog hp hg
      have hlt := hd.dec hp ha hs
      obtain ⟨as, s2, tr, h1, h2, h3, h4⟩ := ih _ (hn ▸ hlt) rfl (hd.inv hp hs)
      exact ⟨a :: as, s2, e.toList ++ tr, List.forall_mem_cons.mpr ⟨ha, h1⟩, by simp only [List.length_cons]; omega,
        hr.cons_of hs h3, h4⟩

theorem own_paths (hr : IsRun step run) : ∀ {as : List A} {s s' : S} {tr : List E}, P s → (∀ a, a ∈ as → own a) →
    run s as = some (s', tr) →
    as.length + rank s' ≤ rank s ∧ ((∀ a, own a → ¬ ∃ r, step s' a = some r) → G s') := by
  intro as
  induction as with
  | nil =>
    intro s s' tr hp _ h
    cases (hr.nil s).symm.trans h
    refine ⟨by simp, fun hmax => Classical.byContradiction fun hg => ?_⟩
    obtain ⟨a, ha, hen⟩ := hd.prog hp hg
    exact hmax a ha hen
  | cons a as ih =>
    intro s s' tr hp hown h
    obtain ⟨s1, e, _, hs, h', _⟩ := hr.cons_some h
    have h1 := hd.dec hp (hown a List.mem_cons_self) hs
    have h2 := ih (hd.inv hp hs) (fun b hb => hown b (List.mem_cons_of_mem _ hb)) h'
    exact ⟨by simp only [List.length_cons]; omega, h2.2⟩

/-- two stages: the own action `a0` is enabled as long as `Q` fails and establishes `Q`, which then stays; under `Q` a step
of the environment does not increase `rank` and, unless it decreases it, disables no own action -/
theorem fair (hx : IsExec step σ α) (hf : WeaklyFair σ α own fun s a => ∃ r, step s a = some r) (hP0 : P (σ 0))
    {Q : S → Prop} {a0 : A} (h0 : own a0) (hen0 : ∀ {s}, P s → ¬ Q s → ∃ r, step s a0 = some r)
    (hQ : ∀ {s s' a e}, step s a = some (s', e) → a = a0 ∨ Q s → Q s')
    (henv : ∀ {s s' a e}, P s → Q s → ¬ own a → step s a = some (s', e) →
      rank s' < rank s ∨ (rank s' ≤ rank s ∧ ∀ b, own b → (∃ r, step s b = some r) → ∃ r, step s' b = some r)) :
    ∃ n, G (σ n) := by
  have hp : ∀ n, P (σ n) := fun n => Nat.zero_add n ▸ hx.preserves hd.inv hP0 n
  obtain ⟨n1, hn1⟩ := hf.eventually h0 (Q := Q) (fun n hq => hen0 (hp n) hq)
    (fun n hk => by obtain ⟨e, hs⟩ := (hx n).2 _ hk; exact hQ hs (.inl rfl))
  have hq := hx.preserves (P := Q) (fun h hs => hQ hs (.inr h)) hn1
  -- own steps included
  have hstep : ∀ {s s' a e}, P s → Q s → step s a = some (s', e) →
      rank s' < rank s ∨ (rank s' ≤ rank s ∧ ∀ b, own b → (∃ r, step s b = some r) → ∃ r, step s' b = some r) :=
    fun {_ _ a _} hp hq hs => (Classical.em (own a)).elim (fun ha => .inl (hd.dec hp ha hs)) (henv hp hq · hs)
  obtain ⟨n, hn⟩ := (hf.shift n1).reaches (rank := rank) (G := G)
    (fun k => by
      rcases hx.next (n1 + k) with heq | ⟨a, e, hs⟩
      · exact Nat.le_of_eq (congrArg rank heq)
      · exact (hstep (hp _) (hq k) hs).elim Nat.le_of_lt (·.1))
    (fun k a ha hk => by
      obtain ⟨e, hs⟩ := (hx _).2 a hk
      exact hd.dec (hp _) ha hs)
    (fun k a ha hr hen => by
      rcases hx.next (n1 + k) with heq | ⟨b, e, hs⟩
      · exact heq ▸ hen
      · exact (hstep (hp _) (hq k) hs).elim (fun hlt => absurd hr (Nat.ne_of_lt hlt)) (·.2 a ha hen))
    (fun k hg => hd.prog (hp _) hg)
  exact ⟨_, hn⟩

end Shutdown

end Rtsp.Life
