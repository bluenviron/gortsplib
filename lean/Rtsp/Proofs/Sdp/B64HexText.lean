import Rtsp.Proofs.Text.B64Std
import Rtsp.Model.Sdp.Formats
/-
Base64 and hexadecimal text: round trips and alphabets.
-/
namespace Rtsp.Sdp
open Rtsp.B64Std

/-- characters of base64 text: letters, digits, `+ / =` -/
def isB64 (c : UInt8) : Bool := isAlnum c || c == 43 || c == 47 || c == 61

theorem encChar_isB64 : ∀ n : Fin 64, isB64 (encChar n.val) = true := by decide

theorem mem_b64_isB64 {bs : List UInt8} {c : UInt8} (h : c ∈ Rtsp.B64Std.encode bs) : isB64 c = true :=
  forall_mem_encode (P := fun c => isB64 c = true)
    (fun n => by rw [encChar_min]; exact encChar_isB64 ⟨min n 63, by omega⟩) rfl bs c h

theorem b64dec_b64 (bs : List UInt8) : b64dec (Format.b64 bs) = some bs := decode_encode bs

theorem hexVal_lower : ∀ n : Fin 16, hexDigitVal (hexLowerDigit n.val) = some n.val := by decide
theorem hexVal_upper : ∀ n : Fin 16, hexDigitVal (hexUpperDigit n.val) = some n.val := by decide


theorem hexDecode_hexEncode (bs : List UInt8) : hexDecode (hexEncode bs) = some bs := by
  induction bs with
  | nil => rfl
  | cons b bs ih =>
    have hb := b.toNat_lt
    have h1 := hexVal_lower ⟨b.toNat / 16, by omega⟩
    have h2 := hexVal_lower ⟨b.toNat % 16, by omega⟩
    simp only at h1 h2
    simp only [hexEncode, hexDecode, h1, h2, ih, Nat.div_add_mod', UInt8.ofNat_toNat]

theorem hexDecode_hexEncodeUpper (bs : List UInt8) : hexDecode (hexEncodeUpper bs) = some bs := by
  induction bs with
  | nil => rfl
  | cons b bs ih =>
    have hb := b.toNat_lt
    have h1 := hexVal_upper ⟨b.toNat / 16, by omega⟩
    have h2 := hexVal_upper ⟨b.toNat % 16, by omega⟩
    simp only at h1 h2
    simp only [hexEncodeUpper, hexDecode, h1, h2, ih, Nat.div_add_mod', UInt8.ofNat_toNat]

def isHexCh (c : UInt8) : Bool := isDigit c || (97 ≤ c && c ≤ 102) || (65 ≤ c && c ≤ 70)

theorem hexLower_isHex : ∀ n : Fin 16, isHexCh (hexLowerDigit n.val) = true := by decide
theorem hexUpper_isHex : ∀ n : Fin 16, isHexCh (hexUpperDigit n.val) = true := by decide

theorem mem_hexEncode {bs : List UInt8} {c : UInt8} (h : c ∈ hexEncode bs) : isHexCh c = true := by
  induction bs with
  | nil => simp [hexEncode] at h
  | cons b bs ih =>
    have hb := b.toNat_lt
    simp only [hexEncode, List.mem_cons] at h
    rcases h with rfl | rfl | h
    · exact hexLower_isHex ⟨b.toNat / 16, by omega⟩
    · exact hexLower_isHex ⟨b.toNat % 16, by omega⟩
    · exact ih h

theorem mem_hexEncodeUpper {bs : List UInt8} {c : UInt8} (h : c ∈ hexEncodeUpper bs) : isHexCh c = true := by
  induction bs with
  | nil => simp [hexEncodeUpper] at h
  | cons b bs ih =>
    have hb := b.toNat_lt
    simp only [hexEncodeUpper, List.mem_cons] at h
    rcases h with rfl | rfl | h
    · exact hexUpper_isHex ⟨b.toNat / 16, by omega⟩
    · exact hexUpper_isHex ⟨b.toNat % 16, by omega⟩
    · exact ih h

end Rtsp.Sdp
