import Rtsp.Model.Sdp.Valid
import Rtsp.Proofs.Sdp.Str
/-
What `format.Unmarshal` finds when it is handed a format's own attributes: the fmtp of every format as a table of keyed
optional values with distinct keys, so that a lookup returns the value the format wrote (`IsCtxOf`: a context of which that
holds); over such a context the skeleton of the per-format read-back (`rt_of_kind`: the kind the switch selects, then that
kind's `unmarshal`), and the clock `rate[/channels]` read back from decimal text.
-/
namespace Rtsp.Sdp
open Rtsp.Facts.Sdp Format

/-- On a dynamic payload type the switch does not look at the number: the payload types it compares with (the facts
`h264StaticPT`, `ptMpeg1Video`, … `ptMpegts`, here by value) are all below 96. -/
theorem select_dyn {pt : Nat} (h : Dyn pt) (codec clock : Str) : select codec clock pt = select codec clock 96 := by
  obtain ⟨h1, h2⟩ := h
  have e : ∀ n, n < 96 → ¬ pt = n := fun n hn => by omega
  simp only [select, dynLo, dynHi, h264StaticPT, ptMpeg1Video, ptMjpeg, ptMpeg1Audio, ptG722, ptPcmu, ptPcma, ptL16Stereo,
    ptL16Mono, ptMpegts, h1, h2, e _ (by decide : 35 < 96), e _ (by decide : 32 < 96), e _ (by decide : 26 < 96),
    e _ (by decide : 14 < 96), e _ (by decide : 9 < 96), e _ (by decide : 0 < 96), e _ (by decide : 8 < 96),
    e _ (by decide : 10 < 96), e _ (by decide : 11 < 96), e _ (by decide : 33 < 96), Nat.le_refl, Nat.reduceLeDiff,
    Nat.reduceEqDiff]

theorem strLt_iff : ∀ {a b : Str}, strLt a b = true ↔ a < b
  | [], [] => by simp [strLt]
  | [], _ :: _ => by simp [strLt]
  | _ :: _, [] => by simp [strLt]
  | a :: r, b :: s => by
    rw [strLt, List.cons_lt_cons_iff, ← strLt_iff]; simp

theorem strLt_irrefl (a : Str) : strLt a a = false :=
  Bool.eq_false_iff.mpr fun h => List.lt_irrefl a (strLt_iff.mp h)

theorem strLt_asymm {a b : Str} (h : strLt a b = true) : strLt b a = false :=
  Bool.eq_false_iff.mpr fun h' => List.lt_asymm (strLt_iff.mp h) (strLt_iff.mp h')

theorem strLt_ne {a b : Str} (h : strLt a b = true) : a ≠ b := by
  intro e; subst e; rw [strLt_irrefl] at h; cases h

theorem toLower_id {k : Str} (h : ∀ c ∈ k, isUpper c = false) : toLower k = k := by
  induction k with
  | nil => rfl
  | cons c cs ih =>
    have hc : lowerB c = c := by simp only [lowerB, h c (.head _), Bool.false_eq_true, if_false]
    simp only [toLower, List.map_cons, hc] at ih ⊢
    rw [ih fun x hx => h x (.tail _ hx)]

def optEntries : List (Str × Option Str) → List (Str × Str)
  | [] => []
  | (k, some v) :: r => (k, v) :: optEntries r
  | (_, none) :: r => optEntries r

def allPresent (l : List (Str × Str)) : List (Str × Option Str) := l.map fun kv => (kv.1, some kv.2)

theorem optEntries_allPresent (l : List (Str × Str)) : optEntries (allPresent l) = l := by
  induction l with
  | nil => rfl
  | cons kv r ih => simp only [allPresent, List.map_cons, optEntries] at ih ⊢; rw [ih]

theorem allPresent_keys (l : List (Str × Str)) : (allPresent l).map Prod.fst = l.map Prod.fst := by
  simp [allPresent]

theorem optEntries_keys_sublist (s : List (Str × Option Str)) : ((optEntries s).map Prod.fst).Sublist (s.map Prod.fst) := by
  induction s with
  | nil => exact .slnil
  | cons e r ih =>
    obtain ⟨k, _ | v⟩ := e
    · exact .cons _ ih
    · exact .cons_cons _ ih

theorem mem_optEntries {s : List (Str × Option Str)} {kv : Str × Str} (h : kv ∈ optEntries s) : (kv.1, some kv.2) ∈ s := by
  induction s with
  | nil => cases h
  | cons e r ih =>
    obtain ⟨k, _ | v⟩ := e
    · exact .tail _ (ih h)
    · cases h with
      | head => exact .head _
      | tail _ h => exact .tail _ (ih h)

theorem map_keys_optEntries (g : Str → Str) (s : List (Str × Option Str)) :
    (optEntries s).map (fun kv => (g kv.1, kv.2)) = optEntries (s.map fun e => (g e.1, e.2)) := by
  induction s with
  | nil => rfl
  | cons e r ih =>
    obtain ⟨k, _ | v⟩ := e
    · exact ih
    · simp only [optEntries, List.map_cons, ih]

theorem lookupLast_optEntries_none {s : List (Str × Option Str)} {k : Str} (h : k ∉ s.map Prod.fst) :
    lookupLast k (optEntries s) = none := by
  induction s with
  | nil => rfl
  | cons e r ih =>
    obtain ⟨k', _ | v⟩ := e
    · exact ih fun m => h (.tail _ m)
    · have hk : ¬ k' = k := fun e => h (e ▸ .head _)
      simp only [optEntries, lookupLast, ih fun m => h (.tail _ m), hk, if_false]

theorem lookupLast_optEntries {s : List (Str × Option Str)} (hs : (s.map Prod.fst).Nodup) {k : Str} {o : Option Str}
    (h : (k, o) ∈ s) : lookupLast k (optEntries s) = o := by
  induction s with
  | nil => cases h
  | cons e r ih =>
    obtain ⟨k', o'⟩ := e
    rw [List.map_cons, List.nodup_cons] at hs
    cases h with
    | head =>
      cases o with
      | none => exact lookupLast_optEntries_none (s := r) hs.1
      | some v => simp only [optEntries, lookupLast, lookupLast_optEntries_none (s := r) hs.1, if_true]
    | tail _ h =>
      have hk : ¬ k' = k := fun e => hs.1 (e ▸ List.mem_map_of_mem (f := Prod.fst) (a := (k, o)) h)
      cases o' with
      | none => exact ih hs.2 h
      | some v =>
        simp only [optEntries, lookupLast, ih hs.2 h, hk, if_false]
        cases o <;> rfl

/-- `f.fmtp` as a table: every key the format may write, in order, with the value when it is written.  It restates
`Format.fmtp` (tied to it by `fmtp_eq_table`): an edit there has to be repeated here. -/
def Format.fmtpTable : Format → List (Str × Option Str)
  | av1 _ l p t => [(b!"level-idx", l.map dec), (b!"profile", p.map dec), (b!"tier", t.map dec)]
  | vp9 _ fr fs pid => [(b!"max-fr", fr.map dec), (b!"max-fs", fs.map dec), (b!"profile-id", pid.map dec)]
  | vp8 _ fr fs => [(b!"max-fr", fr.map dec), (b!"max-fs", fs.map dec)]
  | h265 _ vps sps pps mdd =>
    [(b!"sprop-max-don-diff", (if mdd ≠ 0 then some mdd else none).map dec), (b!"sprop-pps", pps.map b64),
     (b!"sprop-sps", sps.map b64), (b!"sprop-vps", vps.map b64)]
  | h264 _ sps pps pm =>
    [(b!"packetization-mode", (if pm ≠ 0 then some pm else none).map dec),
     (b!"profile-level-id", sps.bind fun s => if s.length ≥ 4 then some (hexEncodeUpper ((s.drop 1).take 3)) else none),
     (b!"sprop-parameter-sets", match sps, pps with
        | some s, some p => some (b64 s ++ 44 :: b64 p)
        | some s, none => some (b64 s)
        | none, some p => some (b64 p)
        | none, none => none)]
  | mpeg4video _ plid cfg => [(b!"config", cfg.map hexEncodeUpper), (b!"profile-level-id", some (dec plid))]
  | opus _ ch => allPresent (fmtpOpus ch)
  | vorbis _ _ _ cfg => [(b!"configuration", some (b64 (cfg.getD [])))]
  | mpeg4audio _ plid c sl il idl =>
    [(b!"config", some (hexEncode c.enc)), (b!"indexdeltalength", (if idl > 0 then some idl else none).map dec),
     (b!"indexlength", (if il > 0 then some il else none).map dec), (b!"mode", some b!"AAC-hbr"),
     (b!"profile-level-id", some (dec (if plid = 0 then 1 else plid))),
     (b!"sizelength", (if sl > 0 then some sl else none).map dec), (b!"streamtype", some b!"5")]
  | latm _ plid br cp smc sbr =>
    [(b!"SBR-enabled", sbr.map boolStr), (b!"bitrate", br.map dec),
     (b!"config", if cp then none else smc.map (hexEncode ·.enc)), (b!"cpresent", some (boolStr cp)),
     (b!"object", if cp then none else smc.map (dec ·.first.typ)), (b!"profile-level-id", some (dec plid))]
  | speex _ _ vbr => [(b!"vbr", vbr.map fun b => if b then b!"on" else b!"off")]
  | generic _ _ f _ => allPresent f
  | _ => []

theorem optEntries_cons_ite {c : Prop} [Decidable c] (k : Str) (n : Nat) (r : List (Str × Option Str)) :
    optEntries ((k, (if c then some n else none).map dec) :: r) = (if c then [(k, dec n)] else []) ++ optEntries r := by
  split <;> rfl

theorem fmtp_eq_table (f : Format) : f.fmtp = optEntries f.fmtpTable := by
  cases f with
  | av1 _ l p t => cases l <;> cases p <;> cases t <;> rfl
  | vp9 _ a b c => cases a <;> cases b <;> cases c <;> rfl
  | vp8 _ a b => cases a <;> cases b <;> rfl
  | h265 _ v s p m =>
    simp only [Format.fmtp, fmtpH265, fmtpTable, optEntries_cons_ite, List.append_assoc]
    cases v <;> cases s <;> cases p <;> rfl
  | h264 _ s p m =>
    simp only [Format.fmtp, fmtpH264, h264ProfileLevelId, h264ParameterSets, fmtpTable, optEntries_cons_ite, List.append_assoc]
    cases p <;> cases s with
    | none => rfl
    | some x => by_cases h4 : x.length ≥ 4 <;> simp only [h4, if_true, if_false, Option.bind_some] <;> rfl
  | mpeg4video _ l c => cases c <;> rfl
  | opus _ ch => exact (optEntries_allPresent _).symm
  | vorbis => rfl
  | mpeg4audio _ l c s i d =>
    simp only [Format.fmtp, fmtpMpeg4audio, fmtpTable, optEntries_cons_ite, optEntries, List.append_assoc, List.cons_append,
      List.nil_append]
  | latm _ l b cp s e => cases b <;> cases cp <;> cases s <;> cases e <;> rfl
  | speex _ _ v => cases v <;> rfl
  | generic _ _ fm _ => exact (optEntries_allPresent _).symm
  | _ => rfl

theorem fmtpOpus_keys (ch : Nat) : (fmtpOpus ch).map Prod.fst =
    if ch ≤ 2 then [b!"sprop-stereo"]
    else [b!"channel_mapping", b!"coupled_streams", b!"num_streams", b!"sprop-maxcapturerate"] := by
  simp only [fmtpOpus, apply_ite (List.map Prod.fst), List.map_cons, List.map_nil, ite_self]

/-- `toLower` in the second part: `decodeFMTP` lower-cases the keys before `unmarshalKind` looks them up. -/
theorem fmtpTable_keys {O : Oracle} {mt : Str} {f : Format} (h : ValidFormat O mt f) :
    (f.fmtpTable.map Prod.fst).Pairwise (fun a b => strLt a b = true) ∧ ((f.fmtpTable.map Prod.fst).map toLower).Nodup := by
  cases f with
  | generic pt rm fm clk =>
    obtain ⟨_, _, _, _, _, _, hkv, hsorted⟩ := h
    have hs : (fm.map Prod.fst).Pairwise (fun a b => strLt a b = true) := List.pairwise_map.mpr hsorted
    have hl : (fm.map Prod.fst).map toLower = fm.map Prod.fst := by
      rw [List.map_map]
      exact List.map_congr_left fun kv hkv' => toLower_id fun c hc => ((hkv kv hkv').1.2 c hc).2.2.1
    rw [fmtpTable, allPresent_keys, hl]
    exact ⟨hs, hs.imp strLt_ne⟩
  | opus pt ch =>
    rw [fmtpTable, allPresent_keys, fmtpOpus_keys]
    split <;> decide
  -- literal keys: compute the key list, then it is a closed fact about strings
  | _ => simp only [fmtpTable, List.map_cons, List.map_nil] <;> decide

theorem keysSorted_fmtp {O : Oracle} {mt : Str} {f : Format} (h : ValidFormat O mt f) : KeysSorted f.fmtp := by
  rw [fmtp_eq_table]
  exact List.pairwise_map.mp ((fmtpTable_keys h).1.sublist (optEntries_keys_sublist _))

/-- What a format's `unmarshal` can see of the context built from the format's own attributes.  `look` addresses a row by
its index, not by membership, so that `rfl` can compute key and value at the call site; the literal key is given as well
because it has to match the one in `unmarshalKind` syntactically. -/
structure IsCtxOf (f : Format) (c : Ctx) : Prop where
  pt : c.pt = f.pt
  codec : c.codec = (getCodecAndClock f.rtpmap).1
  clock : c.clock = (getCodecAndClock f.rtpmap).2
  look : ∀ (i : Nat) (k' : Str) {k : Str} {o : Option Str}, f.fmtpTable[i]? = some (k, o) → toLower k = k' →
    lookupLast k' c.fmtp = o

theorem isCtxOf {O : Oracle} {mt : Str} {f : Format} (h : ValidFormat O mt f) : IsCtxOf f (ctxOf mt f) where
  pt := rfl
  codec := rfl
  clock := rfl
  look := fun i k' k o hm hk => by
    show lookupLast k' (f.fmtp.map fun kv => (toLower kv.1, kv.2)) = o
    rw [fmtp_eq_table, map_keys_optEntries]
    refine lookupLast_optEntries ?_ (hk ▸ List.mem_map_of_mem (f := fun e => (toLower e.1, e.2)) (List.mem_of_getElem? hm))
    have := (fmtpTable_keys h).2
    rwa [List.map_map] at this ⊢

theorem IsCtxOf.uint {f : Format} {c : Ctx} (hc : IsCtxOf f c) {o : Option Nat} (ho : OptP31 o) (i : Nat) (k' : Str) {k : Str}
    (hm : f.fmtpTable[i]? = some (k, o.map dec) := by rfl) (hk : toLower k = k' := by rfl) : optUint31 c.fmtp k' = some o := by
  have h := hc.look i k' hm hk
  cases o with
  | none => simp only [optUint31, h, Option.map_none]
  | some n => simp only [optUint31, h, Option.map_some, parseUint_dec (bits := paramBits) ho]

theorem rt_of_kind {O : Oracle} {f : Format} {c : Ctx} (hc : IsCtxOf f c) (K : Kind)
    (hK : select (getCodecAndClock f.rtpmap).1 (getCodecAndClock f.rtpmap).2 f.pt = K) {r : Res Format}
    (hr : unmarshalKind O K c = r) : unmarshalCtx O c = r := by
  rw [unmarshalCtx, hc.codec, hc.clock, hc.pt, hK, hr]

theorem rt_of_kind_dyn {O : Oracle} {f : Format} {c : Ctx} (hc : IsCtxOf f c) (hpt : Dyn f.pt) (K : Kind)
    (hK : select (getCodecAndClock f.rtpmap).1 (getCodecAndClock f.rtpmap).2 96 = K) {r : Res Format}
    (hr : unmarshalKind O K c = r) : unmarshalCtx O c = r :=
  rt_of_kind hc K ((select_dyn hpt _ _).trans hK) hr

theorem optP31_ite {c : Prop} [Decidable c] {n : Nat} (h : P31 n) : OptP31 (if c then some n else none) := by
  split
  · exact h
  · trivial

theorem getD_ite_ne (n d : Nat) : (if n ≠ d then some n else none).getD d = n := by
  split
  · rfl
  · simp_all

theorem slash_not_mem_dec (n : Nat) : (47 : UInt8) ∉ dec n := not_mem_dec (by decide) n

theorem rateChannels_dec2 {r ch : Nat} (hr : Pos31 r) (hc : Pos31 ch) (d : Nat) :
    rateChannels (dec r ++ 47 :: dec ch) d = some (r, ch) := by
  have h1 : r ≠ 0 := by have := hr.1; omega
  have h2 : ch ≠ 0 := by have := hc.1; omega
  simp [rateChannels, cut_append _ (slash_not_mem_dec r), rateBits, parseUint_dec hr.2, parseUint_dec hc.2, h1, h2]

theorem rateChannels_dec1 {r : Nat} (hr : Pos31 r) (d : Nat) : rateChannels (dec r) d = some (r, d) := by
  have h1 : r ≠ 0 := by have := hr.1; omega
  simp [rateChannels, cut_none (slash_not_mem_dec r), rateBits, parseUint_dec hr.2, h1]

/-- G711 writes the channel count unless it is 1, which is also the default read back -/
theorem rateChannels_opt {r ch : Nat} (hr : Pos31 r) (hc : Pos31 ch) :
    rateChannels (dec r ++ if ch ≠ 1 then 47 :: dec ch else []) 1 = some (r, ch) := by
  split
  · exact rateChannels_dec2 hr hc 1
  · rename_i h
    rw [List.append_nil, Decidable.not_not.mp h]
    exact rateChannels_dec1 hr 1

end Rtsp.Sdp
