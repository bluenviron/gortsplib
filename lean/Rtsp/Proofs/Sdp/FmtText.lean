import Rtsp.Proofs.Sdp.FmtTable
import Rtsp.Proofs.Sdp.B64HexText
import Rtsp.Proofs.Common.Steps
/-
Text shape of what a valid format writes: rtpmap and fmtp entries are made of printable characters
that the attribute parsers do not treat specially, and fmtp keys are sorted.
-/
namespace Rtsp.Sdp
open Format

/-- printable ASCII other than blank and `;` -/
def plainCh (c : UInt8) : Bool := 33 ≤ c && c ≤ 126 && c != 59
/-- characters of fmtp keys: plain, not `=` -/
def keyCh (c : UInt8) : Bool := plainCh c && c != 61

def Plain (s : Str) : Prop := ∀ c ∈ s, plainCh c = true
def KeyStr (s : Str) : Prop := s ≠ [] ∧ ∀ c ∈ s, keyCh c = true
instance (s : Str) : Decidable (Plain s) := inferInstanceAs (Decidable (∀ c ∈ s, plainCh c = true))
instance (s : Str) : Decidable (KeyStr s) := inferInstanceAs (Decidable (s ≠ [] ∧ ∀ c ∈ s, keyCh c = true))

/-! The character classes are byte ranges: each inclusion is arithmetic on `toNat`. -/

theorem plainCh_spec {c : UInt8} (h : plainCh c = true) :
    isAscii c = true ∧ isSpace c = false ∧ c ≠ 59 ∧ c ≠ 10 ∧ c ≠ 13 ∧ c ≠ 32 := by
  revert h
  simp only [isAscii, isSpace, plainCh, Bool.and_eq_true, decide_eq_true_eq, Bool.or_eq_false_iff, Bool.and_eq_false_iff,
    decide_eq_false_iff_not, bne_iff_ne, ne_eq, UInt8.le_iff_toNat_le, UInt8.lt_iff_toNat_lt, ← UInt8.toNat_inj,
    UInt8.reduceToNat, beq_eq_false_iff_ne]
  omega

theorem isDigit_plain {c : UInt8} (h : isDigit c = true) : plainCh c = true ∧ keyCh c = true := by
  revert h
  simp only [isDigit, keyCh, plainCh, Bool.and_eq_true, decide_eq_true_eq, bne_iff_ne, ne_eq, UInt8.le_iff_toNat_le,
    ← UInt8.toNat_inj, UInt8.reduceToNat]
  omega

theorem plain_dec (n : Nat) : Plain (dec n) := fun _ hc => (isDigit_plain (mem_dec_isDigit hc)).1

theorem isB64_plain : ∀ c : UInt8, isB64 c = true → plainCh c = true := by
  intro c
  simp only [isB64, isAlnum, isDigit, isUpper, isLower, plainCh, Bool.or_eq_true, Bool.and_eq_true, decide_eq_true_eq,
    beq_iff_eq, bne_iff_ne, ne_eq, UInt8.le_iff_toNat_le, ← UInt8.toNat_inj, UInt8.reduceToNat]
  omega

theorem plain_b64 (b : Bytes) : Plain (b64 b) := fun c hc => isB64_plain c (mem_b64_isB64 hc)

theorem isHexCh_plain : ∀ c : UInt8, isHexCh c = true → plainCh c = true := by
  intro c
  simp only [isHexCh, isDigit, plainCh, Bool.or_eq_true, Bool.and_eq_true, decide_eq_true_eq, bne_iff_ne, ne_eq,
    UInt8.le_iff_toNat_le, ← UInt8.toNat_inj, UInt8.reduceToNat]
  omega

theorem plain_hex (b : Bytes) : Plain (hexEncode b) := fun c hc => isHexCh_plain c (mem_hexEncode hc)
theorem plain_hexU (b : Bytes) : Plain (hexEncodeUpper b) := fun c hc => isHexCh_plain c (mem_hexEncodeUpper hc)

theorem plain_append_iff {a b : Str} : Plain (a ++ b) ↔ Plain a ∧ Plain b := by
  simp only [Plain, List.mem_append, or_imp, forall_and]

theorem plain_cons_iff {x : UInt8} {b : Str} : Plain (x :: b) ↔ plainCh x = true ∧ Plain b := by
  simp only [Plain, List.mem_cons, forall_eq_or_imp]

theorem forall_mem_ite {α : Type} {c : Prop} [Decidable c] {a b : List α} {P : α → Prop} (ha : ∀ x ∈ a, P x)
    (hb : ∀ x ∈ b, P x) : ∀ x ∈ (if c then a else b), P x :=
  ite_both (P := fun l => ∀ x ∈ l, P x) ha hb

/-- what the attribute layer needs of a value: no `;`, no line break, ASCII, white space only as inner blanks -/
structure ValOk (v : Str) : Prop where
  nosemi : ∀ c ∈ v, c ≠ 59
  ascii : Ascii v
  nonl : NoNL v
  last : ∀ c, v.getLast? = some c → isSpace c = false

theorem valOk_of_plain {v : Str} (h : Plain v) : ValOk v where
  nosemi := fun c hc => (plainCh_spec (h c hc)).2.2.1
  ascii := fun c hc => (plainCh_spec (h c hc)).1
  nonl := fun c hc => ⟨(plainCh_spec (h c hc)).2.2.2.1, (plainCh_spec (h c hc)).2.2.2.2.1⟩
  last := fun c hc => (plainCh_spec (h c (List.mem_of_getLast? hc))).2.1

/-- what the attribute layer needs of a key -/
structure KeyOk (k : Str) : Prop where
  ne : k ≠ []
  chars : ∀ c ∈ k, c ≠ 59 ∧ c ≠ 61 ∧ c ≠ 32 ∧ c ≠ 10 ∧ c ≠ 13 ∧ isAscii c = true

theorem keyOk_of_keyStr {k : Str} (h : KeyStr k) : KeyOk k where
  ne := h.1
  chars := fun c hc => by
    have hk := h.2 c hc
    simp only [keyCh, Bool.and_eq_true, bne_iff_ne, ne_eq] at hk
    have hp := plainCh_spec hk.1
    exact ⟨hp.2.2.1, hk.2, hp.2.2.2.2.2, hp.2.2.2.1, hp.2.2.2.2.1, hp.1⟩

structure FmtTextOk (f : Format) : Prop where
  pt_lt : f.pt < 256
  rtpmap_ascii : Ascii f.rtpmap
  rtpmap_nonl : NoNL f.rtpmap
  rtpmap_last : ∀ c, f.rtpmap.getLast? = some c → isSpace c = false
  keys : ∀ kv ∈ f.fmtp, KeyOk kv.1
  vals : ∀ kv ∈ f.fmtp, ValOk kv.2
  sorted : KeysSorted f.fmtp

def OptPlain (o : Option Str) : Prop := ∀ v, o = some v → Plain v

theorem optPlain_none : OptPlain none := fun _ h => nomatch h
theorem optPlain_some {v : Str} (h : Plain v) : OptPlain (some v) := fun _ e => Option.some.inj e ▸ h
theorem optPlain_some_iff {v : Str} : OptPlain (some v) ↔ Plain v := ⟨fun h => h v rfl, optPlain_some⟩
theorem optPlain_map {α : Type} {g : α → Str} (hg : ∀ a, Plain (g a)) (o : Option α) : OptPlain (o.map g) := by
  cases o with
  | none => exact optPlain_none
  | some a => exact optPlain_some (hg a)

theorem plain_boolStr (b : Bool) : Plain (boolStr b) := by cases b <;> decide

/-- The rtpmap is built from literals, `dec` and `if` by `++` and `::`: split there; the `dec` parts are plain by
`plain_dec`, the literal parts by evaluation. -/
theorem plain_rtpmap (f : Format) (hg : ∀ pt rm fm clk, f ≠ .generic pt rm fm clk) : Plain f.rtpmap := by
  cases f with
  | generic pt rm fm clk => exact absurd rfl (hg pt rm fm clk)
  | _ =>
    -- the one `match` in `rtpmap` is on the StreamMuxConfig of LATM
    (try cases ‹Option Smc›) <;> simp only [Format.rtpmap] <;>
      simp (config := { decide := true }) only [plain_append_iff, plain_cons_iff, plain_dec, apply_ite Plain, ite_self,
        and_self]

theorem fmtpTable_plain (f : Format) (hg : ∀ pt rm fm clk, f ≠ .generic pt rm fm clk) :
    ∀ e ∈ f.fmtpTable, KeyStr e.1 ∧ OptPlain e.2 := by
  cases f with
  | generic pt rm fm clk => exact absurd rfl (hg pt rm fm clk)
  | opus _ ch =>
    intro e he
    obtain ⟨kv, hkv, rfl⟩ := List.mem_map.mp he
    have : ∀ kv ∈ fmtpOpus ch, KeyStr kv.1 ∧ Plain kv.2 := by
      unfold fmtpOpus
      refine forall_mem_ite (fun kv hkv => ?_) ?_
      · obtain rfl := List.mem_singleton.mp hkv
        exact ⟨(by decide : KeyStr b!"sprop-stereo"), by split <;> decide⟩
      · repeat' apply forall_mem_ite
        all_goals decide
    exact ⟨(this kv hkv).1, optPlain_some (this kv hkv).2⟩
  | h264 _ s p _ =>
    cases s <;> cases p <;>
      simp (config := { decide := true }) only [fmtpTable, List.forall_mem_cons, List.not_mem_nil, false_imp_iff, implies_true,
        optPlain_map plain_dec, optPlain_none, optPlain_some_iff, Option.bind_none, Option.bind_some, apply_ite OptPlain, ite_self,
        plain_append_iff, plain_cons_iff, plain_b64, plain_hexU, and_self]
  | _ =>
    simp (config := { decide := true }) only [fmtpTable, List.forall_mem_cons, List.not_mem_nil, false_imp_iff, implies_true,
      optPlain_map, optPlain_none, optPlain_some_iff, apply_ite OptPlain, apply_ite Plain, ite_self, plain_dec, plain_b64,
      plain_hex, plain_hexU, plain_boolStr, and_self]

theorem entries_fmtp (f : Format) (hg : ∀ pt rm fm clk, f ≠ .generic pt rm fm clk) :
    ∀ kv ∈ f.fmtp, KeyStr kv.1 ∧ Plain kv.2 := by
  intro kv hkv
  rw [fmtp_eq_table] at hkv
  have := fmtpTable_plain f hg _ (mem_optEntries hkv)
  exact ⟨this.1, this.2 _ rfl⟩

theorem valid_pt_lt {O : Oracle} {mt : Str} {f : Format} (h : ValidFormat O mt f) : f.pt < 256 := by
  cases f <;> simp only [ValidFormat, Dyn] at h <;> simp only [Format.pt, Rtsp.Facts.Sdp.mpeg1VideoPT, Rtsp.Facts.Sdp.mjpegPT,
    Rtsp.Facts.Sdp.mpeg1AudioPT, Rtsp.Facts.Sdp.g722PT, Rtsp.Facts.Sdp.mpegtsPT] <;> omega

theorem fmtTextOk_of_fixed {O : Oracle} {mt : Str} {f : Format} (h : ValidFormat O mt f)
    (hg : ∀ pt rm fm clk, f ≠ .generic pt rm fm clk) : FmtTextOk f :=
  have hr := valOk_of_plain (plain_rtpmap f hg)
  { pt_lt := valid_pt_lt h
    rtpmap_ascii := hr.ascii
    rtpmap_nonl := hr.nonl
    rtpmap_last := hr.last
    keys := fun kv hkv => keyOk_of_keyStr (entries_fmtp f hg kv hkv).1
    vals := fun kv hkv => valOk_of_plain (entries_fmtp f hg kv hkv).2
    sorted := keysSorted_fmtp h }

theorem fmtTextOk {O : Oracle} {mt : Str} {f : Format} (h : ValidFormat O mt f) : FmtTextOk f := by
  cases f with
  | generic pt rm fm clk =>
    obtain ⟨hpt, _, _, hrm, _, hlast, hkv, hsorted⟩ := h
    have nl_of : ∀ c : UInt8, (isSpace c = true → c = 32) → c ≠ 10 ∧ c ≠ 13 := by
      intro c hc
      constructor <;> (intro e; subst e; have := hc (by decide); revert this; decide)
    exact
      { pt_lt := hpt
        rtpmap_ascii := fun c hc => (hrm c hc).1
        rtpmap_nonl := fun c hc => nl_of c (hrm c hc).2
        rtpmap_last := hlast
        keys := fun kv hkv' =>
          { ne := (hkv kv hkv').1.1
            chars := fun c hc => by
              obtain ⟨h59, h61, _, hasc, hsp⟩ := (hkv kv hkv').1.2 c hc
              refine ⟨h59, h61, ?_, ?_, ?_, hasc⟩ <;> (intro e; subst e; revert hsp; decide) }
        vals := fun kv hkv' =>
          { nosemi := fun c hc => ((hkv kv hkv').2.1 c hc).1
            ascii := fun c hc => ((hkv kv hkv').2.1 c hc).2.1
            nonl := fun c hc => nl_of c ((hkv kv hkv').2.1 c hc).2.2
            last := fun c hc => by
              cases hs : isSpace c with
              | false => rfl
              | true =>
                have := ((hkv kv hkv').2.1 c (List.mem_of_getLast? hc)).2.2 hs
                subst this
                exact absurd hc (hkv kv hkv').2.2.2 }
        sorted := hsorted }
  | _ => exact fmtTextOk_of_fixed h nofun

end Rtsp.Sdp
