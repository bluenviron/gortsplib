import Rtsp.Proofs.Sdp.Accepted
import Rtsp.Proofs.Sdp.ParsedWf
import Rtsp.Proofs.Sdp.SessionRoundTrip
import Rtsp.Proofs.Sdp.FmtUnmarshal
/-
Where `GoodSession` holds.  Of every valid session: the per-format condition is `fmtTextOk` (`FmtText`) with
`unmarshalCtx_own` (`FmtUnmarshal`), the rest is shared with `ValidSession`.  Of whatever the parser accepted: every
structural hypothesis of the round trip; what remains is the per-format condition, distinct payload types and a coherent
MIKEY oracle.
-/
namespace Rtsp.Sdp

theorem goodFormat_of_valid {O : Oracle} {mt : Str} {f : Format} (h : ValidFormat O mt f) : GoodFormat O mt f :=
  ⟨fmtTextOk h, unmarshalCtx_own h (isCtxOf h) fun _ _ _ _ _ => rfl⟩

theorem goodMedia_of_valid {O : Oracle} {m : Media} (h : ValidMedia O m) : GoodMedia O m :=
  { h with formats_ok := fun f hf => goodFormat_of_valid (h.formats_ok f hf) }

theorem goodSession_of_valid {O : Oracle} {s : Session} (h : ValidSession O s) : GoodSession O s :=
  { h with medias_ok := fun m hm => goodMedia_of_valid (h.medias_ok m hm) }

/-- **C05, the round trip**: marshalling a valid session to SDP text and parsing the text gives the session. -/
theorem unmarshal_marshal (O : Oracle) (multicast : Bool) (s : Session) (hs : ValidSession O s) :
    unmarshal O (marshal multicast s) = .ok s := unmarshal_marshal_good O multicast s (goodSession_of_valid hs)

theorem goodSession_of_accepted (O : Oracle) (t : Str) (s : Session) (h : unmarshal O t = .ok s)
    (hmk : ∀ raw k, O.mikey raw = some k → O.mikey k = some k)
    (hfm : ∀ m ∈ s.medias, (∀ f ∈ m.formats, GoodFormat O m.typ f) ∧ m.formats.Pairwise fun a b => a.pt ≠ b.pt) :
    GoodSession O s := by
  obtain ⟨d, hp, hdoc⟩ := Res.bind_eq_ok.mp h
  have hacc := unmarshalDoc_post O d s hdoc
  have hd : WfDoc d := wfDoc_parse hp
  obtain ⟨ms, _, hnew, _, _, hmed, _, hkm, htitle⟩ := unmarshalDoc_inv hdoc
  exact
    { title_ok := fun c hc => by
        rw [htitle] at hc
        split at hc
        · cases hc
        · exact hd.name_nonl c hc
      title_not_blank := hacc.title_not_blank
      keymgmt_ok := unmarshalKeyMgmt_post hmk hkm
      medias_ne := hacc.medias_ne
      medias_ok := fun m hm => by
        obtain ⟨b, hb⟩ := mem_unmark (hmed ▸ hm)
        obtain ⟨md, hmd, hmd0⟩ := hnew _ hb
        have hw := hd.medias_ok md hmd
        obtain ⟨htyp, hctl, hk0, _⟩ := unmarshalMedia_inv hmd0
        exact
          { type_ok := htyp ▸ hw.type_ok
            type_chars := fun c hc => by rw [htyp] at hc; exact ⟨hw.type_nosp c hc, hw.type_ascii c hc⟩
            id_alnum := hacc.ids_alnum m hm
            keymgmt_ok := unmarshalKeyMgmt_post hmk hk0
            control_ok := hctl ▸ getAttribute_chars hw.attrs_ok
            formats_ne := hacc.formats_ne m hm
            formats_ok := (hfm m hm).1
            pts_distinct := (hfm m hm).2 }
      ids := hacc.ids
      not_all_back := hacc.not_all_back
      fec_ok := fun g hg => ⟨(hacc.fec g hg).1, fun id hid => by
        obtain ⟨m, hm, hmid⟩ := (hacc.fec g hg).2 id hid
        exact ⟨hmid ▸ hacc.ids_alnum m hm, m, hm, hmid⟩⟩ }

end Rtsp.Sdp
