import Rtsp.Proofs.Sdp.ParseRender
import Rtsp.Proofs.Common.Steps
/-
Every document the tolerant parser returns is well formed — so writing it out and parsing it again
returns the same document (text-layer idempotence, for arbitrary input bytes: `C05.sdp_reparse_idempotent`).
-/
namespace Rtsp.Sdp

theorem splitOn_mem {sep : UInt8} {s p : Str} (h : p ∈ splitOn sep s) : sep ∉ p ∧ ∀ c ∈ p, c ∈ s := by
  have nil : ∀ {r : Str}, sep ∉ ([] : Str) ∧ ∀ c ∈ ([] : Str), c ∈ r := ⟨List.not_mem_nil, fun _ h => nomatch h⟩
  fun_induction splitOn sep s generalizing p with
  | case1 => exact List.mem_singleton.mp h ▸ nil
  | case2 cs ih =>
    rcases List.mem_cons.mp h with rfl | h
    · exact nil
    · exact ⟨(ih h).1, fun y hy => .tail _ ((ih h).2 y hy)⟩
  | case3 c cs hc e ih => exact absurd e (splitOn_ne_nil _ cs)
  | case4 c cs hc q qs e ih =>
    rw [e] at ih
    rcases List.mem_cons.mp h with rfl | h
    · have hq := ih (.head _)
      exact ⟨fun hm => (List.mem_cons.mp hm).elim (fun e => hc e.symm) hq.1,
        fun y hy => (List.mem_cons.mp hy).elim (· ▸ .head _) fun hy => .tail _ (hq.2 y hy)⟩
    · exact ⟨(ih (.tail _ h)).1, fun y hy => .tail _ ((ih (.tail _ h)).2 y hy)⟩

theorem lines_ok (t : Str) : ∀ l ∈ linesOf t, NoNL l := by
  intro l hl
  simp only [linesOf, List.mem_filter, Bool.not_eq_true'] at hl
  have hs := splitOn_mem hl.1
  intro c hc
  refine ⟨fun e => hs.1 (e ▸ hc), ?_⟩
  have := hs.2 c hc
  simp only [List.mem_filter, bne_iff_ne, ne_eq] at this
  exact this.2

theorem fields_mem {s w : Str} (h : w ∈ fields s) : w ≠ [] ∧ NoSp w ∧ ∀ c ∈ w, c ∈ s := by
  have up : ∀ {x : UInt8} {r w : Str}, (w ≠ [] ∧ NoSp w ∧ ∀ c ∈ w, c ∈ r) → w ≠ [] ∧ NoSp w ∧ ∀ c ∈ w, c ∈ x :: r :=
    fun ⟨a, b, c⟩ => ⟨a, b, fun y hy => .tail _ (c y hy)⟩
  have one : ∀ {x : UInt8} {r : Str}, ¬ isSpace x = true → [x] ≠ [] ∧ NoSp [x] ∧ ∀ c ∈ [x], c ∈ x :: r :=
    fun hx => ⟨nofun, fun c hc => List.mem_singleton.mp hc ▸ Bool.eq_false_iff.mpr hx,
      fun c hc => List.mem_singleton.mp hc ▸ .head _⟩
  fun_induction fields s generalizing w with
  | case1 => cases h
  | case2 c cs hc ih => exact up (ih h)
  | case3 c hc => exact List.mem_singleton.mp h ▸ one hc
  | case4 c hc d tl hd ih =>
    rcases List.mem_cons.mp h with rfl | h
    · exact one hc
    · exact up (ih h)
  | case5 c hc d tl hd q qs e ih =>
    rw [e] at h ih
    rcases List.mem_cons.mp h with rfl | h
    · have hq := ih (.head _)
      exact ⟨nofun, fun y hy => (List.mem_cons.mp hy).elim (· ▸ Bool.eq_false_iff.mpr hc) (hq.2.1 y),
        fun y hy => (List.mem_cons.mp hy).elim (· ▸ .head _) fun hy => .tail _ (hq.2.2 y hy)⟩
    · exact up (ih (.tail _ h))
  | case6 c hc d tl hd e ih =>
    rw [e] at h
    exact List.mem_singleton.mp h ▸ one hc

theorem indexOf_single_spec {c : UInt8} {s : Str} {i : Nat} (h : indexOf [c] s = some i) :
    c ∉ s.take i ∧ i < s.length := by
  induction s generalizing i with
  | nil => simp [indexOf] at h
  | cons x xs ih =>
    simp only [indexOf, List.isPrefixOf] at h
    by_cases hx : c = x
    · subst hx
      simp at h
      subst h
      simp
    · have hx' : (c == x) = false := by simpa using hx
      simp only [hx', Bool.false_and, Bool.false_eq_true, if_false, Option.map_eq_some_iff] at h
      obtain ⟨j, hj, rfl⟩ := h
      have := ih hj
      refine ⟨?_, by simp; omega⟩
      intro hm
      simp only [List.take_succ_cons, List.mem_cons] at hm
      rcases hm with e | hm
      · exact hx e
      · exact this.1 hm

theorem attrRT_parseAttr (v : Str) (hnl : NoNL v) (hasc : Ascii v) : AttrRT (parseAttr v) := by
  unfold parseAttr
  split
  · rename_i i hi
    have hspec := indexOf_single_spec hi
    have hsub1 : ∀ c ∈ v.take (i + 1), c ∈ v := fun c hc => List.mem_of_mem_take hc
    have hsub2 : ∀ c ∈ v.drop (i + 2), c ∈ v := fun c hc => List.mem_of_mem_drop hc
    refine attrRT_of_wf ⟨⟨fun e => ?_, hspec.1, fun c hc => ⟨hasc c (hsub1 c hc), hnl c (hsub1 c hc)⟩⟩,
      fun c hc => ⟨hasc c (hsub2 c hc), hnl c (hsub2 c hc)⟩⟩
    have := congrArg List.length e
    simp only [List.length_take, List.length_nil] at this
    omega
  · rename_i hno
    have hr : renderAttr ⟨v, []⟩ = v := by simp [renderAttr]
    refine ⟨?_, by rw [hr]; exact hnl, by rw [hr]; exact hasc⟩
    rw [hr]
    unfold parseAttr
    split
    · rename_i i hi; exact absurd hi (hno i)
    · rfl

theorem wfMedia_parseMediaLine {val : Str} {m : MediaD} (hasc : Ascii val) (h : parseMediaLine val = some m) : WfMedia m := by
  unfold parseMediaLine at h
  split at h
  · rename_i f0 f1 f2 f3 rest hf
    have hmem : ∀ w, w ∈ f0 :: f1 :: f2 :: f3 :: rest → w ≠ [] ∧ NoSp w ∧ ∀ c ∈ w, c ∈ val := by
      intro w hw; rw [← hf] at hw; exact fields_mem hw
    split at h
    · cases h
    · rename_i ht
      split at h
      · cases h
      · split at h
        · cases h
        · rename_i hp
          simp only [Option.some.injEq] at h
          subst h
          have h0 := hmem f0 (by simp)
          have h2 := hmem f2 (by simp)
          exact
            { type_ok := by simpa using ht
              type_nosp := h0.2.1
              type_ascii := fun c hc => hasc c (h0.2.2 c hc)
              protos_ne := splitOn_ne_nil 47 f2
              protos_ok := by
                have : (splitOn 47 f2).all protoOk = true := by simpa using hp
                rw [List.all_eq_true] at this
                exact this
              fmts_ne := by simp
              fmts_ok := by
                intro f hf'
                have hfm : f ∈ f0 :: f1 :: f2 :: f3 :: rest := by
                  simp only [List.mem_cons] at hf' ⊢
                  rcases hf' with rfl | hf'
                  · exact Or.inr (Or.inr (Or.inr (Or.inl rfl)))
                  · exact Or.inr (Or.inr (Or.inr (Or.inr hf')))
                have := hmem f hfm
                exact ⟨this.1, this.2.1, fun c hc => hasc c (this.2.2 c hc)⟩
              attrs_ok := by intro a ha; simp at ha }
  · cases h

theorem forall_mem_concat {α : Type} {P : α → Prop} {l : List α} {a : α} (hl : ∀ x ∈ l, P x) (ha : P a) : ∀ x ∈ l ++ [a], P x :=
  List.forall_mem_append.mpr ⟨hl, List.forall_mem_singleton.mpr ha⟩

theorem wfDoc_addAttr {d : Doc} (h : WfDoc d) {a : Attr} (ha : AttrRT a) : WfDoc { d with attrs := d.attrs ++ [a] } :=
  ⟨h.name_nonl, forall_mem_concat h.attrs_ok ha, h.medias_ok⟩

theorem wfDoc_addMedia {d : Doc} (h : WfDoc d) {m : MediaD} (hm : WfMedia m) : WfDoc { d with medias := d.medias ++ [m] } :=
  ⟨h.name_nonl, h.attrs_ok, forall_mem_concat h.medias_ok hm⟩

theorem wfDoc_addMediaAttr {d : Doc} (h : WfDoc d) {a : Attr} (ha : AttrRT a) : WfDoc (addMediaAttr d a) := by
  unfold addMediaAttr
  split
  · rename_i m hm
    have hwm := h.medias_ok m (List.mem_of_getLast? hm)
    exact ⟨h.name_nonl, h.attrs_ok, forall_mem_concat (fun x hx => h.medias_ok x ((List.dropLast_sublist _).subset hx))
      { hwm with attrs_ok := forall_mem_concat hwm.attrs_ok ha }⟩
  · exact h

/-! `OkWf r`: if `r` is `ok`, its document is well formed.  The handlers are `if` chains over the key: one `iteInduction`
(core's) per `else if` of the model, each naming its condition so that a change of the model is reported at that line; one
lemma per kind of leaf. -/

def OkWf (r : Res (St × Doc)) : Prop := ∀ st' d', r = .ok (st', d') → WfDoc d'

theorem okWf_ok {st : St} {d : Doc} (h : WfDoc d) : OkWf (.ok (st, d)) := fun _ _ e => by cases e; exact h
theorem okWf_err : OkWf .err := nofun
theorem okWf_unm : OkWf .unm := nofun

theorem okWf_test {c : Prop} [Decidable c] {st : St} {d : Doc} (h : WfDoc d) : OkWf (if c then .ok (st, d) else .err) :=
  iteInduction (fun _ => okWf_ok h) fun _ => okWf_err

theorem okWf_bind {α : Type} {x : Res α} {st : St} {d : Doc} (h : WfDoc d) : OkWf (x.bind fun _ => .ok (st, d)) := by
  cases x
  · exact okWf_ok h
  · exact okWf_err
  · exact okWf_unm

theorem okWf_mediaName {d : Doc} {val : Str} (h : WfDoc d) (hasc : Ascii val) :
    OkWf (match parseMediaLine val with
      | some m => .ok (.media, { d with medias := d.medias ++ [m] })
      | none => .err) := by
  cases hm : parseMediaLine val with
  | none => exact okWf_err
  | some m => exact okWf_ok (wfDoc_addMedia h (wfMedia_parseMediaLine hasc hm))

theorem okWf_sessionLine {d : Doc} {key : UInt8} {val : Str} (h : WfDoc d) (hnl : NoNL val)
    (hasc : opaqueKey key = false → Ascii val) : OkWf (sessionLine d key val) :=
  iteInduction (c := key = 111) (fun _ => okWf_test h) fun _ =>
  iteInduction (c := key = 115) (fun _ => okWf_ok ⟨hnl, h.attrs_ok, h.medias_ok⟩) fun _ =>
  iteInduction (c := key = 105 ∨ key = 101 ∨ key = 112 ∨ key = 107) (fun _ => okWf_ok h) fun _ =>
  iteInduction (c := key = 117) (fun _ => okWf_unm) fun _ =>
  iteInduction (c := key = 99) (fun _ => okWf_bind h) fun _ =>
  iteInduction (c := key = 98) (fun _ => okWf_test h) fun _ =>
  iteInduction (c := key = 122) (fun _ => okWf_test h) fun _ =>
  iteInduction (c := key = 97) (fun ha => okWf_ok (wfDoc_addAttr h (attrRT_parseAttr val hnl (hasc (by subst ha; rfl))))) fun _ =>
  iteInduction (c := key = 116) (fun _ => okWf_test h) fun _ =>
  iteInduction (c := key = 109) (fun hm => okWf_mediaName h (hasc (by subst hm; rfl))) fun _ => okWf_err

theorem okWf_mediaLine {d : Doc} {key : UInt8} {val : Str} (h : WfDoc d) (hnl : NoNL val)
    (hasc : opaqueKey key = false → Ascii val) : OkWf (mediaLine d key val) :=
  iteInduction (c := key = 109) (fun hm => okWf_mediaName h (hasc (by subst hm; rfl))) fun _ =>
  iteInduction (c := key = 105 ∨ key = 107) (fun _ => okWf_ok h) fun _ =>
  iteInduction (c := key = 99) (fun _ => iteInduction (fun _ => okWf_ok h) fun _ => okWf_bind h) fun _ =>
  iteInduction (c := key = 98) (fun _ => okWf_test h) fun _ =>
  iteInduction (c := key = 97) (fun ha => okWf_ok (wfDoc_addMediaAttr h (attrRT_parseAttr val hnl (hasc (by subst ha; rfl)))))
    fun _ => okWf_err

theorem ite_ne {α : Type} {c : Prop} [Decidable c] {a b y : α} (ha : a ≠ y) (hb : b ≠ y) : (if c then a else b) ≠ y :=
  ite_both (P := (· ≠ y)) ha hb

theorem nonAsciiLine_not_ok (st : St) (key : UInt8) (x : St × Doc) : nonAsciiLine st key ≠ .ok x := by
  cases st
  case media => exact ite_ne nofun nofun
  all_goals exact ite_ne nofun (ite_ne (ite_ne nofun nofun) (ite_ne nofun nofun))

theorem okWf_keyLine {st : St} {d : Doc} {key : UInt8} {val : Str} (h : WfDoc d) (hnl : NoNL val)
    (hasc : opaqueKey key = false → Ascii val) : OkWf (keyLine st d key val) := by
  cases st with
  | initial => exact iteInduction (fun _ => okWf_test h) fun _ => okWf_sessionLine h hnl hasc
  | session => exact okWf_sessionLine h hnl hasc
  | media => exact okWf_mediaLine h hnl hasc
  | time => exact iteInduction (fun _ => okWf_test h) fun _ => okWf_sessionLine h hnl hasc

theorem wfDoc_stepLine {st st' : St} {d d' : Doc} {line : Str} (h : WfDoc d) (hnl : NoNL line)
    (hs : stepLine st d line = .ok (st', d')) : WfDoc d' := by
  unfold stepLine at hs
  split at hs
  · rename_i key val
    have hvnl : NoNL val := fun c hc => hnl c (by simp [hc])
    split at hs
    · exact absurd hs (nonAsciiLine_not_ok _ _ _)
    · rename_i hcond
      have hasc : opaqueKey key = false → Ascii val := by
        intro hk
        simp only [hk, Bool.not_false, Bool.true_and, Bool.not_eq_true', Bool.not_eq_false] at hcond
        intro c hc
        exact Text.mem_all (by simpa using hcond) hc
      exact okWf_keyLine h hvnl hasc _ _ hs
  · cases hs

theorem wfDoc_runLines {st : St} {d d' : Doc} {ls : List Str} (h : WfDoc d) (hls : ∀ l ∈ ls, NoNL l)
    (hr : runLines st d ls = .ok d') : WfDoc d' := by
  induction ls generalizing st d with
  | nil => simp only [runLines, Res.ok.injEq] at hr; subst hr; exact h
  | cons l ls ih =>
    simp only [runLines] at hr
    cases hstep : stepLine st d l with
    | ok x =>
      obtain ⟨st1, d1⟩ := x
      rw [hstep] at hr
      exact ih (wfDoc_stepLine h (hls l (by simp)) hstep) (fun x hx => hls x (by simp [hx])) hr
    | err => rw [hstep] at hr; cases hr
    | unm => rw [hstep] at hr; cases hr

theorem wfDoc_parse {t : Str} {d : Doc} (h : parse t = .ok d) : WfDoc d := by
  unfold parse at h
  refine wfDoc_runLines ⟨by intro c hc; simp [Doc.empty] at hc, by intro a ha; simp [Doc.empty] at ha,
    by intro m hm; simp [Doc.empty] at hm⟩ (lines_ok t) h

theorem wfDoc_of_render {mc : Bool} {d : Doc} (h : parse (render mc d) = .ok d) : WfDoc d := wfDoc_parse h

end Rtsp.Sdp
