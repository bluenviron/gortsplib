import Rtsp.Model.Sdp.Doc
import Rtsp.Proofs.Sdp.Str
/-
Line splitting: the lines of a CRLF-terminated text are its lines.
-/
namespace Rtsp.Sdp

theorem filter_cr_line {l : Str} (h : NoNL l) : l.filter (· != 13) = l := by
  rw [List.filter_eq_self]
  intro c hc
  simpa using (h c hc).2

theorem filter_cr_flat (ls : List Str) (h : ∀ l ∈ ls, NoNL l) :
    (ls.flatMap (· ++ crlf)).filter (· != 13) = ls.flatMap (· ++ [10]) := by
  induction ls with
  | nil => rfl
  | cons l ls ih =>
    simp only [List.flatMap_cons, List.filter_append, filter_cr_line (h l (by simp)),
      ih (fun x hx => h x (by simp [hx]))]
    simp [crlf]

theorem splitOn_flat (ls : List Str) (h : ∀ l ∈ ls, NoNL l) :
    splitOn 10 (ls.flatMap (· ++ [10])) = ls ++ [[]] := by
  induction ls with
  | nil => rfl
  | cons l ls ih =>
    have hl : (10 : UInt8) ∉ l := fun hm => (h l (by simp) 10 hm).1 rfl
    simp only [List.flatMap_cons, List.append_assoc, List.cons_append, List.nil_append]
    rw [splitOn_append _ hl, ih (fun x hx => h x (by simp [hx]))]

theorem linesOf_flat (ls : List Str) (h : ∀ l ∈ ls, NoNL l ∧ l ≠ []) :
    linesOf (ls.flatMap (· ++ crlf)) = ls := by
  unfold linesOf
  rw [filter_cr_flat ls (fun l hl => (h l hl).1), splitOn_flat ls (fun l hl => (h l hl).1)]
  rw [List.filter_append]
  have : ls.filter (fun x => !x.isEmpty) = ls := by
    rw [List.filter_eq_self]
    intro l hl
    have := (h l hl).2
    cases l with
    | nil => exact absurd rfl this
    | cons _ _ => rfl
  rw [this]
  simp

theorem runLines_append (st : St) (d : Doc) (l1 l2 : List Str) (st' : St) (d' : Doc)
    (h : ∀ rest, runLines st d (l1 ++ rest) = runLines st' d' rest) :
    runLines st d (l1 ++ l2) = runLines st' d' l2 := h l2

end Rtsp.Sdp
