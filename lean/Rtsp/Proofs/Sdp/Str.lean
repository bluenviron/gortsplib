import Rtsp.Model.Sdp.Str
import Rtsp.Proofs.Text.Digits
/-
Lemmas about the outcome type `Res` and the byte-string helpers of Model/Sdp/Str.lean.  Proofs/Hdr/Basic.lean holds the
counterparts of the `splitOn` / `cut` lemmas for the carrier of `Rtsp.Hdr`.
-/
namespace Rtsp.Sdp

theorem Res.bind_eq_ok {α β : Type} {x : Res α} {f : α → Res β} {b : β} :
    x.bind f = .ok b ↔ ∃ a, x = .ok a ∧ f a = .ok b := by
  cases x <;> simp [Res.bind]

/-! Classes of strings, by what their bytes may be.  `NoSp ⊆ NoNL`; `Ascii ∧ NoNL` is `LineCh` bytewise.  The classes of
format text (`Plain ⊆ Ascii ∩ NoSp`, `KeyStr`, `ValOk` / `KeyOk`) are in `FmtText.lean`, next to their byte-range lemmas. -/

/-- no carriage return, no line feed -/
abbrev NoNL (s : Str) : Prop := ∀ c ∈ s, c ≠ 10 ∧ c ≠ 13
/-- a word: no white space -/
abbrev NoSp (w : Str) : Prop := ∀ c ∈ w, isSpace c = false
abbrev Ascii (s : Str) : Prop := ∀ c ∈ s, isAscii c = true
/-- character-wise facts: ASCII and not CR / LF -/
abbrev LineCh (c : UInt8) : Prop := isAscii c = true ∧ c ≠ 10 ∧ c ≠ 13

theorem lineCh_of_noSp {w : Str} (hs : NoSp w) (ha : Ascii w) : ∀ c ∈ w, LineCh c := fun c hc =>
  ⟨ha c hc, fun e => by subst e; exact absurd (hs _ hc) (by decide), fun e => by subst e; exact absurd (hs _ hc) (by decide)⟩

theorem isDigit_iff (c : UInt8) : isDigit c = true ↔ 48 ≤ c.toNat ∧ c.toNat ≤ 57 := by
  simp [isDigit, UInt8.le_iff_toNat_le]

theorem isSpace_iff (c : UInt8) : isSpace c = true ↔ c.toNat = 32 ∨ (9 ≤ c.toNat ∧ c.toNat ≤ 13) := by
  simp [isSpace, UInt8.le_iff_toNat_le, ← UInt8.toNat_inj]

theorem isDigit_not_space {c : UInt8} (h : isDigit c = true) : isSpace c = false := by
  rw [isDigit_iff] at h
  cases hs : isSpace c with
  | false => rfl
  | true => rw [isSpace_iff] at hs; omega

theorem isDigit_ne {c d : UInt8} (h : isDigit c = true) (hd : isDigit d = false) : c ≠ d := by
  intro e; subst e; rw [h] at hd; cases hd

theorem dec_eq (n : Nat) : dec n = Text.dec8 n := rfl

theorem dec_ne_nil (n : Nat) : dec n ≠ [] := Text.dec8_ne_nil n

theorem dec_all_isDigit (n : Nat) : (dec n).all isDigit = true := Text.dec8_all_digit n

theorem mem_dec_isDigit {n : Nat} {c : UInt8} (h : c ∈ dec n) : isDigit c = true :=
  Text.mem_all (dec_all_isDigit n) h

theorem not_mem_dec {c : UInt8} (hc : isDigit c = false) (n : Nat) : c ∉ dec n :=
  Text.not_mem_of_all (dec_all_isDigit n) hc

theorem decVal_eq : ∀ (s : Str) (acc : Nat), s.all isDigit = true → decVal s acc = some (Text.val8 acc s)
  | [], _, _ => rfl
  | c :: r, acc, h => by
    rw [List.all_cons, Bool.and_eq_true] at h
    rw [decVal, if_pos h.1, decVal_eq r _ h.2]; rfl

theorem decVal_dec (n : Nat) : decVal (dec n) 0 = some n := by
  rw [decVal_eq _ _ (dec_all_isDigit n), dec_eq, Text.val8_dec8]

theorem parseUint_dec {bits n : Nat} (h : n < 2 ^ bits) : parseUint bits (dec n) = some n := by
  have hne : (dec n).isEmpty = false := by simpa using dec_ne_nil n
  simp [parseUint, hne, decVal_dec, h]

theorem parseUint_dec_eq {bits q pt : Nat} (hpt : pt < 2 ^ bits) : parseUint bits (dec q) = some pt ↔ q = pt := by
  refine ⟨fun e => ?_, fun e => e ▸ parseUint_dec (e ▸ hpt)⟩
  rw [parseUint, if_neg (by simpa using dec_ne_nil q), decVal_dec] at e
  dsimp only at e
  by_cases h : q < 2 ^ bits
  · rw [if_pos h] at e; exact Option.some.inj e
  · rw [if_neg h] at e; cases e

theorem dec_head_isDigit (n : Nat) : ∃ c cs, dec n = c :: cs ∧ isDigit c = true := by
  cases hd : dec n with
  | nil => exact absurd hd (dec_ne_nil n)
  | cons c cs => exact ⟨c, cs, rfl, mem_dec_isDigit (by rw [hd]; simp)⟩

theorem splitOn_ne_nil (sep : UInt8) (s : Str) : splitOn sep s ≠ [] := by
  induction s with
  | nil => simp [splitOn]
  | cons c cs ih =>
    simp only [splitOn]
    split
    · simp
    · split <;> simp

theorem splitOn_noSep {sep : UInt8} {a : Str} (h : sep ∉ a) : splitOn sep a = [a] := by
  induction a with
  | nil => rfl
  | cons c cs ih =>
    have hc : c ≠ sep := fun e => h (by simp [e])
    have hcs : sep ∉ cs := fun m => h (by simp [m])
    simp [splitOn, hc, ih hcs]

theorem splitOn_append {sep : UInt8} {a : Str} (b : Str) (h : sep ∉ a) :
    splitOn sep (a ++ sep :: b) = a :: splitOn sep b := by
  induction a with
  | nil => simp [splitOn]
  | cons c cs ih =>
    have hc : c ≠ sep := fun e => h (by simp [e])
    have hcs : sep ∉ cs := fun m => h (by simp [m])
    simp [splitOn, hc, ih hcs]

theorem cut_append {sep : UInt8} {a : Str} (b : Str) (h : sep ∉ a) : cut sep (a ++ sep :: b) = some (a, b) := by
  induction a with
  | nil => simp [cut]
  | cons c cs ih =>
    have hc : c ≠ sep := fun e => h (by simp [e])
    have hcs : sep ∉ cs := fun m => h (by simp [m])
    simp [cut, hc, ih hcs]

theorem cut_none {sep : UInt8} {a : Str} (h : sep ∉ a) : cut sep a = none := by
  induction a with
  | nil => rfl
  | cons c cs ih =>
    have hc : c ≠ sep := fun e => h (by simp [e])
    have hcs : sep ∉ cs := fun m => h (by simp [m])
    simp [cut, hc, ih hcs]

theorem getLast?_append_cons (a : Str) (x : UInt8) (b : Str) : (a ++ x :: b).getLast? = (x :: b).getLast? := by
  rw [List.getLast?_append]
  cases h : (x :: b).getLast? with
  | none => simp at h
  | some z => rfl

theorem trimLeft_of_head {p : UInt8 → Bool} {s : Str} (h : ∀ c, s.head? = some c → p c = false) : trimLeft p s = s := by
  cases s with
  | nil => rfl
  | cons c cs => simp [trimLeft, h c rfl]

theorem trimRight_of_last {p : UInt8 → Bool} {s : Str} (h : ∀ c, s.getLast? = some c → p c = false) : trimRight p s = s := by
  unfold trimRight
  rw [trimLeft_of_head]
  · simp
  · intro c hc; apply h; simpa using hc

theorem trimSpace_id {s : Str} (h1 : ∀ c, s.head? = some c → isSpace c = false)
    (h2 : ∀ c, s.getLast? = some c → isSpace c = false) : trimSpace s = s := by
  unfold trimSpace
  rw [trimLeft_of_head h1, trimRight_of_last h2]

theorem trimBlank_id {s : Str} (h1 : ∀ c, s.head? = some c → c ≠ 32)
    (h2 : ∀ c, s.getLast? = some c → c ≠ 32) : trimBlank s = s := by
  unfold trimBlank
  rw [trimLeft_of_head (fun c hc => by simpa using h1 c hc), trimRight_of_last (fun c hc => by simpa using h2 c hc)]

end Rtsp.Sdp
