import Rtsp.Proofs.Sdp.FmtText
/-
`GoodSession` is `ValidSession` with the per-format condition replaced by its two consequences (well-formed attribute
text; `format.Unmarshal` rebuilds the format), so that for an accepted description only that condition remains to be shown.
-/
namespace Rtsp.Sdp

/-- a format that survives its own attributes -/
def GoodFormat (O : Oracle) (mt : Str) (f : Format) : Prop := FmtTextOk f ∧ unmarshalCtx O (ctxOf mt f) = .ok f

structure GoodMedia (O : Oracle) (m : Media) : Prop where
  type_ok : mediaTypeOk m.typ = true
  type_chars : ∀ c ∈ m.typ, isSpace c = false ∧ isAscii c = true
  id_alnum : ∀ c ∈ m.id, isAlnum c = true
  keymgmt_ok : ∀ k, m.keyMgmt = some k → O.mikey k = some k
  control_ok : ∀ c ∈ m.control, c ≠ 10 ∧ c ≠ 13 ∧ isAscii c = true
  formats_ne : m.formats ≠ []
  formats_ok : ∀ f ∈ m.formats, GoodFormat O m.typ f
  pts_distinct : m.formats.Pairwise fun a b => a.pt ≠ b.pt

structure GoodSession (O : Oracle) (s : Session) : Prop where
  title_ok : ∀ c ∈ s.title, c ≠ 10 ∧ c ≠ 13
  title_not_blank : s.title ≠ [32]
  keymgmt_ok : ∀ k, s.keyMgmt = some k → O.mikey k = some k
  medias_ne : s.medias ≠ []
  medias_ok : ∀ m ∈ s.medias, GoodMedia O m
  ids : (∀ m ∈ s.medias, m.id = []) ∨ ((∀ m ∈ s.medias, m.id ≠ []) ∧ s.medias.Pairwise fun a b => a.id ≠ b.id)
  not_all_back : ∃ m ∈ s.medias, m.backChannel = false
  fec_ok : ∀ g ∈ s.fecGroups, g ≠ [] ∧ ∀ id ∈ g, (∀ c ∈ id, isAlnum c = true) ∧ ∃ m ∈ s.medias, m.id = id

end Rtsp.Sdp
