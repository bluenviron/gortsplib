import Rtsp.Proofs.Sdp.Lines
import Rtsp.Proofs.Sdp.Fields
/-
Text layer: `sdpunmarshaler.Unmarshal` applied to pion's `Marshal` output (for the fields that
`Session.Marshal` sets) returns the document.
-/
namespace Rtsp.Sdp

theorem all_ascii {s : Str} (h : Ascii s) : s.all isAscii = true := by
  rw [List.all_eq_true]; exact h

/-- what is asked of an attribute key (they are all literals): not empty, no `:`, one line of ASCII -/
abbrev KeyLit (k : Str) : Prop := k ≠ [] ∧ (58 : UInt8) ∉ k ∧ ∀ c ∈ k, LineCh c

/-- an attribute as `Media.Marshal` / `Session.Marshal` write it: such a key, and a value that is one line of ASCII -/
abbrev WfAttr (a : Attr) : Prop := KeyLit a.key ∧ ∀ c ∈ a.val, LineCh c

/-- What the text layer needs of an attribute.  Weaker than `WfAttr`: the attributes the tolerant parser returns (a value
may hold `:`, a key may be a whole colon-free line) satisfy this one, so that re-parsing holds for every accepted text. -/
structure AttrRT (a : Attr) : Prop where
  rt : parseAttr (renderAttr a) = a
  nonl : NoNL (renderAttr a)
  ascii : Ascii (renderAttr a)

/-- a media description as `Media.Marshal` writes it -/
structure WfMedia (m : MediaD) : Prop where
  type_ok : mediaTypeOk m.media = true
  type_nosp : NoSp m.media
  type_ascii : Ascii m.media
  protos_ne : m.protos ≠ []
  protos_ok : ∀ p ∈ m.protos, protoOk p = true
  fmts_ne : m.fmts ≠ []
  fmts_ok : ∀ f ∈ m.fmts, f ≠ [] ∧ NoSp f ∧ Ascii f
  attrs_ok : ∀ a ∈ m.attrs, AttrRT a

structure WfDoc (d : Doc) : Prop where
  name_nonl : NoNL d.name
  attrs_ok : ∀ a ∈ d.attrs, AttrRT a
  medias_ok : ∀ m ∈ d.medias, WfMedia m

theorem indexOf_single_none {c : UInt8} {s : Str} (h : c ∉ s) : indexOf [c] s = none := by
  induction s with
  | nil => simp [indexOf]
  | cons x xs ih =>
    have hx : c ≠ x := fun e => h (by simp [e])
    have := ih (fun m => h (by simp [m]))
    simp [indexOf, List.isPrefixOf, hx, this]

theorem indexOf_single_append {c : UInt8} {a : Str} (b : Str) (h : c ∉ a) : indexOf [c] (a ++ c :: b) = some a.length := by
  induction a with
  | nil => simp [indexOf, List.isPrefixOf]
  | cons x xs ih =>
    have hx : c ≠ x := fun e => h (by simp [e])
    have := ih (fun m => h (by simp [m]))
    simp [indexOf, List.isPrefixOf, hx, this]

theorem parseAttr_render (a : Attr) (h : WfAttr a) : parseAttr (renderAttr a) = a := by
  obtain ⟨k, v⟩ := a
  have hk : k ≠ [] := h.1.1
  have hc : (58 : UInt8) ∉ k := h.1.2.1
  cases v with
  | nil => simp [renderAttr, parseAttr, indexOf_single_none hc]
  | cons x xs =>
    cases k with
    | nil => exact absurd rfl hk
    | cons y ys =>
      have hi := indexOf_single_append (x :: xs) hc
      simp only [renderAttr, List.isEmpty_cons, Bool.false_eq_true, if_false, parseAttr, hi, List.length_cons]
      simp

theorem lineCh_renderAttr {a : Attr} (h : WfAttr a) : ∀ c ∈ renderAttr a, LineCh c := by
  unfold renderAttr
  split
  · exact h.1.2.2
  · exact List.forall_mem_append.mpr ⟨h.1.2.2, List.forall_mem_cons.mpr ⟨by decide, h.2⟩⟩

theorem attrRT_of_wf {a : Attr} (h : WfAttr a) : AttrRT a :=
  ⟨parseAttr_render a h, fun c m => (lineCh_renderAttr h c m).2, fun c m => (lineCh_renderAttr h c m).1⟩

theorem step_session_attr (st : St) (hst : st = .session ∨ st = .time) (d : Doc) (a : Attr) (h : AttrRT a) :
    stepLine st d (attrLine a) = .ok (.session, { d with attrs := d.attrs ++ [a] }) := by
  have hasc := all_ascii h.ascii
  rcases hst with rfl | rfl <;>
    simp [attrLine, stepLine, opaqueKey, hasc, keyLine, sessionLine, h.rt]

theorem run_session_attrs (st : St) (hst : st = .session ∨ st = .time) (d : Doc) (as : List Attr) (h : ∀ a ∈ as, AttrRT a)
    (rest : List Str) :
    runLines st d (as.map attrLine ++ rest)
      = runLines (if as.isEmpty then st else .session) { d with attrs := d.attrs ++ as } rest := by
  induction as generalizing st d with
  | nil => simp
  | cons a as ih =>
    simp only [List.map_cons, List.cons_append, runLines]
    rw [step_session_attr st hst d a (h a (by simp))]
    simp only
    rw [ih .session (Or.inl rfl) _ (fun x hx => h x (by simp [hx]))]
    cases as <;> simp

theorem protoOk_spec {p : Str} (h : protoOk p = true) : (47 : UInt8) ∉ p ∧ NoSp p ∧ p ≠ [] ∧ Ascii p := by
  simp only [protoOk, Bool.or_eq_true, decide_eq_true_eq] at h
  rcases h with ((((((((((rfl | rfl) | rfl) | rfl) | rfl) | rfl) | rfl) | rfl) | rfl) | rfl) | rfl) <;>
    (refine ⟨by decide, ?_, by decide, ?_⟩ <;> (intro c hc; revert c; decide))

theorem parseMediaLine_render (m : MediaD) (h : WfMedia m) :
    parseMediaLine (renderMediaName m) = some { m with attrs := [] } := by
  have hmne : m.media ≠ [] := by
    intro e
    have := h.type_ok
    rw [e] at this
    revert this; decide
  have hp : ∀ p ∈ m.protos, (47 : UInt8) ∉ p ∧ NoSp p ∧ p ≠ [] ∧ Ascii p := fun p hp => protoOk_spec (h.protos_ok p hp)
  have hpj_nosp : NoSp (joinWith [47] m.protos) := forall_mem_joinWith (by decide) fun p hp' => (hp p hp').2.1
  have hpj_ne : joinWith [47] m.protos ≠ [] := by
    cases hps : m.protos with
    | nil => exact absurd hps h.protos_ne
    | cons p ps => exact joinWith_cons_ne_nil _ _ (hp p (hps ▸ .head _)).2.2.1
  have h0 : NoSp [48] := by intro c hc; simp only [List.mem_singleton] at hc; subst hc; decide
  have hf : fields (renderMediaName m) = m.media :: [48] :: joinWith [47] m.protos :: m.fmts := by
    unfold renderMediaName
    have e : m.media ++ b!" 0 " ++ joinWith [47] m.protos ++ 32 :: joinWith [32] m.fmts
        = m.media ++ 32 :: ([48] ++ 32 :: (joinWith [47] m.protos ++ 32 :: joinWith [32] m.fmts)) := by simp
    rw [e, fields_word_sp hmne h.type_nosp, fields_word_sp (by simp) h0, fields_word_sp hpj_ne hpj_nosp,
      fields_join _ (fun f hf => ⟨(h.fmts_ok f hf).1, (h.fmts_ok f hf).2.1⟩)]
  have hsplit : splitOn 47 (joinWith [47] m.protos) = m.protos := splitOn_join 47 _ h.protos_ne (fun p hp' => (hp p hp').1)
  have hall : m.protos.all protoOk = true := by rw [List.all_eq_true]; exact h.protos_ok
  have hport : portOk [48] = true := by decide
  obtain ⟨media, protos, fmts, attrs⟩ := m
  cases fmts with
  | nil => exact absurd rfl h.fmts_ne
  | cons f fs =>
    simp only at hf hsplit hall
    simp [parseMediaLine, hf, h.type_ok, hport, hsplit, hall]

/-- media type, ` 0 `, protocols joined by `/`, a blank, formats joined by blanks: part by part -/
theorem lineCh_renderMediaName {m : MediaD} (h : WfMedia m) : ∀ c ∈ renderMediaName m, LineCh c :=
  List.forall_mem_append.mpr ⟨List.forall_mem_append.mpr ⟨List.forall_mem_append.mpr
    ⟨lineCh_of_noSp h.type_nosp h.type_ascii, by decide⟩,
    forall_mem_joinWith (by decide) fun p hp => lineCh_of_noSp (protoOk_spec (h.protos_ok p hp)).2.1 (protoOk_spec (h.protos_ok p hp)).2.2.2⟩,
    List.forall_mem_cons.mpr ⟨by decide,
      forall_mem_joinWith (by decide) fun f hf => lineCh_of_noSp (h.fmts_ok f hf).2.1 (h.fmts_ok f hf).2.2⟩⟩

theorem textLine_ok {k : UInt8} {v : Str} (hk : k ≠ 10 ∧ k ≠ 13) (hv : NoNL v) : NoNL (k :: 61 :: v) ∧ k :: 61 :: v ≠ [] :=
  ⟨fun c hc => by
    rcases List.mem_cons.mp hc with rfl | hc
    · exact hk
    rcases List.mem_cons.mp hc with rfl | hc
    · decide
    · exact hv c hc, nofun⟩

theorem step_media_name (st : St) (hst : st = .session ∨ st = .time ∨ st = .media) (d : Doc) (m : MediaD) (h : WfMedia m) :
    stepLine st d (mediaNameLine m) = .ok (.media, { d with medias := d.medias ++ [{ m with attrs := [] }] }) := by
  have hasc := all_ascii fun c hc => (lineCh_renderMediaName h c hc).1
  rcases hst with rfl | rfl | rfl <;>
    simp [mediaNameLine, stepLine, opaqueKey, hasc, keyLine, sessionLine, mediaLine, parseMediaLine_render m h]

theorem step_media_attr (d : Doc) (ms : List MediaD) (m0 : MediaD) (hd : d.medias = ms ++ [m0]) (a : Attr) (h : AttrRT a) :
    stepLine .media d (attrLine a)
      = .ok (.media, { d with medias := ms ++ [{ m0 with attrs := m0.attrs ++ [a] }] }) := by
  have hasc := all_ascii h.ascii
  simp [attrLine, stepLine, opaqueKey, hasc, keyLine, mediaLine, h.rt, addMediaAttr, hd]

theorem run_media_attrs (d : Doc) (ms : List MediaD) (m0 : MediaD) (hd : d.medias = ms ++ [m0]) (as : List Attr)
    (h : ∀ a ∈ as, AttrRT a) (rest : List Str) :
    runLines .media d (as.map attrLine ++ rest)
      = runLines .media { d with medias := ms ++ [{ m0 with attrs := m0.attrs ++ as }] } rest := by
  induction as generalizing d m0 with
  | nil => simp [← hd]
  | cons a as ih =>
    simp only [List.map_cons, List.cons_append, runLines]
    rw [step_media_attr d ms m0 hd a (h a (by simp))]
    simp only
    rw [ih _ { m0 with attrs := m0.attrs ++ [a] } rfl (fun x hx => h x (by simp [hx]))]
    simp

theorem run_media (st : St) (hst : st = .session ∨ st = .time ∨ st = .media) (d : Doc) (m : MediaD) (h : WfMedia m)
    (rest : List Str) :
    runLines st d (renderMediaLines m ++ rest) = runLines .media { d with medias := d.medias ++ [m] } rest := by
  simp only [renderMediaLines, List.cons_append, runLines]
  rw [step_media_name st hst d m h]
  simp only
  rw [run_media_attrs _ d.medias { m with attrs := [] } rfl m.attrs h.attrs_ok]
  simp

theorem run_medias (st : St) (hst : st = .session ∨ st = .time ∨ st = .media) (d : Doc) (ms : List MediaD)
    (h : ∀ m ∈ ms, WfMedia m) :
    runLines st d (ms.flatMap renderMediaLines) = .ok { d with medias := d.medias ++ ms } := by
  induction ms generalizing st d with
  | nil => simp [runLines]
  | cons m ms ih =>
    simp only [List.flatMap_cons]
    rw [run_media st hst d m (h m (by simp))]
    rw [ih .media (Or.inr (Or.inr rfl)) _ (fun x hx => h x (by simp [hx]))]
    simp

theorem origin_fixed : originOk b!"- 0 0 IN IP4 127.0.0.1" = true := by decide
theorem conn_unicast : connOk b!"IN IP4 0.0.0.0" = .ok () := by decide
theorem conn_multicast : connOk b!"IN IP4 224.1.0.0" = .ok () := by decide
theorem timing_fixed : timingOk b!"0 0" = true := by decide

theorem run_header (mc : Bool) (name : Str) (rest : List Str) :
    runLines .initial Doc.empty (headerLines mc name ++ rest) = runLines .time { Doc.empty with name := name } rest := by
  cases mc <;>
    simp [headerLines, runLines, stepLine, opaqueKey, isAscii, keyLine, sessionLine, origin_fixed, conn_unicast, conn_multicast,
      timing_fixed, Res.bind, Doc.empty]

theorem parse_render (mc : Bool) (d : Doc) (h : WfDoc d) : parse (render mc d) = .ok d := by
  have hlines : ∀ l ∈ renderLines mc d, NoNL l ∧ l ≠ [] := by
    intro l hl
    simp only [renderLines, List.mem_append, List.mem_map, List.mem_flatMap] at hl
    rcases hl with (hl | ⟨a, ha, rfl⟩) | ⟨m, hm, hl⟩
    · simp only [headerLines, List.mem_cons, List.not_mem_nil, or_false] at hl
      rcases hl with rfl | rfl | rfl | rfl | rfl
      · exact ⟨by decide, by decide⟩
      · exact ⟨by decide, by decide⟩
      · exact textLine_ok (by decide) h.name_nonl
      · cases mc <;> exact ⟨by decide, by decide⟩
      · exact ⟨by decide, by decide⟩
    · exact textLine_ok (by decide) (h.attrs_ok a ha).nonl
    · have hw := h.medias_ok m hm
      rcases List.mem_cons.mp hl with rfl | hl
      · exact textLine_ok (by decide) fun c hc => (lineCh_renderMediaName hw c hc).2
      · obtain ⟨a, ha, rfl⟩ := List.mem_map.mp hl
        exact textLine_ok (by decide) (hw.attrs_ok a ha).nonl
  unfold parse render
  rw [linesOf_flat _ hlines]
  unfold renderLines
  rw [List.append_assoc, run_header, run_session_attrs .time (Or.inr rfl) _ d.attrs h.attrs_ok]
  rw [run_medias _ (by cases d.attrs <;> simp) _ d.medias h.medias_ok]
  simp [Doc.empty]

end Rtsp.Sdp
