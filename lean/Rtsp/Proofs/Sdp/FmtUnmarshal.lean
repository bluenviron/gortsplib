import Rtsp.Proofs.Sdp.FmtTable
import Rtsp.Proofs.Sdp.B64HexText
/-
`format.Unmarshal`, after the attribute lookup, returns a valid format from any context that shows the format's own
attributes (`unmarshalCtx_own`: one case per format type of pkg/format, over the skeleton `rt_of_kind` (`FmtTable`)); the
context made of the rtpmap / fmtp the format itself generates (`ctxOf`) is one (`isCtxOf`, `FmtTable`): that instance is
`C05.fmt_roundtrip`.
-/
namespace Rtsp.Sdp
open Rtsp.Facts.Sdp Format

theorem insertKV_append {k v : Str} {acc : List (Str × Str)} (h : ∀ y ∈ acc, strLt y.1 k = true) :
    insertKV k v acc = acc ++ [(k, v)] := by
  induction acc with
  | nil => rfl
  | cons y ys ih =>
    obtain ⟨k', v'⟩ := y
    have hy : strLt k' k = true := h (k', v') (by simp)
    have hne : k ≠ k' := fun e => strLt_ne hy e.symm
    have hnl : strLt k k' = false := strLt_asymm hy
    simp [insertKV, hne, hnl, ih (fun z hz => h z (by simp [hz]))]

theorem foldl_insertKV_sorted (acc rest : List (Str × Str)) (h : KeysSorted (acc ++ rest)) :
    rest.foldl (fun m kv => insertKV kv.1 kv.2 m) acc = acc ++ rest := by
  induction rest generalizing acc with
  | nil => simp
  | cons x xs ih =>
    have hx : ∀ y ∈ acc, strLt y.1 x.1 = true := by
      intro y hy
      have := List.pairwise_append.mp h
      exact this.2.2 y hy x (by simp)
    simp only [List.foldl_cons]
    rw [insertKV_append hx, ih]
    · simp
    · simpa using h

theorem mapOf_sorted {l : List (Str × Str)} (h : KeysSorted l) : mapOf l = l := by
  have := foldl_insertKV_sorted [] l (by simpa using h)
  simpa [mapOf] using this

theorem lowerKeys_id {l : List (Str × Str)} (h : ∀ kv ∈ l, ∀ c ∈ kv.1, isUpper c = false) :
    l.map (fun kv => (toLower kv.1, kv.2)) = l := by
  induction l with
  | nil => rfl
  | cons x xs ih =>
    simp only [List.map_cons]
    rw [toLower_id (h x (by simp)), ih (fun kv hkv => h kv (by simp [hkv]))]

theorem select_g726 : ∀ be : Bool, ∀ br ∈ [16, 24, 32, 40],
    select (getCodecAndClock (g726 0 br be).rtpmap).1 (getCodecAndClock (g726 0 br be).rtpmap).2 96 = .g726 := by
  decide

theorem comma_not_mem_b64 (b : Bytes) : (44 : UInt8) ∉ b64 b := fun h => absurd (mem_b64_isB64 h) (by decide)

/-- Whatever else the context holds (other keys, media type).  `Generic` alone keeps the whole map and the rtpmap text: for it
the context has to be the one `Media.Marshal` makes (`hg`). -/
theorem unmarshalCtx_own {O : Oracle} {mt : Str} {f : Format} (h : ValidFormat O mt f) {c : Ctx} (hc : IsCtxOf f c)
    (hg : ∀ pt rm fm clk, f = .generic pt rm fm clk → c = ctxOf mt f) : unmarshalCtx O c = .ok f := by
  cases f with
  | generic pt rm fm clk =>
    obtain ⟨_, hsel, hclk, _, _, _, hkv, hsorted⟩ := h
    have hc : c = ⟨mt, pt, (getCodecAndClock rm).2, (getCodecAndClock rm).1, rm, fm⟩ :=
      (hg pt rm fm clk rfl).trans
        (congrArg (Ctx.mk mt pt _ _ rm) (lowerKeys_id fun kv hkv' c hc => ((hkv kv hkv').1.2 c hc).2.2.1))
    have hclk' : findClockRate pt rm (decide (mt = b!"application")) = some clk := by
      rw [← Bool.beq_eq_decide_eq]; exact hclk
    rw [unmarshalCtx, hc, hsel]
    simp only [unmarshalKind, hclk', mapOf_sorted hsorted]
  | mpeg1video | mjpeg | mpeg1audio | g722 | mpegts => exact rt_of_kind hc _ rfl rfl
  | klv pt => exact rt_of_kind_dyn hc h .klv rfl (congrArg (Res.ok ∘ klv) hc.pt)
  | vp8 pt a b =>
    refine rt_of_kind_dyn hc h.1 .vp8 rfl ?_
    dsimp only [unmarshalKind]
    rw [hc.uint h.2.1 0 b!"max-fr", hc.uint h.2.2 1 b!"max-fs", hc.pt]
    rfl
  | vp9 pt a b p =>
    refine rt_of_kind_dyn hc h.1 .vp9 rfl ?_
    dsimp only [unmarshalKind]
    rw [hc.uint h.2.1 0 b!"max-fr", hc.uint h.2.2.1 1 b!"max-fs", hc.uint h.2.2.2 2 b!"profile-id", hc.pt]
    rfl
  | av1 pt l p t =>
    refine rt_of_kind_dyn hc h.1 .av1 rfl ?_
    dsimp only [unmarshalKind]
    rw [hc.uint h.2.1 0 b!"level-idx", hc.uint h.2.2.1 1 b!"profile", hc.uint h.2.2.2 2 b!"tier", hc.pt]
    rfl
  | ac3 pt r ch =>
    refine rt_of_kind_dyn hc h.1 .ac3 rfl ?_
    dsimp only [unmarshalKind]
    rw [show c.clock = dec r ++ 47 :: dec ch from hc.clock, rateChannels_dec2 h.2.1 h.2.2, hc.pt]
    rfl
  | speex pt r v =>
    refine rt_of_kind_dyn hc h.1 .speex rfl ?_
    dsimp only [unmarshalKind]
    simp only [show c.clock = dec r from hc.clock, parseUint_dec h.2.2, Nat.pos_iff_ne_zero.mp h.2.1, if_false,
      hc.look 0 b!"vbr" rfl rfl, hc.pt]
    cases v with
    | none => rfl
    | some b => cases b <;> rfl
  | g726 pt br be =>
    cases be <;> rcases h.2 with rfl | rfl | rfl | rfl <;>
      exact rt_of_kind_dyn hc h.1 .g726 (select_g726 _ _ (by decide)) (by
        dsimp only [unmarshalKind]
        rw [hc.codec, hc.pt]
        rfl)
  | g711 pt mu r ch =>
    rcases h with ⟨rfl, rfl, rfl, rfl⟩ | ⟨rfl, rfl, rfl, rfl⟩ | h
    · exact rt_of_kind hc .g711 rfl (by dsimp only [unmarshalKind]; rw [hc.pt]; rfl)
    · exact rt_of_kind hc .g711 rfl (by dsimp only [unmarshalKind]; rw [hc.pt]; rfl)
    · have hp0 : ¬ pt = 0 := by have := h.1.1; omega
      have hp8 : ¬ pt = 8 := by have := h.1.1; omega
      cases mu <;> refine rt_of_kind_dyn hc h.1 .g711 rfl ?_ <;>
      · dsimp only [unmarshalKind]
        rw [show c.pt = pt from hc.pt, if_neg hp0, if_neg hp8,
          show c.clock = dec r ++ (if ch ≠ 1 then 47 :: dec ch else []) from hc.clock, rateChannels_opt h.2.1 h.2.2, hc.codec]
        rfl
  | lpcm pt d r ch =>
    rcases h with ⟨rfl, rfl, rfl, rfl⟩ | ⟨rfl, rfl, rfl, rfl⟩ | h
    · exact rt_of_kind hc .lpcm rfl (by dsimp only [unmarshalKind]; rw [hc.pt]; rfl)
    · exact rt_of_kind hc .lpcm rfl (by dsimp only [unmarshalKind]; rw [hc.pt]; rfl)
    · have hp0 : ¬ pt = 10 := by have := h.1.1; omega
      have hp1 : ¬ pt = 11 := by have := h.1.1; omega
      rcases h.2.1 with rfl | rfl | rfl <;> refine rt_of_kind_dyn hc h.1 .lpcm rfl ?_ <;>
      · dsimp only [unmarshalKind]
        rw [show c.pt = pt from hc.pt, if_neg hp0, if_neg hp1, show c.clock = dec r ++ 47 :: dec ch from hc.clock,
          rateChannels_dec2 h.2.2.1 h.2.2.2, hc.codec]
        rfl
  | opus pt ch =>
    by_cases h2 : ch ≤ 2
    · -- "opus/48000/2": the channel count is carried by `sprop-stereo`
      have hch : ch = 1 ∨ ch = 2 := by have := h.2.1; omega
      rcases hch with rfl | rfl <;> exact rt_of_kind_dyn hc h.1 .opus rfl (by
        dsimp only [unmarshalKind]
        rw [hc.clock, hc.codec, hc.look 0 b!"sprop-stereo" rfl rfl, hc.pt]
        rfl)
    · -- "multiopus/48000/<ch>"
      have hcc : getCodecAndClock (opus pt ch).rtpmap = (b!"multiopus", b!"48000/" ++ dec ch) := by
        rw [show (opus pt ch).rtpmap = b!"multiopus/48000/" ++ dec ch from if_neg h2]; rfl
      refine rt_of_kind_dyn hc h.1 .opus (by rw [hcc]; rfl) ?_
      dsimp only [unmarshalKind]
      have h0 : ch ≠ 0 := by omega
      simp only [hc.clock, hc.codec, hcc, show cut 47 (b!"48000/" ++ dec ch) = some (b!"48000", dec ch) from rfl,
        show ¬ b!"multiopus" = b!"opus" by decide, if_false, show parseUint 31 b!"48000" = some opusClock by decide,
        parseUint_dec h.2.2, hc.pt, h0, ne_eq, not_false_eq_true, and_self, if_true]
      rfl
  | vorbis pt r ch cfg =>
    cases cfg with
    | none => exact absurd h.2.2.2 (by decide)
    | some cfg =>
      refine rt_of_kind_dyn hc h.1 .vorbis rfl ?_
      dsimp only [unmarshalKind]
      simp only [show c.clock = dec r ++ 47 :: dec ch from hc.clock, cut_append _ (slash_not_mem_dec r), parseUint_dec h.2.1.2,
        parseUint_dec h.2.2.1.2, Nat.pos_iff_ne_zero.mp h.2.1.1, Nat.pos_iff_ne_zero.mp h.2.2.1.1, or_self, if_false,
        hc.look 0 b!"configuration" rfl rfl, Option.getD_some, b64dec_b64, hc.pt]
      rfl
  | mpeg4video pt plid cfg =>
    refine rt_of_kind_dyn hc h.1 .mpeg4video rfl ?_
    dsimp only [unmarshalKind]
    rw [hc.uint (o := some plid) h.2.1 1 b!"profile-level-id", hc.look 0 b!"config" rfl rfl, hc.pt]
    cases cfg with
    | none => rfl
    | some cfg =>
      simp only [Option.map_some, hexDecode_hexEncodeUpper, h.2.2 cfg rfl, if_true]
      rfl
  | h264 pt sps pps pm =>
    have rd : unmarshalKind O .h264 c = .ok (.h264 pt sps pps pm) := by
      dsimp only [unmarshalKind]
      rw [hc.uint (optP31_ite h.2.1) 0 b!"packetization-mode", hc.look 2 b!"sprop-parameter-sets" rfl rfl, hc.pt]
      rcases h.2.2 with ⟨rfl, rfl⟩ | ⟨s, p, rfl, rfl, hs, hp, hok⟩
      · exact congrArg (Res.ok ∘ h264 pt none none) (getD_ite_ne pm 0)
      · simp only [splitOn_append _ (comma_not_mem_b64 s), splitOn_noSep (comma_not_mem_b64 p), b64dec_b64,
          show trimAnnexB s = s from hs, show trimAnnexB p = p from hp, hok, if_true, getD_ite_ne]
        rfl
    rcases h.1 with hd | rfl
    · exact rt_of_kind_dyn hc hd .h264 rfl rd
    · exact rt_of_kind hc .h264 rfl rd
  | h265 pt vps sps pps mdd =>
    refine rt_of_kind_dyn hc h.1 .h265 rfl ?_
    dsimp only [unmarshalKind]
    rw [hc.look 3 b!"sprop-vps" rfl rfl, hc.look 2 b!"sprop-sps" rfl rfl, hc.look 1 b!"sprop-pps" rfl rfl,
      hc.uint (optP31_ite h.2.1) 0 b!"sprop-max-don-diff", hc.pt]
    have hv : ∀ b, vps = some b → trimAnnexB b = b := h.2.2.1
    have hs : ∀ b, sps = some b → trimAnnexB b = b ∧ O.h265sps b = true := h.2.2.2.1
    have hp : ∀ b, pps = some b → trimAnnexB b = b ∧ O.h265pps b = true := h.2.2.2.2
    cases vps <;> cases sps <;> cases pps <;>
      simp only [Option.map_some, Option.map_none, b64dec_b64, hv, hs, hp, if_true, getD_ite_ne] <;> rfl
  | mpeg4audio pt plid a sl il idl =>
    obtain ⟨hpt, hp1, hp, hasc, hsl1, hsl, hil, hidl, _⟩ := h
    have hp0 : ¬ plid = 0 := by omega
    refine rt_of_kind_dyn hc hpt .mpeg4audio rfl ?_
    dsimp only [unmarshalKind]
    rw [hc.look 0 b!"config" rfl rfl, hc.look 1 b!"indexdeltalength" rfl rfl, hc.look 2 b!"indexlength" rfl rfl,
      hc.look 3 b!"mode" rfl rfl, hc.uint (o := some (if plid = 0 then 1 else plid)) (by rw [if_neg hp0]; exact hp) 4
        b!"profile-level-id", hc.look 5 b!"sizelength" rfl rfl, hc.look 6 b!"streamtype" rfl rfl, hc.pt]
    have hmode : (toLower b!"AAC-hbr" == b!"aac-hbr") = true := by decide
    have hsl0 : 0 < sl := hsl1
    have hsl' : ¬ sl = 0 := by omega
    have big : ∀ n, n ≤ 100 → ¬ 100 < n := fun n hn => by omega
    have p31 : ∀ n, n ≤ 100 → n < 2 ^ 31 := fun n hn => by omega
    -- After the lookups everything is evaluation, except the two optional lengths: a length that is 0 is not written
    -- and is read back as 0.
    rcases Nat.eq_zero_or_pos il with rfl | hi <;> rcases Nat.eq_zero_or_pos idl with rfl | hd <;>
      simp only [gt_iff_lt, Nat.lt_irrefl, if_true, if_false, Option.map_some, Option.map_none, aacMaxLength,
        hexDecode_hexEncode, parseUint_dec (p31 _ hsl), parseUint_dec (p31 _ hil), parseUint_dec (p31 _ hidl), big _ hsl,
        big _ hil, big _ hidl, Option.getD_some, beq_self_eq_true, Bool.not_true, Bool.or_false, Bool.true_or,
        Bool.false_eq_true, *] <;> rfl
  | latm pt plid br cp smc sbr =>
    have hsbr : (sbr.map boolStr).map (· == b!"1") = sbr := by
      cases sbr with
      | none => rfl
      | some b => cases b <;> rfl
    have rd : unmarshalKind O .latm c = .ok (.latm pt plid br cp smc sbr) := by
      dsimp only [unmarshalKind]
      rw [hc.look 0 b!"sbr-enabled" rfl rfl, hc.uint h.2.2.1 1 b!"bitrate", hc.look 2 b!"config" rfl rfl,
        hc.look 3 b!"cpresent" rfl rfl, hc.uint (o := some plid) h.2.1 5 b!"profile-level-id", hc.pt, hsbr]
      cases cp with
      | true =>
        obtain rfl : smc = none := h.2.2.2
        simp only [show c.clock = b!"90000/1" from hc.clock, if_true, boolStr, beq_self_eq_true, Option.isSome_none,
          Bool.false_eq_true, if_false, ne_eq, not_true_eq_false, Option.getD_some]
        rfl
      | false =>
        obtain ⟨s, rfl, hs, hsame, _⟩ := h.2.2.2
        simp only [Option.map_some, hexDecode_hexEncode, hs, hsame, if_true, boolStr, Bool.false_eq_true, if_false,
          show (b!"0" == b!"1") = false by decide, Option.getD_some]
        rfl
    cases cp with
    | true =>
      obtain rfl : smc = none := h.2.2.2
      exact rt_of_kind_dyn hc h.1 .latm rfl rd
    | false =>
      obtain ⟨s, rfl, _⟩ := h.2.2.2
      exact rt_of_kind_dyn hc h.1 .latm rfl rd

end Rtsp.Sdp
