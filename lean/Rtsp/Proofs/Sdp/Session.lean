import Rtsp.Proofs.Sdp.Media
import Rtsp.Proofs.Sdp.Accepted
/-
Description layer: `Media.Unmarshal` / `Session.Unmarshal2` applied to what `Media.Marshal` /
`Session.Marshal` hand to pion return the media / the session.
-/
namespace Rtsp.Sdp

theorem mem_ite_singleton {α : Type} {c : Prop} [Decidable c] {a x : α} (h : a ∈ (if c then [] else [x])) : a = x := by
  split at h
  · cases h
  · exact List.mem_singleton.mp h

theorem tail_keys (ab : Bool) (m : Media) :
    ∀ a ∈ m.formats.flatMap formatAttrs ++ postAttrs ab m, a.key ∈ [b!"rtpmap", b!"fmtp", b!"recvonly"] := by
  intro a ha
  rcases List.mem_append.mp ha with ha | ha
  · obtain ⟨f, _, ha⟩ := List.mem_flatMap.mp ha
    rcases List.mem_append.mp ha with ha | ha
    · exact mem_ite_singleton ha ▸ .head _
    · exact mem_ite_singleton ha ▸ .tail _ (.head _)
  · exact postAttrs_keys ab m a ha ▸ .tail _ (.tail _ (.head _))

theorem find_none_of_keys (l : List Attr) (key : Str) (h : ∀ a ∈ l, a.key ≠ key) : l.find? (·.key = key) = none :=
  List.find?_eq_none.mpr fun a ha => decide_eq_false (h a ha) ▸ Bool.false_ne_true

theorem find?_attrsOf_none {s : List (Str × Option Str)} {K : Str} (h : K ∉ s.map Prod.fst) {T : List Attr}
    (hT : ∀ a ∈ T, a.key ≠ K) : (attrsOf (optEntries s) ++ T).find? (·.key = K) = none :=
  find_none_of_keys _ K fun a ha => by
    rcases List.mem_append.mp ha with ha | ha
    · obtain ⟨kv, hkv, rfl⟩ := List.mem_map.mp ha
      exact fun e => h (e ▸ List.mem_map_of_mem (f := Prod.fst) (mem_optEntries hkv))
    · exact hT a ha

theorem find?_attrsOf_optEntries {s : List (Str × Option Str)} (hs : (s.map Prod.fst).Nodup) {K : Str} {o : Option Str}
    (h : (K, o) ∈ s) {T : List Attr} (hT : ∀ a ∈ T, a.key ≠ K) :
    (attrsOf (optEntries s) ++ T).find? (·.key = K) = o.map (Attr.mk K) := by
  induction s with
  | nil => cases h
  | cons e r ih =>
    obtain ⟨k', o'⟩ := e
    rw [List.map_cons, List.nodup_cons] at hs
    cases h with
    | head =>
      cases o with
      | none => exact find?_attrsOf_none (s := r) hs.1 hT
      | some v => simp only [optEntries, attrsOf, List.map_cons, List.cons_append, List.find?_cons, decide_true, Option.map_some]
    | tail _ h =>
      have hk : ¬ k' = K := fun e => hs.1 (e ▸ List.mem_map_of_mem (f := Prod.fst) (a := (K, o)) h)
      cases o' with
      | none => exact ih hs.2 h
      | some v =>
        simp only [optEntries, attrsOf, List.map_cons, List.cons_append, List.find?_cons, hk, decide_false]
        exact ih hs.2 h

theorem preTable_nodup (m : Media) : ((preTable m).map Prod.fst).Nodup :=
  (by decide : ([b!"mid", b!"sendonly", b!"key-mgmt", b!"control"] : List Str).Nodup)

theorem find?_marshalMedia (ab : Bool) (m : Media) {K : Str} {o : Option Str} (h : (K, o) ∈ preTable m)
    (hK : K ∉ [b!"rtpmap", b!"fmtp", b!"recvonly"]) : (marshalMedia ab m).attrs.find? (·.key = K) = o.map (Attr.mk K) := by
  rw [marshalMedia_attrs, preAttrs_eq]
  exact find?_attrsOf_optEntries (preTable_nodup m) h fun a ha e => hK (e ▸ tail_keys ab m a ha)

theorem getAttribute_mid (ab : Bool) (m : Media) : getAttribute (marshalMedia ab m).attrs b!"mid" = m.id := by
  rw [getAttribute, find?_marshalMedia ab m (.head _) (by decide)]
  cases h : m.id <;> rfl

theorem getAttribute_control (ab : Bool) (m : Media) : getAttribute (marshalMedia ab m).attrs b!"control" = m.control := by
  rw [getAttribute, find?_marshalMedia ab m (.tail _ (.tail _ (.tail _ (.head _)))) (by decide)]
  rfl

theorem any_sendonly (ab : Bool) (m : Media) : (marshalMedia ab m).attrs.any (·.key = b!"sendonly") = m.backChannel := by
  rw [← List.isSome_find?, find?_marshalMedia ab m (.tail _ (.head _)) (by decide)]
  cases m.backChannel <;> rfl

/-- `unmarshalKeyMgmt` looks at the first `key-mgmt` attribute only. -/
theorem unmarshalKeyMgmt_of_find {O : Oracle} {attrs : List Attr} {km : Option Bytes}
    (hf : attrs.find? (·.key = b!"key-mgmt") = (keyMgmtAttr km).head?) (h : ∀ k, km = some k → O.mikey k = some k) :
    unmarshalKeyMgmt O attrs = .ok km := by
  rw [unmarshalKeyMgmt, getAttribute, hf]
  cases km with
  | none => rfl
  | some k => simp [keyMgmtAttr, hasPrefix, List.isPrefixOf, b64dec_b64, h k rfl]

theorem keyMgmt_media (O : Oracle) (ab : Bool) (m : Media) (h : ∀ k, m.keyMgmt = some k → O.mikey k = some k) :
    unmarshalKeyMgmt O (marshalMedia ab m).attrs = .ok m.keyMgmt :=
  unmarshalKeyMgmt_of_find
    ((find?_marshalMedia ab m (.tail _ (.tail _ (.head _))) (by decide)).trans (by cases m.keyMgmt <;> rfl)) h

theorem unmarshalMedia_marshal (O : Oracle) (ab : Bool) (m : Media) (hm : GoodMedia O m) :
    unmarshalMedia O (marshalMedia ab m) = .ok m := by
  have hfm : (marshalMedia ab m).fmts = m.formats.map fun f => dec f.pt := rfl
  have hprof : ((marshalMedia ab m).protos.contains b!"SAVP") = (m.profile == .savp) := by
    cases hp : m.profile <;> simp [marshalMedia, hp] <;> decide
  have halnum := badId_eq_false.mpr hm.id_alnum
  have hne : m.formats.isEmpty = false := by
    cases hf : m.formats with
    | nil => exact absurd hf hm.formats_ne
    | cons _ _ => rfl
  unfold unmarshalMedia
  simp only [getAttribute_mid, halnum, Bool.false_eq_true, if_false, keyMgmt_media O ab m hm.keymgmt_ok, Res.bind, hfm,
    unmarshalFormats_marshal O ab m hm m.formats (fun f hf => hf), hne, any_sendonly, getAttribute_control, hprof]
  obtain ⟨typ, id, bc, prof, km, ctl, fs⟩ := m
  cases prof <;> rfl

theorem unmarshalMedias_marshal (O : Oracle) (ab : Bool) (acc ms : List Media) (hv : ∀ m ∈ ms, GoodMedia O m)
    (hid : (∀ m ∈ ms, m.id = []) ∨ (acc ++ ms).Pairwise (fun a b => a.id ≠ b.id)) :
    unmarshalMedias O acc (ms.map (marshalMedia ab)) = .ok (acc ++ ms) := by
  induction ms generalizing acc with
  | nil => simp [unmarshalMedias]
  | cons m ms ih =>
    simp only [List.map_cons, unmarshalMedias, unmarshalMedia_marshal O ab m (hv m (by simp))]
    have hcond : (!m.id.isEmpty && acc.any (·.id = m.id)) = false :=
      dupId_eq_false.mpr (hid.imp (· m (.head _)) fun h a ha => (List.pairwise_append.mp h).2.2 a ha m (.head _))
    simp only [hcond, Bool.false_eq_true, if_false]
    rw [ih (acc ++ [m]) (fun x hx => hv x (by simp [hx]))]
    · simp
    · rcases hid with h | h
      · exact Or.inl (fun x hx => h x (by simp [hx]))
      · exact Or.inr (by simpa using h)

/-- the `a=group:FEC …` attributes of `marshalDoc` (tied to it by `marshalDoc_attrs`) -/
def groupAttrs (gs : List (List Str)) : List Attr := gs.map fun g => ⟨b!"group", b!"FEC " ++ joinWith [32] g⟩

theorem marshalDoc_attrs (s : Session) : (marshalDoc s).attrs = groupAttrs s.fecGroups ++ keyMgmtAttr s.keyMgmt := rfl

theorem keyMgmt_session (O : Oracle) (s : Session) (h : ∀ k, s.keyMgmt = some k → O.mikey k = some k) :
    unmarshalKeyMgmt O (marshalDoc s).attrs = .ok s.keyMgmt := by
  refine unmarshalKeyMgmt_of_find ?_ h
  rw [marshalDoc_attrs, List.find?_append, find_none_of_keys _ _ fun a ha => ?_]
  · cases s.keyMgmt <;> rfl
  · obtain ⟨g, _, rfl⟩ := List.mem_map.mp ha
    exact (by decide : b!"group" ≠ b!"key-mgmt")

theorem sp_not_mem_alnum {id : Str} (h : ∀ c ∈ id, isAlnum c = true) : (32 : UInt8) ∉ id := by
  intro hm
  have := h 32 hm
  revert this; decide

theorem fecGroupsOf_marshal (ms : List Media) (gs : List (List Str))
    (h : ∀ g ∈ gs, g ≠ [] ∧ ∀ id ∈ g, (∀ c ∈ id, isAlnum c = true) ∧ ∃ m ∈ ms, m.id = id) (km : Option Bytes) :
    fecGroupsOf ms (groupAttrs gs ++ keyMgmtAttr km) = some gs := by
  induction gs with
  | nil => cases km <;> simp [groupAttrs, keyMgmtAttr, fecGroupsOf]
  | cons g gs ih =>
    have hg := h g (by simp)
    have hsplit : splitOn 32 (joinWith [32] g) = g := splitOn_join 32 g hg.1 (fun id hid => sp_not_mem_alnum (hg.2 id hid).1)
    have hall : g.all (fun id => ms.any (·.id = id)) = true := by
      rw [List.all_eq_true]
      intro id hid
      obtain ⟨m, hm, hmid⟩ := (hg.2 id hid).2
      rw [List.any_eq_true]
      exact ⟨m, hm, by simpa using hmid⟩
    have ih' := ih (fun x hx => h x (by simp [hx]))
    have e : groupAttrs (g :: gs) ++ keyMgmtAttr km
        = ⟨b!"group", b!"FEC " ++ joinWith [32] g⟩ :: (groupAttrs gs ++ keyMgmtAttr km) := rfl
    have hpre : hasPrefix b!"FEC " (b!"FEC " ++ joinWith [32] g) = true := by simp [hasPrefix, List.isPrefixOf]
    have hdrop : (b!"FEC " ++ joinWith [32] g).drop 4 = joinWith [32] g := by simp
    rw [e, fecGroupsOf]
    dsimp only
    rw [hpre, hdrop, hsplit, hall, ih']
    simp

theorem unmarshalDoc_marshal (O : Oracle) (s : Session) (hs : GoodSession O s) : unmarshalDoc O (marshalDoc s) = .ok s := by
  have hmne : (marshalDoc s).medias.isEmpty = false := by
    cases hm : s.medias with
    | nil => exact absurd hm hs.medias_ne
    | cons _ _ => simp [marshalDoc, hm]
  have hmed : unmarshalMedias O [] (marshalDoc s).medias = .ok s.medias := by
    have := unmarshalMedias_marshal O (s.medias.any (·.backChannel)) [] s.medias hs.medias_ok
      (by rcases hs.ids with h | h
          · exact Or.inl h
          · exact Or.inr (by simpa using h.2))
    simpa [marshalDoc] using this
  have hpart := mixedIds_eq_false.mpr (hs.ids.imp_right And.left)
  have hback : s.medias.all (·.backChannel) = false := by
    obtain ⟨m, hm, hb⟩ := hs.not_all_back
    rw [List.all_eq_false]
    exact ⟨m, hm, by simp [hb]⟩
  have hfec : fecGroupsOf s.medias (marshalDoc s).attrs = some s.fecGroups := by
    rw [marshalDoc_attrs]; exact fecGroupsOf_marshal s.medias s.fecGroups hs.fec_ok s.keyMgmt
  have htitle : (if (marshalDoc s).name = [32] then [] else (marshalDoc s).name) = s.title := by
    cases ht : s.title with
    | nil => simp [marshalDoc, ht]
    | cons x xs =>
      have : s.title ≠ [32] := hs.title_not_blank
      rw [ht] at this
      simp [marshalDoc, ht, this]
  unfold unmarshalDoc
  simp only [keyMgmt_session O s hs.keymgmt_ok, Res.bind, hmne, Bool.false_eq_true, if_false, hmed, hpart, hback, hfec, htitle]

end Rtsp.Sdp
