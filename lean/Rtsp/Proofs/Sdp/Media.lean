import Rtsp.Proofs.Sdp.GoodSession
import Rtsp.Proofs.Sdp.Fields
/-
Media layer: `format.Unmarshal` finds, in the attributes `Media.Marshal` wrote, each format's own
rtpmap / fmtp and rebuilds the format; `Media.Unmarshal` rebuilds the media.
-/
namespace Rtsp.Sdp
open Rtsp.Facts.Sdp

/-- one `key=value` entry of `renderFmtp` (the lambda inside it; tied to it by `renderFmtp_cons`) -/
def kvText (kv : Str × Str) : Str := kv.1 ++ 61 :: kv.2

theorem renderFmtp_cons (kv : Str × Str) (rest : List (Str × Str)) :
    renderFmtp (kv :: rest) = kvText kv ++ rest.flatMap (fun x => 59 :: 32 :: kvText x) := by
  induction rest generalizing kv with
  | nil => simp [renderFmtp, joinWith, kvText]
  | cons x xs ih =>
    have := ih x
    simp only [renderFmtp, List.map_cons, joinWith_cons_cons] at this ⊢
    rw [this]
    simp [kvText]

theorem semi_not_mem_kvText {kv : Str × Str} (hk : KeyOk kv.1) (hv : ValOk kv.2) : (59 : UInt8) ∉ kvText kv := by
  intro h
  simp only [kvText, List.mem_append, List.mem_cons] at h
  rcases h with h | h | h
  · exact (hk.chars _ h).1 rfl
  · revert h; decide
  · exact hv.nosemi _ h rfl

theorem kvText_last {kv : Str × Str} (hv : ValOk kv.2) : ∀ c, (kvText kv).getLast? = some c → isSpace c = false := by
  intro c hc
  rw [kvText, getLast?_append_cons] at hc
  cases hv2 : kv.2 with
  | nil => rw [hv2] at hc; cases hc; decide
  | cons y ys => rw [hv2, List.getLast?_cons_cons, ← hv2] at hc; exact hv.last c hc

theorem trimBlank_kvText {kv : Str × Str} (hk : KeyOk kv.1) (hv : ValOk kv.2) : trimBlank (kvText kv) = kvText kv := by
  refine trimBlank_id (fun c hc => ?_) fun c hc e => absurd (kvText_last hv c hc) (e ▸ by decide)
  obtain ⟨k, v⟩ := kv
  cases k with
  | nil => exact absurd rfl hk.ne
  | cons x xs => cases hc; exact (hk.chars _ (.head _)).2.2.1

theorem trimBlank_sp_kvText {kv : Str × Str} (hk : KeyOk kv.1) (hv : ValOk kv.2) : trimBlank (32 :: kvText kv) = kvText kv := by
  have h := trimBlank_kvText hk hv
  unfold trimBlank at h ⊢
  simp only [trimLeft, beq_self_eq_true, if_true]
  exact h

theorem cut_kvText {kv : Str × Str} (hk : KeyOk kv.1) : cut 61 (kvText kv) = some (kv.1, kv.2) :=
  cut_append _ (fun h => (hk.chars _ h).2.1 rfl)

theorem kvText_ne_nil (kv : Str × Str) : (kvText kv).isEmpty = false := by
  obtain ⟨k, v⟩ := kv
  cases k <;> simp [kvText]

theorem splitOn_tail (rest : List (Str × Str)) (hk : ∀ kv ∈ rest, KeyOk kv.1) (hv : ∀ kv ∈ rest, ValOk kv.2) (a : Str)
    (ha : (59 : UInt8) ∉ a) :
    splitOn 59 (a ++ rest.flatMap (fun x => 59 :: 32 :: kvText x)) = a :: rest.map (fun x => 32 :: kvText x) := by
  induction rest generalizing a with
  | nil => simpa using splitOn_noSep ha
  | cons x xs ih =>
    simp only [List.flatMap_cons, List.cons_append, List.map_cons]
    rw [splitOn_append _ ha]
    have hx : (59 : UInt8) ∉ 32 :: kvText x := by
      intro h
      simp only [List.mem_cons] at h
      rcases h with h | h
      · revert h; decide
      · exact semi_not_mem_kvText (hk x (by simp)) (hv x (by simp)) h
    have := ih (fun kv hkv => hk kv (by simp [hkv])) (fun kv hkv => hv kv (by simp [hkv])) (32 :: kvText x) hx
    simp only [List.cons_append] at this
    rw [this]

theorem renderFmtp_ne_nil (kv : Str × Str) (rest : List (Str × Str)) : renderFmtp (kv :: rest) ≠ [] := by
  rw [renderFmtp_cons]
  obtain ⟨k, v⟩ := kv
  cases k <;> simp [kvText]

theorem filterMap_eq_map_of {α β : Type} {f : α → Option β} {g : α → β} {l : List α} (h : ∀ x ∈ l, f x = some (g x)) :
    l.filterMap f = l.map g :=
  (filterMap_congr' h).trans (congrFun List.filterMap_eq_map' l)

theorem decodeFMTP_render (kvs : List (Str × Str)) (hk : ∀ kv ∈ kvs, KeyOk kv.1) (hv : ∀ kv ∈ kvs, ValOk kv.2) :
    decodeFMTP (renderFmtp kvs) = kvs.map fun kv => (toLower kv.1, kv.2) := by
  cases kvs with
  | nil => rfl
  | cons kv rest =>
    obtain ⟨hk0, hkr⟩ := List.forall_mem_cons.mp hk
    obtain ⟨hv0, hvr⟩ := List.forall_mem_cons.mp hv
    rw [decodeFMTP, List.isEmpty_eq_false_iff.mpr (renderFmtp_ne_nil kv rest), renderFmtp_cons,
      splitOn_tail rest hkr hvr _ (semi_not_mem_kvText hk0 hv0), List.filterMap_cons, List.filterMap_map, List.map_cons]
    simp only [Bool.false_eq_true, if_false, trimBlank_kvText hk0 hv0, kvText_ne_nil, cut_kvText hk0]
    refine congrArg _ (filterMap_eq_map_of fun x hx => ?_)
    simp only [Function.comp, trimBlank_sp_kvText (hkr x hx) (hvr x hx), kvText_ne_nil, Bool.false_eq_true, if_false,
      cut_kvText (hkr x hx)]

theorem sortKV_sorted {l : List (Str × Str)} (h : KeysSorted l) : sortKV l = l := by
  induction l with
  | nil => rfl
  | cons x xs ih =>
    obtain ⟨k, v⟩ := x
    have hx := List.pairwise_cons.mp h
    rw [sortKV, ih hx.2]
    cases xs with
    | nil => rfl
    | cons y ys =>
      obtain ⟨k', v'⟩ := y
      have hlt : strLt k k' = true := hx.1 (k', v') (by simp)
      have hne : k ≠ k' := strLt_ne hlt
      simp [insertKV, hne, hlt]

theorem renderFmtp_last (kvs : List (Str × Str)) (hv : ∀ kv ∈ kvs, ValOk kv.2) :
    ∀ c, (renderFmtp kvs).getLast? = some c → isSpace c = false := by
  induction kvs with
  | nil => intro c hc; simp [renderFmtp, joinWith] at hc
  | cons kv rest ih =>
    cases rest with
    | nil =>
      intro c hc
      have : renderFmtp [kv] = kvText kv := by simp [renderFmtp, joinWith, kvText]
      rw [this] at hc
      exact kvText_last (hv kv (by simp)) c hc
    | cons x xs =>
      intro c hc
      have e : renderFmtp (kv :: x :: xs) = (kvText kv ++ b!"; ") ++ renderFmtp (x :: xs) := by
        simp [renderFmtp, joinWith_cons_cons, kvText]
      rw [e, List.getLast?_append] at hc
      have hne : (renderFmtp (x :: xs)).getLast? ≠ none := by
        rw [renderFmtp_cons]
        obtain ⟨k, v⟩ := x
        cases k <;> simp [kvText]
      cases hl : (renderFmtp (x :: xs)).getLast? with
      | none => exact absurd hl hne
      | some z =>
        rw [hl] at hc
        simp only [Option.some_or, Option.some.injEq] at hc
        subst hc
        exact ih (fun y hy => hv y (by simp [hy])) z hl

theorem sp_not_mem_dec (n : Nat) : (32 : UInt8) ∉ dec n := not_mem_dec (by decide) n

theorem trimSpace_ptBody (q : Nat) (body : Str) (hne : body ≠ []) (hlast : ∀ c, body.getLast? = some c → isSpace c = false) :
    trimSpace (dec q ++ 32 :: body) = dec q ++ 32 :: body := by
  refine trimSpace_id (fun c hc => ?_) fun c hc => hlast c ?_
  · obtain ⟨x, xs, hd, hx⟩ := dec_head_isDigit q
    rw [hd] at hc
    cases hc
    exact isDigit_not_space hx
  · cases body with
    | nil => exact absurd rfl hne
    | cons y ys => rwa [getLast?_append_cons, List.getLast?_cons_cons] at hc

theorem getFormatAttribute_cons {pt : Nat} (hpt : pt < 256) (k : Str) (q : Nat) {body : Str} (hne : body ≠ [])
    (hlast : ∀ c, body.getLast? = some c → isSpace c = false) (rest : List Attr) (key : Str) :
    getFormatAttribute (⟨k, dec q ++ 32 :: body⟩ :: rest) pt key
      = if k = key ∧ q = pt then body else getFormatAttribute rest pt key := by
  simp only [getFormatAttribute, trimSpace_ptBody q body hne hlast, cut_append _ (sp_not_mem_dec q),
    parseUint_dec_eq (bits := attrPtBits) hpt]
  by_cases hk : k = key <;> simp only [hk, true_and, false_and, if_true, if_false]

theorem getFormatAttribute_skip_pre (pre : List Attr) (key : Str) (h : ∀ a ∈ pre, a.key ≠ key) (rest : List Attr) (pt : Nat) :
    getFormatAttribute (pre ++ rest) pt key = getFormatAttribute rest pt key := by
  induction pre with
  | nil => rfl
  | cons a as ih =>
    obtain ⟨ha, has⟩ := List.forall_mem_cons.mp h
    rw [List.cons_append, getFormatAttribute, if_neg ha, ih has]

/-- an attribute `<key>:<pt> <body>`, written unless the body is empty -/
def optAttr (k : Str) (pt : Nat) (body : Str) : List Attr := if body.isEmpty then [] else [⟨k, dec pt ++ 32 :: body⟩]

theorem formatAttrs_opt {f : Format} (h : FmtTextOk f) :
    formatAttrs f = optAttr b!"rtpmap" f.pt f.rtpmap ++ optAttr b!"fmtp" f.pt (renderFmtp f.fmtp) := by
  rw [formatAttrs, optAttr, optAttr, sortKV_sorted h.sorted]
  cases hf : f.fmtp with
  | nil => rfl
  | cons kv rest => rw [List.isEmpty_eq_false_iff.mpr (renderFmtp_ne_nil kv rest)]; rfl

/-- what a format writes under a key -/
def attrBody (f : Format) (k : Str) : Str := if k = b!"rtpmap" then f.rtpmap else if k = b!"fmtp" then renderFmtp f.fmtp else []

theorem getFormatAttribute_optAttr {pt : Nat} (hpt : pt < 256) (k : Str) (q : Nat) {body : Str}
    (hlast : ∀ c, body.getLast? = some c → isSpace c = false) (rest : List Attr) (key : Str) :
    getFormatAttribute (optAttr k q body ++ rest) pt key
      = if k = key ∧ q = pt ∧ body ≠ [] then body else getFormatAttribute rest pt key := by
  unfold optAttr
  cases body with
  | nil => simp
  | cons x xs => simp [getFormatAttribute_cons hpt k q (List.cons_ne_nil x xs) hlast]

theorem getFormatAttribute_formatAttrs {g : Format} (hg : FmtTextOk g) {pt : Nat} (hpt : pt < 256) (rest : List Attr) (key : Str) :
    getFormatAttribute (formatAttrs g ++ rest) pt key
      = if g.pt = pt ∧ attrBody g key ≠ [] then attrBody g key else getFormatAttribute rest pt key := by
  rw [formatAttrs_opt hg, List.append_assoc, getFormatAttribute_optAttr hpt _ _ hg.rtpmap_last,
    getFormatAttribute_optAttr hpt _ _ (renderFmtp_last _ hg.vals), attrBody]
  by_cases h1 : key = b!"rtpmap"
  · subst h1; simp
  · by_cases h2 : key = b!"fmtp"
    · subst h2; simp
    · simp [h1, h2, Ne.symm h1, Ne.symm h2]

theorem getFormatAttribute_none (gs : List Format) (hok : ∀ g ∈ gs, FmtTextOk g) {pt : Nat} (h256 : pt < 256)
    (hpt : ∀ g ∈ gs, g.pt ≠ pt) (key : Str) (post : List Attr) (hpost : ∀ a ∈ post, a.key ≠ key) :
    getFormatAttribute (gs.flatMap formatAttrs ++ post) pt key = [] := by
  induction gs with
  | nil => rw [List.flatMap_nil, List.nil_append, ← List.append_nil post, getFormatAttribute_skip_pre post key hpost]; rfl
  | cons g gs ih =>
    obtain ⟨hg, hgs⟩ := List.forall_mem_cons.mp hok
    obtain ⟨hp, hps⟩ := List.forall_mem_cons.mp hpt
    rw [List.flatMap_cons, List.append_assoc, getFormatAttribute_formatAttrs hg h256, if_neg (fun h => hp h.1), ih hgs hps]

theorem getFormatAttribute_format (fs : List Format) (hok : ∀ g ∈ fs, FmtTextOk g) (hd : fs.Pairwise fun a b => a.pt ≠ b.pt)
    (post : List Attr) (key : Str) (hpost : ∀ a ∈ post, a.key ≠ key) (f : Format) (hf : f ∈ fs) :
    getFormatAttribute (fs.flatMap formatAttrs ++ post) f.pt key = attrBody f key := by
  have h256 := (hok f hf).pt_lt
  induction fs with
  | nil => cases hf
  | cons g gs ih =>
    obtain ⟨hd1, hd2⟩ := List.pairwise_cons.mp hd
    obtain ⟨hg, hgs⟩ := List.forall_mem_cons.mp hok
    rw [List.flatMap_cons, List.append_assoc, getFormatAttribute_formatAttrs hg h256]
    rcases List.mem_cons.mp hf with rfl | hfgs
    · by_cases hb : attrBody f key = []
      · rw [if_neg (fun h => h.2 hb), hb]
        exact getFormatAttribute_none gs hgs h256 (fun x hx => (hd1 x hx).symm) key post hpost
      · exact if_pos ⟨rfl, hb⟩
    · rw [if_neg (fun h => hd1 f hfgs h.1)]
      exact ih hgs hd2 hfgs

theorem isSmartPT_dec (n : Nat) : isSmartPT (dec n) = false := by
  obtain ⟨x, xs, hd, hx⟩ := dec_head_isDigit n
  rw [hd]
  have : x ≠ 115 := by intro e; subst e; revert hx; decide
  unfold isSmartPT
  split
  · rename_i heq
    simp only [List.cons.injEq] at heq
    exact absurd heq.1 this
  · rfl

/-- The pieces of `marshalMedia`'s `attrs` before and (`postAttrs`) after the formats' attributes, tied to it by
`marshalMedia_attrs`: an edit of `marshalMedia` has to be repeated here. -/
def preAttrs (m : Media) : List Attr :=
  (if m.id.isEmpty then [] else [⟨b!"mid", m.id⟩])
  ++ (if m.backChannel then [⟨b!"sendonly", []⟩] else [])
  ++ keyMgmtAttr m.keyMgmt
  ++ [⟨b!"control", m.control⟩]

def postAttrs (anyBack : Bool) (m : Media) : List Attr :=
  if !m.backChannel && anyBack then [⟨b!"recvonly", []⟩] else []

theorem marshalMedia_attrs (ab : Bool) (m : Media) :
    (marshalMedia ab m).attrs = preAttrs m ++ (m.formats.flatMap formatAttrs ++ postAttrs ab m) := by
  simp [marshalMedia, preAttrs, postAttrs]

/-! `mid`, `sendonly`, `key-mgmt`, `control` are each written at most once: a table like a format's fmtp. -/

def attrsOf (l : List (Str × Str)) : List Attr := l.map fun kv => ⟨kv.1, kv.2⟩

/-- `preAttrs` as a table (`preAttrs_eq`) -/
def preTable (m : Media) : List (Str × Option Str) :=
  [(b!"mid", if m.id.isEmpty then none else some m.id), (b!"sendonly", if m.backChannel then some [] else none),
   (b!"key-mgmt", m.keyMgmt.map fun enc => b!"mikey " ++ Format.b64 enc), (b!"control", some m.control)]

theorem preAttrs_eq (m : Media) : preAttrs m = attrsOf (optEntries (preTable m)) := by
  obtain ⟨typ, id, bc, prof, km, ctl, fs⟩ := m
  cases id <;> cases bc <;> cases km <;> rfl

theorem preAttrs_keys (m : Media) : ∀ a ∈ preAttrs m, a.key ∈ [b!"mid", b!"sendonly", b!"key-mgmt", b!"control"] := by
  intro a ha
  rw [preAttrs_eq] at ha
  obtain ⟨kv, hkv, rfl⟩ := List.mem_map.mp ha
  exact List.mem_map_of_mem (f := Prod.fst) (mem_optEntries hkv)

theorem postAttrs_keys (ab : Bool) (m : Media) : ∀ a ∈ postAttrs ab m, a.key = b!"recvonly" := by
  intro a ha
  simp only [postAttrs] at ha
  split at ha
  · simp only [List.mem_singleton] at ha; subst ha; rfl
  · simp at ha

theorem unmarshalFormat_marshal (O : Oracle) (ab : Bool) (m : Media) (hm : GoodMedia O m) (f : Format) (hf : f ∈ m.formats) :
    unmarshalFormat O (marshalMedia ab m) (dec f.pt) = .ok f := by
  have hok : ∀ g ∈ m.formats, FmtTextOk g := fun g hg => (hm.formats_ok g hg).1
  have hfo := hok f hf
  have hpre_r : ∀ a ∈ preAttrs m, a.key ≠ b!"rtpmap" := fun a ha e => absurd (e ▸ preAttrs_keys m a ha) (by decide)
  have hpre_f : ∀ a ∈ preAttrs m, a.key ≠ b!"fmtp" := fun a ha e => absurd (e ▸ preAttrs_keys m a ha) (by decide)
  have hpost_r : ∀ a ∈ postAttrs ab m, a.key ≠ b!"rtpmap" := by
    intro a ha; rw [postAttrs_keys ab m a ha]; decide
  have hpost_f : ∀ a ∈ postAttrs ab m, a.key ≠ b!"fmtp" := by
    intro a ha; rw [postAttrs_keys ab m a ha]; decide
  have hr : getFormatAttribute (marshalMedia ab m).attrs f.pt b!"rtpmap" = f.rtpmap := by
    rw [marshalMedia_attrs, getFormatAttribute_skip_pre _ _ hpre_r]
    exact getFormatAttribute_format m.formats hok hm.pts_distinct _ _ hpost_r f hf
  have hfm : decodeFMTP (getFormatAttribute (marshalMedia ab m).attrs f.pt b!"fmtp") = f.fmtp.map fun kv => (toLower kv.1, kv.2) := by
    rw [marshalMedia_attrs, getFormatAttribute_skip_pre _ _ hpre_f, getFormatAttribute_format m.formats hok hm.pts_distinct _ _ hpost_f f hf]
    exact decodeFMTP_render f.fmtp hfo.keys hfo.vals
  have hpt : parseUint ptBits (dec f.pt) = some f.pt := parseUint_dec (by simpa [ptBits] using hfo.pt_lt)
  have hty : (marshalMedia ab m).media = m.typ := rfl
  unfold unmarshalFormat
  simp only [replaceSmartPayloadType, isSmartPT_dec, Bool.false_eq_true, if_false, hpt, hr, hfm, hty]
  exact (hm.formats_ok f hf).2

theorem unmarshalFormats_marshal (O : Oracle) (ab : Bool) (m : Media) (hm : GoodMedia O m) (fs : List Format)
    (hfs : ∀ f ∈ fs, f ∈ m.formats) :
    unmarshalFormats O (marshalMedia ab m) (fs.map fun f => dec f.pt) = .ok fs := by
  induction fs with
  | nil => rfl
  | cons f fs ih =>
    simp only [List.map_cons, unmarshalFormats]
    rw [unmarshalFormat_marshal O ab m hm f (hfs f (by simp)), ih (fun x hx => hfs x (by simp [hx]))]
    rfl

end Rtsp.Sdp

