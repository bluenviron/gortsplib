import Rtsp.Proofs.Sdp.Str
/-
`strings.Fields` / `strings.Join` / `strings.Split` inverses.
-/
namespace Rtsp.Sdp

theorem fields_sp (rest : Str) : fields (32 :: rest) = fields rest := by
  simp [fields, isSpace]

theorem fields_word_sp {w : Str} (hne : w ≠ []) (h : NoSp w) (rest : Str) :
    fields (w ++ 32 :: rest) = w :: fields rest := by
  induction w with
  | nil => exact absurd rfl hne
  | cons c cs ih =>
    have hc : isSpace c = false := h c (by simp)
    cases cs with
    | nil =>
      have h32 : isSpace 32 = true := by decide
      simp [fields, hc, h32]
    | cons d ds =>
      have hd : isSpace d = false := h d (by simp)
      have ih' := ih (by simp) (fun x hx => h x (by simp [hx]))
      simp only [List.cons_append] at ih' ⊢
      rw [fields]
      simp only [hc, Bool.false_eq_true, if_false, hd]
      rw [ih']

theorem fields_word {w : Str} (hne : w ≠ []) (h : NoSp w) : fields w = [w] := by
  induction w with
  | nil => exact absurd rfl hne
  | cons c cs ih =>
    have hc : isSpace c = false := h c (by simp)
    cases cs with
    | nil => simp [fields, hc]
    | cons d ds =>
      have hd : isSpace d = false := h d (by simp)
      have ih' := ih (by simp) (fun x hx => h x (by simp [hx]))
      rw [fields]
      simp only [hc, Bool.false_eq_true, if_false, hd]
      rw [ih']

theorem joinWith_cons_cons (sep p q : Str) (ps : List Str) :
    joinWith sep (p :: q :: ps) = p ++ sep ++ joinWith sep (q :: ps) := rfl

theorem fields_join (ws : List Str) (h : ∀ w ∈ ws, w ≠ [] ∧ NoSp w) : fields (joinWith [32] ws) = ws := by
  induction ws with
  | nil => rfl
  | cons w ws ih =>
    cases ws with
    | nil => simpa [joinWith] using fields_word (h w (by simp)).1 (h w (by simp)).2
    | cons q qs =>
      rw [joinWith_cons_cons]
      simp only [List.append_assoc, List.singleton_append]
      rw [fields_word_sp (h w (by simp)).1 (h w (by simp)).2, ih (fun x hx => h x (by simp [hx]))]

theorem splitOn_join (sep : UInt8) (ps : List Str) (hne : ps ≠ []) (h : ∀ p ∈ ps, sep ∉ p) :
    splitOn sep (joinWith [sep] ps) = ps := by
  induction ps with
  | nil => exact absurd rfl hne
  | cons p ps ih =>
    cases ps with
    | nil => simpa [joinWith] using splitOn_noSep (h p (by simp))
    | cons q qs =>
      rw [joinWith_cons_cons]
      simp only [List.append_assoc, List.singleton_append]
      rw [splitOn_append _ (h p (by simp)), ih (by simp) (fun x hx => h x (by simp [hx]))]

theorem forall_mem_joinWith {P : UInt8 → Prop} {sep : Str} {ps : List Str} (hsep : ∀ c ∈ sep, P c)
    (hps : ∀ p ∈ ps, ∀ c ∈ p, P c) : ∀ c ∈ joinWith sep ps, P c := by
  induction ps with
  | nil => nofun
  | cons p ps ih =>
    obtain ⟨hp, hr⟩ := List.forall_mem_cons.mp hps
    cases ps with
    | nil => exact hp
    | cons q qs =>
      rw [joinWith_cons_cons]
      exact List.forall_mem_append.mpr ⟨List.forall_mem_append.mpr ⟨hp, hsep⟩, ih hr⟩

theorem joinWith_cons_ne_nil (sep : Str) {p : Str} (ps : List Str) (h : p ≠ []) : joinWith sep (p :: ps) ≠ [] := by
  cases ps with
  | nil => exact h
  | cons q qs => exact List.append_ne_nil_of_left_ne_nil (List.append_ne_nil_of_left_ne_nil h _) _

end Rtsp.Sdp
