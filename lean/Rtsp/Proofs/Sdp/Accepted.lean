import Rtsp.Model.Sdp.Session
import Rtsp.Proofs.Sdp.ParseRender
/-
Postconditions of `Session.Unmarshal2`, read off one inversion each of `unmarshalMedia`, `unmarshalMedias`, `unmarshalDoc`.
The Boolean tests of the three on media ids are stated first, as iffs: the inversions read them from left to right, the
round trip (`Session.lean`) from right to left.  Beside them what the two lookups of an accepted document give: key-management
data that a coherent oracle accepts again (`unmarshalKeyMgmt_post`), attribute values that are one line of ASCII
(`getAttribute_chars`, the one place that needs the text layer's `AttrRT` (`ParseRender`)).
-/
namespace Rtsp.Sdp

/-- the test of `unmarshalMedia` for "the id is not alphanumeric" -/
theorem badId_eq_false {id : Str} : (!id.isEmpty && !id.all isAlnum) = false ↔ ∀ c ∈ id, isAlnum c = true := by
  cases id <;> simp

/-- the test of `unmarshalDoc` for "some medias have an id, some have none" -/
theorem mixedIds_eq_false {ms : List Media} :
    (ms.any (!·.id.isEmpty) && ms.any (·.id.isEmpty)) = false ↔ (∀ m ∈ ms, m.id = []) ∨ (∀ m ∈ ms, m.id ≠ []) := by
  rw [Bool.and_eq_false_iff]; simp [List.isEmpty_iff]

/-- the test of `unmarshalMedias` for "the id has already occurred" -/
theorem dupId_eq_false {acc : List Media} {m : Media} :
    (!m.id.isEmpty && acc.any (·.id = m.id)) = false ↔ m.id = [] ∨ ∀ a ∈ acc, a.id ≠ m.id := by
  rw [Bool.and_eq_false_iff]; simp [List.isEmpty_iff]

structure Accepted (s : Session) : Prop where
  medias_ne : s.medias ≠ []
  formats_ne : ∀ m ∈ s.medias, m.formats ≠ []
  ids_alnum : ∀ m ∈ s.medias, ∀ c ∈ m.id, isAlnum c = true
  ids : (∀ m ∈ s.medias, m.id = []) ∨ ((∀ m ∈ s.medias, m.id ≠ []) ∧ s.medias.Pairwise fun a b => a.id ≠ b.id)
  not_all_back : ∃ m ∈ s.medias, m.backChannel = false
  fec : ∀ g ∈ s.fecGroups, g ≠ [] ∧ ∀ id ∈ g, ∃ m ∈ s.medias, m.id = id
  title_not_blank : s.title ≠ [32]

/-- Oracle coherence is inherited: what `unmarshalKeyMgmt` returns was re-encoded by the oracle, so a coherent oracle — one that
accepts again, with the same encoding, a message it re-encodes — accepts it (`keymgmt_ok` of `ValidSession` / `ValidMedia`).
Of the attribute's text it says nothing. -/
theorem unmarshalKeyMgmt_post {O : Oracle} (hmk : ∀ raw k, O.mikey raw = some k → O.mikey k = some k) {attrs : List Attr}
    {km : Option Bytes} (h : unmarshalKeyMgmt O attrs = .ok km) : ∀ k, km = some k → O.mikey k = some k := by
  rintro k rfl
  unfold unmarshalKeyMgmt at h
  simp only at h
  split at h
  · cases h
  · split at h
    · cases h
    · split at h
      · cases h
      · rename_i raw _
        split at h
        · rename_i m hm
          cases h
          exact hmk raw _ hm
        · cases h

theorem getAttribute_chars {attrs : List Attr} {key : Str} (h : ∀ a ∈ attrs, AttrRT a) :
    ∀ c ∈ getAttribute attrs key, c ≠ 10 ∧ c ≠ 13 ∧ isAscii c = true := by
  intro c hc
  unfold getAttribute at hc
  split at hc
  · rename_i a ha
    have hmem : a ∈ attrs := List.mem_of_find?_eq_some ha
    have hrt := h a hmem
    have hin : c ∈ renderAttr a := by
      unfold renderAttr
      split
      · rename_i he; rw [List.isEmpty_iff.mp he] at hc; simp at hc
      · simp [hc]
    exact ⟨(hrt.nonl c hin).1, (hrt.nonl c hin).2, hrt.ascii c hin⟩
  · simp at hc

theorem unmarshalMedia_inv {O : Oracle} {md : MediaD} {m : Media} (h : unmarshalMedia O md = .ok m) :
    m.typ = md.media ∧ m.control = getAttribute md.attrs b!"control" ∧ unmarshalKeyMgmt O md.attrs = .ok m.keyMgmt
      ∧ m.formats ≠ [] ∧ ∀ c ∈ m.id, isAlnum c = true := by
  simp only [unmarshalMedia] at h
  by_cases hid : (!(getAttribute md.attrs b!"mid").isEmpty && !(getAttribute md.attrs b!"mid").all isAlnum) = true
  · rw [if_pos hid] at h; cases h
  · rw [if_neg hid] at h
    obtain ⟨km, hk, h⟩ := Res.bind_eq_ok.mp h
    obtain ⟨fs, _, h⟩ := Res.bind_eq_ok.mp h
    by_cases hne : fs.isEmpty = true
    · rw [if_pos hne] at h; cases h
    · rw [if_neg hne] at h
      cases h
      exact ⟨rfl, rfl, hk, fun e => hne (List.isEmpty_iff.mpr e), badId_eq_false.mp (Bool.not_eq_true _ ▸ hid)⟩

abbrev IdsDistinct (ms : List Media) : Prop := ms.Pairwise fun a b => a.id ≠ [] → b.id ≠ [] → a.id ≠ b.id

theorem unmarshalMedias_inv {O : Oracle} (acc : List Media) (mds : List MediaD) (ms : List Media)
    (h : unmarshalMedias O acc mds = .ok ms) :
    ∃ new, ms = acc ++ new ∧ new.length = mds.length ∧ (∀ m ∈ new, ∃ md ∈ mds, unmarshalMedia O md = .ok m)
      ∧ (IdsDistinct acc → IdsDistinct ms) := by
  induction mds generalizing acc with
  | nil => cases h; exact ⟨[], (List.append_nil _).symm, rfl, nofun, id⟩
  | cons md rest ih =>
    rw [unmarshalMedias] at h
    split at h
    · rename_i m hm
      split at h
      · cases h
      · rename_i hdup
        obtain ⟨new, hms, hlen, hnew, hpw⟩ := ih (acc ++ [m]) h
        refine ⟨m :: new, by rw [hms, List.append_assoc]; rfl, congrArg (· + 1) hlen, ?_, fun hacc => hpw ?_⟩
        · intro x hx
          rcases List.mem_cons.mp hx with rfl | hx
          · exact ⟨md, .head _, hm⟩
          · obtain ⟨md', hmd', hx'⟩ := hnew x hx
            exact ⟨md', .tail _ hmd', hx'⟩
        · refine List.pairwise_append.mpr ⟨hacc, List.pairwise_singleton _ _, fun a ha b hb _ hbne => ?_⟩
          obtain rfl := List.mem_singleton.mp hb
          exact (dupId_eq_false.mp (Bool.not_eq_true _ ▸ hdup)).resolve_left hbne a ha
    · cases h
    · cases h

theorem fecGroupsOf_post (ms : List Media) (attrs : List Attr) (gs : List (List Str)) (h : fecGroupsOf ms attrs = some gs) :
    ∀ g ∈ gs, g ≠ [] ∧ ∀ id ∈ g, ∃ m ∈ ms, m.id = id := by
  induction attrs generalizing gs with
  | nil => cases h; nofun
  | cons a rest ih =>
    simp only [fecGroupsOf] at h
    split at h
    · split at h
      · rename_i hall
        cases hr : fecGroupsOf ms rest with
        | none => rw [hr] at h; cases h
        | some gs' =>
          rw [hr] at h
          cases h
          intro g hg
          rcases List.mem_cons.mp hg with rfl | hg
          · refine ⟨splitOn_ne_nil _ _, fun id hid => ?_⟩
            simpa only [List.any_eq_true, decide_eq_true_eq] using Text.mem_all hall hid
          · exact ih gs' hr g hg
      · cases h
    · exact ih gs h

/-- the `let ms := …` of `unmarshalDoc` (tied to it inside `unmarshalDoc_inv`) -/
def unmark (ms : List Media) : List Media :=
  if ms.all (·.backChannel) then ms.map ({ · with backChannel := false }) else ms

/-- said of the member of `ms`, so that what is known of it is known of `m` as it stands (the other fields are `m`'s) -/
theorem mem_unmark {ms : List Media} {m : Media} (h : m ∈ unmark ms) : ∃ b, { m with backChannel := b } ∈ ms := by
  unfold unmark at h
  split at h
  · obtain ⟨n, hn, rfl⟩ := List.mem_map.mp h
    exact ⟨n.backChannel, hn⟩
  · exact ⟨m.backChannel, h⟩

theorem unmark_ids (ms : List Media) : (unmark ms).map (·.id) = ms.map (·.id) := by
  unfold unmark
  split
  · rw [List.map_map]; rfl
  · rfl

theorem unmark_not_all_back {ms : List Media} (hne : ms ≠ []) : ∃ m ∈ unmark ms, m.backChannel = false := by
  unfold unmark
  split
  · cases ms with
    | nil => exact absurd rfl hne
    | cons n ns => exact ⟨_, .head _, rfl⟩
  · rename_i hall
    obtain ⟨n, hn, hb⟩ := List.all_eq_false.mp (Bool.not_eq_true _ ▸ hall)
    exact ⟨n, hn, Bool.not_eq_true _ ▸ hb⟩

theorem unmarshalDoc_inv {O : Oracle} {d : Doc} {s : Session} (h : unmarshalDoc O d = .ok s) :
    ∃ ms, ms ≠ [] ∧ (∀ m ∈ ms, ∃ md ∈ d.medias, unmarshalMedia O md = .ok m) ∧ IdsDistinct ms
      ∧ ((∀ m ∈ ms, m.id = []) ∨ (∀ m ∈ ms, m.id ≠ []))
      ∧ s.medias = unmark ms ∧ fecGroupsOf s.medias d.attrs = some s.fecGroups
      ∧ unmarshalKeyMgmt O d.attrs = .ok s.keyMgmt ∧ s.title = (if d.name = [32] then [] else d.name) := by
  simp only [unmarshalDoc] at h
  obtain ⟨km, hk, h⟩ := Res.bind_eq_ok.mp h
  by_cases hmne : d.medias.isEmpty = true
  · rw [if_pos hmne] at h; cases h
  · rw [if_neg hmne] at h
    obtain ⟨ms, hm, h⟩ := Res.bind_eq_ok.mp h
    obtain ⟨_, rfl, hlen, hnew, hpw⟩ := unmarshalMedias_inv [] d.medias ms hm
    by_cases hpart : (ms.any (!·.id.isEmpty) && ms.any (·.id.isEmpty)) = true
    · rw [if_pos hpart] at h; cases h
    · rw [if_neg hpart] at h
      split at h
      · cases h
      · rename_i gs hgs
        cases h
        exact ⟨ms, fun e => hmne (List.isEmpty_iff.mpr (List.eq_nil_of_length_eq_zero (by rw [← hlen, e]; rfl))), hnew, hpw .nil,
          mixedIds_eq_false.mp (Bool.not_eq_true _ ▸ hpart), rfl, hgs, hk, rfl⟩

/-- **Postconditions of `Session.Unmarshal2`**, for any document and any oracle. -/
theorem unmarshalDoc_post (O : Oracle) (d : Doc) (s : Session) (h : unmarshalDoc O d = .ok s) : Accepted s := by
  obtain ⟨ms, hne, hnew, hpw, hpart, hmed, hfec, _, htitle⟩ := unmarshalDoc_inv h
  have hof : ∀ m ∈ s.medias, ∃ b, { m with backChannel := b } ∈ ms := fun m hm => mem_unmark (hmed ▸ hm)
  have hinv : ∀ n ∈ ms, n.formats ≠ [] ∧ ∀ c ∈ n.id, isAlnum c = true := fun n hn => by
    obtain ⟨md, _, hmd⟩ := hnew n hn
    exact (unmarshalMedia_inv hmd).2.2.2
  refine
    { medias_ne := fun e => hne (List.map_eq_nil_iff.mp (by rw [← unmark_ids, ← hmed, e]; rfl))
      formats_ne := fun m hm => (hof m hm).elim fun _ hn => (hinv _ hn).1
      ids_alnum := fun m hm => (hof m hm).elim fun _ hn => (hinv _ hn).2
      ids := ?_
      not_all_back := hmed ▸ unmark_not_all_back hne
      fec := fecGroupsOf_post _ _ _ hfec
      title_not_blank := by
        rw [htitle]
        split
        · decide
        · assumption }
  rcases hpart with hall | hall
  · exact Or.inl fun m hm => (hof m hm).elim fun _ hn => (hall _ hn :)
  · refine Or.inr ⟨fun m hm => (hof m hm).elim fun _ hn => (hall _ hn :), ?_⟩
    have hp2 : (ms.map (·.id)).Pairwise (· ≠ ·) :=
      List.pairwise_map.mpr (hpw.imp_of_mem fun ha hb hab => hab (hall _ ha) (hall _ hb))
    rw [← unmark_ids, ← hmed] at hp2
    exact List.pairwise_map.mp hp2

end Rtsp.Sdp
