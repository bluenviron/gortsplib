import Rtsp.Proofs.Sdp.Session
import Rtsp.Proofs.Sdp.ParseRender
/-
The composed round trip: a `GoodSession`, marshalled to SDP text and parsed back, is the session (for valid sessions:
`unmarshal_marshal` in `AcceptedGood`).
-/
namespace Rtsp.Sdp

theorem lineCh_of_alnum {c : UInt8} (h : isAlnum c = true) : LineCh c := by
  revert h
  simp only [LineCh, isAlnum, isDigit, isUpper, isLower, isAscii, Bool.or_eq_true, Bool.and_eq_true, decide_eq_true_eq, ne_eq,
    UInt8.le_iff_toNat_le, UInt8.lt_iff_toNat_lt, ← UInt8.toNat_inj, UInt8.reduceToNat]
  omega

theorem lineCh_of_plain {c : UInt8} (h : plainCh c = true) : LineCh c := by
  have := plainCh_spec h
  exact ⟨this.1, this.2.2.2.1, this.2.2.2.2.1⟩

theorem lineCh_dec {n : Nat} {c : UInt8} (h : c ∈ dec n) : LineCh c := lineCh_of_plain (plain_dec n c h)

/-- with `k` a variable: `by decide` on a literal key does not see through `Attr.key ⟨k, v⟩` -/
theorem wfAttr_of {k v : Str} (hk : KeyLit k) (hvc : ∀ c ∈ v, LineCh c) : WfAttr ⟨k, v⟩ := ⟨hk, hvc⟩

theorem lineCh_lit (s : Str) (h : ∀ c ∈ s, isAscii c = true ∧ c ≠ 10 ∧ c ≠ 13) : ∀ c ∈ s, LineCh c := h

theorem lineCh_kvText {kv : Str × Str} (hk : KeyOk kv.1) (hv : ValOk kv.2) : ∀ c ∈ kvText kv, LineCh c := by
  intro c hc
  simp only [kvText, List.mem_append, List.mem_cons] at hc
  rcases hc with hc | rfl | hc
  · have := hk.chars c hc
    exact ⟨this.2.2.2.2.2, this.2.2.2.1, this.2.2.2.2.1⟩
  · exact ⟨by decide, by decide, by decide⟩
  · exact ⟨hv.ascii c hc, hv.nonl c hc⟩

theorem lineCh_renderFmtp (kvs : List (Str × Str)) (hk : ∀ kv ∈ kvs, KeyOk kv.1) (hv : ∀ kv ∈ kvs, ValOk kv.2) :
    ∀ c ∈ renderFmtp kvs, LineCh c :=
  forall_mem_joinWith (by decide) (List.forall_mem_map.mpr fun kv hkv => lineCh_kvText (hk kv hkv) (hv kv hkv))

theorem wf_optAttr {k : Str} {pt : Nat} {body : Str} (hk : KeyLit k) (hb : ∀ c ∈ body, LineCh c) :
    ∀ a ∈ optAttr k pt body, WfAttr a := by
  intro a ha
  unfold optAttr at ha
  split at ha
  · cases ha
  · obtain rfl := List.mem_singleton.mp ha
    refine wfAttr_of hk fun c hc => ?_
    rcases List.mem_append.mp hc with hc | hc
    · exact lineCh_dec hc
    · rcases List.mem_cons.mp hc with rfl | hc
      · decide
      · exact hb c hc

theorem wf_formatAttrs {f : Format} (h : FmtTextOk f) : ∀ a ∈ formatAttrs f, WfAttr a := by
  intro a ha
  rw [formatAttrs_opt h] at ha
  rcases List.mem_append.mp ha with ha | ha
  · exact wf_optAttr (by decide) (fun c hc => ⟨h.rtpmap_ascii c hc, h.rtpmap_nonl c hc⟩) a ha
  · exact wf_optAttr (by decide) (lineCh_renderFmtp f.fmtp h.keys h.vals) a ha

theorem wf_keyMgmtAttr (k : Option Bytes) : ∀ a ∈ keyMgmtAttr k, WfAttr a := by
  intro a ha
  cases k with
  | none => cases ha
  | some enc =>
    obtain rfl := List.mem_singleton.mp ha
    refine wfAttr_of (by decide) fun c hc => ?_
    rcases List.mem_append.mp hc with hc | hc
    · exact (by decide : ∀ c ∈ b!"mikey ", LineCh c) c hc
    · exact lineCh_of_plain (plain_b64 enc c hc)

theorem wf_marshalMedia (O : Oracle) (ab : Bool) (m : Media) (hm : GoodMedia O m) : WfMedia (marshalMedia ab m) where
  type_ok := hm.type_ok
  type_nosp := fun c hc => (hm.type_chars c hc).1
  type_ascii := fun c hc => (hm.type_chars c hc).2
  protos_ne := by
    unfold marshalMedia
    split <;> nofun
  protos_ok := by
    simp only [marshalMedia]
    split <;> decide
  fmts_ne := fun e => hm.formats_ne (List.map_eq_nil_iff.mp e)
  fmts_ok := by
    intro f hf
    obtain ⟨g, _, rfl⟩ := List.mem_map.mp hf
    exact ⟨dec_ne_nil _, fun c hc => (plainCh_spec (plain_dec _ c hc)).2.1, fun c hc => (lineCh_dec hc).1⟩
  attrs_ok := by
    intro a ha
    apply attrRT_of_wf
    rw [marshalMedia_attrs] at ha
    simp only [List.mem_append, List.mem_flatMap] at ha
    rcases ha with ha | ⟨f, hf, ha⟩ | ha
    · simp only [preAttrs, List.mem_append, List.mem_singleton] at ha
      rcases ha with ((ha | ha) | ha) | rfl
      · split at ha
        · cases ha
        · obtain rfl := List.mem_singleton.mp ha
          exact wfAttr_of (by decide) fun c hc => lineCh_of_alnum (hm.id_alnum c hc)
      · split at ha
        · obtain rfl := List.mem_singleton.mp ha
          exact wfAttr_of (by decide) nofun
        · cases ha
      · exact wf_keyMgmtAttr m.keyMgmt a ha
      · exact wfAttr_of (by decide) fun c hc => ⟨(hm.control_ok c hc).2.2, (hm.control_ok c hc).1, (hm.control_ok c hc).2.1⟩
    · exact wf_formatAttrs (hm.formats_ok f hf).1 a ha
    · unfold postAttrs at ha
      split at ha
      · obtain rfl := List.mem_singleton.mp ha
        exact wfAttr_of (by decide) nofun
      · cases ha

theorem wf_marshalDoc (O : Oracle) (s : Session) (hs : GoodSession O s) : WfDoc (marshalDoc s) where
  name_nonl := by
    intro c hc
    unfold marshalDoc at hc
    split at hc
    · obtain rfl := List.mem_singleton.mp hc; decide
    · exact hs.title_ok c hc
  attrs_ok := by
    intro a ha
    apply attrRT_of_wf
    rw [marshalDoc_attrs] at ha
    rcases List.mem_append.mp ha with ha | ha
    · obtain ⟨g, hg, rfl⟩ := List.mem_map.mp ha
      exact wfAttr_of (by decide) (List.forall_mem_append.mpr ⟨by decide,
        forall_mem_joinWith (by decide) fun id hid c hc => lineCh_of_alnum (((hs.fec_ok g hg).2 id hid).1 c hc)⟩)
    · exact wf_keyMgmtAttr s.keyMgmt a ha
  medias_ok := by
    intro m hm
    obtain ⟨m0, hm0, rfl⟩ := List.mem_map.mp hm
    exact wf_marshalMedia O _ m0 (hs.medias_ok m0 hm0)

theorem unmarshal_marshal_good (O : Oracle) (multicast : Bool) (s : Session) (hs : GoodSession O s) :
    unmarshal O (marshal multicast s) = .ok s := by
  unfold unmarshal marshal
  rw [parse_render multicast _ (wf_marshalDoc O s hs)]
  exact unmarshalDoc_marshal O s hs

end Rtsp.Sdp
