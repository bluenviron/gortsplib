import Rtsp.Proofs.Ledger.Total
import Rtsp.Proofs.Ledger.Release
import Rtsp.Proofs.Ledger.Isolation
import Rtsp.Proofs.Ledger.Timeouts
import Rtsp.Proofs.Ledger.IsolationTables
/-
# C11 — the server survives hostile control connections and cleans up after them

Property theorems about `Model/ServerLedger.lean` (the model of the request logic and of the
resource tables of server.go / server_conn.go / server_conn_reader.go / server_session*.go /
server_stream.go that the correspondence harness runs against a real `Server`).  The proofs are in
`Rtsp/Proofs/Ledger/*.lean`; here they are instantiated at the reachable states (what is said of a single input
and used nowhere else is proved in place).

What is *not* here: panics, deadlocks and leaks inside the Go runtime are observed by the harness
(`go/dom/hostile`), not proved — see `props/C11.json` "partial".
-/
namespace Rtsp.Ledger.C11
open Rtsp.Ledger Rtsp.Facts.Ledger

/-- **The code still has the shape the model mirrors** (facts regenerated from /repo on every run):
the `chRemoveConn` rule, the tear-down orders of `ServerConn.run` / `ServerSession.run`, the read
deadlines (armed before the first byte; disabled only while recording over UDP; restored by PAUSE),
the write deadlines in front of every response, interleaved frame, tunnel answer and UDP datagram,
every 400 / 454 returned together with an error, the response written before the error is returned,
frames / responses in `readFuncStandard` end the connection, `wsNetConn.Close` does not panic, a
failed RECORD is undone. -/
theorem code_shape :
    removeConnRule = true ∧ sessionTeardownOrder = true ∧ connTeardownOrder = true ∧
    mediaStopUnregisters = true ∧ responseWrittenBeforeError = true ∧ readerReturnsRequestError = 2 ∧
    unexpectedFrameCloses = 1 ∧ unexpectedResponseCloses = 2 ∧ firstReadHasDeadline = true ∧
    recordDisablesDeadline = true ∧ tcpReaderDeadlines = 4 ∧ wsCloseImplemented = true ∧
    recordStartFailureUndone = true ∧ udpTimerArmedOnPlayAndRecord = 4 ∧ sessionNotFoundIsError = true ∧
    badRequestSitesConn = badRequestAllConn ∧ badRequestSitesSession = badRequestAllSession ∧
    pauseRearmsDeadlines = true ∧ responseWriteDeadline = true ∧ frameWriteDeadlineRTP = true ∧
    frameWriteDeadlineRTCP = true ∧ tunnelWriteDeadlines = 2 ∧ udpWriteDeadline = true := by
  decide

/-- **Totality of the per-connection step.**  Whatever the input class and whatever the state, the
step on connection `c` emits an answer for `c` (RTSP response, HTTP response, WebSocket accept), or
closes `c`, or consumes the input without answer — which happens only for bytes `Conn.Read` skips
and for interleaved frames while the reader is in TCP mode — or the input is an event the
connection cannot see (its read deadline is not armed; a GET channel reads nothing while it waits). -/
theorem every_input_answered_or_closed (st : State) (c : Conn) (i : Input) :
    Answered c.id (connInput st c i).2 ∨ Out.connClose c.id ∈ (connInput st c i).2 ∨
    (Out.consumed c.id ∈ (connInput st c i).2 ∧ Consumable c i) ∨
    ((connInput st c i).2 = [] ∧ Unseen st c i) := by
  by_cases hidle : i = .idle ∧ deadlineArmed st c = false
  · exact .inr (.inr (.inr ⟨by simp [connInput, hidle], .inl hidle⟩))
  · rw [connInput_outs st c i fun e => by simpa [e] using hidle]
    exact connInput0_total st c i

/-- **The response to a request comes first** (before any close). -/
theorem request_answered_first (st : State) (c : Conn) (r : Req) :
    ∃ rest, (rtspInput st c (.req r)).2 = Out.rtsp c.id (handleRequest st c r).2.1 :: rest := by
  simp only [rtspInput]
  split <;> exact ⟨_, rfl⟩

/-- **A request is always answered** (on every connection that reads RTSP). -/
theorem request_answered (st : State) (c : Conn) (r : Req) (hp : ∀ k, c.phase ≠ .httpWait k) :
    ∃ n, Out.rtsp c.id n ∈ (connInput st c (.req r)).2 := by
  rw [connInput_outs st c (.req r) nofun]
  unfold connInput0
  cases hph : c.phase with
  | httpWait k => exact absurd hph (hp k)
  | fresh =>
    obtain ⟨rest, h⟩ := request_answered_first (setConn st { c with phase := .standard }) { c with phase := .standard } r
    exact ⟨_, by simp only [freshInput]; rw [h]; exact List.mem_cons_self⟩
  | standard =>
    obtain ⟨rest, h⟩ := request_answered_first st c r
    exact ⟨_, by simp only [lateInput]; rw [h]; exact List.mem_cons_self⟩
  | tcp =>
    obtain ⟨rest, h⟩ := request_answered_first st c r
    exact ⟨_, by simp only [lateInput]; rw [h]; exact List.mem_cons_self⟩

/-- **While its read deadline is armed, a silent connection is closed** (`idle` = the deadline
expires).  The deadline is armed in every phase except `readFuncStandard` while the session
records over UDP — the rule is `deadlineFor`, applied by `rearm`; `deadlineArmed` reads the flag it sets. -/
theorem silence_closes (st : State) (c : Conn) (h : deadlineArmed st c = true) :
    Out.connClose c.id ∈ (connInput st c .idle).2 :=
  idle_closes st c h

/-- **A time-out is always enabled: no connection can stay for ever by staying silent.**  In every
reachable state, for every open connection `c`: either its read deadline is armed, and then
silence (`idle`) closes it; or — the one case in which `readFuncStandard` sets no deadline — `c` is
a listed member of a live session that records over UDP, whose own time-out is enabled and closes
`c` with it.  (Together with `every_input_answered_or_closed`: within its timeouts the server
answers or closes the connection.)  The proof needs two more invariants of all reachable states:
no dangling session pointers (`Ptr`), and "an unarmed connection waits on a UDP recording" (`Waiting`);
the second one is what the repairs `paused-record-session-silent-conn` and
`tcp-record-session-silent-conn` (known-findings.txt) establish in the code. -/
theorem timeout_always_enabled (cfg : Config) (es : List Event) (c : Conn) (hc : c ∈ (run (init cfg) es).1.conns) :
    (c.armed = true ∧ Out.connClose c.id ∈ (connInput (run (init cfg) es).1 c .idle).2) ∨
    (∃ s ∈ (run (init cfg) es).1.sessions, c.session = some s.id ∧ c.id ∈ s.conns ∧ survivesAlone s = true ∧
      Out.connClose c.id ∈ (step (run (init cfg) es).1 (.sessTimeout s.id)).2 ∧
      ∀ x ∈ (step (run (init cfg) es).1 (.sessTimeout s.id)).1.conns, x.id ≠ c.id) := by
  obtain ⟨hA, hp, h⟩ := invariants_run (waiting_init cfg) (ptr_init cfg) (inv_init cfg) es
  exact timeout_enabled hA hp h hc

/-- **Status and error flag agree**: `handleRequestInner` returns an error (which makes the reader
close the connection) exactly with the statuses 400 and 454; 200 / 404 / 461 / 501 keep the
connection. -/
theorem error_iff_400_454 (st : State) (c : Conn) (r : Req) :
    (handleRequest st c r).2.2.1 = (((handleRequest st c r).2.1 == statusBadRequest) ||
      ((handleRequest st c r).2.1 == statusSessionNotFound)) :=
  handleRequest_coherent st c r

/-- **An error response closes the connection, after the response**: the outputs are the response,
what the request did, then the tear-down; afterwards the connection is not among the server's connections. -/
theorem error_closes_after_response (st : State) (c : Conn) (r : Req)
    (h : errStatus (handleRequest st c r).2.1 = true) :
    (rtspInput st c (.req r)).2 =
      Out.rtsp c.id (handleRequest st c r).2.1 :: (handleRequest st c r).2.2.2 ++ (closeById (handleRequest st c r).1 c.id).2 ∧
    ∀ x ∈ (rtspInput st c (.req r)).1.conns, x.id ≠ c.id := by
  have he : (handleRequest st c r).2.2.1 = true := by rw [handleRequest_coherent]; exact h
  simp only [rtspInput, he, if_true]
  exact ⟨trivial, closeById_removes _ _⟩

/-- the tear-down of a connection emits its `OnConnClose` -/
theorem error_close_emitted (st : State) (c : Conn) :
    Out.connClose c.id ∈ (closeConn st c).2 := closeConn_emits st c

/-- … and no other status closes it. -/
theorem no_error_keeps_open (st : State) (c : Conn) (r : Req)
    (h : errStatus (handleRequest st c r).2.1 = false) :
    rtspInput st c (.req r) =
      ((handleRequest st c r).1, Out.rtsp c.id (handleRequest st c r).2.1 :: (handleRequest st c r).2.2.2) := by
  have he : (handleRequest st c r).2.2.1 = false := by rw [handleRequest_coherent]; exact h
  simp only [rtspInput, he, Bool.false_eq_true, if_false]

/-- **The ownership invariant holds in every reachable state**, for every configuration and every
history of events on any number of connections (`Inv`, Proofs/Ledger/Inv.lean): connection and
session ids are unique; a session lists only open connections that point back to it; a session
without connections is one that streams over UDP / multicast (the `chRemoveConn` rule); every UDP
registration belongs to a live UDP session that has a media with that port; every reader slot and
active-reader entry belongs to a live session in play mode; every write queue to a live session;
every waiting GET channel to an open connection. -/
theorem invariant_reachable (cfg : Config) (es : List Event) : Inv (run (init cfg) es).1 :=
  inv_run (inv_init cfg) es

/-- no dangling pointers: a connection points only to a live session that lists it -/
theorem pointers_valid (cfg : Config) (es : List Event) : Ptr (run (init cfg) es).1 :=
  ptr_run (ptr_init cfg) (inv_init cfg) es

/-- **Ledger empty after close.**  In a reachable state in which no connection is open (every
hostile connection has ended, by itself or by the server), every session that is left is waiting
for its UDP / multicast time-out, and once those time-outs have fired there is no session, no UDP
registration, no reader slot, no write queue and no tunnel channel left. -/
theorem ledger_empty_after_close (cfg : Config) (es : List Event) (hc : (run (init cfg) es).1.conns = []) :
    (∀ s ∈ (run (init cfg) es).1.sessions, s.conns = [] ∧ survivesAlone s = true) ∧
    Released (run (run (init cfg) es).1 ((run (init cfg) es).1.sessions.map fun s => Event.sessTimeout s.id)).1 :=
  ⟨fun _ hs => (invariant_reachable cfg es).alone_survives hc hs, all_released (invariant_reachable cfg es) hc⟩

/-- **A connection that has ended holds nothing**: in a reachable state in which connection `c`
is not open, no session lists it and no tunnel channel is its; a session that is left without any
connection streams over UDP / multicast, so its time-out is enabled … -/
theorem closed_connection_holds_nothing (cfg : Config) (es : List Event) (c : ConnId)
    (hc : ∀ x ∈ (run (init cfg) es).1.conns, x.id ≠ c) :
    (∀ s ∈ (run (init cfg) es).1.sessions, c ∉ s.conns) ∧ (∀ e ∈ (run (init cfg) es).1.httpRead, e.1 ≠ c) ∧
    ∀ s ∈ (run (init cfg) es).1.sessions, s.conns = [] → survivesAlone s = true :=
  closed_conn_holds_nothing (invariant_reachable cfg es) c hc

/-- … **and that time-out releases everything the session owns**: the session, its UDP
registrations, its reader slot, its write queue, and the connections it still listed. -/
theorem session_timeout_releases (cfg : Config) (es : List Event) (s : Sess)
    (hs : s ∈ (run (init cfg) es).1.sessions) (ha : survivesAlone s = true) :
    let st' := (step (run (init cfg) es).1 (.sessTimeout s.id)).1
    (∀ t ∈ st'.sessions, t.id ≠ s.id) ∧ (∀ e ∈ st'.udpRtp, e.2 ≠ s.id) ∧ (∀ e ∈ st'.udpRtcp, e.2 ≠ s.id) ∧
    (∀ x ∈ st'.readers, x ≠ s.id) ∧ (∀ x ∈ st'.active, x ≠ s.id) ∧ (∀ x ∈ st'.writers, x ≠ s.id) ∧
    (∀ x ∈ st'.conns, x.id ∉ s.conns) :=
  timeout_releases (invariant_reachable cfg es) hs ha

/-- The tear-down of a connection keeps the invariant whatever the connection was doing — the
step every hostile input ends in. -/
theorem teardown_keeps_invariant (st : State) (h : Inv st) (c : Conn) (hc : c ∈ st.conns) :
    Inv (closeConn st c).1 := inv_closeConn h hc

/-- **A step on connection `a` leaves the projection of the state on connection `b` unchanged.**
In a reachable state, let `sb` be the session `b` points to (`none` if it has none).  If `a` is not
attached to that session, the input on `a` does not name it (session ids are secrets: the server
draws them at random and hands them only to the peer that created the session), that session is
live, and a tunnel POST does not claim `b`'s GET channel, then after any input on `a` — whatever it
is: garbage, errors, tear-downs, time-outs — the record of `b` (its session pointer, reader phase,
tunnel, read deadline) and the record of `b`'s session (state, transport, medias, connections,
path) are exactly what they were.
(The UDP registrations of `b`'s session are not part of this statement: two sessions of one IP
address that claim the same client port collide in the listener's table; see props/C11.json.) -/
theorem other_conns_unaffected (cfg : Config) (es : List Event) (a b : ConnId) (sb : Option SessId) (i : Input)
    (hab : a ≠ b)
    (hpts : PointsTo (run (init cfg) es).1 b sb)
    (hsep : Sep (run (init cfg) es).1 a sb)
    (hlive : ∀ x, sb = some x → (findSess (run (init cfg) es).1 x).isSome)
    (hname : ∀ r x, i = .req r → r.sess = .id x → sb ≠ some x)
    (htun : ∀ k f, i = .httpPost k f → f ≠ b ∧
      ∀ e, (run (init cfg) es).1.httpRead.find? (·.2 == k) = some e → e.1 ≠ b ∧ Sep (run (init cfg) es).1 e.1 sb) :
    findConn (step (run (init cfg) es).1 (.input a i)).1 b = findConn (run (init cfg) es).1 b ∧
    ∀ x, sb = some x → findSess (step (run (init cfg) es).1 (.input a i)).1 x = findSess (run (init cfg) es).1 x := by
  have ne : ∀ {y : ConnId}, y ≠ b → some b ≠ some y := fun h e => h (Option.some.inj e).symm
  have := same_step (b := some b) ⟨invariant_reachable cfg es, pointers_valid cfg es⟩ (ne hab) (fun _ e => Option.some.inj e ▸ hpts) hsep
    hlive hname fun k f hi => ⟨ne (htun k f hi).1, fun e he => ⟨ne ((htun k f hi).2 e he).1, ((htun k f hi).2 e he).2⟩⟩
  exact ⟨this.conn b rfl, this.sess⟩

/-- **… and what `b`'s session owns in the resource tables** — its UDP registrations, its reader
slot, its active-reader entry, its write queue — **is unchanged as well**, provided no other
session has a media on a client port that `b`'s session has registered (`NoCollision`; all peers
share one IP address in the model).  Without that hypothesis the statement is false:
`udp_port_collision_removes_registration` below. -/
theorem other_conns_tables_unaffected (cfg : Config) (es : List Event) (a : ConnId) (x : SessId) (i : Input)
    (hsep : Sep (run (init cfg) es).1 a (some x))
    (hlive : (findSess (run (init cfg) es).1 x).isSome)
    (hname : ∀ r, i = .req r → r.sess ≠ .id x)
    (hn : NoCollision (run (init cfg) es).1 x)
    (htun : ∀ k f, i = .httpPost k f →
      ∀ e, (run (init cfg) es).1.httpRead.find? (·.2 == k) = some e → Sep (run (init cfg) es).1 e.1 (some x)) :
    SameT x (run (init cfg) es).1 (step (run (init cfg) es).1 (.input a i)).1 :=
  sameT_step ⟨invariant_reachable cfg es, pointers_valid cfg es⟩ hsep hname hlive hn htun

/-! ### non-vacuity -/

/-- a fresh connection, a bogus PLAY: answered 454 and closed -/
example : (step ((step (init {}) (.accept 0)).1) (.input 0 (.req { method := .play, sess := .bogus }))).2
    = [Out.rtsp 0 454, Out.connClose 0] := by decide

/-- OPTIONS is answered 200 and the connection stays -/
example : (step ((step (init {}) (.accept 0)).1) (.input 0 (.req { method := .options }))).2 = [Out.rtsp 0 200] ∧
    ((step ((step (init {}) (.accept 0)).1) (.input 0 (.req { method := .options }))).1.conns.map (·.id)) = [0] := by
  decide

def udpTr : Tr := { udp := true, mcast := false, secure := false, mode := 0, ports := some (5000, 5001), inter := none }
def tcpTr : Tr := { udp := false, mcast := false, secure := false, mode := 0, ports := none, inter := some (0, 1) }
def setupUdp : Req := { method := .setup, trs := some [udpTr], setupPath := some 0, track := some 0 }
def setupTcp : Req := { method := .setup, trs := some [tcpTr], setupPath := some 0, track := some 0 }
def playReq : Req := { method := .play, sess := .id 0 }
/-- a UDP player that is abandoned: SETUP + PLAY over UDP, then the peer disappears.  The session
survives its connection (one RTCP registration, one reader slot, one write queue): the hypothesis
of `ledger_empty_after_close` holds in a state that is not empty; the time-out empties the ledger. -/
def abandonedUdpPlayer : List Event :=
  [.accept 0, .input 0 (.req setupUdp), .input 0 (.req playReq), .input 0 .eof]

example : (run (init {}) abandonedUdpPlayer).1.conns = [] ∧
    (run (init {}) abandonedUdpPlayer).1.sessions.length = 1 ∧
    (run (init {}) abandonedUdpPlayer).1.udpRtcp = [(5001, 0)] ∧
    (run (init {}) abandonedUdpPlayer).1.readers = [0] ∧ (run (init {}) abandonedUdpPlayer).1.writers = [0] := by decide

example : (run (init {}) (abandonedUdpPlayer ++ [.sessTimeout 0])).1.sessions = [] ∧
    (run (init {}) (abandonedUdpPlayer ++ [.sessTimeout 0])).1.udpRtcp = [] ∧
    (run (init {}) (abandonedUdpPlayer ++ [.sessTimeout 0])).1.readers = [] := by decide

/-- the same over TCP, with a frame while playing: the session ends with its connection -/
example : (run (init {}) [.accept 0, .input 0 (.req setupTcp), .input 0 (.req playReq), .input 0 (.frame 7),
      .input 0 .eof]).2
    = [Out.connOpen 0, Out.rtsp 0 200, Out.sessOpen 0, Out.rtsp 0 200, Out.consumed 0, Out.connClose 0,
       Out.sessClose 0] := by decide

/-- a frame before PLAY closes the connection (and the session it had set up) -/
example : (run (init {}) [.accept 0, .input 0 (.req setupTcp), .input 0 (.frame 0)]).2
    = [Out.connOpen 0, Out.rtsp 0 200, Out.sessOpen 0, Out.connClose 0, Out.sessClose 0] := by decide


def udpRecTr : Tr := { udp := true, mcast := false, secure := false, mode := 2, ports := some (7000, 7001), inter := none }
/-- the unarmed case of `timeout_always_enabled` occurs: a UDP recorder waits without read deadline -/
def udpRecorder : List Event :=
  [.accept 0, .input 0 (.req { method := .announce, path := 1, sdp := .ok [0] }),
   .input 0 (.req { method := .setup, trs := some [udpRecTr], recPath := 1, recCtl := some 0 }),
   .input 0 (.req { method := .record, sess := .id 0, path := 1 })]

example : ((run (init {}) udpRecorder).1.conns.map fun c => (c.id, c.armed)) = [(0, false)] ∧
    (run (init {}) (udpRecorder ++ [.input 0 .idle])).2 = (run (init {}) udpRecorder).2 ∧
    (step (run (init {}) udpRecorder).1 (.sessTimeout 0)).2 = [Out.connClose 0, Out.sessClose 0] := by decide


/-- two players over TCP on two connections; a frame on an unknown channel, garbage and the end of
connection 0 leave connection 1 and its session untouched: the hypotheses of
`other_conns_unaffected` hold there with `sb = some 1` -/
def twoPlayers : List Event :=
  [.accept 0, .accept 1, .input 0 (.req setupTcp), .input 1 (.req setupTcp),
   .input 0 (.req playReq), .input 1 (.req { method := .play, sess := .id 1 })]

example : PointsTo (run (init {}) twoPlayers).1 1 (some 1) ∧ Sep (run (init {}) twoPlayers).1 0 (some 1) ∧
    (findSess (run (init {}) twoPlayers).1 1).isSome := by
  unfold PointsTo Sep
  decide

example : findConn (run (init {}) (twoPlayers ++ [.input 0 .malformed])).1 1 = findConn (run (init {}) twoPlayers).1 1 ∧
    findSess (run (init {}) (twoPlayers ++ [.input 0 .malformed])).1 1 = findSess (run (init {}) twoPlayers).1 1 ∧
    (run (init {}) (twoPlayers ++ [.input 0 .malformed])).1.sessions.length = 1 := by decide


/-! ## why `other_conns_unaffected` is not about the UDP registrations — a finding

The UDP listeners demultiplex by (IP, port).  A peer of the same address that claims the client
ports of another session replaces that session's registration and, when it goes, removes it:
`readerAdd` checks the ports only for the first SETUP of a reader.  (known-findings.txt, key
`udp-port-collision-same-ip`; the harness reproduces it on the real server.) -/

def victimSetup : Req := { method := .setup, trs := some [udpTr], setupPath := some 0, track := some 0 }
def attackerSetup0 : Req :=
  { method := .setup, setupPath := some 0, track := some 0,
    trs := some [{ udp := true, mcast := false, secure := false, mode := 0, ports := some (6000, 6001), inter := none }] }
def attackerSetup1 : Req := { method := .setup, sess := .id 1, trs := some [udpTr], setupPath := some 0, track := some 1 }

/-- connection 1 plays over UDP on ports 5000/5001 (session 0); connection 0 sets up its second
media on the same ports, plays and tears down: the RTCP registration of session 0 is gone although
no input named session 0 or connection 1. -/
def portCollision : List Event :=
  [.accept 0, .accept 1,
   .input 1 (.req victimSetup), .input 1 (.req { method := .play, sess := .id 0 }),
   .input 0 (.req attackerSetup0), .input 0 (.req attackerSetup1),
   .input 0 (.req { method := .play, sess := .id 1 })]

theorem udp_port_collision_removes_registration :
    (run (init {}) (portCollision.take 4)).1.udpRtcp = [(5001, 0)] ∧
    (run (init {}) portCollision).1.udpRtcp = [(5001, 1), (6001, 1)] ∧
    (run (init {}) (portCollision ++ [.input 0 (.req { method := .teardown, sess := .id 1 })])).1.udpRtcp = [] ∧
    ((run (init {}) (portCollision ++ [.input 0 (.req { method := .teardown, sess := .id 1 })])).1.sessions.map
      fun s => (s.id, s.state)) = [(0, .play)] := by decide


/-- two UDP players on different client ports: the hypothesis `NoCollision` of
`other_conns_tables_unaffected` holds for session 0, whose RTCP registration survives the
tear-down of session 1 (compare `udp_port_collision_removes_registration`) -/
def twoUdpPlayers : List Event :=
  [.accept 0, .accept 1,
   .input 1 (.req victimSetup), .input 1 (.req { method := .play, sess := .id 0 }),
   .input 0 (.req attackerSetup0), .input 0 (.req { method := .play, sess := .id 1 })]

example : NoCollision (run (init {}) twoUdpPlayers).1 0 := by
  unfold NoCollision PortsClear Clear
  decide

example : (run (init {}) twoUdpPlayers).1.udpRtcp = [(6001, 1), (5001, 0)] ∧
    (run (init {}) (twoUdpPlayers ++ [.input 0 (.req { method := .teardown, sess := .id 1 })])).1.udpRtcp = [(5001, 0)] := by
  decide

end Rtsp.Ledger.C11
