import Rtsp.Proofs.Pipeline.Log
import Rtsp.Proofs.Pipeline.UdpOrder
import Rtsp.Proofs.Pipeline.UdpSub
import Rtsp.Props.C14
/-
# C01 — end-to-end media delivery preserves packets, order and identity

Property theorems about `Model/Pipeline.lean` (stream writer → SSRC rewrite → fan-out to the active
readers → per-reader bounded write queue → consumer goroutine → interleaved frames on a reliable pipe /
UDP datagrams and the reorder receiver → client demultiplexing → callback).  The model is the one the
correspondence harness (`go/dom/pipe`) runs against a real Server + ServerStream + Clients.

Everything is quantified over **all** stream descriptions `cfg` (any medias / formats / SSRCs / queue
capacity), **all** sets of readers (`kinds`), **all** event sequences `es` (writes, SETUP / PLAY /
PAUSE in its three steps / close, consumer steps, carrier steps, UDP arrivals in any order with any
duplication and loss) — by a state invariant (`RInv`, `Proofs/Pipeline/Inv.lean`) proved for every
event and induction over the sequence.  No bound on lengths.

Vocabulary.  `reader cfg kinds es r` is reader `r` after the events `es`; its fields
`cbs` (callback history), `wire` / `queue` (in flight), and the history variables `acc` (accepted
pushes = `accLog`), `ref` (refused pushes = `refLog`: the queue-full errors the writer's handler was
given), `disc` (discarded by the reader's own PAUSE / close).  A `Deliv` carries `wid`, the index of
its write among all writes of the stream: `IsWrite cfg (writesOf es) d` says that write number `d.wid`
was made to media `d.media` with payload type `d.pt` and that `d.pkt` is that packet, every field
identical, except SSRC := the SSRC of that format (`cfg.ssrcOf`, the one announced in SETUP).
-/
namespace Rtsp.C01
open Rtsp.Pipe

abbrev reader (cfg : Cfg) (kinds : List Bool) (es : List Event) (r : Nat) : Reader :=
  (run cfg (init kinds) es).rd r

/-- **The shape of the code the model transcribes**: SSRC rewrite
in the stream writer, fan-out over `activeUnicastReaders` under the stream's read lock, errors of a
fan-out push go to `OnStreamWriteError`, a missing writer swallows the packet, a refused push is
`ErrServerWriteQueueFull`, PAUSE destroys the writer before `readerSetInactive`, PLAY creates it
before the handler, close = inactive → remove → destroy, queue capacity = `WriteQueueSize`,
RTP channel = the media's channel, client channels go in steps of two, client demultiplexing by channel
then payload type, single in-order consumer, `ring.Close()` discards, `Pull` stops when closed, `Push`
ignores `closed`, the reliable-mode receiver passes every packet through, a channel pair is in use when a
set-up media sits on c-1, c or c+1, the server picks the first free even pair, an explicit pair is checked,
`readPacketRTP` (server and client) always keeps the UDP read buffer, a PLAY while playing neither replaces the
writer nor re-activates, the MIKEY CS-ID map lists every SSRC of the media with its rollover counter, the plain packet of a secure
writer (stream, session, client) may use MaxPacketSize minus the SRTP overhead, pkg/conn hands every frame /
response / request to the connection in one Write, `Unmarshal` strips RTP padding, a refused PAUSE / PLAY /
RECORD puts the writer and the state back. -/
theorem code_shape :
    (Facts.Pipe.ssrcRewrittenByStream && Facts.Pipe.fanoutOverActiveUnicastReaders &&
     Facts.Pipe.fanoutErrorGoesToHandler && Facts.Pipe.writeUnderStreamRLock &&
     Facts.Pipe.pushNilWriterIsSilent && Facts.Pipe.pushRefusedIsQueueFull &&
     Facts.Pipe.pauseDestroysWriterThenInactive && Facts.Pipe.playCreatesWriterBeforeHandler &&
     Facts.Pipe.closeInactiveThenDestroy && Facts.Pipe.playQueueIsWriteQueueSize &&
     Facts.Pipe.tcpRtpChannelIsMediaChannel && Facts.Pipe.clientChannelsStepTwo &&
     Facts.Pipe.clientDemuxByChannel && Facts.Pipe.clientDemuxByPayloadType &&
     Facts.Pipe.asyncSingleConsumerInOrder && Facts.Pipe.ringCloseDiscards &&
     Facts.Pipe.pullStopsWhenClosed && Facts.Pipe.pushIgnoresClosed &&
     Facts.Pipe.reliableReceiverPassesThrough && Facts.Pipe.channelPairInUseThreeCases &&
     Facts.Pipe.freeChannelPairFirstEven && Facts.Pipe.explicitChannelPairChecked &&
     Facts.Pipe.serverFormatKeepsReadBuffer && Facts.Pipe.clientFormatKeepsReadBuffer &&
     Facts.Pipe.playCreatesWriterOnlyWhenNotPlaying && Facts.Pipe.playActivatesOnlyWhenNotPlaying &&
     Facts.Pipe.mikeyAnnouncesEverySSRC && Facts.Pipe.streamPlainBufferMinusSrtpOverhead &&
     Facts.Pipe.sessionPlainBufferMinusSrtpOverhead && Facts.Pipe.clientPlainBufferMinusSrtpOverhead &&
     Facts.Pipe.frameWrittenInOneWrite && Facts.Pipe.responseWrittenInOneWrite &&
     Facts.Pipe.requestWrittenInOneWrite && Facts.Pipe.unmarshalStripsPadding &&
     Facts.Pipe.refusedPauseRestartsWriter && Facts.Pipe.refusedPlayRestoresPrePlay &&
     Facts.Pipe.refusedRecordRestoresPreRecord &&
     -- lock discipline of the stream's reader sets: writers of the sets hold the mutex exclusively,
     -- the shared lock is held by the three read-only functions only
     Facts.Pipe.streamCloseLocksExclusively && Facts.Pipe.readerAddLocksExclusively &&
     Facts.Pipe.readerRemoveLocksExclusively && Facts.Pipe.readerSetActiveLocksExclusively &&
     Facts.Pipe.readerSetInactiveLocksExclusively && Facts.Pipe.rtcpWriteUnderStreamRLock &&
     Facts.Pipe.multicastParamsUnderStreamRLock) = true ∧
    Facts.Pipe.streamSharedLockSites = 3 ∧ Facts.Pipe.streamExclusiveLockSites = 5 ∧
    Facts.Pipe.activeReadersWriteSites = 2 ∧ Facts.Pipe.readersWriteSites = 2 ∧
    Facts.Pipe.multicastReaderCountWriteSites = 2 ∧ Facts.Pipe.readerSetInactiveUnsafeCallSites = 2 ∧
    Facts.Pipe.readerRemoveUnsafeCallSites = 2 ∧
    Facts.Pipe.interleavedMagic = 36 := by decide

/-- **Isolation.**  A reader's state depends only on the writes and on its own events: what the other
readers do — join, stall their connection, fill their queue, pause, leave, lose datagrams — cannot
change what it is delivered. -/
theorem reader_isolation (cfg : Cfg) (kinds : List Bool) (es : List Event) (r : Nat) (hr : r < kinds.length) :
    reader cfg kinds es r = rrun cfg { udp := kinds[r] } (view r es) := by
  have hl : r < (init kinds).readers.length := by simpa [init] using hr
  rw [reader, rd_run cfg es (init kinds) r hl, rd_init kinds r hr]

theorem invariant_reachable (cfg : Cfg) (kinds : List Bool) (es : List Event) (r : Nat) (hr : r < kinds.length) :
    RInv cfg (writesOf es) (reader cfg kinds es r) := by
  rw [reader_isolation cfg kinds es r hr, ← wlogs_view r es]
  simpa using rinv_rrun _ (rinv_init cfg _)

theorem reader_udp (cfg : Cfg) (kinds : List Bool) (es : List Event) (r : Nat) (hr : r < kinds.length) :
    (reader cfg kinds es r).udp = kinds[r] := by
  rw [reader_isolation cfg kinds es r hr, rrun_udp]

theorem reader_flow (cfg : Cfg) (kinds : List Bool) (es : List Event) (r : Nat) (hr : r < kinds.length)
    (ht : kinds[r] = false) : live (reader cfg kinds es r) = flight (reader cfg kinds es r) :=
  (invariant_reachable cfg kinds es r hr).tcp_flow ((reader_udp cfg kinds es r hr).trans ht)

theorem reader_udp_inv (cfg : Cfg) (kinds : List Bool) (es : List Event) (r : Nat) (hr : r < kinds.length)
    (ht : kinds[r] = true) : VInv (reader cfg kinds es r) := by
  rw [reader_isolation cfg kinds es r hr, ht]
  exact vinv_rrun _ (rinv_init cfg true) rfl (vinv_init true)

/-- On a reliable transport, in every reachable state,
`callbacks ++ frames in the pipe ++ frames in the queue` is exactly the list of accepted pushes that the
reader's own PAUSE / close did not discard, in push order; and the accepted pushes are exactly the
writes made while the reader was active with the media set up and room in its queue (`accLog`). -/
theorem tcp_delivery (cfg : Cfg) (kinds : List Bool) (es : List Event) (r : Nat) (hr : r < kinds.length)
    (ht : kinds[r] = false) :
    let x := reader cfg kinds es r
    x.acc.filter (fun d => !x.disc.contains d) = x.cbs ++ (x.wire ++ x.queue).map Frame.deliv ∧
    x.acc = accLog cfg { udp := false } (view r es) ∧
    x.ref = refLog cfg { udp := false } (view r es) := by
  intro x
  refine ⟨reader_flow cfg kinds es r hr ht, ?_, ?_⟩
  · show (reader cfg kinds es r).acc = _
    rw [reader_isolation cfg kinds es r hr, acc_eq, ht]; rfl
  · show (reader cfg kinds es r).ref = _
    rw [reader_isolation cfg kinds es r hr, ref_eq, ht]; rfl

/-- a reader discards only by its own PAUSE (`pclose`, `pnil`) or close (`leave`) -/
theorem discards_only_by_own_pause (cfg : Cfg) (kinds : List Bool) (es : List Event) (r : Nat) (hr : r < kinds.length)
    (hnd : ∀ e ∈ view r es, ¬ Discards e) : (reader cfg kinds es r).disc = [] := by
  rw [reader_isolation cfg kinds es r hr, disc_eq cfg _ _ hnd]

/-- **tcp_delivery, queues drained.**  If the reader never paused or left (none of its own discarding
events occurred) and nothing is in flight any more, its callback history *is* the list of accepted
pushes: `delivered r = [p ∈ writes | r active at the write ∧ push accepted]`, order kept, at most once,
fields identical (the second conjunct is the first, read per media and format). -/
theorem tcp_delivery_drained (cfg : Cfg) (kinds : List Bool) (es : List Event) (r : Nat) (hr : r < kinds.length)
    (ht : kinds[r] = false) (hnd : ∀ e ∈ view r es, ¬ Discards e)
    (hw : (reader cfg kinds es r).wire = []) (hq : (reader cfg kinds es r).queue = []) :
    (reader cfg kinds es r).cbs = accLog cfg { udp := false } (view r es) ∧
    ∀ m f, (reader cfg kinds es r).cbs.filter (fun d => d.media == m && d.pt == f) =
           (accLog cfg { udp := false } (view r es)).filter (fun d => d.media == m && d.pt == f) := by
  obtain ⟨h1, h2, _⟩ := tcp_delivery cfg kinds es r hr ht
  have hd := discards_only_by_own_pause cfg kinds es r hr hnd
  have : (reader cfg kinds es r).cbs = accLog cfg { udp := false } (view r es) := by
    rw [← h2]
    have hf : (reader cfg kinds es r).acc.filter (fun _ => true) = (reader cfg kinds es r).acc :=
      List.filter_eq_self.mpr (fun _ _ => rfl)
    simpa [hd, hw, hq, hf] using h1.symm
  exact ⟨this, fun m f => by rw [this]⟩

/-- **no_cross_media / identity (every transport).**  Every callback is a write: write number
`d.wid` of the stream was made to the very media and format the callback is invoked for, and the packet
handed to the callback is that packet — payload, marker, timestamp, sequence number and payload type
identical — with the SSRC of that format; and that write was pushed to this reader (`acc`).  Over UDP this
holds whatever the network loses, duplicates or reorders: the reorder receiver releases only datagrams it
was given, to the callback of their own media and format. -/
theorem no_cross_media (cfg : Cfg) (kinds : List Bool) (es : List Event) (r : Nat) (hr : r < kinds.length) :
    ∀ d ∈ (reader cfg kinds es r).cbs, IsWrite cfg (writesOf es) d ∧ d ∈ (reader cfg kinds es r).acc := by
  intro d hd
  have hinv := invariant_reachable cfg kinds es r hr
  have hacc := hinv.cbs_acc
    (fun hu => reader_udp_inv cfg kinds es r hr ((reader_udp cfg kinds es r hr).symm.trans hu)) d hd
  exact ⟨hinv.acc_log d hacc, hacc⟩

/-- **ssrc_announced_eq_carried (every transport).**  The SSRC of every packet handed to a callback is
the SSRC the stream generated for that media and format — the value the SETUP response announces
(the SSRC clause of `no_cross_media`). -/
theorem ssrc_announced_eq_carried (cfg : Cfg) (kinds : List Bool) (es : List Event) (r : Nat) (hr : r < kinds.length) :
    ∀ d ∈ (reader cfg kinds es r).cbs, cfg.ssrcOf d.media d.pt = some d.pkt.ssrc := by
  intro d hd
  obtain ⟨⟨p, s, _, h2, h3, h4⟩, _⟩ := no_cross_media cfg kinds es r hr d hd
  rw [h2, h3, h4]; rfl

/-- **Order and at-most-once (reliable transports).**  The callbacks of a reader — across all medias
and formats — come in the order of the writes, and no write is delivered twice. -/
theorem delivered_in_write_order_at_most_once (cfg : Cfg) (kinds : List Bool) (es : List Event) (r : Nat)
    (hr : r < kinds.length) (ht : kinds[r] = false) :
    (reader cfg kinds es r).cbs.Pairwise (fun a b => a.wid < b.wid) := by
  have hpw : (flight (reader cfg kinds es r)).Pairwise (fun a b => a.wid < b.wid) := by
    rw [← reader_flow cfg kinds es r hr ht]
    exact (invariant_reachable cfg kinds es r hr).acc_sorted.filter _
  exact (List.pairwise_append.mp hpw).1

theorem reader_after_write (cfg : Cfg) (kinds : List Bool) (pre post : List Event) (m : Nat) (p : Pkt)
    (r : Nat) (hr : r < kinds.length) :
    reader cfg kinds (pre ++ .write m p :: post) r =
      rrun cfg (rstep cfg (reader cfg kinds pre r) (.write m p)) (view r post) := by
  rw [reader_isolation cfg kinds _ r hr, reader_isolation cfg kinds pre r hr]
  simp only [view, List.filterMap_append, List.filterMap_cons, proj]
  rw [rrun_append]; rfl

/-- Take any write `WritePacketRTP(medias[m], p)` made at a moment when
reader `r` (reliable transport) is playing — its PLAY completed, no PAUSE / close of its own begun — and
has media `m` set up.  Then, whatever happens afterwards, that packet is in the reader's callback
history, or still in flight (pipe or queue), or its push was refused with a queue-full error handed to
the writer's handler (`ref`), or it was discarded by a later PAUSE / close of the reader itself. -/
theorem loss_only_if_signalled (cfg : Cfg) (kinds : List Bool) (pre post : List Event) (m : Nat) (p : Pkt)
    (r : Nat) (hr : r < kinds.length) (ht : kinds[r] = false) (s : Nat) (hs : cfg.ssrcOf m p.pt = some s)
    (hplay : (reader cfg kinds pre r).status = .playing) (hmed : m ∈ (reader cfg kinds pre r).meds) :
    let y := reader cfg kinds (pre ++ .write m p :: post) r
    let d : Deliv := ⟨m, p.pt, rewrite s p, (writesOf pre).length⟩
    d ∈ y.cbs ∨ d ∈ (y.wire ++ y.queue).map Frame.deliv ∨ d ∈ y.ref ∨ d ∈ y.disc := by
  intro y d
  have hpre := invariant_reachable cfg kinds pre r hr
  have hflow : live y = flight y := reader_flow cfg kinds _ r hr ht
  have hsplit : y = _ := reader_after_write cfg kinds pre post m p r hr
  have hnw : (reader cfg kinds pre r).nw = (writesOf pre).length := hpre.nw_eq
  have hstep : d ∈ (rstep cfg (reader cfg kinds pre r) (.write m p)).acc ∨
      d ∈ (rstep cfg (reader cfg kinds pre r) (.write m p)).ref := by
    rw [rstep_acc, rstep_ref]
    simp only [accOf, refOf, hs]
    have hfan : fanned (reader cfg kinds pre r) m = true := by simp [fanned, hplay, hmed]
    rw [outcome_of_writer hfan (by rw [hplay]; decide)]
    by_cases hq : (reader cfg kinds pre r).queue.length < cfg.cap
    · exact Or.inl (by simp [hq, d, hnw])
    · exact Or.inr (by simp [hq, d, hnw])
  rcases hstep with hacc | href
  · have hyacc : d ∈ y.acc := by rw [hsplit, acc_eq]; exact List.mem_append_left _ hacc
    by_cases hdisc : d ∈ y.disc
    · exact Or.inr (Or.inr (Or.inr hdisc))
    · have hlive : d ∈ flight y := hflow ▸ List.mem_filter.mpr ⟨hyacc, by simpa using hdisc⟩
      exact (List.mem_append.mp hlive).elim Or.inl fun h => Or.inr (Or.inl h)
  · exact Or.inr (Or.inr (Or.inl (by rw [hsplit, ref_eq]; exact List.mem_append_left _ href)))

/-- **A push is refused exactly when the queue holds `cap` items**, and the queue never holds more. -/
theorem refused_iff_full (cfg : Cfg) (kinds : List Bool) (es : List Event) (r : Nat) (hr : r < kinds.length) (m : Nat) :
    (reader cfg kinds es r).queue.length ≤ cfg.cap ∧
    (outcome cfg (reader cfg kinds es r) m = .refused ↔
      fanned (reader cfg kinds es r) m = true ∧ (reader cfg kinds es r).status ≠ .noWriter ∧
      (reader cfg kinds es r).queue.length = cfg.cap) := by
  have hcap := (invariant_reachable cfg kinds es r hr).cap
  refine ⟨hcap, ?_⟩
  generalize reader cfg kinds es r = x at hcap ⊢
  cases hf : fanned x m with
  | false => simp [outcome_skip hf]
  | true =>
    by_cases hn : x.status = .noWriter
    · simp [outcome, hf, hn]
    · rw [outcome_of_writer hf hn]
      split <;> simp [hn] <;> omega

/-- **Nothing written while a reader is not active is ever delivered to it** — not before its first PLAY,
not between a completed PAUSE and the next PLAY, not after it left (any transport, whatever happens later,
including a later PLAY): a reader that joins or resumes starts with the packets written from then on. -/
theorem not_active_not_delivered (cfg : Cfg) (kinds : List Bool) (pre post : List Event) (m : Nat) (p : Pkt)
    (r : Nat) (hr : r < kinds.length)
    (hidle : (reader cfg kinds pre r).status = .setup ∨ (reader cfg kinds pre r).status = .gone) :
    ∀ d ∈ (reader cfg kinds (pre ++ .write m p :: post) r).cbs, d.wid ≠ (writesOf pre).length := by
  intro d hd
  have hpre := invariant_reachable cfg kinds pre r hr
  have hacc := (no_cross_media cfg kinds (pre ++ .write m p :: post) r hr d hd).2
  rw [reader_after_write cfg kinds pre post m p r hr, acc_eq, rstep_acc] at hacc
  have hnw : (reader cfg kinds pre r).nw = (writesOf pre).length := hpre.nw_eq
  have hskip : accOf cfg (reader cfg kinds pre r) (.write m p) = [] := by
    have : outcome cfg (reader cfg kinds pre r) m = .skip :=
      outcome_skip (by rcases hidle with h | h <;> simp [fanned, h])
    simp only [accOf, this]
    cases cfg.ssrcOf m p.pt <;> rfl
  rw [hskip, List.append_nil] at hacc
  rcases List.mem_append.mp hacc with h | h
  · have := hpre.wid_lt h; omega
  · have := accLog_wid_ge cfg _ _ d h
    simp only [rstep, rwrite_nw] at this
    omega

/-- **A PLAY while the reader is already playing changes nothing** (the server allows a second PLAY):
not the queue, not what is in flight, not the activity — so every theorem above holds across it, and
delivery simply goes on.  The same for any PLAY that does not find the reader in PrePlay. -/
theorem second_play_is_noop (cfg : Cfg) (kinds : List Bool) (es : List Event) (r : Nat)
    (h : (reader cfg kinds es r).status ≠ .setup) :
    rctl cfg (reader cfg kinds es r) .play = reader cfg kinds es r := by
  generalize reader cfg kinds es r = x at h
  cases hs : x.status <;> simp_all [rctl]

/-- **What a PAUSE / close can forfeit is bounded by the queue**: each of the reader's own discarding
events adds at most `cap` packets to `disc` (plus, for the close of a reliable reader, the frames still in
the pipe, which the client no longer reads). -/
theorem pause_forfeits_at_most_queue (cfg : Cfg) (kinds : List Bool) (es : List Event) (r : Nat) (hr : r < kinds.length) :
    let x := reader cfg kinds es r
    (rctl cfg x .pclose).disc.length ≤ x.disc.length + cfg.cap ∧
    (rctl cfg x .pnil).disc.length ≤ x.disc.length + cfg.cap ∧
    (rctl cfg x .leave).disc.length ≤ x.disc.length + cfg.cap + x.wire.length := by
  intro x
  have hcap : x.queue.length ≤ cfg.cap := (invariant_reachable cfg kinds es r hr).cap
  refine ⟨?_, ?_, ?_⟩
  · simp only [rctl]
    split
    · simp only [List.length_append, List.length_map]; omega
    · omega
  · simp only [rctl]
    split
    · simp only [List.length_append, List.length_map]; omega
    · omega
  · simp only [rctl]
    split
    · omega
    · split <;> simp only [List.length_append, List.length_map] <;> omega

/-- For a UDP reader and every media/format `key`: the callbacks of `key` are exactly
what the C14 receiver model, started from power-on, releases when it is run on the arrivals of `key`
(in arrival order; `arrived` is the arrival history, every element of which is a datagram that was sent
to this reader: any loss, duplication, reordering).  So the theorems of C14 about arrival histories are
theorems about the callbacks of the pipeline's UDP readers. -/
theorem udp_delivery (cfg : Cfg) (kinds : List Bool) (es : List Event) (r : Nat) (hr : r < kinds.length)
    (ht : kinds[r] = true) (key : Nat × Nat) :
    let x := reader cfg kinds es r
    cbsOf key x.cbs = released x.arrived (Recv.run R0 (keyArr key 0 x.arrived)).2 ∧
    (∀ g ∈ x.arrived, g ∈ x.wire ∧ g.deliv ∈ x.acc) := by
  intro x
  have hinv := invariant_reachable cfg kinds es r hr
  have hv : VInv x := reader_udp_inv cfg kinds es r hr ht
  refine ⟨hv.cbs_run key, ?_⟩
  intro g hg
  exact ⟨hv.arrived_sent g hg, (hinv.frames g (List.mem_append_left _ (hv.arrived_sent g hg))).2⟩

/-- **udp_subsequence (from C14), partial.**  Full statement: *over UDP the callbacks of a media and
format are an in-order subsequence of what was written*.  Proved: the sequence numbers handed to the
callbacks of a media/format are `Accounted` in the sense of C14 — the first arrival is delivered as it
is; from then on every step's deliveries strictly advance in the receiver's 2^15 window (`IncFrom`),
except across a detected sender restart, and the loss it reports is the number of sequence numbers
skipped.  That "advancing in the window" is "later in write order" needs the writer to number
consecutively and fewer than 2^15 packets: `udp_subsequence`. -/
theorem udp_subsequence_partial (cfg : Cfg) (kinds : List Bool) (es : List Event) (r : Nat) (hr : r < kinds.length)
    (ht : kinds[r] = true) (key : Nat × Nat) (p : Recv.Pkt) (ps : List Recv.Pkt)
    (harr : keyArr key 0 (reader cfg kinds es r).arrived = p :: ps) :
    cbsOf key (reader cfg kinds es r).cbs
      = released (reader cfg kinds es r).arrived (Recv.run R0 (p :: ps)).2 ∧
    (Recv.run R0 (p :: ps)).2.head? = some { pkts := [p], lost := 0 } ∧
    Recv.Accounted true p.seq (Recv.run R0 (p :: ps)).2.tail := by
  have h := (udp_delivery cfg kinds es r hr ht key).1
  rw [harr] at h
  exact ⟨h, Rtsp.Recv.C14.from_init true _ (fun _ => pow2_defaultBufferSize) p ps⟩

/-- Over UDP the callbacks of a media and format are an in-order subsequence of
what was written, each write at most once — whatever the network lost, duplicated or reordered — when
(`Numbered`) the writer numbers the format's packets consecutively (the `j`-th packet of the format carries
sequence number `s0 + j` mod 2^16, any start `s0`, wrap included) and fewer than 2^15 of them were written,
and the receiver detected no sender restart (`restart = false` in every step of the C14 run on the
format's arrivals).  Without the 2^15 bound a 16-bit sequence number cannot tell a packet from the one
65536 later: that case is left to `udp_subsequence_partial`. -/
theorem udp_subsequence (cfg : Cfg) (kinds : List Bool) (es : List Event) (r : Nat) (hr : r < kinds.length)
    (ht : kinds[r] = true) (key : Nat × Nat) (s0 : Nat) (j : Nat → Nat)
    (hnum : Numbered (reader cfg kinds es r) key s0 j)
    (hnr : ∀ o ∈ (Recv.run R0 (keyArr key 0 (reader cfg kinds es r).arrived)).2, o.restart = false) :
    (cbsOf key (reader cfg kinds es r).cbs).Pairwise (fun a b => a.wid < b.wid) := by
  exact released_wids_increasing _ (reader_udp_inv cfg kinds es r hr ht) key s0 j hnum hnr
    (Rtsp.Recv.C14.from_init true _ fun _ => pow2_defaultBufferSize)

/-! ## second direction: recording client → server session → stream → readers

Hop 1 is the same pipeline with the publisher's write queue and one "reader" (the server session, index
0); hop 2's writes are, one for one and in order, the callbacks of hop 1 (the session's `OnPacketRTP`
handler calls `ServerStream.WritePacketRTP` with the packet it was given). -/

theorem rewrite_rewrite (a b : Nat) (p : Pkt) : rewrite a (rewrite b p) = rewrite a p := rfl

/-- Every callback of a reader of the stream is a packet the *publisher* wrote: to
that media, with that payload type, payload / marker / timestamp / sequence number identical, SSRC := the
stream's SSRC for the format.  Moreover (`relay_order`) when both hops are reliable transports the
callbacks come in the publisher's write order, at most once. -/
theorem relay_end_to_end (cfg1 cfg2 : Cfg) (kinds1 kinds2 : List Bool) (es1 es2 : List Event) (r2 : Nat)
    (h1 : 0 < kinds1.length) (h2 : r2 < kinds2.length)
    (hrelay : writesOf es2 = (reader cfg1 kinds1 es1 0).cbs.map (fun d => (d.media, d.pkt))) :
    ∀ d2 ∈ (reader cfg2 kinds2 es2 r2).cbs, ∃ d1 p0 s2,
      (reader cfg1 kinds1 es1 0).cbs[d2.wid]? = some d1 ∧
      (writesOf es1)[d1.wid]? = some (d2.media, p0) ∧
      d2.pt = p0.pt ∧ cfg2.ssrcOf d2.media p0.pt = some s2 ∧ d2.pkt = rewrite s2 p0 := by
  intro d2 hd2
  obtain ⟨⟨p, s2, hw2, hpt2, hs2, hp2⟩, _⟩ := no_cross_media cfg2 kinds2 es2 r2 h2 d2 hd2
  rw [hrelay, List.getElem?_map] at hw2
  cases hc : (reader cfg1 kinds1 es1 0).cbs[d2.wid]? with
  | none => rw [hc] at hw2; cases hw2
  | some d1 =>
    rw [hc] at hw2
    simp only [Option.map_some, Option.some.injEq, Prod.mk.injEq] at hw2
    obtain ⟨hm, hp⟩ := hw2
    obtain ⟨⟨p0, s1, hw1, hpt1, _, hp1⟩, _⟩ :=
      no_cross_media cfg1 kinds1 es1 0 h1 d1 (List.mem_of_getElem? hc)
    refine ⟨d1, p0, s2, rfl, ?_, ?_, ?_, ?_⟩
    · rw [hw1, hm]
    · rw [hpt2, ← hp, hp1]; rfl
    · have : p.pt = p0.pt := by rw [← hp, hp1]; rfl
      rw [← this]; exact hs2
    · rw [hp2, ← hp, hp1, rewrite_rewrite]

theorem relay_order (cfg1 cfg2 : Cfg) (kinds1 kinds2 : List Bool) (es1 es2 : List Event) (r2 : Nat)
    (h1 : 0 < kinds1.length) (h2 : r2 < kinds2.length)
    (ht1 : kinds1[0] = false) (ht2 : kinds2[r2] = false) :
    -- publisher write indices of the reader's callbacks, through hop 1's callback list
    ((reader cfg2 kinds2 es2 r2).cbs.filterMap
        (fun d2 => ((reader cfg1 kinds1 es1 0).cbs[d2.wid]?).map (·.wid))).Pairwise (fun (a b : Nat) => a < b) := by
  have ho1 := delivered_in_write_order_at_most_once cfg1 kinds1 es1 0 h1 ht1
  have ho2 := delivered_in_write_order_at_most_once cfg2 kinds2 es2 r2 h2 ht2
  -- positions increase (hop 2), and along increasing positions the wids of hop 1 increase
  refine ho2.filterMap _ fun d d' hdd' w hw w' hw' => ?_
  generalize (reader cfg1 kinds1 es1 0).cbs = c1 at ho1 hw hw'
  cases ha : c1[d.wid]? with
  | none => rw [ha] at hw; cases hw
  | some a =>
  cases hb : c1[d'.wid]? with
  | none => rw [hb] at hw'; cases hw'
  | some b =>
  rw [ha] at hw; rw [hb] at hw'
  cases hw; cases hw'
  obtain ⟨hi, rfl⟩ := List.getElem?_eq_some_iff.1 ha
  obtain ⟨hj, rfl⟩ := List.getElem?_eq_some_iff.1 hb
  exact List.pairwise_iff_getElem.mp ho1 _ _ hi hj hdd'

/-! ## non-vacuity: concrete histories -/

def exCfg : Cfg := { cap := 2, medias := [[⟨96, 1001⟩, ⟨97, 1002⟩], [⟨98, 2001⟩]] }

def exPkt (pt seq : Nat) : Pkt := { pt, seq, ts := 90000 + seq, ssrc := 7, marker := seq % 2 == 0, payload := [UInt8.ofNat seq] }

/-- reader 0 (TCP) sets up media 1 (the server picks channels 0-1) then media 0 with an explicit odd pair
5-6, plays; four writes with a stalled consumer (the queue holds 2: the third and fourth are refused);
consumer and carrier steps; PAUSE with one frame still queued -/
def exEvents : List Event :=
  [.ctl 0 (.setup 1 none), .ctl 0 (.setup 0 (some 5)), .ctl 0 .play,
   .write 0 (exPkt 96 10), .write 1 (exPkt 98 20), .write 0 (exPkt 97 30), .write 1 (exPkt 98 21),
   .ctl 0 .consume, .ctl 0 .carry, .ctl 0 .consume, .write 0 (exPkt 96 11),
   .ctl 0 .pclose, .ctl 0 .pnil, .ctl 0 .pinact, .ctl 0 .carry]

example : (reader exCfg [false, true] exEvents 0).cbs.map (fun d => (d.media, d.pt, d.wid, d.pkt.ssrc)) =
    [(0, 96, 0, 1001), (1, 98, 1, 2001)] := by decide
example : (reader exCfg [false, true] exEvents 0).ref.map (·.wid) = [2, 3] := by decide
example : (reader exCfg [false, true] exEvents 0).disc.map (·.wid) = [4] := by decide
example : (reader exCfg [false, true] exEvents 0).acc.map (·.wid) = [0, 1, 4] := by decide
/-- the hypotheses of `loss_only_if_signalled` hold at the first write (reader 0 playing, media 0 set up) -/
example : (reader exCfg [false, true] (exEvents.take 3) 0).status = .playing ∧
    0 ∈ (reader exCfg [false, true] (exEvents.take 3) 0).meds ∧ exCfg.ssrcOf 0 96 = some 1001 := by decide
/-- the hypotheses of `tcp_delivery_drained` hold for a history without PAUSE, fully drained -/
example : (∀ e ∈ view 0 (exEvents.take 11 ++ [.ctl 0 .carry, .ctl 0 .consume, .ctl 0 .carry]), ¬ Discards e) ∧
    (reader exCfg [false, true] (exEvents.take 11 ++ [.ctl 0 .carry, .ctl 0 .consume, .ctl 0 .carry]) 0).wire = [] ∧
    (reader exCfg [false, true] (exEvents.take 11 ++ [.ctl 0 .carry, .ctl 0 .consume, .ctl 0 .carry]) 0).queue = [] ∧
    (reader exCfg [false, true] (exEvents.take 11 ++ [.ctl 0 .carry, .ctl 0 .consume, .ctl 0 .carry]) 0).cbs.map (·.wid)
      = [0, 1, 4] := by decide

/-- the hypothesis of `second_play_is_noop` holds after the third event of `exEvents` (reader 0 playing) -/
example : (reader exCfg [false, true] (exEvents.take 3) 0).status ≠ .setup := by decide

/-- reader 1 (UDP) of the same stream: datagram 1 (seq 31) overtakes datagram 0 (seq 30), which then
arrives twice: the receiver delivers seq 31 at once (first packet), drops the late 30 twice -/
def exUdp : List Event :=
  [.ctl 1 (.setup 0 none), .ctl 1 .play, .write 0 (exPkt 97 30), .write 0 (exPkt 97 31),
   .ctl 1 .consume, .ctl 1 .consume, .ctl 1 (.arrive 1), .ctl 1 (.arrive 0), .ctl 1 (.arrive 0),
   .write 0 (exPkt 97 32), .ctl 1 .consume, .ctl 1 (.arrive 2)]

example : (reader exCfg [false, true] exUdp 1).cbs.map (fun d => (d.media, d.pt, d.wid, d.pkt.seq)) =
    [(0, 97, 1, 31), (0, 97, 2, 32)] := by decide
/-- the hypothesis of `udp_subsequence_partial` is satisfiable -/
example : keyArr (0, 97) 0 (reader exCfg [false, true] exUdp 1).arrived =
    [⟨31, 0⟩, ⟨30, 1⟩, ⟨30, 2⟩, ⟨32, 3⟩] := by decide

/-- the hypotheses of `udp_subsequence` hold in that history: format (0, 97) is numbered from 30 by
position `j wid = wid`, no restart was detected -/
example : Numbered (reader exCfg [false, true] exUdp 1) (0, 97) 30 (fun wid => wid) ∧
    (∀ o ∈ (Recv.run R0 (keyArr (0, 97) 0 (reader exCfg [false, true] exUdp 1).arrived)).2, o.restart = false) := by
  unfold Numbered; decide

end Rtsp.C01
