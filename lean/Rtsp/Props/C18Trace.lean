import Rtsp.Props.C18
/-
C18, second layer: sequences of writes, several readers, the frame length field, the
combination with `Start`; and two facts about the RTP marshaller (buffer bound, extension words).
-/
namespace Rtsp.Size.C18
open Rtsp.Facts.Size

/-- one call of a public write function -/
inductive Op where
  | rtp (p : RtpShape)
  | rtcp (ver2 : Bool) (parts : List Nat)
deriving Repr

/-- what the call hands to the transport -/
def Path.send (path : Path) (proto : Proto) (max : Nat) (ctx : Option Nat) : Op → Wire
  | .rtp p => path.sendRtp proto max ctx p
  | .rtcp v ps => path.sendRtcp proto max ctx v ps

theorem write_within_max (path : Path) (proto : Proto) (max : Nat) (ctx : Option Nat) (hm : path.mkiOk ctx)
    (op : Op) : WireOk max (Path.send path proto max ctx op) := by
  cases op with
  | rtp p => exact rtp_wire_le_max path proto max ctx p hm
  | rtcp v ps => exact rtcp_wire_le_max path proto max ctx v ps hm

/-- **Any sequence of writes on any path: everything that reaches the transport respects the
maximum** (the write functions keep no size-relevant state, so the per-call theorems lift). -/
theorem every_write_within_max (path : Path) (proto : Proto) (max : Nat) (ctx : Option Nat)
    (hm : path.mkiOk ctx) (ops : List Op) :
    ∀ w ∈ ops.map (Path.send path proto max ctx), WireOk max w := by
  intro w hw
  obtain ⟨op, _, rfl⟩ := List.mem_map.mp hw
  exact write_within_max path proto max ctx hm op

/-- bytes one transport write hands over -/
def wireBytes : Wire → Nat
  | .nothing => 0
  | .datagram n => n
  | .frame _ w => w

theorem bytes_le_of_ok {max : Nat} {w : Wire} (h : WireOk max w) : wireBytes w ≤ max := by
  cases w with
  | nothing => simp [wireBytes]
  | datagram n => simpa [wireBytes, WireOk] using h
  | frame d k => simp [WireOk] at h; simp [wireBytes]; omega

theorem total_bytes_le (path : Path) (proto : Proto) (max : Nat) (ctx : Option Nat)
    (hm : path.mkiOk ctx) (ops : List Op) :
    ((ops.map (Path.send path proto max ctx)).map wireBytes).sum ≤ ops.length * max := by
  induction ops with
  | nil => simp
  | cons op rest ih =>
    have h1 : wireBytes (Path.send path proto max ctx op) ≤ max :=
      bytes_le_of_ok (write_within_max path proto max ctx hm op)
    simp only [List.map_cons, List.sum_cons, List.length_cons]
    have : (rest.length + 1) * max = rest.length * max + max := by rw [Nat.add_mul]; omega
    omega

/-- **A stream write reaches every unicast reader and the multicast writer within the maximum**,
whether the reader has SRTP or not (`readers` only names the Booleans quantified over). -/
theorem stream_fanout_within_max (proto : Proto) (max : Nat) (ctx : Option Nat) (hm : ctxMki ctx = 0)
    (readers : List Bool) (op : Op) :
    (∀ rs ∈ readers, WireOk max (Path.send (.stream rs) proto max ctx op)) ∧
    WireOk max (Path.send .mcast .udp max ctx op) := by
  exact ⟨fun rs _ => write_within_max (.stream rs) proto max ctx hm op, write_within_max .mcast .udp max ctx hm op⟩

/-- all readers of one stream write agree on acceptance: the packet is refused for all or sent to all -/
theorem stream_all_or_nothing (max : Nat) (ctx : Option Nat) (p : RtpShape) (r1 r2 : Bool) :
    ((Path.stream r1).rtp max ctx p = .err ↔ (Path.stream r2).rtp max ctx p = .err) ∧
    ((Path.stream r1).rtp max ctx p = .err ↔ Path.mcast.rtp max ctx p = .err) := by
  simp only [Path.rtp, streamWriteRtp, streamMcastRtp]
  cases encodeRtp max streamRtpOverhead false ctx p with
  | err => simp [Enc.reader, Enc.own]
  | panic => simp [Enc.reader, Enc.own]
  | ok n x => cases x <;> cases r1 <;> cases r2 <;> simp [Enc.reader, Enc.own]

/-- the 16-bit length field of an interleaved frame never wraps for a started client or server -/
theorem frame_length_fits (max : Nat) (hmax : max ≤ 1472) (d w : Nat) (h : WireOk max (.frame d w)) :
    d < 65536 ∧ w = d := by
  simp [WireOk] at h
  omega

/-- **From `Start` to the wire**: once `Start` has accepted a configuration (and the maximum in
force is not negative), no write of any kind puts more than 1472 bytes — the payload of a UDP
datagram on an Ethernet path — into a datagram or a frame. -/
theorem started_writes_within_udp_payload (wq : BitVec 64) (cfgMax : Int) (wq' : BitVec 64) (max' : Int)
    (hs : clientStart wq cfgMax = some (wq', max')) (hpos : 0 ≤ max')
    (path : Path) (proto : Proto) (ctx : Option Nat) (hm : path.mkiOk ctx) (op : Op) :
    WireOk 1472 (Path.send path proto max'.toNat ctx op) := by
  have hle : max'.toNat ≤ 1472 := by
    have := (started_values wq cfgMax wq' max' hs).1
    omega
  exact (write_within_max path proto max'.toNat ctx hm op).mono hle

/-- `MarshalTo` never writes past the buffer it is given -/
theorem marshal_within_buffer (p : RtpShape) (buf n : Nat) (h : marshalTo p buf = some n) :
    n ≤ buf ∧ n = rtpMarshalSize p ∧ 12 ≤ n := by
  rw [marshalTo_eq] at h
  split at h
  · rename_i hc
    cases h
    have := rtpMarshalSize_eq p
    omega
  · cases h

/-- extension blocks are whole 32-bit words -/
theorem extSize_mod4 (e : Ext) : extSize e % 4 = 0 := by
  cases e with
  | none => rfl
  | oneByte ls => simp [extSize, roundUp4]
  | twoByte ls => simp [extSize, roundUp4]
  | rfc3550 l => cases l <;> simp [extSize, roundUp4]

-- non-vacuity
example : Path.send .client .tcp 200 (some 4) (.rtp { payload := 174 }) = .frame 200 200 := by decide
example : clientStart 0#64 0 = some (256#64, 1472) ∧ (0 : Int) ≤ 1472 := by decide
example : marshalTo { payload := 100 } 112 = some 112 := by decide

end Rtsp.Size.C18
