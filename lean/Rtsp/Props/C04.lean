import Rtsp.Proofs.Frame.RoundTrip
import Rtsp.Proofs.Frame.B64Stream
/-
C04 — RTSP framing round-trips for any chunking and carrier.

Model: `Model/Frame.lean` (pkg/base + the dispatch of pkg/conn), `Model/Chunk.lean` (chunked
reader), `Model/B64.lean` (base64 carrier of the HTTP tunnel).  `up` is the URL parser
(`net/url` is a parameter of the model).  The theorems quantify over all messages / byte streams
/ partitions; nothing is bounded.
-/
namespace Rtsp.C04
open Rtsp.Frame Rtsp.Facts.Frame

/-! ## The predicates of the statements, spelled out (`WellFormed` and its parts are defined in
`Proofs/Frame/WF.lean`, all others in `Proofs/Frame/Spec.lean`) -/

theorem keyOK_iff (k : Bytes) : KeyOK k ↔
    (headerKeyNormalize k = k ∧                     -- the key is in the form the parser stores
     ∃ b t, k = b :: t ∧ b ≠ CR ∧ COLON ∉ t ∧      -- non-empty, does not start the empty line, no ':' after the first byte
       t.length < headerKeyReadLimit) := Iff.rfl     -- at most 511 bytes

theorem valueOK_iff (v : Bytes) : ValueOK v ↔
    (CR ∉ v ∧ v.head? ≠ some SP ∧ v.length < headerValueReadLimit) := Iff.rfl

theorem headerOK_iff (h : Header) : HeaderOK h ↔
    ((∀ e ∈ h, KeyOK e.1 ∧ e.2 ≠ [] ∧ ∀ v ∈ e.2, ValueOK v) ∧
     h.Pairwise (fun a b => bytesLt a.1 b.1 = true) ∧
     entryCount h ≤ headerMaxEntryCount) := Iff.rfl

theorem bodyOK_iff (h : Header) (body : Bytes) : BodyOK h body ↔
    (body.length ≤ rtspMaxBodySize ∧
     hlookup h kContentLength = (if body = [] then none else some [toDec body.length])) := Iff.rfl

theorem requestOK_iff (up : Bytes → Option Bytes) (r : Request) : RequestOK up r ↔
    ((∃ b0 b1 t, r.method = b0 :: b1 :: t ∧ isReqPrefix b0 b1 = true) ∧   -- a method `Conn.Read` routes to a request
     SP ∉ r.method ∧ r.method.length < requestMaxMethodLength ∧
     (∀ u, r.url = some u → u ≠ star ∧ SP ∉ u ∧ u.length < requestMaxURLLength ∧ up u = some u) ∧  -- parse/String-stable URL
     HeaderOK r.header ∧ BodyOK r.header r.body) := Iff.rfl

theorem responseOK_iff (r : Response) : ResponseOK r ↔
    (r.code < 1000 ∧ CR ∉ r.msg ∧ r.msg.length < responseMaxStatusMessageLength ∧
     (r.msg ≠ [] ∨ defaultStatusMessage r.code = none) ∧
     HeaderOK r.header ∧ BodyOK r.header r.body) := Iff.rfl

theorem frameOK_iff (f : IFrame) : FrameOK f ↔ (f.channel < 256 ∧ f.payload.length < 65536) := Iff.rfl

/-- **parse_serialize**: any sequence of well-formed requests, responses and interleaved frames
serialised back-to-back is read back as the same sequence (method / status, URL, headers with
multi-values, body, channel, payload), and the stream ends cleanly. -/
theorem parse_serialize (up : Bytes → Option Bytes) (ms : List Elem) (h : ∀ m ∈ ms, WellFormed up m) :
    parseAll up (serializeAll ms) = (ms, .eof) :=
  Rtsp.Frame.parse_serialize up ms h

/-- **parse_serialize, map form**: the header is a Go map (keys distinct, no order), the caller does
not maintain `Content-Length` and may leave the status message to the default table; what is read
back is the message as `Marshal` completed it (`canon`: keys sorted, `Content-Length` set for a
non-empty body, default status message filled in). -/
theorem parse_serialize_map (up : Bytes → Option Bytes) (ms : List Elem) (h : ∀ m ∈ ms, WritableOK up m) :
    parseAll up (serializeAll ms) = (ms.map canon, .eof) :=
  Rtsp.Frame.parse_serialize_map up ms h

theorem writableOK_iff (up : Bytes → Option Bytes) (e : Elem) : WritableOK up e ↔
    match e with
    | .req r =>
      (∃ b0 b1 t, r.method = b0 :: b1 :: t ∧ isReqPrefix b0 b1 = true) ∧
      SP ∉ r.method ∧ r.method.length < requestMaxMethodLength ∧
      (∀ u, r.url = some u → u ≠ star ∧ SP ∉ u ∧ u.length < requestMaxURLLength ∧ up u = some u) ∧
      HeaderMapOK (withContentLength r.header r.body) ∧ r.body.length ≤ rtspMaxBodySize ∧
      (r.body = [] → hlookup r.header kContentLength = none)
    | .res r =>
      r.code < 1000 ∧ CR ∉ effectiveMessage r ∧ (effectiveMessage r).length < responseMaxStatusMessageLength ∧
      HeaderMapOK (withContentLength r.header r.body) ∧ r.body.length ≤ rtspMaxBodySize ∧
      (r.body = [] → hlookup r.header kContentLength = none)
    | .frame f => FrameOK f := by
  cases e <;> exact Iff.rfl

theorem headerMapOK_iff (h : Header) : HeaderMapOK h ↔
    ((∀ e ∈ h, KeyOK e.1 ∧ e.2 ≠ [] ∧ ∀ v ∈ e.2, ValueOK v) ∧ (keysOf h).Nodup ∧
     entryCount h ≤ headerMaxEntryCount) := Iff.rfl

theorem canon_def (e : Elem) : canon e =
    match e with
    | .req r => .req { r with header := sortKeys (withContentLength r.header r.body) }
    | .res r => .res { r with header := sortKeys (withContentLength r.header r.body), msg := effectiveMessage r }
    | .frame f => .frame f := by
  cases e <;> rfl

/-- **chunk_independent**: for every byte stream (well-formed or not) and every partition of it
into reads — 1-byte reads and empty reads included — the chunked reader returns the element
sequence and the way of ending of the concatenation. -/
theorem chunk_independent (up : Bytes → Option Bytes) (chunks : List Bytes) :
    readAll up [] chunks = parseAll up chunks.flatten :=
  Rtsp.Frame.chunk_independent up chunks

/-- the two together: the statement of the property for the direct carrier -/
theorem roundtrip_any_chunking (up : Bytes → Option Bytes) (ms : List Elem) (h : ∀ m ∈ ms, WellFormed up m)
    (chunks : List Bytes) (hc : chunks.flatten = serializeAll ms) :
    readAll up [] chunks = (ms, .eof) := by
  rw [chunk_independent, hc, parse_serialize up ms h]

/-- monotonicity of `Conn.Read` (the lemma behind `chunk_independent`): a result decided on the
bytes received so far is not changed by the bytes that follow, and an element consumes at least
one byte. -/
theorem readElem_monotone (up : Bytes → Option Bytes) (bs more : Bytes) :
    (∀ e rest, readElem up bs = .ok e rest → readElem up (bs ++ more) = .ok e (rest ++ more) ∧ rest.length < bs.length) ∧
    (readElem up bs = .err → readElem up (bs ++ more) = .err) :=
  ⟨fun _ _ h => ⟨(reads_readElem up).ok_append h more, readElem_ok_lt h⟩, fun h => (reads_readElem up).err_append h more⟩

/-- a strict prefix of a stream that is exactly one element is never decided: the reader waits -/
theorem strict_prefix_needs_more (up : Bytes → Option Bytes) (pre suf : Bytes) (e : Elem)
    (h : readElem up (pre ++ suf) = .ok e []) (hs : suf ≠ []) :
    ∃ hard, readElem up pre = .more hard := by
  cases hp : readElem up pre with
  | ok e' r =>
    -- decided on `pre`, the element would leave `suf` behind
    have h1 := (reads_readElem up).ok_append hp suf
    rw [h, PR.ok.injEq] at h1
    exact absurd (List.append_eq_nil_iff.mp h1.2.symm).2 hs
  | more hd => exact ⟨hd, rfl⟩
  | err => have h1 := (reads_readElem up).err_append hp suf; rw [h] at h1; cases h1

/-- **resync**: `Conn.Read` discards byte by byte what it cannot classify; garbage `g` in front of a
well-formed element (no byte of `g`, taken with its successor, is `$`, `RT` or a request prefix) is
skipped and the element is delivered. -/
theorem resync_skips_garbage (up : Bytes → Option Bytes) (g : Bytes) (e : Elem) (rest : Bytes)
    (he : WellFormed up e) (b : UInt8) (t : Bytes) (hm : marshalElem e = b :: t) (hg : Garbage g b) :
    readElem up (g ++ marshalElem e ++ rest) = .ok e rest := by
  have := readElem_marshal up e rest he
  rw [hm] at this ⊢
  rw [List.append_assoc, List.cons_append, readElem_garbage up g b (t ++ rest) hg]
  exact this

theorem garbage_iff (a b : UInt8) : Skippable a b ↔ (a ≠ MAGIC ∧ ¬(a = 82 ∧ b = 84) ∧ isReqPrefix a b = false) := Iff.rfl

/-- non-vacuity of `resync_skips_garbage`: `FOO\r\n` in front of a frame -/
example : Garbage [70, 79, 79, 13, 10] 36 :=
  ⟨by decide, by decide, by decide, by decide, (by decide : Skippable 10 36)⟩

/-- **b64_stream**: blocks written through the HTTP tunnel (`clientTunnelHTTP.Write`,
client_tunnel_http.go, encodes every write on its own, with padding) are delivered by the base64 stream reader as their concatenation,
for every partition of the encoded stream into reads (reads that split a quantum or a padding,
1-byte reads, empty reads and padding in the middle of the stream included). -/
theorem b64_stream (blocks reads : List Bytes) (h : reads.flatten = (blocks.map encode).flatten) :
    b64run [] reads = (blocks.flatten, .eof) :=
  Rtsp.Frame.b64_stream blocks reads h

/-- the HTTP tunnel is transparent: whatever bytes are written (messages or not, complete or not), each write
base64-encoded as one padded block and the encoded stream cut into reads in any way, `conn.Conn` over the base64
stream reader (server_tunnel_http.go) reads what it would read of the written bytes on a direct connection -/
theorem tunnel_transparent (up : Bytes → Option Bytes) (writes reads : List Bytes)
    (hr : reads.flatten = (writes.map encode).flatten) :
    tunnelRead up reads = ((parseAll up writes.flatten).1, if (parseAll up writes.flatten).2 = .err then .err else .eof) := by
  simp only [tunnelRead, Rtsp.Frame.b64_stream writes reads hr, reduceCtorEq, or_false]

/-- HTTP tunnel: a sequence of well-formed elements, cut into writes in any way, each write
base64-encoded as one padded block, the encoded stream cut into reads in any way, is read by
`conn.Conn` over the base64 stream reader (server_tunnel_http.go) as the same sequence. -/
theorem tunnel_roundtrip (up : Bytes → Option Bytes) (ms : List Elem) (h : ∀ m ∈ ms, WellFormed up m)
    (writes reads : List Bytes) (hw : writes.flatten = serializeAll ms)
    (hr : reads.flatten = (writes.map encode).flatten) :
    tunnelRead up reads = (ms, .eof) := by
  rw [tunnel_transparent up writes reads hr, hw, Rtsp.Frame.parse_serialize up ms h]; rfl

/-- WebSocket tunnel: every write is one binary message; `wsReader` (server_tunnel_websocket.go)
hands the messages out in pieces (`copy(p, r.buf)`), so the reads are a refinement of the writes — a partition of the same
byte stream (the message-boundary contract of gorilla/websocket is assumed, its framing is not
modelled). -/
theorem websocket_roundtrip (up : Bytes → Option Bytes) (ms : List Elem) (h : ∀ m ∈ ms, WellFormed up m)
    (messages reads : List Bytes) (hw : messages.flatten = serializeAll ms) (hr : reads.flatten = messages.flatten) :
    readAll up [] reads = (ms, .eof) :=
  roundtrip_any_chunking up ms h reads (hr.trans hw)

/-- the limits the code enforces are the documented ones (the left-hand sides are regenerated
from /repo on every run: a change of a constant, of the `headerMaxKeyLength-1` read limit, of the
`>=` in the count check, of the dispatch table size … breaks this theorem) -/
theorem documented_limits :
    requestMaxMethodLength = 64 ∧ requestMaxURLLength = 2048 ∧ requestMaxProtocolLength = 64 ∧
    headerMaxEntryCount = 255 ∧ headerMaxKeyLength = 512 ∧ headerKeyReadLimit = 511 ∧
    headerMaxValueLength = 2048 ∧ headerValueReadLimit = 2048 ∧ headerCountCheckIsGe = true ∧
    rtspMaxBodySize = 128 * 1024 ∧
    responseMaxProtocolLength = 255 ∧ responseMaxStatusCodeLength = 4 ∧ responseMaxStatusMessageLength = 255 ∧
    responseStatusCodeBits = 31 ∧ statusMessageCount = statusMessages.length ∧
    interleavedFrameMagicByte = MAGIC.toNat ∧ connPeekSize = 2 ∧ connDiscardSize = 1 ∧ connDispatchPairs = 10 ∧
    b64ReadSize = 1024 ∧ b64QuantumTruncation = true ∧ tunnelWriteIsOnePaddedBlock = true := by decide

/-- **limits_output**: whatever bytes arrive, an element returned by `Conn.Read` is within the
limits (method < 64, URL token < 2048, ≤ 255 header entries, key < 512, value < 2048, body ≤ 128 KiB,
status code < 1000, status message < 255, channel < 256, payload < 64 KiB): an element beyond a
limit is never delivered. -/
theorem limits_output (up : Bytes → Option Bytes) (bs : Bytes) (e : Elem) (rest : Bytes)
    (h : readElem up bs = .ok e rest) : ElemBounded up e :=
  Rtsp.Frame.limits_output up bs e rest h

theorem elemBounded_iff (up : Bytes → Option Bytes) (e : Elem) : ElemBounded up e ↔
    match e with
    | .req r =>
      r.method.length < requestMaxMethodLength ∧
      (∀ u, r.url = some u → ∃ raw, raw.length < requestMaxURLLength ∧ up raw = some u) ∧
      HeaderBounded headerMaxEntryCount r.header ∧ r.body.length ≤ rtspMaxBodySize
    | .res r =>
      r.code < 1000 ∧ r.msg.length < responseMaxStatusMessageLength ∧
      HeaderBounded headerMaxEntryCount r.header ∧ r.body.length ≤ rtspMaxBodySize
    | .frame f => f.channel < 256 ∧ f.payload.length < 65536 := by
  cases e <;> exact Iff.rfl

theorem headerBounded_iff (n : Nat) (h : Header) : HeaderBounded n h ↔
    (entryCount h ≤ n ∧ ∀ e ∈ h, e.1.length < headerMaxKeyLength ∧ ∀ v ∈ e.2, v.length < headerValueReadLimit) := Iff.rfl

/-- **limits_enforced**, token level: a field that is not delimited within its limit `n` is
refused with an error as soon as `n` bytes of it are there — the reader never looks further
(`readBytesLimited` peeks at most `n` bytes: the memory bound of one field) -/
theorem limits_enforced_token (d : UInt8) (n : Nat) (bs more : Bytes) (hl : n ≤ bs.length) (hd : d ∉ bs.take n) :
    readLim d n (bs ++ more) = .err :=
  (reads_readLim d n).err_append (readLim_refuses hl hd) more

/-- **limits_enforced**, method -/
theorem limits_enforced_method (up : Bytes → Option Bytes) (b0 b1 : UInt8) (t : Bytes) (h : isReqPrefix b0 b1 = true)
    (hl : requestMaxMethodLength ≤ (b0 :: b1 :: t).length) (hs : SP ∉ (b0 :: b1 :: t).take requestMaxMethodLength) :
    readElem up (b0 :: b1 :: t) = .err := by
  rw [readElem_req up h]
  unfold parseRequest
  rw [readLim_refuses hl hs]
  rfl

/-- **limits_enforced**, URL -/
theorem limits_enforced_url (up : Bytes → Option Bytes) (b0 b1 : UInt8) (m X : Bytes) (h : isReqPrefix b0 b1 = true)
    (hmsp : SP ∉ b0 :: b1 :: m) (hmlen : (b0 :: b1 :: m).length < requestMaxMethodLength)
    (hl : requestMaxURLLength ≤ X.length) (hs : SP ∉ X.take requestMaxURLLength) :
    readElem up (b0 :: b1 :: (m ++ SP :: X)) = .err := by
  rw [readElem_req up h]
  have e : b0 :: b1 :: (m ++ SP :: X) = (b0 :: b1 :: m) ++ SP :: X := by simp
  rw [e]
  unfold parseRequest
  rw [readLim_token hmsp hmlen]
  simp only [PR.bind_ok, reduceCtorEq, if_false]
  rw [readLim_refuses hl hs]
  rfl

/-- **limits_enforced**, header key and value (inside any header block with entries left) -/
theorem limits_enforced_key (fuel : Nat) (acc : Header) (b : UInt8) (t : Bytes)
    (hb : b ≠ CR) (hl : headerKeyReadLimit ≤ t.length) (hc : COLON ∉ t.take headerKeyReadLimit) :
    parseHeaders (fuel + 1) acc (b :: t) = .err := by
  simp [parseHeaders, hb, readLim_refuses hl hc, hardenKey]

theorem limits_enforced_value (fuel : Nat) (acc : Header) (k v : Bytes) (hk : KeyOK k)
    (hsp : v.head? ≠ some SP) (hl : headerValueReadLimit ≤ v.length) (hc : CR ∉ v.take headerValueReadLimit) :
    parseHeaders (fuel + 1) acc (k ++ [COLON, SP] ++ v) = .err := by
  rw [parseHeaders_key fuel acc k v hk hsp, readLim_refuses hl hc]
  rfl

/-- **limits_enforced**, header count: a response that is well-formed except that it carries more
than 255 header entries (10^6, say) is refused with an error, whatever follows -/
theorem limits_enforced_header_count (up : Bytes → Option Bytes) (code : Nat) (msg : Bytes) (h : Header) (rest : Bytes)
    (hcode : code < 1000) (hmcr : CR ∉ msg) (hmlen : msg.length < responseMaxStatusMessageLength)
    (hs : HeaderShape h) (hc : headerMaxEntryCount < entryCount h) :
    readElem up (rtsp10 ++ SP :: (toDec code ++ SP :: (msg ++ CR :: (LF :: (marshalHeader h ++ rest))))) = .err := by
  rw [readElem_response_line up code msg _ hcode hmcr hmlen, parseHeaders_refuses_marshal hs hc]
  rfl

theorem limits_enforced_header_count_request (up : Bytes → Option Bytes) (r : Request) (rest : Bytes)
    (hm : ∃ b0 b1 t, r.method = b0 :: b1 :: t ∧ isReqPrefix b0 b1 = true)
    (hmsp : SP ∉ r.method) (hmlen : r.method.length < requestMaxMethodLength)
    (hurl : ∀ u, r.url = some u → u ≠ star ∧ SP ∉ u ∧ u.length < requestMaxURLLength ∧ up u = some u)
    (hs : HeaderShape (withContentLength r.header r.body))
    (hc : headerMaxEntryCount < entryCount (withContentLength r.header r.body)) :
    readElem up (marshalRequest r ++ rest) = .err := by
  rw [marshalRequest_append, readElem_request_line up r.method r.url _ hm hmsp hmlen hurl,
    parseHeaders_refuses_marshal hs hc]
  rfl

/-- **limits_enforced**, body: a `Content-Length` above 128 KiB (1 GiB, 2^64 …) is refused with an
error as soon as the header block is complete, whatever follows: the body is not waited for -/
theorem limits_enforced_body (up : Bytes → Option Bytes) (code : Nat) (msg : Bytes) (h : Header) (n : Nat) (rest : Bytes)
    (hcode : code < 1000) (hmcr : CR ∉ msg) (hmlen : msg.length < responseMaxStatusMessageLength)
    (hh : HeaderOK h) (hl : hlookup h kContentLength = some [toDec n]) (hn : rtspMaxBodySize < n) :
    readElem up (rtsp10 ++ SP :: (toDec code ++ SP :: (msg ++ CR :: (LF :: (marshalHeader h ++ rest))))) = .err := by
  rw [readElem_response_line up code msg _ hcode hmcr hmlen, parseHeaders_marshalHeader h rest hh, PR.bind_ok,
    parseBody_refuses_toDec h n rest hl hn]
  rfl

theorem limits_enforced_body_request (up : Bytes → Option Bytes) (method : Bytes) (url : Option Bytes) (h : Header) (n : Nat) (rest : Bytes)
    (hm : ∃ b0 b1 t, method = b0 :: b1 :: t ∧ isReqPrefix b0 b1 = true)
    (hmsp : SP ∉ method) (hmlen : method.length < requestMaxMethodLength)
    (hurl : ∀ u, url = some u → u ≠ star ∧ SP ∉ u ∧ u.length < requestMaxURLLength ∧ up u = some u)
    (hh : HeaderOK h) (hl : hlookup h kContentLength = some [toDec n]) (hn : rtspMaxBodySize < n) :
    readElem up (method ++ SP :: (url.getD star ++ SP :: (rtsp10 ++ CR :: (LF :: (marshalHeader h ++ rest))))) = .err := by
  rw [readElem_request_line up method url _ hm hmsp hmlen hurl, parseHeaders_marshalHeader h rest hh, PR.bind_ok,
    parseBody_refuses_toDec h n rest hl hn]
  rfl

def sampleRequest : Request :=
  { method := str "ANNOUNCE", url := some (str "rtsp://example.com/stream"),
    header := [(kCSeq, [str "1"]), (kContentLength, [str "3"]), (str "Session", [str "abc", str "def"])],
    body := str "v=0" }

def sampleResponse : Response :=
  { code := 404, msg := str "Not Found", header := [(kCSeq, [str "2"]), (kRtpInfo, [[]])], body := [] }

def sampleFrame : IFrame := { channel := 255, payload := [36, 0, 1, 2] }

/-! Instances that let a concrete message be checked by evaluation (those of `ValueOK`, `BodyOK`, `FrameOK` stand in
`Proofs/Frame/WF.lean`, those of `KeyOK`, `Skippable` in `Proofs/Frame/Spec.lean`); `ElemBounded` (an `∃ raw`) and
`Garbage` are not given instances. -/

instance (m : Bytes) : Decidable (∃ b0 b1 t, m = b0 :: b1 :: t ∧ isReqPrefix b0 b1 = true) :=
  match m with
  | [] => isFalse fun ⟨_, _, _, e, _⟩ => nomatch e
  | [_] => isFalse fun ⟨_, _, _, e, _⟩ => nomatch e
  | b0 :: b1 :: t => decidable_of_iff (isReqPrefix b0 b1 = true)
      ⟨fun h => ⟨b0, b1, t, rfl, h⟩, fun ⟨_, _, _, e, h⟩ => by cases e; exact h⟩

instance (o : Option Bytes) (P : Bytes → Prop) [DecidablePred P] : Decidable (∀ u, o = some u → P u) :=
  match o with
  | none => isTrue nofun
  | some u => decidable_of_iff (P u) ⟨fun h _ e => by cases e; exact h, fun h => h u rfl⟩

instance (h : Header) : Decidable (HeaderOK h) := by unfold HeaderOK; infer_instance
instance (h : Header) : Decidable (HeaderShape h) := by unfold HeaderShape; infer_instance
instance (h : Header) : Decidable (HeaderMapOK h) := by unfold HeaderMapOK; infer_instance
instance (up : Bytes → Option Bytes) (r : Request) : Decidable (RequestOK up r) := by unfold RequestOK; infer_instance
instance (r : Response) : Decidable (ResponseOK r) := by unfold ResponseOK; infer_instance

instance (up : Bytes → Option Bytes) : (e : Elem) → Decidable (WellFormed up e)
  | .req r => inferInstanceAs (Decidable (RequestOK up r))
  | .res r => inferInstanceAs (Decidable (ResponseOK r))
  | .frame f => inferInstanceAs (Decidable (FrameOK f))

instance (up : Bytes → Option Bytes) : (e : Elem) → Decidable (WritableOK up e)
  | .req _ => by unfold WritableOK; infer_instance
  | .res _ => by unfold WritableOK; infer_instance
  | .frame f => inferInstanceAs (Decidable (FrameOK f))

theorem keyOK_cseq : KeyOK kCSeq := by decide

theorem sample_wellFormed :
    ∀ m ∈ [Elem.req sampleRequest, .res sampleResponse, .frame sampleFrame], WellFormed (fun u => some u) m := by
  decide

/-- the hypotheses of `parse_serialize` / `roundtrip_any_chunking` are satisfiable by a mixed
sequence with a body, multi-valued and empty header values and a frame whose payload starts with `$` -/
example : parseAll (fun u => some u) (serializeAll [Elem.req sampleRequest, .res sampleResponse, .frame sampleFrame])
    = ([Elem.req sampleRequest, .res sampleResponse, .frame sampleFrame], .eof) :=
  parse_serialize _ _ sample_wellFormed

/-- a response as a caller hands it over: header keys out of order, body without `Content-Length`,
status message left to the default table -/
def sampleUnsorted : Response :=
  { code := 200, msg := [], header := [(str "Session", [str "x"]), (kCSeq, [str "9"])], body := str "hello" }

theorem sampleUnsorted_writable : WritableOK (fun u => some u) (.res sampleUnsorted) := by decide

example : parseAll (fun u => some u) (serializeAll [.res sampleUnsorted]) =
    ([.res { code := 200, msg := str "OK",
             header := [(kCSeq, [str "9"]), (kContentLength, [str "5"]), (str "Session", [str "x"])],
             body := str "hello" }], .eof) := by
  rw [parse_serialize_map _ _ (by intro m hm; simp only [List.mem_singleton] at hm; subst hm; exact sampleUnsorted_writable)]
  decide

theorem frame_wellFormed : ∀ m ∈ [Elem.frame sampleFrame], WellFormed (fun u => some u) m := by decide

theorem flatten_singletons (l : Bytes) : (l.map fun b => [b]).flatten = l := by
  induction l with
  | nil => rfl
  | cons a r ih => simp [ih]

example : readAll (fun u => some u) [] ((serializeAll [Elem.frame sampleFrame, .frame sampleFrame]).map fun b => [b])
    = ([Elem.frame sampleFrame, .frame sampleFrame], .eof) := by decide

example : readAll (fun u => some u) [] ((serializeAll [Elem.frame sampleFrame]).map fun b => [b])
    = ([Elem.frame sampleFrame], .eof) :=
  roundtrip_any_chunking _ _ frame_wellFormed _ (flatten_singletons _)

/-- the hypothesis of `strict_prefix_needs_more` is satisfiable: a complete frame is read with nothing left -/
example : readElem (fun u => some u) (marshalFrame sampleFrame) = .ok (.frame sampleFrame) [] := by decide

/-- `strict_prefix_needs_more`: the first three bytes of a frame -/
example : ∃ hard, readElem (fun u => some u) [36, 255, 0] = .more hard :=
  strict_prefix_needs_more (fun u => some u) [36, 255, 0] [4, 36, 0, 1, 2] (.frame sampleFrame) (by decide) (by decide)

example (rest : Bytes) : readElem (fun u => some u) ([70, 79, 79, 13, 10] ++ marshalElem (.frame sampleFrame) ++ rest)
    = .ok (.frame sampleFrame) rest :=
  resync_skips_garbage _ _ _ rest (by exact ⟨by decide, by decide⟩) 36 _ rfl
    ⟨by decide, by decide, by decide, by decide, (by decide : Skippable 10 36)⟩

/-- non-vacuity of `b64_stream`: blocks of every length class, reads of one byte (every quantum
and every padding is split) -/
example : ((encode [1] ++ encode [2, 3] ++ encode [4, 5, 6] ++ encode [7, 8, 9, 10]).map fun b => [b]).flatten
    = ([[1], [2, 3], [4, 5, 6], [7, 8, 9, 10]].map encode).flatten := by decide

example : b64run [] ((encode [1] ++ encode [2, 3] ++ encode [4, 5, 6] ++ encode [7, 8, 9, 10]).map fun b => [b])
    = ([1, 2, 3, 4, 5, 6, 7, 8, 9, 10], .eof) := by decide

/-- `tunnel_roundtrip`: the frame written in two writes (inside the 4-byte header), each write one
padded block, the encoded stream read byte by byte -/
example : tunnelRead (fun u => some u)
    ((encode [36, 255, 0] ++ encode [4, 36, 0, 1, 2]).map fun b => [b]) = ([Elem.frame sampleFrame], .eof) :=
  tunnel_roundtrip _ _ frame_wellFormed [[36, 255, 0], [4, 36, 0, 1, 2]] _ (by decide) (by
    rw [flatten_singletons]; simp)

/-- `websocket_roundtrip`: one message, handed out in two pieces -/
example : readAll (fun u => some u) [] [[36, 255, 0, 4, 36], [0, 1, 2]] = ([Elem.frame sampleFrame], .eof) :=
  websocket_roundtrip _ _ frame_wellFormed [[36, 255, 0, 4, 36, 0, 1, 2]] _ (by decide) (by decide)

example : ElemBounded (fun u => some u) (.frame sampleFrame) :=
  limits_output _ (marshalFrame sampleFrame) _ [] (by decide)

example (more : Bytes) : readLim SP 3 ([65, 66, 67] ++ more) = .err :=
  limits_enforced_token SP 3 [65, 66, 67] more (by decide) (by decide)

/-- non-vacuity of `limits_enforced_method`: `OP` followed by 70 `T`s -/
example : readElem (fun u => some u) (79 :: 80 :: List.replicate 70 84) = .err :=
  limits_enforced_method _ 79 80 _ (by decide) (by decide) (by decide)

theorem not_mem_take_replicate {c d : UInt8} {m n : Nat} (h : c ≠ d) : d ∉ (List.replicate m c).take n :=
  fun hm => h (List.eq_of_mem_replicate (List.mem_of_mem_take hm)).symm

/-- `limits_enforced_url`: `OPTIONS` followed by 2048 bytes without a space -/
example : readElem (fun u => some u) (79 :: 80 :: (str "TIONS" ++ SP :: List.replicate 2048 97)) = .err :=
  limits_enforced_url _ 79 80 (str "TIONS") (List.replicate 2048 97) (by decide) (by decide) (by decide)
    (by rw [List.length_replicate]; decide)
    (not_mem_take_replicate (by decide))

/-- `limits_enforced_key`: 511 bytes without a colon after the first byte of a key -/
example (acc : Header) : parseHeaders 255 acc (88 :: List.replicate 511 120) = .err :=
  limits_enforced_key 254 acc 88 (List.replicate 511 120) (by decide) (by rw [List.length_replicate]; decide)
    (not_mem_take_replicate (by decide))

/-- `limits_enforced_value`: a value of 2048 bytes -/
example (acc : Header) : parseHeaders 255 acc (kCSeq ++ [COLON, SP] ++ List.replicate 2048 49) = .err :=
  limits_enforced_value 254 acc kCSeq (List.replicate 2048 49) keyOK_cseq
    (by intro h; have h2 : (List.replicate 2048 (49 : UInt8)).head? = some 49 := rfl; rw [h2] at h; exact absurd h (by decide))
    (by rw [List.length_replicate]; decide)
    (not_mem_take_replicate (by decide))

theorem manyValues_shape : HeaderShape [(kCSeq, List.replicate 256 (str "1"))] := by
  refine ⟨?_, List.pairwise_singleton _ _⟩
  intro e he
  simp only [List.mem_singleton] at he
  subst he
  refine ⟨keyOK_cseq,
    List.ne_nil_of_length_pos (by rw [List.length_replicate]; decide), ?_⟩
  intro v hv
  rw [List.eq_of_mem_replicate hv]
  decide

theorem entryCount_single (k : Bytes) (vs : List Bytes) : entryCount [(k, vs)] = vs.length := by
  simp [entryCount]

/-- non-vacuity of `limits_enforced_header_count`: one key with 256 values -/
example (rest : Bytes) : readElem (fun u => some u)
    (rtsp10 ++ SP :: (toDec 200 ++ SP :: (str "OK" ++ CR :: (LF ::
      (marshalHeader [(kCSeq, List.replicate 256 (str "1"))] ++ rest))))) = .err :=
  limits_enforced_header_count _ 200 (str "OK") _ rest (by decide) (by decide) (by decide) manyValues_shape
    (by rw [entryCount_single, List.length_replicate]; decide)

theorem oneGiB_headerOK : HeaderOK [(kContentLength, [toDec 1073741824])] := by decide

/-- non-vacuity of `limits_enforced_body`: `Content-Length: 1073741824` -/
example (rest : Bytes) : readElem (fun u => some u)
    (rtsp10 ++ SP :: (toDec 200 ++ SP :: (str "OK" ++ CR :: (LF ::
      (marshalHeader [(kContentLength, [toDec 1073741824])] ++ rest))))) = .err :=
  limits_enforced_body _ 200 (str "OK") _ 1073741824 rest (by decide) (by decide) (by decide) oneGiB_headerOK
    (hlookup_cons_self _ _ _) (by decide)

example (rest : Bytes) : readElem (fun u => some u)
    (marshalRequest { method := str "OPTIONS", url := none, header := [(kCSeq, List.replicate 256 (str "1"))], body := [] } ++ rest) = .err :=
  limits_enforced_header_count_request _ _ rest ⟨79, 80, str "TIONS", by decide, by decide⟩ (by decide) (by decide)
    (by intro u hu; cases hu) manyValues_shape (by
      show headerMaxEntryCount < entryCount [(kCSeq, List.replicate 256 (str "1"))]
      rw [entryCount_single, List.length_replicate]; decide)

example (rest : Bytes) : readElem (fun u => some u)
    (str "ANNOUNCE" ++ SP :: (star ++ SP :: (rtsp10 ++ CR :: (LF ::
      (marshalHeader [(kContentLength, [toDec 1073741824])] ++ rest))))) = .err :=
  limits_enforced_body_request _ (str "ANNOUNCE") none _ 1073741824 rest ⟨65, 78, str "NOUNCE", by decide, by decide⟩
    (by decide) (by decide) (by intro u hu; cases hu) oneGiB_headerOK (hlookup_cons_self _ _ _) (by decide)

end Rtsp.C04
