import Rtsp.Proofs.Auth.Sender
import Rtsp.Proofs.Auth.Hex
import Rtsp.Proofs.Auth.Collision
import Rtsp.Proofs.Auth.Url
/-
C10 — authentication is complete for right credentials and sound against wrong ones.

Everything is stated about the executable model `Rtsp/Model/Auth.lean` (the functions the
`oracle_auth` driver runs against the real pkg/auth, pkg/headers, Server and Client), for ALL byte
strings, method lists and hash functions.  The two digests are a parameter `H : Hashes`; what the
theorems need of them is stated explicitly (`HexLike`: no `"` in a digest; fixed output length for
the collision argument) and proved for the executable MD5 / SHA-256 hex digests (`realHashes`).

The characterisation of `Verify` (`verify_ok_iff`), the server's decision and the handshake are proved
here.  What is about text alone stands in the supporting modules, with eight theorems of the property:
the header round trips `keyValParse_joinKv` (Proofs/Auth/Kv), `authenticate_roundtrip`,
`authorization_digest_roundtrip`, `authorization_basic_roundtrip` (Proofs/Auth/RoundTrip),
`senderInit_chosen` (Proofs/Auth/Sender), `B64Std.decode_encode` (Proofs/Text/B64Std),
`hex_encode_injective` (Proofs/Auth/Hex) and `trackBase_iff` (Proofs/Auth/Url: the control-attribute
pattern); the collision argument behind the Digest theorems, `respWith_eq_or_named_collision`, in
Proofs/Auth/Collision.
-/
namespace Rtsp.Auth

/-! ## ties to the regenerated facts -/

example : Facts.Auth.serverAuthRealm = "ipcam" := rfl
example : serverAuthRealm = b!"ipcam" := rfl
example : Facts.Auth.controlRegex = "^(.+/)trackID=[0-9]+$" := rfl
example : (vmBasic, vmMD5, vmSHA256) = (0, 1, 2) := by decide
example : Facts.Auth.verifyDefaultMethods = "VerifyMethodBasic, VerifyMethodDigestMD5" := rfl
example : Facts.Auth.wwwDefaultMethods = "VerifyMethodBasic, VerifyMethodDigestMD5" := rfl
example : Facts.Auth.serverDefaultMethods = "auth.VerifyMethodBasic, auth.VerifyMethodDigestMD5" := rfl
example : Facts.Auth.clientRetryGuard = true := by decide
example : Facts.Auth.serverClosesOnProvided = true := by decide
example : Facts.Auth.nonceBytes = 16 := by decide
/-- Basic credentials are split at the first `:` (the model's `splitUserPass`), not by
`strings.Split` with a `len != 2` test, which rejects a password containing `:` (defect
`auth-basic-colon-password`) -/
example : Facts.Auth.basicCutFirstColon = true ∧ Facts.Auth.basicLegacySplit = false := by decide
example : Facts.Auth.basicStdEncoding = true := by decide
/-- the digest helpers are functions of their argument (the model's `Hashes` are pure functions):
`md5Hex` / `sha256Hex` build a fresh hasher per call and pkg/auth keeps no package-level state
besides the compiled control-attribute regexp -/
example : Facts.Auth.verifyFreshMd5PerCall = true ∧ Facts.Auth.verifyFreshSha256PerCall = true ∧
    Facts.Auth.sharedHashState = false ∧ Facts.Auth.verifyPackageVars = 1 ∧ Facts.Auth.senderPackageVars = 0 ∧
    Facts.Auth.wwwPackageVars = 0 ∧ Facts.Auth.noncePackageVars = 0 := by decide
example : Facts.Auth.credentialsProvidedRule = true ∧ Facts.Auth.emptyUserRejected = true := by decide

/-- what `Verify` requires of a parsed `Authorization` header -/
def Accepts (H : Hashes) (req : Req) (user pass : Bytes) (ms : List VerifyMethod) (realm nonce : Bytes)
    (a : Authorization) : Prop :=
  (a.method = .digest ∧ digestEnabled ms a.algorithm = true ∧ a.nonce = nonce ∧ a.realm = realm ∧
    a.username = user ∧ urlMatches req.urlStr req.urlReq a.uri (req.method == b!"SETUP") = true ∧
    a.response = digestResponse H a.algorithm user realm pass nonce req.method a.uri)
  ∨ (a.method = .basic ∧ ms.contains vmBasic = true ∧ a.username = user ∧ a.basicPass = pass)

theorem error_ite_eq_ok {c : Prop} [Decidable c] (e : VerifyErr) (r : VerifyRes) :
    (if c then VerifyRes.error e else r) = .ok ↔ ¬c ∧ r = .ok := by
  by_cases h : c <;> simp [h]

theorem verify_ok_iff (H : Hashes) (req : Req) (user pass : Bytes) (methods : Option (List VerifyMethod))
    (realm nonce : Bytes) :
    verify H req user pass methods realm nonce = .ok ↔
      ∃ a, Authorization.unmarshal req.authz = some a ∧
        Accepts H req user pass (defaultMethods methods) realm nonce a := by
  unfold verify Accepts
  cases Authorization.unmarshal req.authz with
  | none => simp
  | some a =>
    simp only [Option.some.injEq, exists_eq_left']
    cases a.method
    · simp only [reduceCtorEq, false_and, if_false, true_and, false_or]
      by_cases h : (defaultMethods methods).contains vmBasic = true
      · simp only [h, if_true, error_ite_eq_ok, Decidable.not_not, true_and, and_true]
      · simp only [h, if_false, reduceCtorEq, false_and]
    · simp only [reduceCtorEq, false_and, or_false, true_and]
      by_cases h : digestEnabled (defaultMethods methods) a.algorithm = true
      · simp only [h, if_true, error_ite_eq_ok, Decidable.not_not, Bool.not_eq_false, true_and, and_true]
      · simp only [h, if_false, reduceCtorEq, false_and]

/-- soundness, Digest: an accepted Digest header names the expected nonce, realm and user, a URI
that `urlMatches` the request, and carries exactly the response the server computes from the
expected user, realm, password, nonce, the request's method and that URI. -/
theorem sound_digest (H : Hashes) (req : Req) (user pass : Bytes) (methods : Option (List VerifyMethod))
    (realm nonce : Bytes) (a : Authorization)
    (hp : Authorization.unmarshal req.authz = some a) (hd : a.method = .digest)
    (hok : verify H req user pass methods realm nonce = .ok) :
    a.nonce = nonce ∧ a.realm = realm ∧ a.username = user ∧
    urlMatches req.urlStr req.urlReq a.uri (req.method == b!"SETUP") = true ∧
    a.response = digestResponse H a.algorithm user realm pass nonce req.method a.uri ∧
    digestEnabled (defaultMethods methods) a.algorithm = true := by
  obtain ⟨a', h1, h2⟩ := (verify_ok_iff ..).mp hok
  rw [hp] at h1; cases h1
  rcases h2 with ⟨_, h2, h3, h4, h5, h6, h7⟩ | ⟨hb, _⟩
  · exact ⟨h3, h4, h5, h6, h7, h2⟩
  · rw [hd] at hb; cases hb

example : ∃ (req : Req) (a : Authorization), Authorization.unmarshal req.authz = some a ∧ a.method = .digest :=
  ⟨{ method := b!"PLAY", urlStr := [], urlReq := [],
     authz := [b!"Digest username=\"u\", realm=\"r\", nonce=\"n\", uri=\"x\", response=\"y\""] },
   { method := .digest, username := b!"u", realm := b!"r", nonce := b!"n", uri := b!"x", response := b!"y" },
   by decide, by decide⟩

theorem sound_basic_parsed (H : Hashes) (req : Req) (user pass : Bytes) (methods : Option (List VerifyMethod))
    (realm nonce : Bytes) (a : Authorization)
    (hp : Authorization.unmarshal req.authz = some a) (hb : a.method = .basic)
    (hok : verify H req user pass methods realm nonce = .ok) :
    a.username = user ∧ a.basicPass = pass ∧ vmBasic ∈ defaultMethods methods := by
  obtain ⟨a', h1, h2⟩ := (verify_ok_iff ..).mp hok
  rw [hp] at h1; cases h1
  rcases h2 with ⟨hd, _⟩ | ⟨_, h2, h3, h4⟩
  · rw [hb] at hd; cases hd
  · exact ⟨h3, h4, by simpa using h2⟩

/-- the `VerifyMethod` an `Authorization` header needs -/
def schemeOf (a : Authorization) : VerifyMethod :=
  match a.method, a.algorithm with
  | .basic, _ => vmBasic
  | .digest, some .sha256 => vmSHA256
  | .digest, _ => vmMD5

/-- the two guards of the `switch` in `Verify` ask whether the header's scheme is enabled -/
theorem gate_iff (ms : List VerifyMethod) (a : Authorization) :
    (a.method = .digest ∧ digestEnabled ms a.algorithm = true) ∨ (a.method = .basic ∧ ms.contains vmBasic = true) ↔
      schemeOf a ∈ ms := by
  obtain ⟨m, _, _, _, _, _, _, alg⟩ := a
  cases m <;> rcases alg with _ | _ | _ <;> simp [schemeOf, digestEnabled]

/-- scheme gate: a header whose scheme is not among the enabled methods is rejected with
"no supported authentication methods found", whatever else it contains. -/
theorem scheme_gate (H : Hashes) (req : Req) (user pass : Bytes) (methods : Option (List VerifyMethod))
    (realm nonce : Bytes) (a : Authorization)
    (hp : Authorization.unmarshal req.authz = some a)
    (hg : schemeOf a ∉ defaultMethods methods) :
    verify H req user pass methods realm nonce = .error .noMethod := by
  unfold verify
  simp only [hp]
  rw [if_neg fun h => hg ((gate_iff _ a).mp (Or.inl h)), if_neg fun h => hg ((gate_iff _ a).mp (Or.inr h))]

example : ∃ (req : Req) (a : Authorization), Authorization.unmarshal req.authz = some a ∧
    schemeOf a ∉ defaultMethods (some [vmMD5, vmSHA256]) :=
  ⟨{ method := b!"PLAY", urlStr := [], urlReq := [], authz := [b!"Basic dTpw"] },
   { method := .basic, username := b!"u", basicPass := b!"p" }, by decide, by decide⟩

/-- a request without a (single, parsable) Authorization header is rejected -/
theorem no_header_rejected (H : Hashes) (req : Req) (user pass : Bytes) (methods : Option (List VerifyMethod))
    (realm nonce : Bytes) (h : Authorization.unmarshal req.authz = none) :
    verify H req user pass methods realm nonce = .error .header := by
  simp [verify, h]

/-- digests are text without `"` (true of hex) -/
def HexLike (H : Hashes) : Prop := (∀ x, NoQuote (H.md5 x)) ∧ (∀ x, NoQuote (H.sha256 x))

/-- the executable digests of the driver -/
def realHashes : Hashes := { md5 := Rtsp.Md5.hex, sha256 := Rtsp.Sha256.hex }

/- Stated so that proofs rewrite with them: unifying `realHashes.md5 x` with a `Hex.encode _`
makes the elaborator evaluate the digest of a variable. -/
theorem realHashes_md5 : realHashes.md5 = Md5.hex := by rw [realHashes]
theorem realHashes_sha256 : realHashes.sha256 = Sha256.hex := by rw [realHashes]

theorem realHashes_hexLike : HexLike realHashes := by
  refine ⟨fun x => ?_, fun x => ?_⟩
  · rw [realHashes_md5]
    exact hex_noQuote _
  · rw [realHashes_sha256]
    exact hex_noQuote _

/-- the hash a Digest header selects -/
def algHash (H : Hashes) : Option Alg → Bytes → Bytes
  | some .sha256 => H.sha256
  | _ => H.md5

theorem digestResponse_eq (H : Hashes) (alg : Option Alg) (user realm pass nonce method uri : Bytes) :
    digestResponse H alg user realm pass nonce method uri
      = respWith (algHash H alg) user realm pass nonce method uri := by
  cases alg with
  | none => rfl
  | some a => cases a <;> rfl

theorem algHash_cases (H : Hashes) (alg : Option Alg) :
    algHash H alg = H.md5 ∨ algHash H alg = H.sha256 := by
  rcases alg with _ | _ | _
  · exact Or.inl rfl
  · exact Or.inl rfl
  · exact Or.inr rfl

theorem noQuote_digestResponse (H : Hashes) (hH : HexLike H) (alg : Option Alg)
    (user realm pass nonce method uri : Bytes) :
    NoQuote (digestResponse H alg user realm pass nonce method uri) := by
  rw [digestResponse_eq, respWith]
  rcases algHash_cases H alg with e | e
  · rw [e]
    exact hH.1 _
  · rw [e]
    exact hH.2 _

/-! ## the header `Sender.AddAuthorization` writes, read back by `Authorization.Unmarshal` -/

theorem unmarshal_sender_basic (H : Hashes) (ch : Authenticate) (user pass method url : Bytes)
    (hch : ch.method = .basic) (hu : ∀ c ∈ user, c ≠ cColon) :
    Authorization.unmarshal (addAuthorization H ch user pass method url)
      = some { method := .basic, username := user, basicPass := pass } := by
  simp only [addAuthorization, senderAuthorization, hch]
  exact authorization_basic_roundtrip user pass hu

theorem unmarshal_sender_digest (H : Hashes) (hH : HexLike H) (ch : Authenticate) (user pass method url : Bytes)
    (hch : ch.method = .digest) (hq : NoQuote user ∧ NoQuote ch.realm ∧ NoQuote ch.nonce ∧ NoQuote url) :
    Authorization.unmarshal (addAuthorization H ch user pass method url) = some
      { method := .digest, username := user, realm := ch.realm, nonce := ch.nonce, uri := url,
        algorithm := ch.algorithm,
        response := digestResponse H ch.algorithm user ch.realm pass ch.nonce method url } := by
  simp only [addAuthorization, senderAuthorization, hch]
  exact authorization_digest_roundtrip _ rfl rfl
    ⟨hq.1, hq.2.1, hq.2.2.1, hq.2.2.2, noQuote_digestResponse H hH _ _ _ _ _ _ _⟩

/-- soundness, Basic: if the credentials the client side built from `(user', pass')` (user name
without `:`) are accepted against `(user, pass)`, then both are equal. -/
theorem sound_basic (H : Hashes) (req : Req) (user pass user' pass' : Bytes)
    (methods : Option (List VerifyMethod)) (realm nonce : Bytes) (ch : Authenticate) (m url : Bytes)
    (hch : ch.method = .basic) (hu' : ∀ c ∈ user', c ≠ cColon)
    (hreq : req.authz = addAuthorization H ch user' pass' m url)
    (hok : verify H req user pass methods realm nonce = .ok) :
    user' = user ∧ pass' = pass := by
  have hp := unmarshal_sender_basic H ch user' pass' m url hch hu'
  rw [← hreq] at hp
  have := sound_basic_parsed H req user pass methods realm nonce _ hp rfl hok
  exact ⟨this.1, this.2.1⟩

example : ∃ (ch : Authenticate) (u : Bytes), ch.method = .basic ∧ ∀ c ∈ u, c ≠ cColon :=
  ⟨{ method := .basic, realm := b!"ipcam" }, b!"admin", rfl, by decide⟩

/-- the well-formedness the header text round trip needs: no `"` and no `:` in the user name, no
`"` in realm, nonce and URL.  (Each clause is necessary: see the counterexamples below.) -/
structure WF (user realm nonce url : Bytes) : Prop where
  user_noquote : NoQuote user
  user_nocolon : ∀ c ∈ user, c ≠ cColon
  realm_noquote : NoQuote realm
  nonce_noquote : NoQuote nonce
  url_noquote : NoQuote url

/-- `methods` is nil (library default) or a non-empty list of the three named methods, in any
order, with or without repetitions -/
def ValidMethods (methods : Option (List VerifyMethod)) : Prop :=
  defaultMethods methods ≠ [] ∧ ∀ m ∈ defaultMethods methods, ValidMethod m

theorem urlMatches_self (url urlReq : Bytes) (setup : Bool) : urlMatches url urlReq url setup = true := by
  simp [urlMatches]

theorem verify_sender_digest (H : Hashes) (hH : HexLike H) (methods : Option (List VerifyMethod))
    (ch : Authenticate) (user pass method url urlReq : Bytes) (hch : ch.method = .digest)
    (hen : digestEnabled (defaultMethods methods) ch.algorithm = true)
    (hq : NoQuote user ∧ NoQuote ch.realm ∧ NoQuote ch.nonce ∧ NoQuote url) :
    verify H { method := method, urlStr := url, urlReq := urlReq,
               authz := addAuthorization H ch user pass method url }
      user pass methods ch.realm ch.nonce = .ok :=
  (verify_ok_iff ..).mpr ⟨_, unmarshal_sender_digest H hH ch user pass method url hch hq,
    Or.inl ⟨rfl, hen, rfl, rfl, rfl, urlMatches_self .., rfl⟩⟩

theorem verify_chosen (H : Hashes) (hH : HexLike H) (methods : Option (List VerifyMethod))
    (hm : ValidMethods methods) (user pass realm nonce method url urlReq : Bytes)
    (wf : WF user realm nonce url) :
    verify H { method := method, urlStr := url, urlReq := urlReq,
               authz := addAuthorization H (chosen realm nonce (defaultMethods methods)) user pass method url }
      user pass methods realm nonce = .ok := by
  have hq : NoQuote user ∧ NoQuote realm ∧ NoQuote nonce ∧ NoQuote url :=
    ⟨wf.user_noquote, wf.realm_noquote, wf.nonce_noquote, wf.url_noquote⟩
  unfold chosen
  by_cases hs : vmSHA256 ∈ defaultMethods methods
  · rw [if_pos hs, challengeFor_sha]
    exact verify_sender_digest H hH methods _ user pass method url urlReq rfl
      (by simp [digestEnabled, hs]) hq
  · rw [if_neg hs]
    by_cases h5 : vmMD5 ∈ defaultMethods methods
    · rw [if_pos h5, challengeFor_md5]
      exact verify_sender_digest H hH methods _ user pass method url urlReq rfl
        (by simp [digestEnabled, h5]) hq
    · rw [if_neg h5, challengeFor_basic, verify_ok_iff]
      -- the list is non-empty and holds neither digest method
      obtain ⟨m, hmem⟩ := List.exists_mem_of_ne_nil _ hm.1
      have hb : vmBasic ∈ defaultMethods methods := by
        rcases hm.2 m hmem with h | h | h
        · exact h ▸ hmem
        · exact absurd (h ▸ hmem) h5
        · exact absurd (h ▸ hmem) hs
      exact ⟨_, unmarshal_sender_basic H _ user pass method url rfl wf.user_nocolon,
        Or.inr ⟨rfl, by simpa using hb, rfl, rfl⟩⟩

/-- **Completeness.**  For every challenge list the server side can issue
(`GenerateWWWAuthenticate methods realm nonce`, any valid `methods`), the client side
(`Sender.Initialize`, `Sender.AddAuthorization` with the right user and password, any request
method and URL) produces an `Authorization` header that `Verify` accepts for the same
`methods`, `realm`, `nonce`. -/
theorem complete (H : Hashes) (hH : HexLike H) (methods : Option (List VerifyMethod))
    (hm : ValidMethods methods) (user pass realm nonce method url urlReq : Bytes)
    (wf : WF user realm nonce url) :
    ∃ ch, senderInit (generateWWW methods realm nonce) = some ch ∧
      verify H { method := method, urlStr := url, urlReq := urlReq,
                 authz := addAuthorization H ch user pass method url }
        user pass methods realm nonce = .ok :=
  ⟨_, senderInit_chosen realm nonce wf.realm_noquote wf.nonce_noquote _ hm.2 hm.1,
    verify_chosen H hH methods hm user pass realm nonce method url urlReq wf⟩

/-- non-vacuity: the hypotheses of `complete` hold for the real digests, a list of all three
methods, the default `nil`, and a user name, realm and URL with `,` `=` `:` spaces and non-ASCII
bytes (empty nonce) -/
example : HexLike realHashes ∧ ValidMethods (some [vmSHA256, vmBasic, vmMD5]) ∧ ValidMethods none ∧
    WF b!"jürgen, the=admin" b!"Login to 4K, please" b!"" b!"rtsp://[::1]:8554/a%20b/c?x=1&y=/trackID=12" :=
  ⟨realHashes_hexLike, ⟨by decide, by unfold ValidMethod; decide⟩, ⟨by decide, by unfold ValidMethod; decide⟩,
   ⟨by unfold NoQuote; decide, by decide, by unfold NoQuote; decide, by unfold NoQuote; decide, by unfold NoQuote; decide⟩⟩

/-- **Forgery needs a collision.**  If a response computed (for the expected user, realm, nonce)
from a different password, or for a different method, or for a different URI, equals the response
the server computes, then the hash has a collision: two distinct inputs with the same digest.
(`hlen`: digests have a fixed length, as hex digests do; methods contain no `:`.)  Which two
inputs: `respWith_eq_or_named_collision`. -/
theorem digest_forgery_needs_collision (h : Bytes → Bytes)
    (hlen : ∀ x y, (h x).length = (h y).length)
    (user realm nonce pass pass' m m' uri uri' : Bytes)
    (hm : ∀ c ∈ m, c ≠ cColon) (hm' : ∀ c ∈ m', c ≠ cColon)
    (hne : pass' ≠ pass ∨ m' ≠ m ∨ uri' ≠ uri)
    (hacc : respWith h user realm pass' nonce m' uri' = respWith h user realm pass nonce m uri) :
    ∃ x y, x ≠ y ∧ h x = h y :=
  (respWith_eq_or_collision h nonce (split_of_fixed_length h hlen nonce) user realm pass pass' m m' uri uri' hm hm' hacc).resolve_left
    fun ⟨h1, h2, h3⟩ => hne.elim (· h1) (·.elim (· h2) (· h3))

/-- non-vacuity: the real MD5 hex digest has fixed length, `DESCRIBE` / `PLAY` contain no colon -/
example : (∀ x y, (realHashes.md5 x).length = (realHashes.md5 y).length) ∧
    (∀ c ∈ b!"DESCRIBE", c ≠ cColon) ∧ (∀ c ∈ b!"PLAY", c ≠ cColon) ∧ (b!"PLAY" ≠ b!"DESCRIBE") :=
  ⟨fun x y => by rw [realHashes_md5, md5_hex_length, md5_hex_length], by decide, by decide, by decide⟩

/-- soundness, Digest, in terms of what the client side computed: if the header
`Sender.AddAuthorization` builds from the challenge `ch` for `(user', pass', method', url')` is
accepted, then the challenge's realm and nonce and the user name are the expected ones, `url'`
`urlMatches` the request, and the client's response equals the one the server computes. -/
theorem sound_digest_sender (H : Hashes) (hH : HexLike H) (req : Req) (user pass user' pass' : Bytes)
    (methods : Option (List VerifyMethod)) (realm nonce : Bytes) (ch : Authenticate) (method' url' : Bytes)
    (hch : ch.method = .digest)
    (hq : NoQuote user' ∧ NoQuote ch.realm ∧ NoQuote ch.nonce ∧ NoQuote url')
    (hreq : req.authz = addAuthorization H ch user' pass' method' url')
    (hok : verify H req user pass methods realm nonce = .ok) :
    ch.realm = realm ∧ ch.nonce = nonce ∧ user' = user ∧
    urlMatches req.urlStr req.urlReq url' (req.method == b!"SETUP") = true ∧
    respWith (algHash H ch.algorithm) user realm pass' nonce method' url'
      = respWith (algHash H ch.algorithm) user realm pass nonce req.method url' := by
  have hp := unmarshal_sender_digest H hH ch user' pass' method' url' hch hq
  rw [← hreq] at hp
  obtain ⟨rfl, rfl, rfl, h4, h5, _⟩ := sound_digest H req user pass methods realm nonce _ hp rfl hok
  rw [digestResponse_eq, digestResponse_eq] at h5
  exact ⟨rfl, rfl, rfl, h4, h5⟩

/-- **Every single-field deviation is rejected, or the hash is broken.**  With the hypotheses of
`sound_digest_sender` and fixed-length digests: acceptance forces realm, nonce and user to be the
expected ones and the URL to match, and then either password and method are the expected ones too,
or the selected hash has a collision. -/
theorem digest_deviation_rejected_or_collision (H : Hashes) (hH : HexLike H)
    (hlen : ∀ alg x y, (algHash H alg x).length = (algHash H alg y).length)
    (req : Req) (user pass user' pass' : Bytes)
    (methods : Option (List VerifyMethod)) (realm nonce : Bytes) (ch : Authenticate) (method' url' : Bytes)
    (hch : ch.method = .digest)
    (hq : NoQuote user' ∧ NoQuote ch.realm ∧ NoQuote ch.nonce ∧ NoQuote url')
    (hm : ∀ c ∈ req.method, c ≠ cColon) (hm' : ∀ c ∈ method', c ≠ cColon)
    (hreq : req.authz = addAuthorization H ch user' pass' method' url')
    (hok : verify H req user pass methods realm nonce = .ok) :
    ch.realm = realm ∧ ch.nonce = nonce ∧ user' = user ∧
    urlMatches req.urlStr req.urlReq url' (req.method == b!"SETUP") = true ∧
    ((pass' = pass ∧ method' = req.method) ∨
      ∃ x y, x ≠ y ∧ algHash H ch.algorithm x = algHash H ch.algorithm y) := by
  obtain ⟨h1, h2, h3, h4, h5⟩ := sound_digest_sender H hH req user pass user' pass' methods realm nonce ch
    method' url' hch hq hreq hok
  exact ⟨h1, h2, h3, h4, (respWith_eq_or_collision _ nonce (split_of_fixed_length _ (hlen _) nonce)
    user realm pass pass' req.method method' url' url' hm hm' h5).imp_left fun h => ⟨h.1, h.2.1⟩⟩

/-- the real digests have fixed lengths -/
theorem realHashes_fixed_length : ∀ alg x y,
    (algHash realHashes alg x).length = (algHash realHashes alg y).length := by
  intro alg x y
  rcases algHash_cases realHashes alg with e | e
  · rw [e, realHashes_md5, md5_hex_length, md5_hex_length]
  · rw [e, realHashes_sha256, sha256_hex_length, sha256_hex_length]

/-- relabelling the algorithm: a response that is an MD5 digest is never accepted under
`algorithm="SHA-256"` and vice versa, as soon as the two digests have different lengths. -/
theorem algorithm_relabel_rejected (H : Hashes)
    (hlen : ∀ x y, (H.md5 x).length ≠ (H.sha256 y).length)
    (req : Req) (user pass : Bytes) (methods : Option (List VerifyMethod)) (realm nonce : Bytes)
    (a : Authorization) (hp : Authorization.unmarshal req.authz = some a) (hd : a.method = .digest)
    (hcross : (a.algorithm = some .sha256 ∧ ∃ z, a.response = H.md5 z) ∨
              (a.algorithm ≠ some .sha256 ∧ ∃ z, a.response = H.sha256 z)) :
    verify H req user pass methods realm nonce ≠ .ok := by
  intro hok
  have hs := (sound_digest H req user pass methods realm nonce a hp hd hok).2.2.2.2.1
  rw [digestResponse_eq] at hs
  rcases hcross with ⟨ha, z, hz⟩ | ⟨ha, z, hz⟩
  · rw [ha, hz] at hs
    exact hlen _ _ (congrArg List.length hs)
  · have : algHash H a.algorithm = H.md5 := by
      cases h : a.algorithm with
      | none => rfl
      | some x => cases x; rfl; exact absurd h ha
    rw [this, hz] at hs
    exact hlen _ _ (congrArg List.length hs).symm

example : ∀ x y, (realHashes.md5 x).length ≠ (realHashes.sha256 y).length := by
  intro x y
  rw [realHashes_md5, realHashes_sha256, md5_hex_length, sha256_hex_length]
  decide

/-- `digest_forgery_needs_collision` with "digests contain no colon" in place of "digests have a
fixed length" (hex digests have both properties; an injective function can only have this one) -/
theorem digest_forgery_needs_collision_nocolon (h : Bytes → Bytes) (hnc : NoColonDigest h)
    (user realm nonce pass pass' m m' uri uri' : Bytes)
    (hm : ∀ c ∈ m, c ≠ cColon) (hm' : ∀ c ∈ m', c ≠ cColon)
    (hne : pass' ≠ pass ∨ m' ≠ m ∨ uri' ≠ uri)
    (hacc : respWith h user realm pass' nonce m' uri' = respWith h user realm pass nonce m uri) :
    ∃ x y, x ≠ y ∧ h x = h y :=
  (respWith_eq_or_collision h nonce (split_of_noColon h hnc nonce) user realm pass pass' m m' uri uri' hm hm' hacc).resolve_left
    fun ⟨h1, h2, h3⟩ => hne.elim (· h1) (·.elim (· h2) (· h3))

/-- **Soundness against every single-field deviation, idealised hash.**  If both digests are
injective (no collisions at all) and hex-like, then a header the client side built for
`(user', pass', ch.realm, ch.nonce, method', url')` is accepted for `(user, pass, realm, nonce)` on
request `req` only if user, password, realm, nonce and method are all the expected ones and the
URL is the request's (up to the documented spellings). -/
theorem sound_ideal (H : Hashes) (hH : HexLike H)
    (hnc : ∀ alg, NoColonDigest (algHash H alg))
    (hinj : ∀ alg x y, algHash H alg x = algHash H alg y → x = y)
    (req : Req) (user pass user' pass' : Bytes)
    (methods : Option (List VerifyMethod)) (realm nonce : Bytes) (ch : Authenticate) (method' url' : Bytes)
    (hch : ch.method = .digest)
    (hq : NoQuote user' ∧ NoQuote ch.realm ∧ NoQuote ch.nonce ∧ NoQuote url')
    (hm : ∀ c ∈ req.method, c ≠ cColon) (hm' : ∀ c ∈ method', c ≠ cColon)
    (hreq : req.authz = addAuthorization H ch user' pass' method' url')
    (hok : verify H req user pass methods realm nonce = .ok) :
    user' = user ∧ pass' = pass ∧ ch.realm = realm ∧ ch.nonce = nonce ∧ method' = req.method ∧
    urlMatches req.urlStr req.urlReq url' (req.method == b!"SETUP") = true := by
  obtain ⟨h1, h2, h3, h4, h5⟩ := sound_digest_sender H hH req user pass user' pass' methods realm nonce ch
    method' url' hch hq hreq hok
  obtain ⟨hp, hme, _⟩ := (respWith_eq_or_collision _ nonce (split_of_noColon _ (hnc _) nonce)
    user realm pass pass' req.method method' url' url' hm hm' h5).resolve_right
      fun ⟨x, y, ne, e⟩ => ne (hinj _ x y e)
  exact ⟨h3, hp, h1, h2, hme, h4⟩

/-! non-vacuity: hex encoding itself is an injective, hex-like, colon-free "digest" -/

def idealHashes : Hashes := { md5 := Hex.encode, sha256 := Hex.encode }

example : HexLike idealHashes ∧ (∀ alg, NoColonDigest (algHash idealHashes alg)) ∧
    (∀ alg x y, algHash idealHashes alg x = algHash idealHashes alg y → x = y) := by
  refine ⟨⟨fun _ => hex_noQuote _, fun _ => hex_noQuote _⟩, ?_, ?_⟩
  · intro alg x
    cases alg with
    | none => exact hex_noColon x
    | some a => cases a <;> exact hex_noColon x
  · intro alg x y h
    cases alg with
    | none => exact hex_encode_injective x y h
    | some a => cases a <;> exact hex_encode_injective x y h

/-- the real digests are colon-free too (so `digest_forgery_needs_collision_nocolon` applies to them as well) -/
theorem realHashes_noColon : ∀ alg, NoColonDigest (algHash realHashes alg) := by
  intro alg x
  rcases algHash_cases realHashes alg with e | e
  · rw [e, realHashes_md5]
    exact hex_noColon _
  · rw [e, realHashes_sha256]
    exact hex_noColon _

/-- **401 vs close** (`handleAuthError` + the reader loop).  When the application handler reports
an authentication failure (`liberrors.ErrServerAuth`) with some status (401 in practice):
* if the request carries no credentials — no Authorization header, one that does not parse, or
  one with an empty user name — the response gets a `WWW-Authenticate` header with one challenge
  per enabled method for the connection's nonce, the error is cleared and the connection is kept;
* if it carries credentials (parsable, non-empty user name), no challenge is added and the
  connection is closed after the response.
There is no retry counter: the rule is per request.  Other handler errors close the connection,
no error keeps it. -/
theorem server_401_vs_close (methods : List VerifyMethod) (c : Conn) (authz : List Bytes) (status : Nat) :
    (credentialsProvided authz = false →
      handleOuter methods c authz status .auth =
        { status := status, www := some (generateWWW (some methods) serverAuthRealm c.nonce), closed := false }) ∧
    (credentialsProvided authz = true →
      handleOuter methods c authz status .auth = { status := status, www := none, closed := true }) ∧
    handleOuter methods c authz status .none = { status := status, www := none, closed := false } ∧
    handleOuter methods c authz status .other = { status := status, www := none, closed := true } := by
  refine ⟨?_, ?_, rfl, rfl⟩
  · intro h; simp [handleOuter, h]
  · intro h; simp [handleOuter, h]

theorem credentialsProvided_iff (authz : List Bytes) :
    credentialsProvided authz = true ↔
      ∃ a, Authorization.unmarshal authz = some a ∧ a.username ≠ [] := by
  unfold credentialsProvided
  cases Authorization.unmarshal authz <;> simp

theorem credentialsProvided_nil : credentialsProvided [] = false := by decide

/-- a request without Authorization header on a connection served by the `authHandler`
(non-empty expected user): 401, one challenge per method carrying the connection's nonce (drawn
now if this is the first `VerifyCredentials` on the connection), connection kept. -/
theorem serve_no_credentials (H : Hashes) (methods : List VerifyMethod) (user pass : Bytes) (hu : user ≠ [])
    (c : Conn) (n : Bytes) (req : Req) (hreq : req.authz = []) :
    let nonce' := if c.nonce = [] then n else c.nonce
    serve H methods user pass c (some n) req =
      ({ nonce := nonce', closed := c.closed },
       { status := 401, www := some (generateWWW (some methods) serverAuthRealm nonce'), closed := false }) := by
  have hv : ∀ nn, verify H req user pass (some methods) serverAuthRealm nn = .error .header := by
    intro nn; apply no_header_rejected; rw [hreq]; decide
  by_cases hc : c.nonce = []
  · simp [serve, authHandler, verifyCredentials, hu, hc, hv, handleOuter, hreq, credentialsProvided_nil]
  · simp [serve, authHandler, verifyCredentials, hu, hc, hv, handleOuter, hreq, credentialsProvided_nil]

theorem serve_right_credentials (H : Hashes) (methods : List VerifyMethod) (user pass : Bytes) (hu : user ≠ [])
    (c : Conn) (hc : c.nonce ≠ []) (fresh : Option Bytes) (req : Req)
    (hok : verify H req user pass (some methods) serverAuthRealm c.nonce = .ok) :
    serve H methods user pass c fresh req = (c, { status := 200, www := none, closed := false }) := by
  simp [serve, authHandler, verifyCredentials, hu, hc, hok, handleOuter]

/-- rejected credentials (parsable header, non-empty user name): 401 without challenge and the
connection is closed -/
theorem serve_wrong_credentials (H : Hashes) (methods : List VerifyMethod) (user pass : Bytes) (hu : user ≠ [])
    (c : Conn) (hc : c.nonce ≠ []) (fresh : Option Bytes) (req : Req)
    (hprov : credentialsProvided req.authz = true)
    (hrej : verify H req user pass (some methods) serverAuthRealm c.nonce ≠ .ok) :
    serve H methods user pass c fresh req =
      ({ c with closed := true }, { status := 401, www := none, closed := true }) := by
  have : (verify H req user pass (some methods) serverAuthRealm c.nonce == VerifyRes.ok) = false := by
    simpa using hrej
  simp [serve, authHandler, verifyCredentials, hu, hc, this, handleOuter, hprov]

/-- unparsable header or empty user name: treated like no credentials -/
theorem serve_unusable_credentials (H : Hashes) (methods : List VerifyMethod) (user pass : Bytes) (hu : user ≠ [])
    (c : Conn) (hc : c.nonce ≠ []) (fresh : Option Bytes) (req : Req)
    (hprov : credentialsProvided req.authz = false)
    (hrej : verify H req user pass (some methods) serverAuthRealm c.nonce ≠ .ok) :
    serve H methods user pass c fresh req =
      (c, { status := 401, www := some (generateWWW (some methods) serverAuthRealm c.nonce), closed := false }) := by
  have : (verify H req user pass (some methods) serverAuthRealm c.nonce == VerifyRes.ok) = false := by
    simpa using hrej
  simp [serve, authHandler, verifyCredentials, hu, hc, this, handleOuter, hprov]

example : ∃ req : Req, credentialsProvided req.authz = false ∧ req.authz ≠ [] :=
  ⟨{ method := [], urlStr := [], urlReq := [], authz := [b!"Basic OnB3"] }, by decide, by decide⟩

theorem serverAuthRealm_noQuote : NoQuote serverAuthRealm := by unfold NoQuote; decide

theorem credentialsProvided_sender (H : Hashes) (hH : HexLike H) (ch : Authenticate) (user pass method url : Bytes)
    (hu : user ≠ []) (hq : NoQuote user ∧ NoQuote ch.realm ∧ NoQuote ch.nonce ∧ NoQuote url)
    (hc : ∀ c ∈ user, c ≠ cColon) :
    credentialsProvided (addAuthorization H ch user pass method url) = true := by
  rw [credentialsProvided_iff]
  cases hm : ch.method with
  | basic => exact ⟨_, unmarshal_sender_basic H ch user pass method url hm hc, hu⟩
  | digest => exact ⟨_, unmarshal_sender_digest H hH ch user pass method url hm hq, hu⟩

/-- `Client.do` sends the request at most twice -/
theorem client_at_most_one_retry {σ : Type} (H : Hashes) (srv : σ → Req → σ × Resp) (s : σ)
    (sender : Option (Authenticate × Bytes × Bytes)) (r : ClientReq) :
    (clientDo H srv s sender r).2.2.1.length ≤ 2 := by
  -- no exit of `Client.do` sends a third request: after the 401 the second one is the last
  unfold clientDo
  dsimp only
  split
  · cases r.cred with
    | none => exact Nat.le_succ 1
    | some c =>
      dsimp only
      split
      · exact Nat.le_succ 1
      · exact Nat.le_refl 2
  · exact Nat.le_succ 1

/-- no credentials in the URL, or a sender already set: no retry -/
theorem client_no_retry {σ : Type} (H : Hashes) (srv : σ → Req → σ × Resp) (s : σ)
    (sender : Option (Authenticate × Bytes × Bytes)) (r : ClientReq)
    (h : r.cred = none ∨ sender ≠ none) :
    (clientDo H srv s sender r).2.2.1 = [wireReq H sender r] := by
  unfold clientDo
  rcases h with h | h
  · simp [h]
  · cases sender with
    | none => exact absurd rfl h
    | some x => simp

/-- `Client.do` with credentials in the URL on a fresh connection: the first request draws the
401 with the challenges for nonce `n`, `Sender.Initialize` picks `chosen`, and the result is that of
the second request, whatever the server makes of it. -/
theorem handshake (H : Hashes) (methods : List VerifyMethod) (hm : ValidMethods (some methods))
    (user pass cuser cpass n : Bytes) (hu : user ≠ []) (hn : NoQuote n) (r : ClientReq)
    (hcred : r.cred = some (cuser, cpass)) (c2 : Conn) (o2 : Outcome)
    (h2 : serve H methods user pass { nonce := n, closed := false } (some n)
      (wireReq H (some (chosen serverAuthRealm n methods, cuser, cpass)) r) = (c2, o2)) :
    clientDo H (serveResp H methods user pass (some n)) ({} : Conn) none r =
      (c2, some (chosen serverAuthRealm n methods, cuser, cpass),
       [wireReq H none r, wireReq H (some (chosen serverAuthRealm n methods, cuser, cpass)) r],
       .resp { status := o2.status, www := o2.www.getD [] }) := by
  have hinit : senderInit (generateWWW (some methods) serverAuthRealm n) = some (chosen serverAuthRealm n methods) :=
    senderInit_chosen serverAuthRealm n serverAuthRealm_noQuote hn methods hm.2 hm.1
  have h1 := serve_no_credentials H methods user pass hu ({} : Conn) n (wireReq H none r) rfl
  simp only [if_true] at h1
  simp only [clientDo, serveResp, hcred, h1]
  simp [hinit, h2]

/-- **Handshake, right credentials.**  A client holding `user:pass` in its URL, against a fresh
connection of a server whose handler expects the same `user`, `pass` (any valid method list; user
name, nonce and URL as `WF` asks): exactly two requests go out (which two: `handshake` — the first
without, the second with an Authorization header), the final status is 200 and the connection
stays open. -/
theorem handshake_right (H : Hashes) (hH : HexLike H) (methods : List VerifyMethod)
    (hm : ValidMethods (some methods)) (user pass n method url urlReq : Bytes)
    (hu : user ≠ []) (hn : n ≠ []) (wf : WF user serverAuthRealm n url) :
    let r : ClientReq := { method := method, urlStr := url, urlReq := urlReq, cred := some (user, pass) }
    let out := clientDo H (serveResp H methods user pass (some n)) ({} : Conn) none r
    out.1 = { nonce := n, closed := false } ∧
    out.2.2.1.length = 2 ∧
    out.2.2.2 = .resp { status := 200, www := [] } ∧
    (∃ ch, out.2.1 = some (ch, user, pass)) := by
  intro r out
  have hout : out = _ := handshake H methods hm user pass user pass n hu wf.nonce_noquote r rfl _ _
    (serve_right_credentials H methods user pass hu { nonce := n, closed := false } hn (some n) _
      (verify_chosen H hH (some methods) hm user pass serverAuthRealm n method url urlReq wf))
  rw [hout]
  exact ⟨rfl, rfl, rfl, _, rfl⟩

/-- **Handshake, wrong credentials.**  Same setting, but the client's credentials are rejected
by `Verify` (`hrej`, about the header for the challenge the client selects; e.g. another password —
see `digest_deviation_rejected_or_collision`, `sound_basic`): two requests, final status 401 and
the server has closed the connection. -/
theorem handshake_wrong (H : Hashes) (hH : HexLike H) (methods : List VerifyMethod)
    (hm : ValidMethods (some methods)) (user pass cuser cpass n method url urlReq : Bytes)
    (hu : user ≠ []) (hcu : cuser ≠ []) (hn : n ≠ []) (wf : WF cuser serverAuthRealm n url)
    (hrej : verify H { method := method, urlStr := url, urlReq := urlReq,
                       authz := addAuthorization H (chosen serverAuthRealm n methods) cuser cpass method url }
        user pass (some methods) serverAuthRealm n ≠ .ok) :
    let r : ClientReq := { method := method, urlStr := url, urlReq := urlReq, cred := some (cuser, cpass) }
    let out := clientDo H (serveResp H methods user pass (some n)) ({} : Conn) none r
    out.1 = { nonce := n, closed := true } ∧
    out.2.2.1.length = 2 ∧
    out.2.2.2 = .resp { status := 401, www := [] } := by
  intro r out
  have hcan := chosen_canon serverAuthRealm n wf.realm_noquote wf.nonce_noquote methods
  have hprov := credentialsProvided_sender H hH (chosen serverAuthRealm n methods) cuser cpass method url hcu
    ⟨wf.user_noquote, hcan.1, hcan.2.1, wf.url_noquote⟩ wf.user_nocolon
  have hout : out = _ := handshake H methods hm user pass cuser cpass n hu wf.nonce_noquote r rfl _ _
    (serve_wrong_credentials H methods user pass hu { nonce := n, closed := false } hn (some n) _ hprov hrej)
  rw [hout]
  exact ⟨rfl, rfl, rfl⟩

/-- **Basic, wrong password: the connection always ends** (nothing about collisions is assumed): the
hypothesis `hrej` of `handshake_wrong` holds whenever only Basic is enabled and the client's
password differs. -/
theorem handshake_wrong_basic (H : Hashes) (hH : HexLike H) (user pass cpass n method url urlReq : Bytes)
    (hu : user ≠ []) (hn : n ≠ []) (wf : WF user serverAuthRealm n url) (hp : cpass ≠ pass) :
    let r : ClientReq := { method := method, urlStr := url, urlReq := urlReq, cred := some (user, cpass) }
    let out := clientDo H (serveResp H [vmBasic] user pass (some n)) ({} : Conn) none r
    out.1 = { nonce := n, closed := true } ∧ out.2.2.1.length = 2 ∧
    out.2.2.2 = .resp { status := 401, www := [] } := by
  have hm : ValidMethods (some [vmBasic]) := ⟨by decide, by unfold ValidMethod; decide⟩
  apply handshake_wrong H hH [vmBasic] hm user pass user cpass n method url urlReq hu hu hn wf
  intro hok
  exact hp (sound_basic H _ user pass user cpass (some [vmBasic]) serverAuthRealm n _ method url rfl
    wf.user_nocolon rfl hok).2

/-- once the client holds a sender for the connection's challenge, every further request it sends
(any method, any URL without `"`) is accepted and the connection stays open: the nonce is per
connection, not per request -/
theorem subsequent_requests_accepted (H : Hashes) (hH : HexLike H) (methods : List VerifyMethod)
    (hm : ValidMethods (some methods)) (user pass n : Bytes) (hu : user ≠ []) (hn : n ≠ [])
    (r : ClientReq) (wf : WF user serverAuthRealm n r.urlStr) (fresh : Option Bytes) :
    ∃ ch, senderInit (generateWWW (some methods) serverAuthRealm n) = some ch ∧
      serve H methods user pass { nonce := n, closed := false } fresh (wireReq H (some (ch, user, pass)) r)
        = ({ nonce := n, closed := false }, { status := 200, www := none, closed := false }) :=
  ⟨_, senderInit_chosen serverAuthRealm n wf.realm_noquote wf.nonce_noquote methods hm.2 hm.1,
    serve_right_credentials H methods user pass hu { nonce := n, closed := false } hn fresh _
      (verify_chosen H hH (some methods) hm user pass serverAuthRealm n r.method r.urlStr r.urlReq wf)⟩

/-- `auth.GenerateNonce`: the hex text of 16 random bytes — 32 characters, none of them `"` -/
theorem generated_nonce_ok (bs : List UInt8) (h : bs.length = Facts.Auth.nonceBytes) :
    NoQuote (Hex.encode bs) ∧ (Hex.encode bs).length = 32 ∧ Hex.encode bs ≠ [] := by
  have hl : (Hex.encode bs).length = 32 := by
    rw [Hex.length_encode, h]; decide
  refine ⟨hex_noQuote bs, hl, ?_⟩
  intro e; rw [e] at hl; cases hl

example : ∃ bs : List UInt8, bs.length = Facts.Auth.nonceBytes := ⟨List.replicate 16 0, by decide⟩

/-- the handshake with the nonce the server really draws (any 16 random bytes) -/
theorem handshake_right_generated_nonce (H : Hashes) (hH : HexLike H) (methods : List VerifyMethod)
    (hm : ValidMethods (some methods)) (user pass method url urlReq : Bytes) (rnd : List UInt8)
    (hrnd : rnd.length = Facts.Auth.nonceBytes)
    (hu : user ≠ []) (hq : NoQuote user) (hc : ∀ c ∈ user, c ≠ cColon) (hurl : NoQuote url) :
    let r : ClientReq := { method := method, urlStr := url, urlReq := urlReq, cred := some (user, pass) }
    let out := clientDo H (serveResp H methods user pass (some (Hex.encode rnd))) ({} : Conn) none r
    out.1.closed = false ∧ out.2.2.1.length = 2 ∧ out.2.2.2 = .resp { status := 200, www := [] } := by
  intro r out
  obtain ⟨hn1, _, hn3⟩ := generated_nonce_ok rnd hrnd
  obtain ⟨h1, h2, h3, _⟩ := handshake_right H hH methods hm user pass (Hex.encode rnd) method url urlReq hu hn3
    ⟨hq, hc, serverAuthRealm_noQuote, hn1, hurl⟩
  exact ⟨congrArg Conn.closed h1, h2, h3⟩

/-- **The URL relaxations are exactly these.**  The digest URI `received` is accepted for a request
to `urlStr` (abs_path `urlReq`) iff it is the URL itself, or the abs_path form of it (RFC 2617
3.2.2), or — for SETUP only — the base of the track URL with or without its trailing slash. -/
theorem url_relaxation_exact (urlStr urlReq received : Bytes) (isSetup : Bool) :
    urlMatches urlStr urlReq received isSetup = true ↔
      received = urlStr ∨
      (received.head? = some cSlash ∧ received = urlReq) ∨
      (isSetup = true ∧ ∃ p, TrackURL urlStr p ∧ (received = p ∨ received ++ [cSlash] = p)) := by
  have hpre : (b!"/").isPrefixOf received = true ↔ received.head? = some cSlash := by
    cases received with
    | nil => simp [List.isPrefixOf]
    | cons c r =>
      simp only [List.isPrefixOf, List.head?_cons, Option.some.injEq, cSlash, Bool.and_true, beq_iff_eq]
      exact eq_comm
  simp only [← trackBase_iff, urlMatches]
  by_cases h : received = urlStr ∨ (received.head? = some cSlash ∧ received = urlReq)
  · rw [if_pos (by simpa [hpre, or_comm] using h)]
    exact iff_of_true rfl (h.elim Or.inl fun h => Or.inr (Or.inl h))
  · rw [if_neg (by simpa [hpre, or_comm] using h)]
    cases isSetup <;> cases trackBase urlStr <;> simp [not_or.mp h]

/-- outside SETUP there is no relaxation beyond the two spellings of the request URL -/
theorem url_strict_unless_setup (urlStr urlReq received : Bytes) :
    urlMatches urlStr urlReq received false = true ↔
      received = urlStr ∨ (received.head? = some cSlash ∧ received = urlReq) := by
  rw [url_relaxation_exact]; simp

/-- non-vacuity: the unit-test URL of pkg/auth and its base -/
example : TrackURL b!"rtsp://myhost/mypath?key=val/trackID=3" b!"rtsp://myhost/mypath?key=val/" :=
  ⟨b!"3", by decide, by decide, by decide, by decide, by decide, by decide⟩

/-- the URL a client-built Digest header may name, spelled out: the request URL, or (never the
case for `auth.Sender`, which always writes an absolute URL) its abs_path, or for SETUP the track
URL's base with or without the trailing slash -/
theorem sound_url (H : Hashes) (hH : HexLike H) (req : Req) (user pass user' pass' : Bytes)
    (methods : Option (List VerifyMethod)) (realm nonce : Bytes) (ch : Authenticate) (method' url' : Bytes)
    (hch : ch.method = .digest)
    (hq : NoQuote user' ∧ NoQuote ch.realm ∧ NoQuote ch.nonce ∧ NoQuote url')
    (hreq : req.authz = addAuthorization H ch user' pass' method' url')
    (hok : verify H req user pass methods realm nonce = .ok) :
    url' = req.urlStr ∨ (url'.head? = some cSlash ∧ url' = req.urlReq) ∨
    (req.method = b!"SETUP" ∧ ∃ p, TrackURL req.urlStr p ∧ (url' = p ∨ url' ++ [cSlash] = p)) := by
  have h := (sound_digest_sender H hH req user pass user' pass' methods realm nonce ch method' url' hch hq hreq hok).2.2.2.1
  rw [url_relaxation_exact] at h
  rcases h with h | h | ⟨hs, h⟩
  · exact Or.inl h
  · exact Or.inr (Or.inl h)
  · exact Or.inr (Or.inr ⟨by simpa using hs, h⟩)

/-! ## counterexamples, evaluated by the kernel: `complete` fails without a clause of `WF` or of
`ValidMethods`, and `sound_basic` without its clause on the client's user name -/

/-- a toy pair of hex-like "digests" for the counterexamples -/
def toyHashes : Hashes := { md5 := fun _ => b!"0", sha256 := fun _ => b!"1" }

example : HexLike toyHashes :=
  ⟨fun _ => by show NoQuote b!"0"; unfold NoQuote; decide, fun _ => by show NoQuote b!"1"; unfold NoQuote; decide⟩

def toyReq (authz : List Bytes) : Req :=
  { method := b!"PLAY", urlStr := b!"rtsp://h/p", urlReq := b!"/p", authz := authz }

/-- realm containing `"`: the challenge parses back with a truncated realm, Verify says "wrong realm" -/
example : senderInit (generateWWW (some [vmMD5]) b!"a\"b" b!"n")
      = some { method := .digest, realm := b!"a", nonce := b!"n", algorithm := some .md5 } ∧
    verify toyHashes (toyReq (addAuthorization toyHashes
        { method := .digest, realm := b!"a", nonce := b!"n", algorithm := some .md5 } b!"u" b!"p" b!"PLAY" b!"rtsp://h/p"))
      b!"u" b!"p" (some [vmMD5]) b!"a\"b" b!"n" = .error .realm := by decide

/-- nonce containing `"` -/
example : senderInit (generateWWW (some [vmSHA256]) b!"r" b!"n\"")
      = some { method := .digest, realm := b!"r", nonce := b!"n", algorithm := some .sha256 } ∧
    verify toyHashes (toyReq (addAuthorization toyHashes
        { method := .digest, realm := b!"r", nonce := b!"n", algorithm := some .sha256 } b!"u" b!"p" b!"PLAY" b!"rtsp://h/p"))
      b!"u" b!"p" (some [vmSHA256]) b!"r" b!"n\"" = .error .nonce := by decide

/-- user name containing `"` (Digest) -/
example : verify toyHashes (toyReq (addAuthorization toyHashes
        { method := .digest, realm := b!"r", nonce := b!"n", algorithm := some .md5 } b!"u\"x" b!"p" b!"PLAY" b!"rtsp://h/p"))
      b!"u\"x" b!"p" (some [vmMD5]) b!"r" b!"n" = .error .user := by decide

/-- user name containing `:` (Basic) -/
example : verify toyHashes (toyReq (addAuthorization toyHashes
        { method := .basic, realm := b!"r" } b!"a:b" b!"c" b!"PLAY" b!"rtsp://h/p"))
      b!"a:b" b!"c" (some [vmBasic]) b!"r" b!"n" = .error .user := by decide

/-- URL text containing `"` -/
example : verify toyHashes
      { method := b!"PLAY", urlStr := b!"rtsp://h/p?a=\"b\"", urlReq := b!"/p?a=\"b\"",
        authz := addAuthorization toyHashes { method := .digest, realm := b!"r", nonce := b!"n", algorithm := some .md5 }
          b!"u" b!"p" b!"PLAY" b!"rtsp://h/p?a=\"b\"" }
      b!"u" b!"p" (some [vmMD5]) b!"r" b!"n" = .error .url := by decide

/-- a method value outside the three named ones: the challenge issued is SHA-256, which `Verify`
does not consider enabled -/
example : senderInit (generateWWW (some [3]) b!"r" b!"n")
      = some { method := .digest, realm := b!"r", nonce := b!"n", algorithm := some .sha256 } ∧
    verify toyHashes (toyReq (addAuthorization toyHashes
        { method := .digest, realm := b!"r", nonce := b!"n", algorithm := some .sha256 } b!"u" b!"p" b!"PLAY" b!"rtsp://h/p"))
      b!"u" b!"p" (some [3]) b!"r" b!"n" = .error .noMethod := by decide

/-- an empty (non-nil) method list: no challenge, the sender has nothing to work with -/
example : generateWWW (some []) b!"r" b!"n" = [] ∧ senderInit [] = none := by decide

/-- Basic credentials are one text `user:pass`: without the restriction on the client's user
name, `("a:b", "c")` is accepted where `("a", "b:c")` is expected -/
example : verify toyHashes (toyReq (addAuthorization toyHashes
        { method := .basic, realm := b!"r" } b!"a:b" b!"c" b!"PLAY" b!"rtsp://h/p"))
      b!"a" b!"b:c" (some [vmBasic]) b!"r" b!"n" = .ok := by decide

/-! ## non-vacuity of the soundness hypotheses: accepted requests exist -/

/-- `sound_basic_parsed`, `sound_basic`: an accepted Basic request -/
example : verify toyHashes (toyReq [b!"Basic dTpw"]) b!"u" b!"p" (some [vmBasic]) b!"r" b!"n" = .ok ∧
    addAuthorization toyHashes { method := .basic, realm := b!"r" } b!"u" b!"p" b!"PLAY" b!"rtsp://h/p" = [b!"Basic dTpw"] := by
  decide

/-- `sound_digest`, `sound_digest_sender`, `digest_deviation_rejected_or_collision`, `sound_url`:
an accepted Digest request built by the client side (all hypotheses hold together) -/
example :
    let ch : Authenticate := { method := .digest, realm := b!"r", nonce := b!"n", algorithm := some .sha256 }
    let req := toyReq (addAuthorization toyHashes ch b!"u" b!"p" b!"PLAY" b!"rtsp://h/p")
    ch.method = .digest ∧ verify toyHashes req b!"u" b!"p" (some [vmSHA256]) b!"r" b!"n" = .ok ∧
    (∀ c ∈ req.method, c ≠ cColon) := by
  decide

set_option maxRecDepth 16384 in
/-- `sound_ideal`: the same with the injective digests (evaluated through the executable `verify`; the hex text of the
three digests needs a deeper recursion than the default) -/
example :
    let ch : Authenticate := { method := .digest, realm := b!"r", nonce := b!"n", algorithm := none }
    let req := toyReq (addAuthorization idealHashes ch b!"u" b!"p" b!"PLAY" b!"rtsp://h/p")
    verify idealHashes req b!"u" b!"p" none b!"r" b!"n" = .ok := by
  decide

/-- `digest_forgery_needs_collision`: its hypotheses are satisfiable exactly by a hash with
collisions, e.g. a constant one -/
example : respWith (fun _ => b!"0") b!"u" b!"r" b!"wrong" b!"n" b!"PLAY" b!"x"
    = respWith (fun _ => b!"0") b!"u" b!"r" b!"right" b!"n" b!"PLAY" b!"x" ∧ b!"wrong" ≠ b!"right" := by
  decide

/-- `no_header_rejected`: no header, two headers, an unknown scheme, broken base64 -/
example : Authorization.unmarshal [] = none ∧ Authorization.unmarshal [b!"Basic dTpw", b!"Basic dTpw"] = none ∧
    Authorization.unmarshal [b!"Bearer abc"] = none ∧ Authorization.unmarshal [b!"Basic dTpw="] = none := by
  decide

/-- `algorithm_relabel_rejected`: an MD5-sized response under `algorithm="SHA-256"` -/
example :
    let H : Hashes := { md5 := fun _ => b!"0", sha256 := fun _ => b!"11" }
    (∀ x y, (H.md5 x).length ≠ (H.sha256 y).length) ∧
    Authorization.unmarshal [b!"Digest username=\"u\", realm=\"r\", nonce=\"n\", uri=\"x\", response=\"0\", algorithm=\"SHA-256\""]
      = some { method := .digest, username := b!"u", realm := b!"r", nonce := b!"n", uri := b!"x",
               response := b!"0", algorithm := some .sha256 } := by
  refine ⟨fun _ _ => by simp, by decide⟩

/-- `serve_*`, `handshake_right`, `handshake_wrong`, `subsequent_requests_accepted`: the
hypotheses hold for a real-looking configuration -/
example : ValidMethods (some [vmBasic, vmMD5]) ∧ b!"admin" ≠ [] ∧
    WF b!"admin" serverAuthRealm b!"f49ac6dd0ba708d4becddc9692d1f2ce" b!"rtsp://127.0.0.1:8554/stream?x=1" :=
  ⟨⟨by decide, by unfold ValidMethod; decide⟩, by decide,
   ⟨by unfold NoQuote; decide, by decide, by unfold NoQuote; decide, by unfold NoQuote; decide, by unfold NoQuote; decide⟩⟩

end Rtsp.Auth
