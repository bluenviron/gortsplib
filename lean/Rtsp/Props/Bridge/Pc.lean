import Rtsp.Proofs.Common.FixedWidth
import Rtsp.Proofs.Codec.Common
import Rtsp.Generated.Trans.PcAc3
import Rtsp.Generated.Trans.PcFragmented
import Rtsp.Generated.Trans.PcH264
import Rtsp.Generated.Trans.PcH265
import Rtsp.Generated.Trans.PcLpcm
import Rtsp.Generated.Trans.PcMpeg1audio
import Rtsp.Generated.Trans.PcMpeg1video
import Rtsp.Generated.Trans.PcMpeg4audio
import Rtsp.Model.Codec.H26xCommon
import Rtsp.Model.Codec.Fragmented
import Rtsp.Model.Codec.Mpeg1Video
import Rtsp.Model.Codec.AudioCommon
import Rtsp.Model.Codec.Lpcm
import Rtsp.Generated.Trans.PcMpegts
import Rtsp.Generated.Facts.CodecMisc
import Rtsp.Generated.Facts.CodecH26x
import Rtsp.Generated.Facts.CodecAudio
/-
Bridge theorems, packet counts (C06 / C03): the `packetCount` helper of the eight encoders that have
one (H264, H265, AC-3, rtpfragmented, MPEG-1 audio, MPEG-1 video, MPEG-4 audio, LPCM), as translated
from /repo's current source by go/cmd/g2l (Generated/Trans/Pc*.lean, Go `int` = `Int64`), computes
exactly the `packetCount` of the hand-written codec models (over `Nat`) for every positive divisor
and every length that fits a Go `int`; so do the expressions these encoders pass to it, and the
same arithmetic written inline in MPEG-TS (`mpegts_eq`).  KLV and M-JPEG fragment without such a
helper and are not covered here.  A change of the arithmetic in a covered encoder breaks the
corresponding theorem on the next run.
-/
namespace Rtsp.Bridge.Pc
open Rtsp.FixedWidth

/-- the common shape of the eight translated helpers -/
def pcGen (avail le : Int64) : Int64 :=
  let n : Int64 := (le / avail)
  if ((le % avail) != (0 : Int64)) then
    let n : Int64 := (n + (1 : Int64))
    (n)
  else
    (n)

/-- the model's count (identical text in H26xCommon, Fragmented, Mpeg1Video, AudioCommon, Lpcm:
`model_*` below) -/
def pcNat (avail le : Nat) : Nat := le / avail + (if le % avail ≠ 0 then 1 else 0)

theorem pcGen_eq (avail le : Nat) (ha : 0 < avail) (ha' : avail < 2 ^ 63) (hl : le < 2 ^ 63) :
    (pcGen (Int64.ofNat avail) (Int64.ofNat le)).toInt = (pcNat avail le : Nat) := by
  -- the code's quotient, remainder and remainder test are those of the naturals
  have e : pcGen (Int64.ofNat avail) (Int64.ofNat le)
      = if le % avail ≠ 0 then Int64.ofNat (le / avail + 1) else Int64.ofNat (le / avail) := by
    have hz : Int64.ofNat (le % avail) = 0 ↔ le % avail = 0 :=
      ofNat_inj (b := 0) (Nat.lt_of_le_of_lt (Nat.mod_le _ _) hl) (by decide)
    unfold pcGen
    simp only [← Int64.ofNat_div hl ha', ← Int64.ofNat_mod hl ha', succ_ofNat, bne_iff_ne, ne_eq, hz]
  -- with a remainder the quotient is below `le`, so the `+ 1` stays in range
  have hq' : le % avail ≠ 0 → le / avail < le := fun hne => by
    have h1 := Nat.div_add_mod le avail
    have h2 : le / avail ≤ avail * (le / avail) := Nat.le_mul_of_pos_left _ ha
    omega
  have hq : le / avail ≤ le := Nat.div_le_self _ _
  rw [e, pcNat]
  split
  · exact Int64.toInt_ofNat_of_lt (by have := hq' ‹_›; omega)
  · exact Int64.toInt_ofNat_of_lt (by omega)

/-! the eight regenerated definitions are this shape (definitional equality: checked by `rfl`) -/
theorem h264_shape : Trans.PcH264.packetCount = pcGen := rfl
theorem h265_shape : Trans.PcH265.packetCount = pcGen := rfl
theorem ac3_shape : Trans.PcAc3.packetCount = pcGen := rfl
theorem fragmented_shape : Trans.PcFragmented.packetCount = pcGen := rfl
theorem mpeg1audio_shape : Trans.PcMpeg1audio.packetCount = pcGen := rfl
theorem mpeg1video_shape : Trans.PcMpeg1video.packetCount = pcGen := rfl
theorem mpeg4audio_shape : Trans.PcMpeg4audio.packetCount = pcGen := rfl
/-- LPCM: a method `(e *Encoder) packetCount(slen)`; the divisor is the field `e.maxPayloadSize` -/
theorem lpcm_shape : (fun slen mx => Trans.PcLpcm.packetCount slen mx) = (fun slen mx => pcGen mx slen) := rfl

theorem model_h26x : Rtsp.Codec.H26x.packetCount = pcNat := rfl
theorem model_fragmented : Rtsp.Codec.Fragmented.packetCount = pcNat := rfl
theorem model_mpeg1video : Rtsp.Codec.Mpeg1Video.packetCount = pcNat := rfl
theorem model_audio : Rtsp.Codec.Audio.packetCount = pcNat := rfl
theorem model_lpcm : Rtsp.Codec.Lpcm.packetCount = pcNat := rfl

/-- **Bridge (C06/C03).**  For every encoder with a `packetCount` helper, the function in /repo's
current source (as translated) returns the model's packet count, for every positive `avail` and every
length representable as a Go `int`. -/
theorem packetCount_code_eq_model (avail le : Nat) (ha : 0 < avail) (ha' : avail < 2 ^ 63) (hl : le < 2 ^ 63) :
    (Trans.PcH264.packetCount (Int64.ofNat avail) (Int64.ofNat le)).toInt = (Codec.H26x.packetCount avail le : Nat)
  ∧ (Trans.PcH265.packetCount (Int64.ofNat avail) (Int64.ofNat le)).toInt = (Codec.H26x.packetCount avail le : Nat)
  ∧ (Trans.PcFragmented.packetCount (Int64.ofNat avail) (Int64.ofNat le)).toInt = (Codec.Fragmented.packetCount avail le : Nat)
  ∧ (Trans.PcMpeg1video.packetCount (Int64.ofNat avail) (Int64.ofNat le)).toInt = (Codec.Mpeg1Video.packetCount avail le : Nat)
  ∧ (Trans.PcAc3.packetCount (Int64.ofNat avail) (Int64.ofNat le)).toInt = (Codec.Audio.packetCount avail le : Nat)
  ∧ (Trans.PcMpeg1audio.packetCount (Int64.ofNat avail) (Int64.ofNat le)).toInt = (Codec.Audio.packetCount avail le : Nat)
  ∧ (Trans.PcMpeg4audio.packetCount (Int64.ofNat avail) (Int64.ofNat le)).toInt = (Codec.Audio.packetCount avail le : Nat)
  ∧ (Trans.PcLpcm.packetCount (Int64.ofNat le) (Int64.ofNat avail)).toInt = (Codec.Lpcm.packetCount avail le : Nat) := by
  have h := pcGen_eq avail le ha ha' hl
  rw [h264_shape, h265_shape, fragmented_shape, mpeg1video_shape, ac3_shape, mpeg1audio_shape, mpeg4audio_shape,
    model_h26x, model_fragmented, model_mpeg1video, model_audio, model_lpcm]
  have hl' : (Trans.PcLpcm.packetCount (Int64.ofNat le) (Int64.ofNat avail)) = pcGen (Int64.ofNat avail) (Int64.ofNat le) :=
    congrFun (congrFun lpcm_shape _) _
  rw [hl']
  exact ⟨h, h, h, h, h, h, h, h⟩

/-- the count is the ceiling: enough packets of `avail` bytes for `le` bytes, and not one more -/
theorem pcNat_is_ceiling (avail le : Nat) (ha : 0 < avail) :
    le ≤ pcNat avail le * avail ∧ (0 < le → (pcNat avail le - 1) * avail < le) :=
  ⟨Rtp.ceilDiv_upper le avail ha, Rtp.ceilDiv_lower le avail ha⟩

/-- non-vacuity: the hypotheses are met by ordinary values, and the count is what one expects -/
example : (Trans.PcH264.packetCount (Int64.ofNat 1448) (Int64.ofNat 4000)).toInt = 3 ∧ pcNat 1448 4000 = 3 := by decide

/-- `avail := e.PayloadMaxSize - k` in the fragmenting branch of H264 (k = 2), H265 (3), AC-3 (4) and
MPEG-1 audio (4): for every limit that leaves room (`k ≤ max`), the translated expression is the
model's `max - k` with `k` the regenerated fact the model reads. -/
theorem fragAvail_eq (mx : Nat) (h : mx < 2 ^ 63) :
    (Facts.CodecH26x.h264FuHeaderLen ≤ mx →
      (Trans.PcH264.fragAvail (Int64.ofNat mx)).toInt = ((mx - Facts.CodecH26x.h264FuHeaderLen : Nat) : Int))
  ∧ (Facts.CodecH26x.h265FuHeaderLen ≤ mx →
      (Trans.PcH265.fragAvail (Int64.ofNat mx)).toInt = ((mx - Facts.CodecH26x.h265FuHeaderLen : Nat) : Int))
  ∧ (Facts.CodecAudio.ac3FragReserveBytes ≤ mx →
      (Trans.PcAc3.fragAvail (Int64.ofNat mx)).toInt = ((mx - Facts.CodecAudio.ac3FragReserveBytes : Nat) : Int))
  ∧ (Facts.CodecAudio.mpeg1audioFragHeaderBytes ≤ mx →
      (Trans.PcMpeg1audio.fragAvail (Int64.ofNat mx)).toInt = ((mx - Facts.CodecAudio.mpeg1audioFragHeaderBytes : Nat) : Int)) :=
  ⟨toInt_ofNat_sub mx Facts.CodecH26x.h264FuHeaderLen 2 h rfl,
    toInt_ofNat_sub mx Facts.CodecH26x.h265FuHeaderLen 3 h rfl,
    toInt_ofNat_sub mx Facts.CodecAudio.ac3FragReserveBytes 4 h rfl,
    toInt_ofNat_sub mx Facts.CodecAudio.mpeg1audioFragHeaderBytes 4 h rfl⟩

/-- `le := len(nalu) - 1` (H264) / `- 2` (H265): the NALU without its header, as `nalu.drop k` in the models -/
theorem fragLen_eq (n : Nat) (h : n < 2 ^ 63) :
    (1 ≤ n → (Trans.PcH264.fragLen (Int64.ofNat n)).toInt = ((n - 1 : Nat) : Int))
  ∧ (2 ≤ n → (Trans.PcH265.fragLen (Int64.ofNat n)).toInt = ((n - 2 : Nat) : Int)) :=
  ⟨toInt_ofNat_sub n 1 1 h rfl, toInt_ofNat_sub n 2 2 h rfl⟩

/-- LPCM `Init`: `e.maxPayloadSize = (e.PayloadMaxSize / e.sampleSize) * e.sampleSize` is the model's
`cfg.max / ss * ss` (the payload limit rounded down to whole sample frames), for every positive sample size -/
theorem lpcm_roundedMax_eq (mx ss : Nat) (hm : mx < 2 ^ 63) (hs : 0 < ss) (hs' : ss < 2 ^ 63) :
    (Trans.PcLpcm.roundedMax (Int64.ofNat mx) (Int64.ofNat ss)).toInt = ((mx / ss * ss : Nat) : Int) := by
  unfold Trans.PcLpcm.roundedMax
  rw [← Int64.ofNat_div hm hs', ← Int64.ofNat_mul,
    Int64.toInt_ofNat_of_lt (Nat.lt_of_le_of_lt (Nat.div_mul_le_self mx ss) hm)]

/-- MPEG-TS `Encode`: TS packets per RTP packet = `PayloadMaxSize / 188` (188 = the regenerated
`mpegtsPacketSize`), and the RTP packet count is the same ceiling division as `packetCount`
(quotient, plus one when the remainder is not zero) — the model's `encode` computes exactly these. -/
theorem mpegts_eq (mx n per : Nat) (hm : mx < 2 ^ 63) (hn : n < 2 ^ 63) (hp : 0 < per) (hp' : per < 2 ^ 63) :
    (Trans.PcMpegts.perPacket (Int64.ofNat mx)).toInt = ((mx / Facts.CodecMisc.mpegtsPacketSize : Nat) : Int)
    ∧ ((if Trans.PcMpegts.needsOneMore (Int64.ofNat n) (Int64.ofNat per)
          then Trans.PcMpegts.rtpPacketCount0 (Int64.ofNat n) (Int64.ofNat per) + 1
          else Trans.PcMpegts.rtpPacketCount0 (Int64.ofNat n) (Int64.ofNat per)).toInt
        = ((n / per + (if n % per ≠ 0 then 1 else 0) : Nat) : Int)) := by
  constructor
  · exact toInt_ofNat_div mx Facts.CodecMisc.mpegtsPacketSize hm (by decide)
  · exact pcGen_eq per n hp hp' hn

/-- MPEG-4 audio `writeFragmented` (first two clauses): `auHeadersLenBytes` (quotient by 8, plus one
when the remainder is not zero) is the model's `ceil8 (sizeLength + indexLength)`, and `avail` is
`max - 2 - that`.  Third clause: MPEG-1 video's `avail = max - 4`. -/
theorem mpeg4audio_avail_eq (sl il mx : Nat) (hs : sl + il < 2 ^ 62) (hm : mx < 2 ^ 63)
    (hfit : 2 + Codec.Audio.ceil8 (sl + il) ≤ mx) :
    let hl := Trans.PcMpeg4audio.auHeadersLen (Int64.ofNat sl) (Int64.ofNat il)
    let hb := if Trans.PcMpeg4audio.auHeadersRound hl then Trans.PcMpeg4audio.auHeadersLenBytes0 hl + 1
              else Trans.PcMpeg4audio.auHeadersLenBytes0 hl
    hb.toInt = (Codec.Audio.ceil8 (sl + il) : Nat)
    ∧ (Trans.PcMpeg4audio.fragAvail (Int64.ofNat mx) hb).toInt = ((mx - 2 - Codec.Audio.ceil8 (sl + il) : Nat) : Int)
    ∧ (4 ≤ mx → (Trans.PcMpeg1video.fragAvail (Int64.ofNat mx)).toInt = ((mx - 4 : Nat) : Int)) := by
  intro hl hb
  have hsum : hl = Int64.ofNat (sl + il) := (Int64.ofNat_add sl il).symm
  have hb_eq : hb.toInt = (Codec.Audio.ceil8 (sl + il) : Nat) := by
    show (if Trans.PcMpeg4audio.auHeadersRound hl then Trans.PcMpeg4audio.auHeadersLenBytes0 hl + 1
              else Trans.PcMpeg4audio.auHeadersLenBytes0 hl).toInt = _
    rw [hsum]
    exact pcGen_eq 8 (sl + il) (by decide) (by decide) (by omega)
  refine ⟨hb_eq, ?_, ?_⟩
  · unfold Trans.PcMpeg4audio.fragAvail
    rw [toInt_sub_of_inRange] <;> rw [toInt_ofNat_sub mx 2 2 hm rfl (by omega), hb_eq]
    · omega
    · unfold InRange64; omega
  · exact toInt_ofNat_sub mx 4 4 hm rfl

end Rtsp.Bridge.Pc
