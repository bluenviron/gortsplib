import Rtsp.Proofs.Common.FixedWidth
import Rtsp.Generated.Trans.Root
import Rtsp.Model.Pipeline
/-
Bridge theorem, interleaved channel pairs (C01): the overlap test inside
`ServerSession.isChannelPairInUse` and `Client.isChannelPairInUse` (the condition of the `if` in the
loop body), as translated from /repo's current source by go/cmd/g2l, is the predicate the media-path
model applies to every channel a reader holds (`Rtsp.Pipe.pairInUse`, an `any` over the held channels;
`pairInUse_single` reads it on one): a candidate pair `c, c+1` collides with a held pair `t, t+1` iff
`t + 1 = c ∨ t = c ∨ t = c + 1`.
-/
namespace Rtsp.Bridge.Chan
open Rtsp.FixedWidth

/-- **Bridge (C01).** the code's overlap test = the model's, for channel numbers below 2^63 − 1 (RTSP
channels are bytes); client and server use the same test -/
theorem pairOverlap_eq (t c : Nat) (ht : t + 1 < 2 ^ 63) (hc : c + 1 < 2 ^ 63) :
    Trans.Root.serverPairOverlap (Int64.ofNat t) (Int64.ofNat c) = (t + 1 == c || t == c || t == c + 1)
    ∧ Trans.Root.clientPairOverlap = Trans.Root.serverPairOverlap := by
  refine ⟨?_, rfl⟩
  unfold Trans.Root.serverPairOverlap
  rw [succ_ofNat t, succ_ofNat c, eq_ofNat (t + 1) c ht (by omega), eq_ofNat t c (by omega) (by omega),
    eq_ofNat t (c + 1) (by omega) hc]

/-- `Rtsp.Pipe.pairInUse` on one held channel is that test -/
theorem pairInUse_single (x : Rtsp.Pipe.Reader) (t c : Nat) (hx : x.chs = [t]) :
    Rtsp.Pipe.pairInUse x c = (t + 1 == c || t == c || t == c + 1) := by
  unfold Rtsp.Pipe.pairInUse; rw [hx]; simp

end Rtsp.Bridge.Chan
