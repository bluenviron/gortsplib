import Rtsp.Proofs.Common.FixedWidth
import Rtsp.Generated.Trans.Ntp
import Rtsp.Generated.Trans.Recv
import Rtsp.Proofs.Time.Ntp
/-
Bridge theorems, NTP mapping (C15), for the integer expressions of pkg/ntp and of
`Receiver.packetNTPUnsafe` as translated from /repo's current source by go/cmd/g2l.  `Decode`'s seconds and
nanoseconds are the model's `Ntp.decSecs` / `Ntp.decNanos`.  `Encode`'s seconds, fraction numerator and
`secs<<32 | fractional`, and the receiver's duration, are shown equal to the arithmetic expressions that
stand in the bodies of `Ntp.encode` / `SR.Recv.packetNTP` (quotient and remainder by `Ntp.nanos`,
`(· * two32) % two64 ||| ·`, `(· * 10^9).tdiv rate`), not to those functions themselves.
The two float64 steps of `Encode` / `Decode` (`math.Round(float64(·)/1e9)`, `math.Round(float64(·))`)
are outside the translator's subset; they are covered by the binary64 model (`Ntp.encFracFloat_eq`,
Proofs/Time/NtpFloat.lean) and the correspondence runs.
-/
namespace Rtsp.Bridge.Ntp
open Rtsp.FixedWidth

/-- `Decode`: `secs := int64((v >> 32) - 2208988800)` = the model's `decSecs` -/
theorem decSecs_eq (v : UInt64) : (Trans.Ntp.decSecs v).toInt = Rtsp.Ntp.decSecs v.toNat := by
  unfold Trans.Ntp.decSecs Rtsp.Ntp.decSecs
  have hs : (v >>> (32 : UInt64)).toNat = v.toNat / 4294967296 := by
    rw [UInt64.toNat_shiftRight]
    exact Nat.shiftRight_eq_div_pow _ 32
  have hc : (2208988800 : UInt64).toNat = 2208988800 := rfl
  have hr : InRange64 (((v >>> (32 : UInt64)).toNat : Int) - (2208988800 : UInt64).toNat) := by
    have hv : v.toNat < 2 ^ 64 := v.toNat_lt
    rw [hs, hc]
    unfold InRange64
    omega
  rw [toInt_sub_as_i64 _ _ hr, hs]
  rfl

theorem two32_eq : Rtsp.Ntp.two32 = 4294967296 := rfl
theorem toNat_nanos : (1000000000 : UInt64).toNat = 1000000000 := rfl
theorem toNat_two32 : (4294967296 : UInt64).toNat = 4294967296 := rfl

/-- `Decode`: the integer expression under `math.Round(float64(·))` = the model's `decNanos` -/
theorem decNanos_eq (v : UInt64) : (Trans.Ntp.decNanosInt v).toNat = Rtsp.Ntp.decNanos v.toNat := by
  unfold Trans.Ntp.decNanosInt Rtsp.Ntp.decNanos
  have hand : (v &&& (4294967295 : UInt64)).toNat = v.toNat % 4294967296 := by
    rw [UInt64.toNat_and]
    exact Nat.and_two_pow_sub_one_eq_mod _ 32
  have hm : v.toNat % 4294967296 < 4294967296 := Nat.mod_lt _ (by decide)
  rw [Rtsp.Ntp.nanos_eq, two32_eq, UInt64.toNat_div, UInt64.toNat_mul, hand, toNat_nanos, toNat_two32,
    Nat.mod_eq_of_lt (by omega : v.toNat % 4294967296 * 1000000000 < 2 ^ 64)]

/-- `Encode`: `secs := ntp / 1000000000` and the numerator `(ntp%1000000000)*(1<<32)` -/
theorem encParts_eq (ntp : UInt64) :
    (Trans.Ntp.encSecs ntp).toNat = ntp.toNat / Rtsp.Ntp.nanos
    ∧ (Trans.Ntp.encFracNum ntp).toNat = (ntp.toNat % Rtsp.Ntp.nanos) * Rtsp.Ntp.two32 := by
  unfold Trans.Ntp.encSecs Trans.Ntp.encFracNum
  rw [Rtsp.Ntp.nanos_eq, two32_eq]
  constructor
  · rw [UInt64.toNat_div, toNat_nanos]
  · rw [UInt64.toNat_mul, UInt64.toNat_mod, toNat_nanos, toNat_two32]
    have : ntp.toNat % 1000000000 < 1000000000 := Nat.mod_lt _ (by decide)
    apply Nat.mod_eq_of_lt
    omega

/-- `Encode`: `secs<<32 | fractional` = the model's `((secs * 2^32) % 2^64) ||| fractional` -/
theorem encPack_eq (secs frac : UInt64) :
    (Trans.Ntp.encPack secs frac).toNat = ((secs.toNat * Rtsp.Ntp.two32) % Rtsp.Ntp.two64) ||| frac.toNat := by
  unfold Trans.Ntp.encPack
  have h32 : Rtsp.Ntp.two32 = 2 ^ 32 := by decide
  have h64 : Rtsp.Ntp.two64 = 2 ^ 64 := by decide
  rw [UInt64.toNat_or, UInt64.toNat_shiftLeft, h32, h64]
  have : (32 : UInt64).toNat % 64 = 32 := by decide
  rw [this, Nat.shiftLeft_eq]

/-- `packetNTPUnsafe`: `(time.Duration(timeDiff) * time.Second) / time.Duration(rr.ClockRate)` is the
model's `(tsDiff * 10^9).tdiv rate` — for EVERY 32-bit difference and every clock rate
(the product of an int32 and 10^9 always fits an int64). -/
theorem ntpTimeDiffGo_eq (d : Int32) (rate : Int64) :
    (Trans.Recv.ntpTimeDiffGo d rate).toInt = (d.toInt * 1000000000).tdiv rate.toInt := by
  unfold Trans.Recv.ntpTimeDiffGo
  have h1 := Int32.le_toInt d
  have h2 := Int32.toInt_lt d
  have c : (1000000000 : Int64).toInt = 1000000000 := rfl
  have hp : (d.toInt64 * (1000000000 : Int64)).toInt = d.toInt * 1000000000 := by
    rw [toInt_mul_of_inRange] <;> rw [Int32.toInt_toInt64, c]
    unfold InRange64; omega
  rw [toInt_div_of_inRange] <;> rw [hp]
  unfold InRange64
  have hb := Int.natAbs_tdiv_le_natAbs (d.toInt * 1000000000) rate.toInt
  omega

end Rtsp.Bridge.Ntp
