import Rtsp.Proofs.Common.FixedWidth
import Rtsp.Proofs.Common.Bits
import Rtsp.Generated.Trans.Frame
import Rtsp.Model.Frame
/-
Bridge theorems, interleaved frames (C04): the length / channel arithmetic of
pkg/base/interleaved_frame.go (`Unmarshal`: big-endian 16-bit length, channel byte, magic byte;
`MarshalTo`: the two length bytes; `MarshalSize`), as translated from /repo's current source by
go/cmd/g2l, is what the hand-written framing model `Rtsp.Frame` uses (`parseFrame`,
`marshalFrame`).
-/
namespace Rtsp.Bridge.Frame
open Rtsp.FixedWidth

/-- `payloadLen := int(uint16(header[2])<<8 | uint16(header[3]))` = `l1 * 256 + l0` of `parseFrame` -/
theorem payloadLen_eq (h2 h3 : UInt8) :
    (Trans.Frame.payloadLen h2 h3).toInt = ((h2.toNat * 256 + h3.toNat : Nat) : Int) := by
  unfold Trans.Frame.payloadLen
  have a : h2.toNat < 256 := h2.toNat_lt
  have b : h3.toNat < 256 := h3.toNat_lt
  have hv : ((h2.toUInt16 <<< (8 : UInt16)) ||| h3.toUInt16).toNat = h2.toNat * 256 + h3.toNat := by
    rw [UInt16.toNat_or, UInt16.toNat_shiftLeft, UInt8.toNat_toUInt16, UInt8.toNat_toUInt16,
      show (8 : UInt16).toNat % 16 = 8 from rfl, Nat.shiftLeft_eq, Nat.mod_eq_of_lt (by omega)]
    exact Bits.mul_two_pow_or (k := 8) b
  have hlt : ((h2.toUInt16 <<< (8 : UInt16)) ||| h3.toUInt16).toUInt64.toNat < 2 ^ 63 := by
    rw [UInt16.toNat_toUInt64, hv]; omega
  rw [toInt_u64_as_i64 _ hlt, UInt16.toNat_toUInt64, hv]

/-- `f.Channel = int(header[1])` -/
theorem channel_eq (h1 : UInt8) : (Trans.Frame.channel h1).toInt = (h1.toNat : Int) := by
  unfold Trans.Frame.channel
  have a : h1.toNat < 256 := h1.toNat_lt
  rw [toInt_u64_as_i64 _ (by rw [UInt8.toNat_toUInt64]; omega), UInt8.toNat_toUInt64]

/-- the magic byte test is against `$` = the model's `MAGIC` -/
theorem magic_eq (h0 : UInt8) : Trans.Frame.magicMismatch h0 = (h0 != Rtsp.Frame.MAGIC) := rfl

/-- `MarshalTo`: the two length bytes of a payload of `n` bytes are the model's
`(n / 256).toUInt8` and `n.toUInt8` (for every length a Go `int` can hold) -/
theorem lenBytes_eq (n : Nat) (hn : n < 2 ^ 63) :
    Trans.Frame.lenHi (Int64.ofNat n) = (n / 256).toUInt8 ∧ Trans.Frame.lenLo (Int64.ofNat n) = n.toUInt8 := by
  unfold Trans.Frame.lenHi Trans.Frame.lenLo
  constructor
  · apply UInt8.toBitVec_inj.mp
    simp
    have hm : (BitVec.ofNat 64 n).msb = false := by
      rw [BitVec.msb_eq_decide]; simp; omega
    rw [BitVec.sshiftRight_eq_of_msb_false hm, BitVec.signExtend_eq_setWidth_of_le _ (by omega)]
    apply BitVec.eq_of_toNat_eq
    simp [Nat.shiftRight_eq_div_pow]
    omega
  · apply UInt8.toBitVec_inj.mp
    simp

/-- `MarshalSize` = 4 + payload length -/
theorem marshalSize_eq (n : Nat) (hn : n + 4 < 2 ^ 63) :
    (Trans.Frame.marshalSize (Int64.ofNat n)).toInt = ((4 + n : Nat) : Int) := by
  unfold Trans.Frame.marshalSize
  rw [show (4 : Int64) = Int64.ofNat 4 from rfl, ← Int64.ofNat_add, Int64.toInt_ofNat_of_lt (by omega)]

/-- on the translated code itself: the length written by `MarshalTo` is the length read back by
`Unmarshal`, for every payload an interleaved frame can carry (< 2^16 bytes) -/
theorem len_roundtrip (n : Nat) (h : n < 65536) :
    (Trans.Frame.payloadLen (Trans.Frame.lenHi (Int64.ofNat n)) (Trans.Frame.lenLo (Int64.ofNat n))).toInt = (n : Int) := by
  obtain ⟨e1, e2⟩ := lenBytes_eq n (by omega)
  rw [payloadLen_eq, e1, e2, Nat.toUInt8_eq, Nat.toUInt8_eq, Bits.be16_toNat h]

/-- a frame longer than 65535 bytes does NOT round-trip (the length field wraps): a test on one value -/
example : (Trans.Frame.payloadLen (Trans.Frame.lenHi (Int64.ofNat 65536)) (Trans.Frame.lenLo (Int64.ofNat 65536))).toInt = 0 := by decide

end Rtsp.Bridge.Frame
