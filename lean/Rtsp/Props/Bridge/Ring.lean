import Rtsp.Generated.Trans.Ring
import Rtsp.Model.Ring
/-
Bridge theorems, ring buffer arithmetic (C16, C18): `New`'s size test and the index steps of
`Push` / `Pull` in pkg/ringbuffer, as translated from /repo's current source by go/cmd/g2l, are the
model's `sizeRejected` and `(index + 1) % size` for every `uint64` value.
-/
namespace Rtsp.Bridge.Ring

/-- `New`: `(size & (size - 1)) != 0` on `uint64` is the model's `sizeRejected` -/
theorem notPowerOfTwo_eq (size : Nat) (h : size < 2 ^ 64) :
    Trans.Ring.notPowerOfTwo (UInt64.ofNat size) = Ring.sizeRejected size := by
  unfold Trans.Ring.notPowerOfTwo Ring.sizeRejected
  have e3 : ((UInt64.ofNat size) &&& (UInt64.ofNat size - 1)).toNat = size &&& ((size + 2 ^ 64 - 1) % 2 ^ 64) := by
    rw [UInt64.toNat_and, UInt64.toNat_sub, UInt64.toNat_ofNat_of_lt' h, show UInt64.toNat 1 = 1 from rfl]
    congr 2; omega
  rw [← e3, Bool.eq_iff_iff, bne_iff_ne, bne_iff_ne, Ne, Ne, ← UInt64.toNat_inj]
  rfl

/-- `Push` / `Pull`: `(index + 1) % size` — the same expression on both sides, and the model's step -/
theorem nextIndex_eq (i n : Nat) (hi : i + 1 < 2 ^ 64) (hn : n < 2 ^ 64) :
    (Trans.Ring.nextWrite (UInt64.ofNat i) (UInt64.ofNat n)).toNat = (i + 1) % n
    ∧ Trans.Ring.nextRead = Trans.Ring.nextWrite := by
  refine ⟨?_, rfl⟩
  unfold Trans.Ring.nextWrite
  rw [UInt64.toNat_mod, UInt64.toNat_add, UInt64.toNat_ofNat_of_lt' (Nat.lt_of_succ_lt hi), UInt64.toNat_ofNat_of_lt' hn,
    show UInt64.toNat 1 = 1 from rfl, Nat.mod_eq_of_lt hi]

end Rtsp.Bridge.Ring
