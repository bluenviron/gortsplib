import Rtsp.Proofs.Common.FixedWidth
import Rtsp.Generated.Trans.Root
import Rtsp.Proofs.Size.Start
/-
Bridge theorems, start-time validation (C18): the conditions of `Client.Start` / `Server.Start`
that guard `WriteQueueSize` and `MaxPacketSize` — three per side translated from /repo's current
client.go / server.go by go/cmd/g2l (queue size defaulted, bit test, maximum above the limit); the
test `MaxPacketSize == 0` is written out in the statements — decide exactly when the model's
`clientStart` / `serverStart` return `none` (= Start returns an error).  Go `int` is `Int64`; the
model keeps the queue size as `BitVec 64` and the packet size as `Int`.
-/
namespace Rtsp.Bridge.Size
open Rtsp.FixedWidth Rtsp.Size

theorem pow2_bits (wq : Int64) :
    Trans.Root.clientPow2Reject wq = ((wq.toBitVec &&& (wq.toBitVec - 1)) != 0) :=
  congrArg not (beq_of_inj Int64.toBitVec_inj (wq &&& (wq - 1)) 0)

theorem client_server_same : Trans.Root.clientPow2Reject = Trans.Root.serverPow2Reject
    ∧ Trans.Root.clientMaxReject = Trans.Root.serverMaxReject
    ∧ Trans.Root.clientWqDefaulted = Trans.Root.serverWqDefaulted := ⟨rfl, rfl, rfl⟩

theorem maxReject_eq (mx : Int64) : Trans.Root.clientMaxReject mx = decide (mx.toInt > 1472) := by
  unfold Trans.Root.clientMaxReject
  rw [decide_eq_decide, gt_iff_lt, Int64.lt_iff_toInt_lt]; rfl

theorem wqDefaulted_eq (wq : Int64) : Trans.Root.clientWqDefaulted wq = (wq.toBitVec == 0) :=
  beq_of_inj Int64.toBitVec_inj wq 0

/-- **Bridge (C18).** `Client.Start` rejects (model: `none`) exactly when the code's conditions say so:
a non-zero queue size failing the bit test, or a non-zero packet size above the limit. -/
theorem clientStart_rejects_iff (wq mx : Int64) :
    (clientStart wq.toBitVec mx.toInt).isNone
      = ((!Trans.Root.clientWqDefaulted wq && Trans.Root.clientPow2Reject wq)
          || (!(mx == 0) && Trans.Root.clientMaxReject mx)) := by
  rw [pow2_bits, maxReject_eq, wqDefaulted_eq, show (mx == 0) = (mx.toInt == 0) from beq_of_inj Int64.toInt_inj mx 0, Bool.eq_iff_iff,
    Option.isNone_iff_eq_none, clientStart_eq, start_none_iff]
  simp only [StartRejects, decide_eq_true_eq, Bool.or_eq_true, Bool.and_eq_true, Bool.not_eq_true', beq_eq_false_iff_ne,
    bne_iff_ne, ne_eq]
  -- the code's extra test `mx != 0` is implied by `mx > 1472`
  constructor
  · rintro (h | h)
    · exact Or.inl h
    · exact Or.inr ⟨by omega, h⟩
  · rintro (h | h)
    · exact Or.inl h
    · exact Or.inr h.2
theorem serverStart_rejects_iff (wq mx : Int64) :
    (serverStart wq.toBitVec mx.toInt).isNone
      = ((!Trans.Root.serverWqDefaulted wq && Trans.Root.serverPow2Reject wq)
          || (!(mx == 0) && Trans.Root.serverMaxReject mx)) := by
  exact clientStart_rejects_iff wq mx

/-- non-vacuity / sanity: 256 accepted, 100 rejected, 1473 rejected -/
example : Trans.Root.clientPow2Reject 256 = false ∧ Trans.Root.clientPow2Reject 100 = true
    ∧ Trans.Root.clientMaxReject 1473 = true ∧ Trans.Root.clientMaxReject 1472 = false := by decide

end Rtsp.Bridge.Size
