import Rtsp.Generated.Trans.CapH264
import Rtsp.Generated.Trans.CapH265
import Rtsp.Generated.Trans.CapAv1
import Rtsp.Generated.Trans.CapFragmented
import Rtsp.Generated.Trans.CapMpeg4audio
import Rtsp.Generated.Trans.CapVp8
import Rtsp.Generated.Trans.CapVp9
import Rtsp.Generated.Facts.CodecH26x
import Rtsp.Generated.Facts.CodecAv1vp
import Rtsp.Generated.Facts.CodecAudio
import Rtsp.Generated.Facts.Codec
/-
Bridge theorems, decoder caps (C08): the comparisons that bound what a depacketiser retains —
fragment bytes, units per frame, frame bytes — as translated from /repo's current decoders by
go/cmd/g2l, are "strictly greater than the documented maximum", with the maximum the fact extractor
reads for the models (`Facts.Codec*`), for every pair of sizes whose sum fits a Go `int`.  Turning a
`>` into `>=`, comparing the wrong counter, dropping an addend or changing a limit breaks these.
-/
namespace Rtsp.Bridge.Caps

/-- `x > K` on Go ints, for naturals below 2^63 -/
theorem gt_ofNat (a k : Nat) (ha : a < 2 ^ 63) (hk : k < 2 ^ 63) :
    decide (Int64.ofNat a > Int64.ofNat k) = decide (a > k) :=
  decide_eq_decide.mpr (Int64.ofNat_lt_iff_lt hk ha)

/-- `(x + y) > K` on Go ints, when the sum fits -/
theorem sum_gt_ofNat (a b k : Nat) (hab : a + b < 2 ^ 63) (hk : k < 2 ^ 63) :
    decide (Int64.ofNat a + Int64.ofNat b > Int64.ofNat k) = decide (a + b > k) := by
  rw [← Int64.ofNat_add]
  exact gt_ofNat (a + b) k hab hk

/-- **fragment caps**: `d.fragmentsSize > Max` in H264, H265, AV1, fragmented (MPEG-4 video / LATM),
MPEG-4 audio, VP9; VP8's `newFrameBufferSize > Max` -/
theorem fragCaps (n : Nat) (h : n < 2 ^ 63) :
    Trans.CapH264.fragCap (Int64.ofNat n) = decide (n > Facts.CodecH26x.h264MaxAccessUnitSize)
  ∧ Trans.CapH265.fragCap (Int64.ofNat n) = decide (n > Facts.CodecH26x.h265MaxAccessUnitSize)
  ∧ Trans.CapAv1.fragCap (Int64.ofNat n) = decide (n > Facts.CodecAv1vp.av1MaxTemporalUnitSize)
  ∧ Trans.CapFragmented.fragCap (Int64.ofNat n) = decide (n > Facts.Codec.mpeg4videoMaxFrameSize)
  ∧ Trans.CapMpeg4audio.fragCap (Int64.ofNat n) = decide (n > Facts.CodecAudio.mpeg4audioMaxAccessUnitSize)
  ∧ Trans.CapVp9.fragCap (Int64.ofNat n) = decide (n > Facts.CodecAv1vp.vp9MaxFrameSize)
  ∧ Trans.CapVp8.sizeCap (Int64.ofNat n) = decide (n > Facts.CodecAv1vp.vp8MaxFrameSize) := by
  refine ⟨?_, ?_, ?_, ?_, ?_, ?_, ?_⟩
  · exact gt_ofNat n Facts.CodecH26x.h264MaxAccessUnitSize h (by decide)
  · exact gt_ofNat n Facts.CodecH26x.h265MaxAccessUnitSize h (by decide)
  · exact gt_ofNat n Facts.CodecAv1vp.av1MaxTemporalUnitSize h (by decide)
  · exact gt_ofNat n Facts.Codec.mpeg4videoMaxFrameSize h (by decide)
  · exact gt_ofNat n Facts.CodecAudio.mpeg4audioMaxAccessUnitSize h (by decide)
  · exact gt_ofNat n Facts.CodecAv1vp.vp9MaxFrameSize h (by decide)
  · exact gt_ofNat n Facts.CodecAv1vp.vp8MaxFrameSize h (by decide)

/-- **frame caps** of the three decoders that assemble a frame from several units: units per frame
and bytes per frame -/
theorem frameCaps (have_ add : Nat) (h : have_ + add < 2 ^ 63) :
    Trans.CapH264.countCap (Int64.ofNat have_) (Int64.ofNat add) = decide (have_ + add > Facts.CodecH26x.h264MaxNALUsPerAccessUnit)
  ∧ Trans.CapH264.sizeCap (Int64.ofNat have_) (Int64.ofNat add) = decide (have_ + add > Facts.CodecH26x.h264MaxAccessUnitSize)
  ∧ Trans.CapH265.countCap (Int64.ofNat have_) (Int64.ofNat add) = decide (have_ + add > Facts.CodecH26x.h265MaxNALUsPerAccessUnit)
  ∧ Trans.CapH265.sizeCap (Int64.ofNat have_) (Int64.ofNat add) = decide (have_ + add > Facts.CodecH26x.h265MaxAccessUnitSize)
  ∧ Trans.CapAv1.countCap (Int64.ofNat have_) (Int64.ofNat add) = decide (have_ + add > Facts.CodecAv1vp.av1MaxOBUsPerTemporalUnit)
  ∧ Trans.CapAv1.sizeCap (Int64.ofNat have_) (Int64.ofNat add) = decide (have_ + add > Facts.CodecAv1vp.av1MaxTemporalUnitSize) := by
  refine ⟨?_, ?_, ?_, ?_, ?_, ?_⟩
  · exact sum_gt_ofNat have_ add Facts.CodecH26x.h264MaxNALUsPerAccessUnit h (by decide)
  · exact sum_gt_ofNat have_ add Facts.CodecH26x.h264MaxAccessUnitSize h (by decide)
  · exact sum_gt_ofNat have_ add Facts.CodecH26x.h265MaxNALUsPerAccessUnit h (by decide)
  · exact sum_gt_ofNat have_ add Facts.CodecH26x.h265MaxAccessUnitSize h (by decide)
  · exact sum_gt_ofNat have_ add Facts.CodecAv1vp.av1MaxOBUsPerTemporalUnit h (by decide)
  · exact sum_gt_ofNat have_ add Facts.CodecAv1vp.av1MaxTemporalUnitSize h (by decide)

/-- non-vacuity: exactly at the limit nothing is refused, one byte more is -/
example : Trans.CapH264.fragCap (Int64.ofNat 8388608) = false ∧ Trans.CapH264.fragCap (Int64.ofNat 8388609) = true := by decide

end Rtsp.Bridge.Caps
