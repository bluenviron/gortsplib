import Rtsp.Proofs.Common.FixedWidth
import Rtsp.Proofs.Common.Bits
import Rtsp.Generated.Trans.Recv
import Rtsp.Model.Receiver
import Rtsp.Model.TimeDec
/-
Bridge theorems, RTP receiver (C14, and the PacketNTP difference of C15): every arithmetic
expression of pkg/rtpreceiver/receiver.go that the hand-written model `Rtsp.Recv` reads as Nat / Int
arithmetic — as translated from /repo's current source by go/cmd/g2l into fixed-width Lean
(Generated/Trans/Recv.lean) — equals what the model computes, on the ranges stated as hypotheses
(buffer lengths below 2^15 for `flushCond_eq`, at most 2^15 for `slot_eq`).  A change to one of these
expressions (an operand, a width, a constant, a comparison) breaks the theorem on the next run.
-/
namespace Rtsp.Bridge.Recv
open Rtsp.FixedWidth

/-- `relPos := int16(pkt.SequenceNumber - rr.lastSequenceNumber - 1)` is the model's `relPos` -/
theorem relPos_eq (seq last : UInt16) : (Trans.Recv.relPos seq last).toInt = Recv.relPos seq last := rfl

/-- `if relPos < 0` -/
theorem behindCond_eq (r : Int16) : Trans.Recv.behindCond r = decide (r.toInt < 0) := by
  unfold Trans.Recv.behindCond
  rw [decide_eq_decide, Int16.lt_iff_toInt_lt]; rfl

/-- `if relPos >= int16(len(rr.buffer))`, for buffer lengths below 2^15 (at 2^15 the conversion
wraps to -32768 and the branch is always taken: see `flushCond_wraps_at_32768`) -/
theorem flushCond_eq (r : Int16) (n : Nat) (hn : n < 2 ^ 15) :
    Trans.Recv.flushCond r (Int64.ofNat n) = decide (r.toInt ≥ (n : Int)) := by
  unfold Trans.Recv.flushCond
  rw [decide_eq_decide, ge_iff_le, Int16.le_iff_toInt_le, Int64.toInt16_ofNat',
    Int16.toInt_ofNat_of_lt hn]

/-- what happens at BufferSize = 2^15 (a test on one value, not used by the model: the model's
invariant keeps sizes below) -/
theorem flushCond_wraps_at_32768 : Trans.Recv.flushCond 0 (Int64.ofNat 32768) = true := by decide

/-- `if rr.negativeCount > len(rr.buffer)` -/
theorem restartCond_eq (c n : Nat) (hc : c < 2 ^ 63) (hn : n < 2 ^ 63) :
    Trans.Recv.restartCond (Int64.ofNat c) (Int64.ofNat n) = decide (c > n) :=
  decide_eq_decide.mpr (Int64.ofNat_lt_iff_lt hn hc)

/-- the three slot computations `(rr.absPos + i) & (uint16(len(rr.buffer)) - 1)` are one function -/
theorem slot_shapes : Trans.Recv.slotClear = Trans.Recv.slotScan
    ∧ (fun a (r : Int16) l => Trans.Recv.slotStore a r l) = (fun a r l => Trans.Recv.slotScan a r.toUInt16 l) :=
  ⟨rfl, rfl⟩

/-- slot index = the model's `slotIdx`, whenever `absPos + i` does not overflow a `uint16`
(`absPos < len ≤ 2^15`, `i ≤ len` in every reachable state) -/
theorem slot_eq (s : Recv.State) (i : Nat) (hlen1 : 1 ≤ s.buf.length) (hlen : s.buf.length ≤ 2 ^ 15)
    (hsum : s.absPos + i < 2 ^ 16) :
    (Trans.Recv.slotScan (UInt16.ofNat s.absPos) (UInt16.ofNat i) (Int64.ofNat s.buf.length)).toNat
      = Recv.slotIdx s i := by
  unfold Trans.Recv.slotScan Recv.slotIdx
  -- all three operands are `UInt16.ofNat` of the model's numbers, which stay below 2^16
  rw [Int64.toInt16_ofNat', Int16.toUInt16_ofNat', ← UInt16.ofNat_add,
    show (1 : UInt16) = UInt16.ofNat 1 from rfl, ← UInt16.ofNat_sub hlen1, UInt16.toNat_and,
    UInt16.toNat_ofNat_of_lt' hsum,
    UInt16.toNat_ofNat_of_lt' (Nat.lt_of_le_of_lt (Nat.sub_le _ _) (Nat.lt_of_le_of_lt hlen (by decide)))]

/-- flush branch: `uint64(int(relPos) - n + 1)` with `n` = occupied slots + 1 -/
theorem flushLost_eq (r : Int16) (k : Nat) (hk : k < 2 ^ 62) (hpos : 0 ≤ r.toInt - (k : Int) + 1) :
    (Trans.Recv.flushLost r (Int64.ofNat k)).toNat = (r.toInt - (k : Int) + 1).toNat := by
  unfold Trans.Recv.flushLost
  have hr1 := Int16.le_toInt r
  have hr2 := Int16.toInt_lt r
  have ha : (r.toInt64 - Int64.ofNat k + 1).toInt = r.toInt - (k : Int) + 1 := by
    rw [Int64.toInt_add, Int64.toInt_sub, Int16.toInt_toInt64,
      Int64.toInt_ofNat_of_lt (show k < 2 ^ 63 by omega),
      bmod64_of_inRange (x := r.toInt - k) (by unfold InRange64; omega),
      show (1 : Int64).toInt = 1 from rfl, bmod64_of_inRange (by unfold InRange64; omega)]
  rw [toNat_toUInt64_of_nonneg _ (ha ▸ hpos), ha]

/-- reliable transport: `lost = uint64(pkt.SequenceNumber - rr.lastSequenceNumber - 1)` -/
theorem reliableLost_eq (seq last : UInt16) :
    (Trans.Recv.reliableLost seq last).toNat = (seq - last - 1).toNat := by
  unfold Trans.Recv.reliableLost; rw [UInt16.toNat_toUInt64]

/-- `diff := int32(seq) - int32(last)` followed by `if diff < -0x0FFF`: the model's cycle test, with
the threshold the fact extractor reads from the same line -/
theorem cycle_eq (seq last : UInt16) :
    Trans.Recv.cycleCond (Trans.Recv.cycleDiff seq last)
      = decide (((seq.toNat : Int) - (last.toNat : Int)) < Rtsp.Facts.Recv.cycleThreshold) := by
  unfold Trans.Recv.cycleCond Trans.Recv.cycleDiff
  have hs : seq.toNat < 65536 := seq.toNat_lt
  have hl : last.toNat < 65536 := last.toNat_lt
  rw [decide_eq_decide, Int32.lt_iff_toInt_lt, Int32.toInt_sub, toInt_u16_as_i32, toInt_u16_as_i32,
    Int.bmod_eq_of_le (by omega) (by omega)]
  -- `(-4095 : Int32).toInt` and the extracted `cycleThreshold` both evaluate to `-4095`
  exact Iff.rfl

/-- `fractionLost = uint8((min(lostSinceReport, 0xFFFFFF) * 256) / receivedAndLostSinceReport)`:
the low 8 bits of the model's (unconverted) fraction, for counters below 2^64 -/
theorem fractionLost_eq (ls rl : Nat) (hls : ls < 2 ^ 64) (hrl : rl < 2 ^ 64) :
    (Trans.Recv.fractionLost (UInt64.ofNat ls) (UInt64.ofNat rl)).toNat
      = ((min ls Rtsp.Facts.Recv.fractionClamp * 256) / rl) % 256 := by
  unfold Trans.Recv.fractionLost
  rw [UInt64.toNat_toUInt8, UInt64.toNat_div, UInt64.toNat_mul, toNat_min64,
    UInt64.toNat_ofNat_of_lt' hls, UInt64.toNat_ofNat_of_lt' hrl]
  show min ls 16777215 * 256 % 2 ^ 64 / rl % 256 = min ls 16777215 * 256 / rl % 256
  rw [Nat.mod_eq_of_lt (Nat.lt_of_le_of_lt (Nat.mul_le_mul_right 256 (Nat.min_le_right ls _)) (by decide))]

/-- `timeDiff := int32(ts - rr.lastSenderReportTimeRTP)` (PacketNTP, C15) is the signed 32-bit
difference `sdelta` of the timestamp model -/
theorem ntpTimeDiff_eq (ts last : UInt32) : (Trans.Recv.ntpTimeDiff ts last).toInt = TimeDec.sdelta ts last := rfl

/-- receiver report: `LastSequenceNumber = uint32(cycles)<<16 | uint32(last)` is the model's
`cycles * 65536 + last` (the `|` is an addition: the low 16 bits of the shifted value are zero) -/
theorem extSeq_eq (cycles last : UInt16) :
    (Trans.Recv.extSeq cycles last).toNat = cycles.toNat * 65536 + last.toNat := by
  unfold Trans.Recv.extSeq
  have a : cycles.toNat < 2 ^ 16 := cycles.toNat_lt
  have b : last.toNat < 2 ^ 16 := last.toNat_lt
  rw [UInt32.toNat_or, UInt32.toNat_shiftLeft, UInt16.toNat_toUInt32, UInt16.toNat_toUInt32,
    show (16 : UInt32).toNat % 32 = 16 from rfl, Nat.shiftLeft_eq, Nat.mod_eq_of_lt (by omega)]
  exact Bits.mul_two_pow_or b

/-- receiver report: `TotalLost = uint32(min(rr.lost, 0xFFFFFF))` is the model's `min lost lostClamp` -/
theorem totalLost_eq (lost : Nat) (h : lost < 2 ^ 64) :
    (Trans.Recv.totalLost (UInt64.ofNat lost)).toNat = min lost Rtsp.Facts.Recv.lostClamp := by
  unfold Trans.Recv.totalLost
  rw [UInt64.toNat_toUInt32, toNat_min64, UInt64.toNat_ofNat_of_lt' h]
  show min lost 16777215 % 2 ^ 32 = min lost 16777215
  exact Nat.mod_eq_of_lt (Nat.lt_of_le_of_lt (Nat.min_le_right lost _) (by decide))

/-! non-vacuity: the hypotheses of the conditional bridges hold at ordinary values -/
example : ∃ s : Recv.State, 1 ≤ s.buf.length ∧ s.buf.length ≤ 2 ^ 15 ∧ s.absPos + 64 < 2 ^ 16 :=
  ⟨Recv.init true 64, by decide⟩
example : (0 : Int) ≤ (70 : Int16).toInt - (3 : Nat) + 1 := by decide

end Rtsp.Bridge.Recv
