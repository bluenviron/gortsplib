import Rtsp.Proofs.Common.FixedWidth
import Rtsp.Generated.Trans.Time
import Rtsp.Proofs.Time.TimeDec
/-
Bridge theorems, timestamps (C15): the integer code of pkg/rtptime/global_decoder.go
(`multiplyAndDivide`, `globalDecoderTrackData.decode`), as translated from /repo's current source by
go/cmd/g2l, equals the hand-written model wherever no `int64` overflows (the model computes on `Int`);
`C15.mulDiv_no_overflow` gives the inputs for which no intermediate of `multiplyAndDivide` does.
-/
namespace Rtsp.Bridge.Time
open Rtsp.FixedWidth

/-- `globalDecoderTrackData.decode`: new `overall` = old + the signed 32-bit difference; `prev := ts`;
the returned value is the new `overall`. -/
theorem decode_eq (t : TimeDec.Track) (ts : UInt32) (o : Int64) (ho : o.toInt = t.overall)
    (hr : InRange64 (t.overall + TimeDec.sdelta ts t.prev)) :
    let r := Trans.Time.decode ts o t.prev
    r.1.toInt = (t.decode ts).overall ∧ r.2.1 = r.1 ∧ r.2.2 = (t.decode ts).prev := by
  refine ⟨?_, rfl, rfl⟩
  show (o + ((ts - t.prev).toInt32).toInt64).toInt = t.overall + (ts - t.prev).toInt32.toInt
  rw [Int64.toInt_add, ho, Int32.toInt_toInt64]
  exact bmod64_of_inRange hr

/-- `multiplyAndDivide(v, m, d)` = the model's `mulDiv`, provided the five intermediate values fit an
`int64` (Go's arithmetic would wrap otherwise; C15's `mulDiv_no_overflow` gives sufficient
conditions on the inputs). -/
theorem multiplyAndDivide_eq (v m d : Int64)
    (h1 : InRange64 (v.toInt.tdiv d.toInt))
    (h2 : InRange64 (v.toInt.tdiv d.toInt * m.toInt))
    (h3 : InRange64 (v.toInt.tmod d.toInt * m.toInt))
    (h4 : InRange64 ((v.toInt.tmod d.toInt * m.toInt).tdiv d.toInt))
    (h5 : InRange64 (v.toInt.tdiv d.toInt * m.toInt + (v.toInt.tmod d.toInt * m.toInt).tdiv d.toInt)) :
    (Trans.Time.multiplyAndDivide v m d).toInt = TimeDec.mulDiv v.toInt m.toInt d.toInt := by
  unfold Trans.Time.multiplyAndDivide TimeDec.mulDiv
  -- every `Int64` operation is the `Int` one reduced by `bmod 2^64`; the range hypothesis of each
  -- intermediate makes that reduction the identity
  rw [Int64.toInt_add, Int64.toInt_mul, Int64.toInt_div, Int64.toInt_div, Int64.toInt_mul,
    Int64.toInt_mod, bmod64_of_inRange h1, bmod64_of_inRange h2, bmod64_of_inRange h3,
    bmod64_of_inRange h4, bmod64_of_inRange h5]

/-- the same without overflow hypotheses on intermediates: for the arguments `GlobalDecoder.Decode`
passes — a non-negative `v` (PTS / elapsed nanoseconds), clock rates / divisors below 2^31 — the only
requirement is that the RESULT fits an int64 (C15's `mulDiv_no_overflow` bounds every intermediate). -/
theorem multiplyAndDivide_eq_of_rates (v m d : Int64) (hv : 0 ≤ v.toInt) (hm0 : 0 ≤ m.toInt)
    (hm : m.toInt < 2147483648) (hd0 : 0 < d.toInt) (hd : d.toInt < 2147483648)
    (hfit : TimeDec.mulDiv v.toInt m.toInt d.toInt < 2 ^ 63) :
    (Trans.Time.multiplyAndDivide v m d).toInt = TimeDec.mulDiv v.toInt m.toInt d.toInt := by
  obtain ⟨a1, a2, a3, a4, a5, a6⟩ := Rtsp.C15.mulDiv_no_overflow hv hm0 hm hd0 hd
  exact multiplyAndDivide_eq v m d
    (inRange_of_nonneg (Int.tdiv_nonneg hv (Int.le_of_lt hd0))
      (Int.lt_of_le_of_lt (Int.tdiv_le_self _ hv) (inRange_toInt v).2))
    (inRange_of_nonneg a1 (Int.lt_of_le_of_lt a2 hfit))
    (inRange_of_nonneg a3 (Int.lt_trans a4 (by decide)))
    (inRange_of_nonneg a5 (Int.lt_trans a6 (by decide)))
    (inRange_of_nonneg (Int.add_nonneg a1 a5) hfit)

/-- non-vacuity: 90 kHz, 12 s in nanoseconds — all five intermediates are in range -/
example : (Trans.Time.multiplyAndDivide 12000000000 90000 1000000000).toInt = 1080000
    ∧ TimeDec.mulDiv 12000000000 90000 1000000000 = 1080000 := by decide

end Rtsp.Bridge.Time
