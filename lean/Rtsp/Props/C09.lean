import Rtsp.Proofs.Hdr.Session
import Rtsp.Proofs.Hdr.Transport
import Rtsp.Proofs.Hdr.RtpInfo
import Rtsp.Proofs.Hdr.Range
import Rtsp.Proofs.Hdr.KeyMgmt
import Rtsp.Proofs.Hdr.RangeNptNear
import Rtsp.Proofs.Hdr.NoUnm
import Rtsp.Proofs.Hdr.MikeySound
/-
C09 — RTSP header codecs round-trip and parse deterministically.

Statement (properties.jsonl): for every well-formed value of the Transport, Session, Range,
RTP-Info, WWW-Authenticate, Authorization and KeyMgmt headers (and of the MIKEY messages KeyMgmt
carries), parsing the marshalled form yields an equal value, and marshalling is a pure function of
the value.  Parsing any string is total and deterministic: the same input always produces the same
value or the same failure, independent of map iteration order, and never panics.

Models: `Model/Headers/*.lean` (pkg/headers) and `Model/Mikey.lean` (pkg/mikey).  The round trips are proved in
`Proofs/Hdr/*.lean` under `Rtsp.Hdr` and restated here under the property's name.

How the clauses appear here
* round trip: `X.unmarshal_marshal : X.WellFormed h → X.unmarshal [X.marshal h] = .ok h`, over all
  values (no size bound); `WellFormed` is a predicate read off the header's grammar — decidable
  (instances in `Proofs/Hdr/*`) for every header but KeyMgmt, whose MIKEY payloads' `WF` is an
  inductive proposition — and the Go generator (go/dom/hdr/values.go) draws from the same predicate.
* purity of Marshal, totality and absence of panics: `X.marshal : X → Str` and
  `X.unmarshal : List Str → Res X` are total Lean functions (all recursion is structural or on
  explicit fuel; that the callers provide enough of it is argued by counting in the model's comments
  and proved on printed values, where the round trips need it — no theorem relates two fuels on
  arbitrary input); there is nothing to prove beyond
  their types.  On the Go side the property oracle calls Marshal twice and recovers panics.
* determinism / independence of map order: a Lean function is a function of its argument; the
  substantive statement is `parse_perm_invariant`: the map that Go's `keyValParseOrdered` (model: `keyValParse`)
  returns is modelled by an association list and an ARBITRARY rearrangement `π` of it is applied before the
  header codecs read it – the result never depends on `π`, because since the fix the codecs iterate
  the ordered key list and use the map for lookups only (`facts_expected` pins that down from the
  source text).  `map_iteration_was_order_dependent` records what the repaired defect was.
-/
namespace Rtsp.C09
open Rtsp.Hdr Rtsp.Facts

/-- The structural facts regenerated from /repo that the models rest on: no header parser ranges
over the Go map any more (each iterates the ordered key list), NPT seconds are rounded, Basic
credentials are split at the first colon, the UTC layout is the one `parseUTC` models. -/
theorem facts_expected :
    Hdr.mapLoopsTransport = 0 ∧ Hdr.mapLoopsRange = 0 ∧ Hdr.mapLoopsSession = 0 ∧ Hdr.mapLoopsRtpinfo = 0 ∧
    Hdr.mapLoopsKeymgmt = 0 ∧ Hdr.mapLoopsAuthenticate = 0 ∧ Hdr.mapLoopsAuthorization = 0 ∧
    Hdr.orderedLoopsTransport = 1 ∧ Hdr.orderedLoopsRange = 1 ∧ Hdr.orderedLoopsSession = 1 ∧ Hdr.orderedLoopsRtpinfo = 1 ∧
    Hdr.orderedLoopsKeymgmt = 1 ∧ Hdr.orderedLoopsAuthenticate = 2 ∧ Hdr.orderedLoopsAuthorization = 1 ∧
    Hdr.nptRounds = true ∧ Hdr.basicSplitsAtFirstColon = true ∧ Hdr.utcLayoutIsBasicIso = true ∧
    Hdr.mikeyHeaderMin = 10 := by decide

theorem keyval_perm_invariant (π : List (Str × Str) → List (Str × Str)) (hπ : ∀ m, (π m).Perm m) :
    keyValParseWith π = keyValParse := by
  funext sep s
  unfold keyValParse keyValParseWith
  cases kvRaw sep s with
  | ok raw => simp only [id]; rw [KV.pairs_perm (KV.inv_ofPairs raw) (hπ _)]
  | err e => rfl
  | unm => rfl

/-- **parse_perm_invariant**: for every header, every header value `v` (any list of any strings)
and every rearrangement `π` of the Go map, `Unmarshal` yields the same value or the same failure
class. -/
theorem parse_perm_invariant (π : List (Str × Str) → List (Str × Str)) (hπ : ∀ m, (π m).Perm m) (v : List Str) :
    Transport.unmarshalWith (keyValParseWith π) v = Transport.unmarshal v ∧
    Transports.unmarshalWith (keyValParseWith π) v = Transports.unmarshal v ∧
    Session.unmarshalWith (keyValParseWith π) v = Session.unmarshal v ∧
    RtpInfo.unmarshalWith (keyValParseWith π) v = RtpInfo.unmarshal v ∧
    Range.unmarshalWith (keyValParseWith π) v = Range.unmarshal v ∧
    Authenticate.unmarshalWith (keyValParseWith π) v = Authenticate.unmarshal v ∧
    Authorization.unmarshalWith (keyValParseWith π) v = Authorization.unmarshal v ∧
    KeyMgmt.unmarshalWith (keyValParseWith π) v = KeyMgmt.unmarshal v := by
  rw [keyval_perm_invariant π hπ]
  exact ⟨rfl, rfl, rfl, rfl, rfl, rfl, rfl, rfl⟩

example : (List.reverse (α := Str × Str) [(cs!"a", cs!"1"), (cs!"b", cs!"2")]).Perm [(cs!"a", cs!"1"), (cs!"b", cs!"2")] :=
  List.reverse_perm _

/-- What the repaired defect was (`known-findings.txt`, key hdr-nondeterministic-parse): when the
codecs range over the map itself – modelled by handing them an arrangement `π` of the map's
entries – two arrangements of the SAME map give different Transport values, and different failure
classes. -/
theorem map_iteration_was_order_dependent :
    Hdr.Transport.unmarshalWith (keyValParseMapOrder id) [cs!"RTP/AVP;RTP/AVP/TCP"] ≠
      Hdr.Transport.unmarshalWith (keyValParseMapOrder List.reverse) [cs!"RTP/AVP;RTP/AVP/TCP"] ∧
    Hdr.Transport.unmarshalWith (keyValParseMapOrder id) [cs!"RTP/AVP;mode=x;port=y"] = .err .mode ∧
    Hdr.Transport.unmarshalWith (keyValParseMapOrder List.reverse) [cs!"RTP/AVP;mode=x;port=y"] = .err .ports := by
  decide

/-- The repair changed nothing where the old parser was deterministic: the repaired parser is the
old one read in insertion order, so if the old parser (ranging over the map, in any arrangement
`π`) always answered `r` for a header value, the repaired parser answers `r` too.  Stated for
Transport; the same one-line argument applies to every header (`keyValParse_eq_mapOrder_id`). -/
theorem fix_preserves_order_independent_inputs (v : List Str) (r : Res Transport)
    (hold : ∀ π : List (Str × Str) → List (Str × Str), (∀ m, (π m).Perm m) → Hdr.Transport.unmarshalWith (keyValParseMapOrder π) v = r) :
    Hdr.Transport.unmarshal v = r := by
  have := hold id (fun m => List.Perm.refl m)
  rw [← keyValParse_eq_mapOrder_id] at this
  exact this

/-- **parse_deterministic**: `Unmarshal` is a function of the header value alone (stated for the
record: equal inputs, equal outputs – value or failure class). -/
theorem parse_deterministic (v w : List Str) (h : v = w) :
    Transport.unmarshal v = Transport.unmarshal w ∧ Transports.unmarshal v = Transports.unmarshal w ∧
    Session.unmarshal v = Session.unmarshal w ∧ RtpInfo.unmarshal v = RtpInfo.unmarshal w ∧
    Range.unmarshal v = Range.unmarshal w ∧ Authenticate.unmarshal v = Authenticate.unmarshal w ∧
    Authorization.unmarshal v = Authorization.unmarshal w ∧ KeyMgmt.unmarshal v = KeyMgmt.unmarshal w := by
  subst h; exact ⟨rfl, rfl, rfl, rfl, rfl, rfl, rfl, rfl⟩

/-- **The model decides every header value of seven headers.**  The third outcome `unm` (input
outside the domain on which the model claims to reproduce the Go standard library) is unreachable
for Transport, Transports, Session, RTP-Info, WWW-Authenticate, Authorization and KeyMgmt: every
list of strings yields a value or a failure class.  Only Range can answer `unm`, and only through
NPT seconds that are not plain decimals in the agreed range (`parseFloatNs`). -/
theorem model_total (v : List Str) :
    Hdr.Transport.unmarshal v ≠ .unm ∧ Hdr.Transports.unmarshal v ≠ .unm ∧ Hdr.Session.unmarshal v ≠ .unm ∧
    Hdr.RtpInfo.unmarshal v ≠ .unm ∧ Hdr.Authenticate.unmarshal v ≠ .unm ∧ Hdr.Authorization.unmarshal v ≠ .unm ∧
    Hdr.KeyMgmt.unmarshal v ≠ .unm :=
  ⟨Hdr.Transport.unmarshal_ne_unm, Hdr.Transports.unmarshal_ne_unm, Hdr.Session.unmarshal_ne_unm,
   Hdr.RtpInfo.unmarshal_ne_unm, Hdr.Authenticate.unmarshal_ne_unm, Hdr.Authorization.unmarshal_ne_unm,
   Hdr.KeyMgmt.unmarshal_ne_unm⟩

theorem Transport.unmarshal_marshal (h : Transport) (wf : h.WellFormed) :
    Hdr.Transport.unmarshal [h.marshal] = .ok h := Hdr.Transport.unmarshal_marshal h wf

theorem Transports.unmarshal_marshal (ts : List Transport) (wf : Hdr.Transports.WellFormed ts) :
    Hdr.Transports.unmarshal [Hdr.Transports.marshal ts] = .ok ts := Hdr.Transports.unmarshal_marshal ts wf

theorem Session.unmarshal_marshal (h : Session) (wf : h.WellFormed) :
    Hdr.Session.unmarshal [h.marshal] = .ok h := Hdr.Session.unmarshal_marshal h wf

theorem RtpInfo.unmarshal_marshal (h : List RtpInfoEntry) (wf : Hdr.RtpInfo.WellFormed h) :
    Hdr.RtpInfo.unmarshal [Hdr.RtpInfo.marshal h] = .ok h := Hdr.RtpInfo.unmarshal_marshal h wf

theorem Range.unmarshal_marshal (h : Range) (wf : h.WellFormed) :
    Hdr.Range.unmarshal [h.marshal] = .ok h := Hdr.Range.unmarshal_marshal h wf

/-- the three kinds of time inside a Range, individually -/
theorem Range.npt_time_roundtrip (d : Int) (h0 : 0 ≤ d) (h1 : d < 1000000000000000) :
    nptTime (nptMarshalTime d) = .ok d := nptTime_marshal h0 h1

/-- Go prints NPT seconds through float64, so the printed text may be a 17-digit neighbour of the
exact decimal (1.118 s prints as `1.1179999999999999`).  Every plain decimal `q.f` with more than
nine fraction digits that lies within a quarter of a nanosecond of `d` ns parses to `d`
(`V f` is the number the digit string `f` spells; the hypotheses are `|x·10^9 − d| < 1/4` scaled
by `4·10^(|f|−9)`).  The Go oracle checks the quarter-nanosecond bound on every generated value. -/
theorem Range.npt_parse_near (q d : Nat) (f : Str) (hq : q < 1000000) (hf : ∀ c ∈ f, c.isDigit = true) (hlen : 9 < f.length)
    (hlo : 4 * (d * 10 ^ (f.length - 9)) < 4 * (q * 1000000000 * 10 ^ (f.length - 9) + V f) + 10 ^ (f.length - 9))
    (hhi : 4 * (q * 1000000000 * 10 ^ (f.length - 9) + V f) < 4 * (d * 10 ^ (f.length - 9)) + 10 ^ (f.length - 9)) :
    parseFloatNs (dec q ++ '.' :: f) = .ok d := by
  obtain ⟨hV, hR, h1, h2⟩ := frac_split f hf (Nat.le_of_lt hlen)
  rw [hV, ← Nat.add_assoc, ← Nat.add_mul] at hlo hhi
  rw [parseFloatNs_dec_frac hq hf, if_neg (by omega)]
  rcases near_cases hR h1 h2 hlo hhi with ⟨ht, rfl⟩ | ⟨ht, rfl⟩
  · exact if_pos ht
  · rw [if_neg (show ¬ frac2 f < 25 from Nat.not_lt.mpr (Nat.le_trans (by decide) ht))]
    exact if_pos ht

/-- the text Go prints for 1.118 s -/
example : parseFloatNs cs!"1.1179999999999999" = .ok 1118000000 :=
  Range.npt_parse_near 1 1118000000 cs!"1179999999999999" (by decide) (by decide) (by decide) (by decide) (by decide)

theorem Range.smpte_time_roundtrip (t : SmpteTime) (wf : t.WF) : SmpteTime.unmarshal t.marshal = .ok t :=
  SmpteTime.unmarshal_marshal t wf

theorem Range.utc_time_roundtrip (c : Civil) (wf : c.WF) : parseUTC (marshalUTC c) = .ok c :=
  parseUTC_marshalUTC c wf

theorem Authenticate.unmarshal_marshal (h : Authenticate) (wf : h.WellFormed) :
    Hdr.Authenticate.unmarshal [h.marshal] = .ok h := Hdr.Authenticate.unmarshal_marshal h wf

/-- includes Basic credentials whose password contains `:` (property C10) -/
theorem Authorization.unmarshal_marshal (h : Authorization) (wf : h.WellFormed) :
    Hdr.Authorization.unmarshal [h.marshal] = .ok h := Hdr.Authorization.unmarshal_marshal h wf

example : Hdr.Authorization.unmarshal [(Authorization.marshal { method := .basic, username := cs!"user", basicPass := cs!"my:pass" })] =
    .ok { method := .basic, username := cs!"user", basicPass := cs!"my:pass" } :=
  Authorization.unmarshal_marshal _ (by decide)

theorem Mikey.unmarshal_marshal (m : Mikey.Message) (wf : m.WF) :
    Mikey.Message.unmarshal m.marshal = some m := Mikey.Message.unmarshal_marshal m wf

/-- the other direction: whatever `Message.Unmarshal` accepts, from ANY byte string, is a well-formed
message – so parse → print → parse is the identity (only trailing padding is not reproduced) -/
theorem Mikey.unmarshal_wellformed (buf : Mikey.Bytes) (m : Mikey.Message) (h : Mikey.Message.unmarshal buf = some m) :
    m.WF ∧ Mikey.Message.unmarshal m.marshal = some m :=
  have wf := Mikey.Message.unmarshal_wf h
  ⟨wf, Mikey.Message.unmarshal_marshal m wf⟩

theorem KeyMgmt.unmarshal_marshal (h : KeyMgmt) (wf : h.WellFormed) :
    Hdr.KeyMgmt.unmarshal [h.marshal] = .ok h := Hdr.KeyMgmt.unmarshal_marshal h wf

theorem Transport.marshal_injective (a b : Transport) (wa : a.WellFormed) (wb : b.WellFormed) (h : a.marshal = b.marshal) : a = b :=
  injOn_of_parse_print (fun _ _ => Res.ok.inj) Transport.unmarshal_marshal wa wb (congrArg (fun s => [s]) h)

theorem Range.marshal_injective (a b : Range) (wa : a.WellFormed) (wb : b.WellFormed) (h : a.marshal = b.marshal) : a = b :=
  injOn_of_parse_print (fun _ _ => Res.ok.inj) Range.unmarshal_marshal wa wb (congrArg (fun s => [s]) h)

theorem Mikey.marshal_injective (a b : Mikey.Message) (wa : a.WF) (wb : b.WF) (h : a.marshal = b.marshal) : a = b :=
  injOn_of_parse_print (fun _ _ => Option.some.inj) Mikey.unmarshal_marshal wa wb h

end Rtsp.C09
