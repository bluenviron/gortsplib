import Rtsp.Generated.Facts.Life
import Rtsp.Proofs.Life.Client
import Rtsp.Proofs.Life.FairWitness
import Rtsp.Proofs.Life.Sim
/-
# C13 — Close is complete; life-cycle callbacks are balanced and ordered

Theorems about `Model/Lifecycle.lean`: the small-step model of the goroutines of a gortsplib `Server`
(`Server.run`, `serverTCPListener.run`, `ServerConn.run` + its reader, `ServerSession.run`) and of a `Client`
(`Client.run`/`doClose`), and the executable monitor `accepts` over callback traces.

The chain is   real traces  ∈(tested)  monitor-accepted traces  ⊇(proved)  model traces,
and             monitor-accepted traces  ⊆(proved)  balanced ∧ ordered traces.
The correspondence harness (`go/dom/life`) records the callbacks of real servers and clients that are closed
at every protocol step and feeds the traces to the compiled `accepts`; the Go side evaluates the property
clauses (and what is left running after Close) by itself.  Goroutine interleavings of the real code are
sampled, not enumerated: the evidence level for the run-time part is `partial`.

Positional notation: `a ++ e :: b` is a trace with event `e` at position `a.length`.
-/
namespace Rtsp.Life.C13
open Rtsp.Life Rtsp.Facts

/-- **The shutdown code has the shape the model abstracts** (regenerated from /repo on every run: each fact
is the presence of the quoted statement sequence in the named file; if one of the sequences changes, this
theorem no longer checks and the model has to be looked at again).  E.g. `sessWaitsForConnDone`:
`for sc := range ss.conns { sc.Close(); <-sc.done; … }` precedes `OnSessionClose`; `connRunClose`:
`runInner → ctxCancel → nconn.Close → reader.wait → removeConn → closeConn → OnConnClose`. -/
theorem code_shape :
    Life.serverCloseCancelsThenWaits = true ∧ Life.serverStartRegistersRun = true ∧ Life.serverRunShape = true ∧
    Life.serverLoopExitsOnCtx = true ∧ Life.listenerRegistered = true ∧ Life.listenerRunDone = true ∧
    Life.newConnAfterCancelIsClosed = true ∧ Life.connCtxChildOfServer = true ∧ Life.connRegistered = true ∧
    Life.connRunOpen = true ∧ Life.connRunClose = true ∧ Life.connLoopExitsOnCtx = true ∧
    Life.connOnRequestInLoop = true ∧ Life.readerRunShape = true ∧ Life.readerWaitJoins = true ∧
    Life.readerTcpCallbackUsesConnSession = true ∧ Life.sessCtxChildOfServer = true ∧ Life.sessRegistered = true ∧
    Life.sessRunOpen = true ∧ Life.sessWaitsForConnDone = true ∧ Life.sessCloseOrder = true ∧
    Life.sessLoopExitsOnCtx = true ∧ Life.sessTeardownDetachesConn = true ∧ Life.sessRemoveConnOrCtx = true ∧
    Life.sessHandleRequestOrCtx = true ∧ Life.sessMediaStopDeregisters = true ∧ Life.udpListenerCloseJoins = true ∧
    Life.udpCallbackUnderRLock = true ∧ Life.udpRemoveClientUnderLock = true ∧ Life.streamCloseCancelsReaders = true ∧
    Life.multicastWriterCloseJoins = true ∧ Life.clientCloseCancelsThenWaits = true ∧ Life.clientRunShape = true ∧
    Life.clientLoopExitsOnCtx = true ∧ Life.clientDoCloseOrder = true ∧ Life.clientDoCloseReader = true ∧
    Life.clientDoCloseMedias = true ∧ Life.clientReaderCloseJoins = true ∧ Life.clientUdpStopJoins = true ∧
    Life.clientMediaCloseStops = true ∧ Life.asyncProcessorCloseJoins = true ∧ Life.rtpReceiverCloseJoins = true ∧
    Life.rtpSenderCloseJoins = true := by decide

/-- **No goroutine of the library blocks on a channel send without a way out** (regenerated from /repo): in
client_reader.go, server_conn_reader.go, server.go, server_conn.go, server_session.go and client.go every send
on one of the `ch…` channels of the run loops is a `case` of a `select`; every send of the client reader has
the `case <-r.terminate:` alternative and every send of the server connection reader the
`case <-cr.sc.ctx.Done():` alternative — what the model's `readerClose` / `readerExit` steps (the reader can
always be joined) rest on.  Also: the PLAY handler creates the write queue only when the session is not
playing yet (a second PLAY must not replace the running writer), destroys it on error under the same
condition, the session destroys it before `OnSessionClose`, `Client.doClose` closes the socket also when
the reader has already gone, and `Client.reset()` (redirect, switch to TCP) runs `doClose()` BEFORE it resets
`state` (`doClose` looks at `state` to decide whether a writer and transport routines have to be stopped).
Sockets on retry / fallback paths: wherever a second listener of a pair fails to open (client port pairs —
both branches —, multicast pairs, the RTCP / TCP listener in `Server.Start`) the first one is closed again. -/
theorem code_shape_channels :
    Life.clientReaderBareSends = 0 ∧ Life.clientReaderSends = Life.clientReaderSendsWithTerminate ∧
    Life.serverReaderBareSends = 0 ∧ Life.serverReaderSends = Life.serverReaderSendsWithCtx ∧
    Life.serverBareSends = 0 ∧ Life.connBareSends = 0 ∧ Life.sessBareSends = 0 ∧ Life.clientBareSends = 0 ∧
    0 < Life.clientReaderSends ∧ 0 < Life.serverReaderSends ∧
    Life.playCreatesWriterOnce = true ∧ Life.playDestroysWriterOnError = true ∧
    Life.sessionDestroysWriterOnClose = true ∧ Life.clientDoCloseClosesSocketAnyway = true ∧
    Life.clientResetClosesFirst = true ∧ Life.clientSwitchResetsBeforeResetup = true ∧
    Life.clientPairClosesFirstOnSecondFailure = Life.clientPairSecondListeners ∧ 0 < Life.clientPairSecondListeners ∧
    Life.multicastPairClosesFirstOnSecondFailure = true ∧ Life.serverStartClosesRTPOnRTCPFailure = true ∧
    Life.serverStartClosesUDPOnTCPFailure = true := by decide

/-- **balanced** (every trace the monitor accepts, complete or not):
* an open notification for a connection / session occurs at most once;
* a close notification is preceded by the matching open notification and occurs exactly once;
* a session's open notification names a connection that was opened before. -/
theorem balanced (a b : List Event) :
    (∀ c, accepts (a ++ .connOpen c :: b) = true → Event.connOpen c ∉ a ∧ Event.connOpen c ∉ b) ∧
    (∀ c, accepts (a ++ .connClose c :: b) = true →
        Event.connOpen c ∈ a ∧ Event.connClose c ∉ a ∧ Event.connClose c ∉ b) ∧
    (∀ s c, accepts (a ++ .sessionOpen s c :: b) = true →
        (∀ c', Event.sessionOpen s c' ∉ a) ∧ (∀ c', Event.sessionOpen s c' ∉ b) ∧ Event.connOpen c ∈ a) ∧
    (∀ s, accepts (a ++ .sessionClose s :: b) = true →
        (∃ c, Event.sessionOpen s c ∈ a) ∧ Event.sessionClose s ∉ a ∧ Event.sessionClose s ∉ b) := by
  -- the guard of the event holds in the monitor state that reflects `a`; were the event repeated in `b`, its guard
  -- would hold again in a state that reflects a trace with the first occurrence in it
  refine ⟨fun c h => ?_, fun c h => ?_, fun s c h => ?_, fun s h => ?_⟩ <;>
    obtain ⟨m1, _, inv, _, hg, _⟩ := accepts_split h
  · exact ⟨fun hx => hg ((inv.opened c).mpr hx), fun hx =>
      have ⟨_, _, inv', h0, hg'⟩ := guard_later h hx
      hg' ((inv'.opened c).mpr h0)⟩
  · exact ⟨(inv.opened c).mp hg.1, fun hx => hg.2 ((inv.closed c).mpr hx), fun hx =>
      have ⟨_, _, inv', h0, hg'⟩ := guard_later h hx
      hg'.2 ((inv'.closed c).mpr h0)⟩
  · exact ⟨fun c' hx => hg.1 ((inv.sopened s).mpr ⟨c', hx⟩), fun c' hx =>
      have ⟨_, _, inv', h0, hg'⟩ := guard_later h hx
      hg'.1 ((inv'.sopened s).mpr ⟨c, h0⟩), (inv.opened c).mp hg.2⟩
  · exact ⟨(inv.sopened s).mp hg.1, fun hx => hg.2 ((inv.sclosed s).mpr hx), fun hx =>
      have ⟨_, _, inv', h0, hg'⟩ := guard_later h hx
      hg'.2 ((inv'.sclosed s).mpr h0)⟩

/-- non-vacuity: a trace with two connections and a session is accepted … -/
example : accepts [.connOpen 0, .request 0, .connOpen 1, .sessionOpen 0 0, .sreq 0 0, .sreq 0 1, .packet 0,
    .closeCalled, .connClose 1, .connClose 0, .packet 0, .sessionClose 0, .closeReturned] = true := by decide
/-- … and closing twice, closing what was not opened, or opening twice are not -/
example : accepts [.connOpen 0, .connClose 0, .connClose 0] = false := by decide
example : accepts [.connClose 0] = false := by decide
example : accepts [.connOpen 0, .sessionOpen 0 0, .sessionOpen 0 0] = false := by decide
example : accepts [.sessionOpen 0 0] = false := by decide

/-- **balanced, complete traces**: in an accepted trace in which `Close` returned, every open notification
is followed by its close notification (which, by `balanced`, is unique and comes after the open), `Close`
was called before, and `closeReturned` is the last event of the trace. -/
theorem close_returned_after_all_closed (a b : List Event) (h : accepts (a ++ .closeReturned :: b) = true) :
    b = [] ∧ Event.closeCalled ∈ a ∧ Event.closeReturned ∉ a ∧
    (∀ c, Event.connOpen c ∈ a → Event.connClose c ∈ a) ∧
    (∀ s c, Event.sessionOpen s c ∈ a → Event.sessionClose s ∈ a) := by
  obtain ⟨m1, _, inv, hr, hg, hb⟩ := accepts_split h
  exact ⟨mrun_of_returned ((mnext_returned ..).mpr (.inr rfl)) hb, inv.called.mp hg.1,
    fun hx => absurd (hr.symm.trans (inv.returned.mpr hx)) nofun,
    fun c hc => (inv.closed c).mp (hg.2.1 c ((inv.opened c).mpr hc)),
    fun s c hc => (inv.sclosed s).mp (hg.2.2 s ((inv.sopened s).mpr ⟨c, hc⟩))⟩

example : accepts [.connOpen 0, .closeCalled, .closeReturned] = false := by decide
example : accepts [.connOpen 0, .closeCalled, .connClose 0, .closeReturned, .request 0] = false := by decide
example : accepts [.connOpen 0, .connClose 0, .closeReturned] = false := by decide

/-- **no callback after close**: once a session's close notification was delivered, no packet callback and
no request callback for that session occurs; once a connection's close notification was delivered, no request
callback for that connection occurs. -/
theorem no_callback_after_close (a b : List Event) :
    (∀ s, accepts (a ++ .sessionClose s :: b) = true → Event.packet s ∉ b ∧ ∀ c, Event.sreq s c ∉ b) ∧
    (∀ c, accepts (a ++ .connClose c :: b) = true → Event.request c ∉ b ∧ ∀ s, Event.sreq s c ∉ b) := by
  -- a later callback of the closed object would have passed its guard in a state that has it as closed
  refine ⟨fun s h => ⟨fun hx => ?_, fun c hx => ?_⟩, fun c h => ⟨fun hx => ?_, fun s hx => ?_⟩⟩ <;>
    obtain ⟨_, _, inv, h0, hg⟩ := guard_later h hx
  · exact hg.2 ((inv.sclosed s).mpr h0)
  · exact hg.1.2 ((inv.sclosed s).mpr h0)
  · exact hg.2 ((inv.closed c).mpr h0)
  · exact hg.2.2 ((inv.closed c).mpr h0)

example : accepts [.connOpen 0, .sessionOpen 0 0, .packet 0, .sessionClose 0, .packet 0] = false := by decide
example : accepts [.connOpen 0, .sessionOpen 0 0, .sessionClose 0, .sreq 0 0] = false := by decide
example : accepts [.connOpen 0, .request 0, .connClose 0, .request 0] = false := by decide

/-- accepted traces are prefix closed: a trace cut anywhere (a run still in progress) is judged by the same
monitor -/
theorem accepts_prefix_closed (a b : List Event) (h : accepts (a ++ b) = true) : accepts a = true := by
  unfold accepts at *
  cases hm : mrun {} (a ++ b) with
  | none => simp [hm] at h
  | some m2 =>
    obtain ⟨m1, h1, _⟩ := mrun_append_some hm
    simp [h1]

/-! `run init as = some (st, tr)`: the action sequence `as` is executable from the state after `Server.Start()`
and leads to `st` with visible trace `tr` — i.e. `st` is reachable and `tr` is a trace of the model. -/

/-- **Reachable states satisfy the structural invariant and the WaitGroup invariant**, in particular:
the reader goroutine of a connection lives only between `OnConnOpen` and `reader.wait()`; a reader that
delivers interleaved frames belongs to a connection in `ss.conns` of a session that has not delivered
`OnSessionClose`; `s.wg` equals the number of goroutines that have not finished (`live`). -/
theorem invariants_reachable (as : List Action) (st : State) (tr : List Event)
    (h : run Life.init as = some (st, tr)) : Inv st ∧ WgInv st :=
  run_inv inv_init wgInv_init h

/-- **`wg.Wait()` returns exactly when every goroutine has finished**: in every reachable state
`wg = 0 ↔` server loop and listener returned and every connection and session delivered its close
notification. -/
theorem wg_zero_iff_all_done (as : List Action) (st : State) (tr : List Event)
    (h : run Life.init as = some (st, tr)) : st.wg = 0 ↔ st.allDone :=
  (invariants_reachable as st tr h).2.wg_zero_iff

/-- **Every trace the model can produce is accepted by the monitor.** -/
theorem model_traces_accepted (as : List Action) (st : State) (tr : List Event)
    (h : run Life.init as = some (st, tr)) : accepts tr = true := by
  obtain ⟨m, hm, _⟩ := run_sim inv_init wgInv_init sim_init h
  simp [accepts, hm]

/-- non-vacuity: a run of the model with a TCP session, a packet racing with the shutdown, and Close -/
example : (run Life.init [.accept, .connOpenCb 0, .request 0, .createSess 0, .sessOpenCb 0, .sreq 0 0 .plain,
    .sreq 0 0 .playTcp, .pktTcp 0, .closeCall, .sessExit 0, .pktTcp 0, .sessCancelConn 0 0, .srvExit, .connExit 0,
    .readerExit 0, .connJoin 0, .connCloseCb 0, .sessCloseCb 0, .lnExit, .closeReturn]).map (·.2) =
    some [.connOpen 0, .request 0, .sessionOpen 0 0, .sreq 0 0, .sreq 0 0, .packet 0, .closeCalled, .packet 0,
      .connClose 0, .sessionClose 0, .closeReturned] := by decide
/-- the session cannot announce its close while the reader of its connection is alive … -/
example : (run Life.init [.accept, .connOpenCb 0, .createSess 0, .sessOpenCb 0, .sreq 0 0 .playTcp, .closeCall,
    .sessExit 0, .sessCloseCb 0]).isNone = true := by decide
/-- … and Close cannot return while a connection has not delivered OnConnClose -/
example : (run Life.init [.accept, .connOpenCb 0, .closeCall, .srvExit, .lnExit, .closeReturn]).isNone = true := by
  decide

/-- consequence for the model (monitor theorems composed with `model_traces_accepted`): in every trace of
the model no packet or request callback of a session follows its close notification, and `closeReturned`
comes after all close notifications and is the last event. -/
theorem model_ordered (as : List Action) (st : State) (a b : List Event) :
    (∀ s, run Life.init as = some (st, a ++ .sessionClose s :: b) → Event.packet s ∉ b ∧ ∀ c, Event.sreq s c ∉ b) ∧
    (run Life.init as = some (st, a ++ .closeReturned :: b) →
      b = [] ∧ (∀ c, Event.connOpen c ∈ a → Event.connClose c ∈ a) ∧
      (∀ s c, Event.sessionOpen s c ∈ a → Event.sessionClose s ∈ a)) := by
  refine ⟨fun s h => (no_callback_after_close a b).1 s (model_traces_accepted _ _ _ h), fun h => ?_⟩
  have := close_returned_after_all_closed a b (model_traces_accepted _ _ _ h)
  exact ⟨this.1, this.2.2.2.1, this.2.2.2.2⟩

/-- **close_terminates, part 1 — a finite cancel-driven path exists.**  From every reachable state in
which `Close` has been called there is a sequence of own steps of the library's goroutines (no peer, no API
user involved), at most `rank st` long, that ends with `Close` returned and everything finished
(`allDone`; so `wg = 0` by `wg_zero_iff_all_done`). -/
theorem close_terminates (as : List Action) (st : State) (tr : List Event)
    (h : run Life.init as = some (st, tr)) (hc : st.closeCalled = true) :
    ∃ bs st' tr', (∀ a, a ∈ bs → a.own = true) ∧ bs.length ≤ rank st ∧ run st bs = some (st', tr') ∧
      st'.closeReturned = true ∧ st'.allDone :=
  have ⟨hi, hw⟩ := invariants_reachable as st tr h
  closeShutdown.path isRun ⟨hi, hw, hi.cancelledIff.trans hc⟩

/-- **close_terminates, part 2 — every path of own steps is short and a maximal one ends all-closed.**
(`rank` strictly decreases with every own step; while `Close` has not returned some own step is enabled:
sessions wait for connections, connections for their readers, `Close` for everybody — no cycle.) -/
theorem close_terminates_own_paths (as : List Action) (st : State) (tr : List Event)
    (h : run Life.init as = some (st, tr)) (hc : st.closeCalled = true)
    (bs : List Action) (st' : State) (tr' : List Event) (hown : ∀ a, a ∈ bs → a.own = true)
    (hrun : run st bs = some (st', tr')) :
    bs.length ≤ rank st ∧ ((∀ a, a.own = true → ¬ enabled st' a) → st'.closeReturned = true ∧ st'.allDone) := by
  obtain ⟨hi, hw⟩ := invariants_reachable as st tr h
  have ⟨hb, hmax⟩ := closeShutdown.own_paths isRun ⟨hi, hw, hi.cancelledIff.trans hc⟩ hown hrun
  exact ⟨by omega, hmax⟩

/-- **close_terminates, part 3 — along every fair execution, with the environment interleaving.**
Fairness assumed: weak fairness of each own action of each goroutine (`Exec.Fair`: an own action that stays
enabled is eventually taken); nothing is assumed about peers and API users.  The execution may start in any
state that satisfies the invariants (every reachable state does, `invariants_reachable`) with `Close`
called. -/
theorem close_terminates_fair (x : Exec) (hi : Inv (x.σ 0)) (hw : WgInv (x.σ 0))
    (hc : (x.σ 0).closeCalled = true) (hf : x.Fair) :
    ∃ n, (x.σ n).closeReturned = true ∧ (x.σ n).allDone :=
  Life.close_terminates_fair x hi hw (by rw [hi.cancelledIff]; exact hc) hf

/-- non-vacuity of `close_terminates_fair`: a fair execution from a reachable state with a playing TCP
session, `Close` called and not yet returned exists (a racing packet callback and the nine shutdown steps, then
stuttering); more generally every finite run that ends with `Close` returned extends to a fair execution
(`Exec.ofList_fair`). -/
theorem fair_execution_exists :
    ∃ x : Exec, Inv (x.σ 0) ∧ WgInv (x.σ 0) ∧ (x.σ 0).closeCalled = true ∧ (x.σ 0).closeReturned = false ∧
      (x.σ 0).nConns = 1 ∧ x.Fair := by
  have hall : ((run Rtsp.Life.init (exPre ++ exPost)).map fun r => r.1.closeReturned) = some true := by decide
  have hpre : ((run Rtsp.Life.init exPre).map fun r => (r.1.closeCalled, r.1.closeReturned, r.1.nConns))
      = some (true, false, 1) := by decide
  cases h : run Rtsp.Life.init (exPre ++ exPost) with
  | none => simp [h] at hall
  | some r =>
    obtain ⟨st2, tr⟩ := r
    simp [h] at hall
    obtain ⟨st1, tr1, tr2, h1, h2, _⟩ := isRun.append_some h
    simp [h1] at hpre
    have ⟨hi, hw⟩ := invariants_reachable _ _ _ h1
    refine ⟨Exec.ofList st1 exPost, ?_, ?_, ?_, ?_, ?_, Exec.ofList_fair hi hw h2 hall⟩ <;>
      simp [Exec.ofList, stateAfter, exPost, hi, hw, hpre]

/-- the environment cannot disable a shutdown step: the second alternative of `rank_step`, in terms of `enabled` -/
theorem shutdown_steps_persist (st st' : State) (a b : Action) (e : Option Event) (hi : Inv st)
    (hc : st.cancelled = true) (hsrv : st.srvRunning = false) (h : step st b = some (st', e))
    (hr : rank st' = rank st) (ha : a.own = true) (hen : enabled st a) : enabled st' a :=
  (env_step hi hc hsrv h).elim (fun hlt => absurd hr (Nat.ne_of_lt hlt)) (·.2 a ha hen)

/-- **`ServerSession.Close()` / `ServerStream.Close()` terminate** (`Server.Close` need not have been called): from
every reachable state in which session `s` exists and has been cancelled — `ServerStream.Close()` cancels each
of its readers, `ServerSession.Close()` one session — a finite path of own steps (at most `rank st` long) leads
to a state in which `s` has delivered `OnSessionClose`.  The path the proof builds consists of steps of `s` and of
its connections (`sess_progress`); the statement asks of it only that every step is an own step. -/
theorem session_close_terminates (as : List Action) (st : State) (tr : List Event) (s : Nat)
    (h : run Life.init as = some (st, tr)) (hp : (st.sess s).phase ≠ .absent)
    (hc : (st.sess s).cancelled = true) :
    ∃ bs st' tr', (∀ a, a ∈ bs → a.own = true) ∧ bs.length ≤ rank st ∧ run st bs = some (st', tr') ∧
      (st'.sess s).phase = .closed :=
  (sessShutdown s).path isRun ⟨(invariants_reachable as st tr h).1, hp, hc⟩

/-- non-vacuity: a playing session is cancelled (stream closed) while the server keeps running -/
example : ((run Life.init [.accept, .connOpenCb 0, .createSess 0, .sessOpenCb 0, .sreq 0 0 .playTcp, .cancelSess 0,
    .sessExit 0, .sessCancelConn 0 0, .connExit 0, .readerExit 0, .connJoin 0, .connCloseCb 0, .sessCloseCb 0]).map
      fun r => ((r.1.sess 0).phase, r.1.srvRunning, r.2)) =
    some (.closed, true, [.connOpen 0, .sessionOpen 0 0, .sreq 0 0, .connClose 0, .sessionClose 0]) := by decide

/-- **Every trace of the client model is accepted by the client monitor**: no `OnRequest`/`OnResponse`/
packet callback after `Client.Close` returned; `Close` returns once, after it was called. -/
theorem client_traces_accepted (as : List KAction) (k : Client) (tr : List Event)
    (h : krun {} as = some (k, tr)) : acceptsClient tr = true := by
  have := (krun_sim kinv_init h).1
  simp [acceptsClient, this]

example : (krun {} [.connect, .apiRequest, .playTcp, .pktTcp, .closeCall, .pktTcp, .exit, .stopTransports,
    .teardown, .readerClose, .finish, .closeReturn]).map (·.2) =
    some [.request 0, .request 0, .packet 0, .closeCalled, .packet 0, .request 0, .closeReturned] := by decide
example : acceptsClient [.closeCalled, .closeReturned, .packet 0] = false := by decide
example : acceptsClient [.request 0, .closeReturned] = false := by decide

/-- **`Client.Close` terminates**: from every reachable client state in which `Close` was called a path of
own steps of `Client.run`/`doClose` (at most `krank` long) leads to `Close` returned. -/
theorem client_close_terminates (as : List KAction) (k : Client) (tr : List Event)
    (h : krun {} as = some (k, tr)) (hc : k.closeCalled = true) :
    ∃ bs k' tr', (∀ a, a ∈ bs → a.own = true) ∧ bs.length ≤ krank k ∧ krun k bs = some (k', tr') ∧
      k'.closeReturned = true :=
  kcloseShutdown.path kisRun ⟨(krun_sim kinv_init h).2, hc⟩

/-- every sequence of own steps of the client is at most `krank` long, and one that cannot be extended has
`Close` returned (no deadlock in `doClose`: reader and UDP listeners are joined, nothing waits for them) -/
theorem client_close_own_paths (as : List KAction) (k : Client) (tr : List Event)
    (h : krun {} as = some (k, tr)) (hc : k.closeCalled = true)
    (bs : List KAction) (k' : Client) (tr' : List Event) (hown : ∀ a, a ∈ bs → a.own = true)
    (hrun : krun k bs = some (k', tr')) :
    bs.length ≤ krank k ∧ ((∀ a, a.own = true → kstep k' a = none) → k'.closeReturned = true) := by
  have ⟨hb, hmax⟩ := kcloseShutdown.own_paths kisRun ⟨(krun_sim kinv_init h).2, hc⟩ hown hrun
  exact ⟨by omega, fun hm => hmax fun a ha ⟨r, hr⟩ => nomatch (hm a ha).symm.trans hr⟩

/-- **`Client.Close` returns along every fair execution of the client model** (weak fairness of the own
steps of `Client.run`/`doClose`; the server and the API user may do anything). -/
theorem client_close_terminates_fair (x : KExec) (hi : KInv (x.σ 0)) (hc : (x.σ 0).closeCalled = true)
    (hf : x.Fair) : ∃ n, (x.σ n).closeReturned = true := by
  -- first `runInner` returns (`exit`), for good; from there on a step of the environment changes nothing or
  -- decreases `krank`
  exact kcloseShutdown.fair x.isExec hf ⟨hi, hc⟩ (Q := fun k => k.phase ≠ .running)
    (a0 := .exit) rfl
    (fun hp hq => by simp [kstep, Classical.not_not.mp hq, hp.1.calledCancelled hp.2])
    (fun hs hq => hq.elim (fun ha => by subst ha; rw [(kstep_cases hs).2.1]; nofun) (kstep_mono hs).2)
    (fun hp hq ha hs => (kenv_step hp.2 hq (Bool.eq_false_iff.mpr ha) hs).symm.imp id fun h =>
      ⟨Nat.le_of_eq (congrArg krank h), fun b _ hen => h ▸ hen⟩)

end Rtsp.Life.C13
