import Rtsp.Model.ClientSm
import Rtsp.Proofs.ClientSm.Calls
import Rtsp.Proofs.ClientSm.NonNil
import Rtsp.Proofs.ClientSm.Timeouts
/-
C12 — the client survives hostile servers: theorems about the client control model
(Model/ClientSm.lean).  Server behaviour is the input (events); every statement quantifies over all
configurations, all states and all events / event sequences.

What is proved here is the LOGIC of the run loop.  That the Go code does not panic, leaks no goroutine
or descriptor and keeps real time bounds is observed by the harness (go/dom/hclient), not proved.

Two theorems of the property are needed by the supporting modules and stand there, in this namespace:
`only_wait_blocks` (Proofs/ClientSm/Timeouts) and `runExit_closed` (Proofs/ClientSm/Rules).
-/
namespace Rtsp.ClientSm.C12
open Rtsp.ClientSm
open Rtsp.Facts.ClientSm

/-- The places of client.go the model transcribes still read as transcribed: the timer armed in
waitResponse, the CSeq filter, the single `mustClose = true`, the seven `if c.mustClose { return err }`
exits and the seven `case <-c.done: return …, c.closeError` of the API calls, the guards of the 401
retry, the implicit OPTIONS, the redirect range, the 461 retry, the TCP switch, Record, … -/
theorem facts_hold :
    waitTimerArmed = true ∧ cseqFilter = true ∧ waitFailLatches = true ∧ mustCloseAssignments = 1 ∧
    mustCloseExits = 7 ∧ closedCallsReturnCloseError = 7 ∧ runLatchesCloseError = true ∧
    authRetryGuard = true ∧ implicitOptions = true ∧ redirectRange = true ∧ downgradeRefused = true ∧
    options404Tolerated = true ∧ switchNeedsDescribe = true ∧ retry461Guard = true ∧
    recordNeedsSetup = true ∧ serverPortsRule = true ∧ anyPortIs0or1 = true ∧
    interleavedConsecutive = true ∧ channelInUseRule = true ∧ profileMustMatch = true ∧
    unexpectedFrameFatal = true ∧ serverRequestOnlyOptions = true ∧ mediaURLReportsParseError = true ∧
    closeCancelsAndWaits = true ∧ setupClosesListenersOnFailure = true ∧ doCloseStopsReader = true ∧
    doCloseClosesMedias = true ∧ redirectCap = true ∧ teardownKeepsMustClose = true ∧ maxRedirects = 10 ∧
    statusOK = 200 ∧ statusMovedPermanently = 301 ∧ statusUseProxy = 305 ∧ statusUnauthorized = 401 ∧
    statusNotFound = 404 ∧ statusUnsupportedTransport = 461 := by
  decide

/-- In EVERY waiting state the timer transition is enabled: it ends the pending `waitResponse` with
ErrClientRequestTimedOut and latches `mustClose` (the `do` that waited returns that error to its
caller frames).  There is no way to wait without this transition. -/
theorem wait_has_timer (c : Cfg) (s : St) (m : Meth) (n tp : Nat) (k : List Fr)
    (hc : s.closed = false) (hs : s.stack = .wait m n tp :: k) :
    step c s .timer = resume c k { s with mustClose := true } (.err .timeout) :=
  (step_waitFail hc hs).1

example : waiting (step {} init (.call .describe)) = true := by decide

/-- Every state reachable from the initial one, by ANY sequence of API calls, server events and timer
events, is idle / closed (empty stack) or inside waitResponse (`wait` on top of the stack).  In
particular `step`'s catch-all branch (an event nobody consumes, not even the timer) is unreachable:
there is no waiting state without an enabled timer. -/
theorem reachable_inv (c : Cfg) (es : List Ev) : Inv (run c init es) :=
  run_ind c (step_inv c) es init (Or.inl rfl)

theorem reachable_waiting_has_timer (c : Cfg) (es : List Ev) :
    let s := run c init es
    s.closed = true ∨ s.stack = [] ∨
      ∃ m n tp k, s.stack = .wait m n tp :: k ∧
        step c s .timer = resume c k { s with mustClose := true } (.err .timeout) := by
  intro s
  by_cases hc : s.closed = true
  · exact Or.inl hc
  · right
    have hc' : s.closed = false := by simpa using hc
    rcases reachable_inv c es with h | ⟨m, n, tp, k, hs⟩
    · exact Or.inl h
    · exact Or.inr ⟨m, n, tp, k, hs, wait_has_timer c s m n tp k hc' hs⟩

/-- An API call that has been accepted is served on its own behalf, and stays the pending call until
it returns: whatever event arrives while the loop waits for it, afterwards the loop is idle / closed
or still waiting with the same call pending. -/
theorem pending_call_is_kept (c : Cfg) (s : St) (e : Ev) (m : Meth) (n tp : Nat) (k : List Fr) (a : Api)
    (hc : s.closed = false) (hs : s.stack = .wait m n tp :: k) (hp : s.pending = some a) :
    (step c s e).stack = [] ∨
      ((∃ m' n' tp' k', (step c s e).stack = .wait m' n' tp' :: k') ∧ (step c s e).pending = some a) :=
  (step_blockedFor c s e (.inr ⟨m, n, tp, k, hs⟩)).elim (hp ▸ ·)
    fun ⟨_, h, _⟩ => absurd (h.symm.trans hs) nofun

theorem accepted_call_is_pending (c : Cfg) (s : St) (a : Api) (hc : s.closed = false) (hs : s.stack = []) :
    (step c s (.call a)).stack = [] ∨
      ((∃ m n tp k, (step c s (.call a)).stack = .wait m n tp :: k) ∧ (step c s (.call a)).pending = some a) := by
  simp only [step, hc, hs]
  exact startApi_blockedFor c s a

/-- A failing waitResponse (error `e`) below which neither a `reset` nor a transport switch is in
progress (`NoReset`): the error travels through all caller frames unchanged, the pending API call
returns `e`, the client closes with `e` latched as closeError. -/
theorem wait_failure_returns (c : Cfg) (s : St) (e : Err) (k : List Fr) (a : Api)
    (hp : s.pending = some a) (hk : NoReset k) :
    let s' := waitFail c s e k
    s'.closed = true ∧ s'.closeRes = some e ∧ Out.ret a (some e) ∈ s'.out ∧ s'.stack = [] :=
  resume_err_rule (P := fun r => r.closed = true ∧ r.closeRes = some e ∧ Out.ret a (some e) ∈ r.out ∧ r.stack = [])
    (calm1_of_noReset hk) (fun hn => absurd hk hn) _ fun _ hs =>
      deliver_err_mustClose _ e a hs.mustClose (hs.pending.trans hp)

/-- **every_call_returns**: in every waiting state whose callers hand an error on (`NoReset`: no `reset`
and no transport switch in progress) the timer transition returns ErrClientRequestTimedOut to the
pending API call and closes the client with that error. -/
theorem every_call_returns (c : Cfg) (s : St) (m : Meth) (n tp : Nat) (k : List Fr) (a : Api)
    (hc : s.closed = false) (hs : s.stack = .wait m n tp :: k) (hp : s.pending = some a)
    (hk : NoReset k) :
    let s' := step c s .timer
    s'.closed = true ∧ s'.closeRes = some .timeout ∧ Out.ret a (some .timeout) ∈ s'.out ∧ s'.stack = [] := by
  intro s'
  rw [show s' = _ from (step_waitFail hc hs).1]
  exact wait_failure_returns c s .timeout k a hp hk

example :
    let s := step {} init (.call .describe)
    s.closed = false ∧ s.stack = [.wait .options 1 0, .optionsK, .doOpt .describe false 0, .describeK 0] ∧
    s.pending = some .describe := by decide

/-- the same for the other ways a wait can fail: connection lost / unparsable input, a request of
the server that is not OPTIONS -/
theorem read_error_returns (c : Cfg) (s : St) (m : Meth) (n tp : Nat) (k : List Fr) (a : Api)
    (hc : s.closed = false) (hs : s.stack = .wait m n tp :: k) (hp : s.pending = some a)
    (hk : NoReset k) :
    (step c s .readErr).closed = true ∧ (step c s .readErr).closeRes = some .other ∧
    Out.ret a (some .other) ∈ (step c s .readErr).out := by
  rw [(step_waitFail hc hs).2.1]
  have h := wait_failure_returns c { s with reader := false } .other k a hp hk
  exact ⟨h.1, h.2.1, h.2.2.1⟩

theorem server_request_returns (c : Cfg) (s : St) (m : Meth) (n tp : Nat) (k : List Fr) (a : Api)
    (hc : s.closed = false) (hs : s.stack = .wait m n tp :: k) (hp : s.pending = some a)
    (hk : NoReset k) :
    (step c s (.sreq false)).closed = true ∧ (step c s (.sreq false)).closeRes = some .unhandledMethod ∧
    Out.ret a (some .unhandledMethod) ∈ (step c s (.sreq false)).out := by
  rw [(step_waitFail hc hs).2.2.1]
  have h := wait_failure_returns c s .unhandledMethod k a hp hk
  exact ⟨h.1, h.2.1, h.2.2.1⟩

/-- In every reachable state the call stack is well formed: at most one `reset` is in progress, it sits
directly under the frames of its TEARDOWN's implicit OPTIONS, and every other frame sits on a stack
without reset frames. -/
theorem reachable_stack_wellformed (c : Cfg) (es : List Ev) : WFs (run c init es) :=
  run_ind c (step_wfs c) es init trivial

/-- **two_timeouts_suffice**: from ANY reachable state (whatever the server and the caller did before),
if the server stays silent, the first firing of the ReadTimeout timer ends the wait or leaves a wait
with no reset in progress, and the second firing ends the waiting: the run loop is no longer inside
waitResponse (with `reachable_inv`: idle or closed).  That the call which was pending got the error is
`wait_failure_returns`, for stacks that hand an error on; it is not part of this statement.  No hypothesis
on the call stack is needed. -/
theorem two_timeouts_suffice (c : Cfg) (es : List Ev) :
    waiting (step c (step c (run c init es) .timer) .timer) = false :=
  settled_timer c _ (timer_settles c _ (reachable_stack_wellformed c es))

/-- … and when no reset is in progress (in particular: always, for servers that never make the client
reset, i.e. no redirect and no transport switch) one timeout is enough. -/
theorem one_timeout_suffices_without_reset (c : Cfg) (s : St) (m : Meth) (n tp : Nat) (k : List Fr)
    (hc : s.closed = false) (hs : s.stack = .wait m n tp :: k) (hk : Calm1 k) :
    waiting (step c s .timer) = false := by
  rw [wait_has_timer c s m n tp k hc hs]
  exact resume_err_not_waiting hk

example : waiting (step {} (step {} (run {} init [.call .describe]) .timer) .timer) = false :=
  two_timeouts_suffice {} [.call .describe]

/-- A response whose CSeq header has exactly one value that is not the pending request's number
never completes a call: the state does not change at all (the response is dropped). -/
theorem cseq_filter (c : Cfg) (s : St) (m : Meth) (n tp : Nat) (k : List Fr) (r : Resp)
    (hc : s.closed = false) (hs : s.stack = .wait m n tp :: k)
    (hr : cseqAccept r.cseq n = false) :
    step c s (.resp r) = s := by
  simp [step, hc, hs, hr]

/-- … and the filter rejects exactly: one numeric value different from the pending number, or one
value that is no request number at all. -/
theorem cseq_filter_exact (h : CSeqH) (n : Nat) :
    cseqAccept h n = false ↔ (h = .garbage ∨ ∃ k, h = .num k ∧ k ≠ n) := by
  cases h <;> simp [cseqAccept]

example : cseqAccept (.num 7) 8 = false ∧ cseqAccept .missing 8 = true ∧ cseqAccept .dup 8 = true := by decide

/-- Once the run loop has exited (closeError latched, `done` closed) every API call returns
closeError immediately: one `ret` is emitted, nothing else changes, nothing is sent. -/
theorem after_failure_calls_fail (c : Cfg) (s : St) (a : Api) (hc : s.closed = true) :
    step c s (.call a) = emit s (.ret a s.closeRes) := by
  simp [step, hc]

/-- … and a closed client stays closed whatever happens (no event reopens it). -/
theorem closed_absorbing (c : Cfg) (s : St) (e : Ev) (hc : s.closed = true) :
    (step c s e).closed = true ∧ (step c s e).closeRes = s.closeRes := by
  cases e <;> simp [step, hc, emit]

example : (step {} (runExit init (some .timeout)) (.call .play)).out = [.ret .play (some .timeout)] := by decide

/-- **termination_has_error**: whatever the server does and whatever the caller calls, when the run
loop has exited the error latched as closeError is an error (never nil) … -/
theorem termination_has_error (c : Cfg) (es : List Ev) :
    (run c init es).closed = true → (run c init es).closeRes ≠ none :=
  (run_good c es init good_init).1

/-- … so every API call made after the client has terminated returns an error, at once. -/
theorem calls_after_termination_report_error (c : Cfg) (es : List Ev) (a : Api)
    (h : (run c init es).closed = true) :
    ∃ e, step c (run c init es) (.call a) = emit (run c init es) (.ret a (some e)) := by
  have hne := termination_has_error c es h
  cases hr : (run c init es).closeRes with
  | none => exact absurd hr hne
  | some e => exact ⟨e, by rw [after_failure_calls_fail c _ a h, hr]⟩

/-- while the client runs, nothing is latched between two blocking points: `mustClose` set means the
loop is already leaving -/
theorem running_state_clean (c : Cfg) (es : List Ev) (h : (run c init es).closed = false) :
    (run c init es).mustClose = false ∧ (run c init es).ctxDone = false := by
  have hg := (run_good c es init good_init).2 h
  exact ⟨hg.1, hg.2.1⟩

example : (run {} init [.call .describe, .timer]).closed = true ∧
    (run {} init [.call .describe, .timer]).closeRes = some .timeout := by decide

theorem close_idle (c : Cfg) (s : St) (hc : s.closed = false) (hs : s.stack = []) :
    step c s .close = runExit s (some .terminated) := by
  simp [step, hc, hs]

theorem close_idempotent (c : Cfg) (s : St) (hc : s.closed = true) : step c s .close = s := by
  simp [step, hc]


theorem close_running (c : Cfg) (s : St) (h : Inv s) (hc : s.closed = false) :
    (step c s .close).closed = true ∧ (step c s .close).closeRes ≠ none := by
  rcases h with h | ⟨m, n, tp, k, hs⟩
  · rw [close_idle c s hc h]
    exact ⟨(runExit_closed _ _).1, by rw [(runExit_closed _ _).2.1]; nofun⟩
  · rw [(step_waitFail hc hs).2.2.2]
    exact resume_dyingE c k _ _ rfl

/-- **close_reaches_closed**: Close, from any reachable state (idle, closed, or waiting with any call
stack whatsoever — also in the middle of a redirect or of a transport switch), ends with the client
closed; nothing can block once the context is cancelled. -/
theorem close_reaches_closed (c : Cfg) (s : St) (h : Inv s) : (step c s .close).closed = true := by
  cases hc : s.closed with
  | true => simp [step, hc]
  | false => exact (close_running c s h hc).1

/-- … and the error latched by a Close of a running client is an error (never nil) -/
theorem close_reports_error (c : Cfg) (s : St) (h : Inv s) (hc : s.closed = false) :
    (step c s .close).closeRes ≠ none :=
  (close_running c s h hc).2

/-- from any reachable state: Close closes, a second Close changes nothing, and every later API call
returns the latched error at once -/
theorem close_then_calls_fail (c : Cfg) (es : List Ev) (a : Api) :
    let s := step c (run c init es) .close
    s.closed = true ∧ step c s .close = s ∧ step c s (.call a) = emit s (.ret a s.closeRes) := by
  intro s
  have hc : s.closed = true := close_reaches_closed c _ (reachable_inv c es)
  exact ⟨hc, close_idempotent c s hc, after_failure_calls_fail c s a hc⟩

example : Inv (step {} init (.call .describe)) := reachable_inv {} [.call .describe]

/-- the consistency conditions a SETUP response must satisfy to be accepted -/
def SetupConsistent (c : Cfg) (s : St) (p : Proto) (r : Resp) (ch : Nat) : Prop :=
  r.status = statusOK ∧ r.tr.present = true ∧ r.tr.savp = false ∧ r.tr.delivery ≠ .multicast ∧
  (p = .udp → r.tr.tcp = false ∧ ch = 0 ∧
      ((s.cst = .preRecord ∨ c.anyPort = false) → r.tr.serverPorts = .valid)) ∧
  (p = .tcp → r.tr.tcp = true ∧ r.tr.interleaved = some (ch, ch + 1) ∧ chanInUse s.chans ch = false) ∧
  p ≠ .mcast

theorem passed_of_accept {t : Prop} [Decidable t] {e : Err} {x : SetupVerdict} {ch : Nat}
    (h : (if t then .reject e else x) = SetupVerdict.accept ch) : ¬ t ∧ x = .accept ch := by
  by_cases ht : t
  · rw [if_pos ht] at h
    cases h
  · exact ⟨ht, by rwa [if_neg ht] at h⟩

/-- An accepted SETUP response satisfies the listed conditions: status 200, a parsable Transport
header with the requested profile, unicast delivery, for UDP a non-TCP transport with valid server
ports (unless AnyPortEnable while playing), for TCP a TCP transport with a consecutive pair of
interleaved ids that is not in use. -/
theorem setup_validation_sound (c : Cfg) (s : St) (p : Proto) (r : Resp) (ch : Nat)
    (h : setupCheck c s p r = .accept ch) : SetupConsistent c s p r ch := by
  unfold setupCheck at h
  -- every test that fails rejects: follow the accepting path and keep what the tests said
  by_cases hst : (r.status != statusOK) = true
  · rw [if_pos hst] at h
    split at h <;> cases h
  rw [if_neg hst] at h
  obtain ⟨hpr, h⟩ := passed_of_accept h
  by_cases hsw : ((p == .udp || p == .mcast) && r.tr.tcp) = true
  · rw [if_pos hsw] at h
    split at h <;> cases h
  rw [if_neg hsw] at h
  have hst : r.status = statusOK := by simpa using hst
  have hpr : r.tr.present = true := by simpa using hpr
  cases p with
  | mcast => cases h
  | udp =>
    obtain ⟨hd, h⟩ := passed_of_accept h
    obtain ⟨hports, h⟩ := passed_of_accept h
    obtain ⟨hsavp, h⟩ := passed_of_accept h
    cases h
    refine ⟨hst, hpr, by simpa using hsavp, by simpa using hd,
      fun _ => ⟨by simpa using hsw, rfl, fun hh => ?_⟩, nofun, nofun⟩
    rcases hh with hh | hh <;> simpa [hh] using hports
  | tcp =>
    obtain ⟨htcp, h⟩ := passed_of_accept h
    obtain ⟨hd, h⟩ := passed_of_accept h
    cases hi : r.tr.interleaved with
    | none => rw [hi] at h; cases h
    | some xy =>
      obtain ⟨x, y⟩ := xy
      rw [hi] at h
      obtain ⟨hxy, h⟩ := passed_of_accept h
      obtain ⟨huse, h⟩ := passed_of_accept h
      obtain ⟨hsavp, h⟩ := passed_of_accept h
      obtain rfl : x = ch := by injection h
      obtain rfl : x + 1 = y := by simpa using hxy
      exact ⟨hst, hpr, by simpa using hsavp, by simpa using hd, nofun,
        fun _ => ⟨by simpa using htcp, hi, by simpa using huse⟩, nofun⟩

example : setupCheck {} init .tcp { tr := { tcp := true, interleaved := some (4, 5) } } = .accept 4 := by decide
example : setupCheck {} init .udp {} = .accept 0 := by decide

/-- A rejecting verdict commits nothing: the caller gets the error in the state as it was. -/
theorem setup_commit_only_if_accepted (c : Cfg) (s : St) (a : SetupArgs) (p : Proto) (r : Resp)
    (k : List Fr) (retK : St → Val → St) (e : Err) (h : setupCheck c s p r = .reject e) :
    setupResp c s a p r k retK = retK s (.err e) := by
  simp [setupResp, h]

theorem doTail_noRetry (c : Cfg) (s : St) (m : Meth) (tp : Nat) (r : Resp) (k : List Fr)
    (retK : St → Val → St) (hb : r.sess ≠ .bad)
    (hn : (r.status == statusUnauthorized && c.creds && !(captureSession s r.sess).sender) = false) :
    doTail c s m tp r k retK = retK (captureSession s r.sess) (.resp r) := by
  have hb' : (r.sess == SessK.bad) = false := by
    cases hr : r.sess <;> simp_all
  simp [doTail, hb', hn]

/-- The Session header of an accepted response is captured (unless it is invalid, which is an error
that does not terminate the client), whatever else the response says. -/
theorem session_captured (c : Cfg) (s : St) (m : Meth) (tp : Nat) (r : Resp) (k : List Fr)
    (retK : St → Val → St) (id : Nat) (hs : r.sess = .good id)
    (hn : (r.status == statusUnauthorized && c.creds && !s.sender) = false) :
    doTail c s m tp r k retK = retK { s with session := some id } (.resp r) := by
  have h := doTail_noRetry c s m tp r k retK (by rw [hs]; nofun) (by simpa [hs, captureSession] using hn)
  rwa [hs] at h

theorem session_invalid_is_not_fatal (c : Cfg) (s : St) (m : Meth) (tp : Nat) (r : Resp) (k : List Fr)
    (retK : St → Val → St) (hs : r.sess = .bad) :
    doTail c s m tp r k retK = retK s (.err .sessionInvalid) := by
  simp [doTail, hs]

/-- **401 retry once**: when credentials were already sent (`sender` is set) a 401 is not retried: the
response goes back to the caller (which reports ErrClientBadStatusCode); nothing is written. -/
theorem auth_retry_only_once (c : Cfg) (s : St) (m : Meth) (tp : Nat) (r : Resp) (k : List Fr)
    (retK : St → Val → St) (hs : s.sender = true) (hb : r.sess ≠ .bad) :
    doTail c s m tp r k retK = retK (captureSession s r.sess) (.resp r) := by
  have h1 : (captureSession s r.sess).sender = true := by
    cases r.sess <;> exact hs
  exact doTail_noRetry c s m tp r k retK hb (by simp [h1])

/-- … and without credentials a 401 is never retried. -/
theorem no_credentials_no_retry (c : Cfg) (s : St) (m : Meth) (tp : Nat) (r : Resp) (k : List Fr)
    (retK : St → Val → St) (hc : c.creds = false) (hb : r.sess ≠ .bad) :
    doTail c s m tp r k retK = retK (captureSession s r.sess) (.resp r) :=
  doTail_noRetry c s m tp r k retK hb (by simp [hc])

/-- **redirects are bounded**: after `maxRedirects` (= 10) redirects the next 3xx with a Location is an
error; nothing is reset, nothing is dialled, nothing is sent. -/
theorem redirects_bounded (c : Cfg) (s : St) (rd : Nat) (r : Resp) (k : List Fr) (retK : St → Val → St)
    (h3 : statusMovedPermanently ≤ r.status ∧ r.status ≤ statusUseProxy) (hl : r.loc ≠ .none ∧ r.loc ≠ .multi)
    (hrd : maxRedirects ≤ rd) :
    describeResp c s rd r k retK = retK s (.err .other) := by
  have hne : r.status ≠ statusOK := by
    have := h3.1
    simp only [statusMovedPermanently, statusOK] at *
    omega
  have hcond : (decide (statusMovedPermanently ≤ r.status) && decide (r.status ≤ statusUseProxy) && r.loc != LocK.none && r.loc != LocK.multi) = true := by
    simp [h3.1, h3.2, hl.1, hl.2]
  simp [describeResp, hne, hcond, hrd]

/-- an interleaved frame while frames are not allowed (outside PLAY / RECORD over TCP) terminates the
client with ErrClientUnexpectedFrame -/
theorem frame_outside_play_is_fatal (c : Cfg) (s : St) (ch : Nat) (hc : s.closed = false)
    (hs : s.stack = []) (ha : s.allow = false) :
    step c s (.frame ch) = runExit { s with reader := false } (some .unexpectedFrame) := by
  simp [step, hc, hs, ha]

/-- … while they are allowed it is consumed without any effect on the control state -/
theorem frame_in_play_is_consumed (c : Cfg) (s : St) (ch : Nat) (hb : Blocked s) (ha : s.allow = true) :
    step c s (.frame ch) = s := by
  unfold step
  split
  · rfl
  · rcases hb with h | ⟨m, n, tp, k, h⟩ <;> simp [h, ha]

/-- The liveness check does nothing unless the client is playing a standard channel. -/
theorem liveness_only_while_playing (c : Cfg) (s : St) (got stale : Bool)
    (h : s.cst ≠ .play ∨ s.stdSet = false) : checkTimeout c s got stale = s := by
  rcases h with h | h <;> simp [checkTimeout, h]

/-- The automatic switch to TCP is attempted only on the first check of a UDP session, with automatic
protocol, no back channel, a known DESCRIBE URL, and when not a single UDP packet has arrived; in
every other case the check leaves the state alone or terminates the client with a timeout error. -/
theorem switch_only_when_allowed (c : Cfg) (s : St) (got stale : Bool) :
    checkTimeout c s got stale = s ∨
    checkTimeout c s got stale = { s with checkInitial := false } ∨
    checkTimeout c s got stale = runExit s (some .udpTimeout) ∨
    checkTimeout c s got stale = runExit s (some .tcpTimeout) ∨
    (checkTimeout c s got stale = switchStart c { s with checkInitial := false } ∧
      s.cst = .play ∧ (s.tr = some .udp ∨ s.tr = some .mcast) ∧ s.checkInitial = true ∧
      s.backSet = false ∧ c.proto = none ∧ s.lastDesc = true ∧ got = false) :=
  checkTimeout_rule (P := fun r => r = s ∨ r = { s with checkInitial := false } ∨
      r = runExit s (some .udpTimeout) ∨ r = runExit s (some .tcpTimeout) ∨
      (r = switchStart c { s with checkInitial := false } ∧ _))
    (.inl rfl) (.inr (.inl rfl)) (.inr (.inr (.inl rfl))) (.inr (.inr (.inr (.inl rfl))))
    fun h => .inr (.inr (.inr (.inr ⟨rfl, h⟩)))

/-- While playing over TCP, silence for ReadTimeout terminates the client with ErrClientTCPTimeout
(a later call reports it: `after_failure_calls_fail`). -/
theorem tcp_silence_terminates (c : Cfg) (s : St) (got : Bool) (hc : s.closed = false) (hs : s.stack = [])
    (hp : s.cst = .play) (hstd : s.stdSet = true) (ht : s.tr = some .tcp) :
    step c s (.liveness got true) = runExit s (some .tcpTimeout) := by
  simp [step, hc, hs, checkTimeout, hp, hstd, ht]

/-- the last case of `switch_only_when_allowed` occurs: first check of a UDP session that has received
nothing — the client starts the switch to TCP and is waiting again -/
example :
    let s : St := { cst := .play, stdSet := true, tr := some .udp, checkInitial := true, lastDesc := true,
                    conn := true, reader := true, baseUrl := true, optionsSent := true, chans := [(0, 0)] }
    waiting (step {} s (.liveness false false)) = true ∧
    (step {} s (.liveness false false)).out.length = 4 := by decide

end Rtsp.ClientSm.C12
