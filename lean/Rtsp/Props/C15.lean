import Rtsp.Proofs.Time.TimeDecRef
import Rtsp.Proofs.Time.Ntp
import Rtsp.Proofs.Time.NtpFloat
import Rtsp.Proofs.Time.SenderReportHist
/-
C15 — timestamps: 64-bit PTS continuation and NTP mapping.

Property (properties.jsonl): "Presentation timestamps computed for a track are the 64-bit continuation
of its 32-bit RTP timestamps: the PTS difference between two packets equals the signed 32-bit
differences accumulated along the way, across any number of wrap-arounds, and a track that starts
later is placed on the leading track's timeline.  Once a sender report has been processed, the
absolute time returned for a packet equals the time the writer associated with that packet's RTP
timestamp to within one clock tick plus NTP rounding, and NTP encoding and decoding are mutually
inverse to within a nanosecond."

Models: Model/TimeDec.lean (pkg/rtptime), Model/Ntp.lean (pkg/ntp), Model/SenderReport.lean
(rtpsender.report, rtpreceiver.ProcessSenderReport / PacketNTP), Model/F64.lean (binary64 rounding, for the
two float expressions).  All statements quantify over all
histories / inputs; `int64` is modelled by `Int` (no-overflow range: props/C15.json "assumptions").

Five theorems of the property stand in the supporting modules, in this namespace: `mulDiv_floor`,
`ntp_fraction_no_carry`, `ntp_decode_encode`, `packet_ntp_exact` (Proofs/Time/TimeDec, Ntp, Ntp, SenderReport),
which lemmas there rest on, and `mulDiv_no_overflow` (Proofs/Time/TimeDec), which Props/Bridge/Time uses.
-/
namespace Rtsp.C15
open Rtsp.TimeDec

/-- the shapes of the Go expressions the models mirror are still present in /repo (regenerated facts) -/
theorem facts_shape :
    Facts.Time.encFractionExpr = true ∧ Facts.Time.encCombineExpr = true ∧ Facts.Time.decNanosExpr = true ∧
    Facts.Time.signedDeltaExpr = true ∧ Facts.Time.mulDivExpr = true ∧ Facts.Time.senderRtpExpr = true ∧
    Facts.Time.receiverDiffExpr = true ∧ Facts.Time.senderNtpExpr = true ∧ Facts.Time.receiverDecodeAddExpr = true ∧
    Facts.Time.ntpEpochOffsetEnc = Facts.Time.ntpEpochOffsetDec ∧ Facts.Time.nanosPerSecEnc = 1000000000 ∧
    -- the users: Client/ServerSession.PacketPTS and PacketNTP are these functions, sender reports reach the receiver
    Facts.Time.clientPacketPTSExpr = true ∧ Facts.Time.clientPacketNTPExpr = true ∧
    Facts.Time.serverPacketPTSExpr = true ∧ Facts.Time.serverPacketNTPExpr = true ∧
    Facts.Time.clientProcessSRExpr = true ∧ Facts.Time.serverProcessSRExpr = true := by decide

/-! ## PTS: 64-bit continuation of the 32-bit RTP timestamps

`trace id ops results` is the list of `(RTP timestamp, PTS)` of the packets of track `id` that
`Decode` gave a PTS, in order, for a run `ops` of `Decode` calls on any number of interleaved tracks,
from an arbitrary decoder state `s`. -/

/-- **PTS(j) − PTS(i) = Σ int32(ts_{l+1} − ts_l)** for any two packets `i ≤ j` of a track, whatever the
other tracks do in between, for every history and any number of wrap-arounds. -/
theorem pts_diff_eq_sum_of_signed_deltas (s : State) (ops : List Op) (id : Nat) (i j : Nat)
    (hij : i ≤ j) (hj : j < (trace id ops (run s ops).2).length) :
    (trace id ops (run s ops).2)[j].2 - (trace id ops (run s ops).2)[i].2
      = sumDeltas (trace id ops (run s ops).2)[i].1
          ((((trace id ops (run s ops).2).drop (i + 1)).take (j - i)).map Prod.fst) :=
  chain_diff (trace_chain id ops s) i j hij hj

/-- non-vacuity: a two-track history in which track 1 wraps forwards and then backwards -/
def sampleOps : List Op :=
  [ { id := 1, rate := 90000, eq := true, ts := 4294967000, now := 1000000000 },
    { id := 2, rate := 48000, eq := true, ts := 5, now := 1500000000 },
    { id := 1, rate := 90000, eq := true, ts := 100, now := 2000000000 },
    { id := 1, rate := 90000, eq := false, ts := 4294967290, now := 2000000000 } ]

example : (run init sampleOps).2 = [some 0, some 24000, some 396, some 290] := by decide
example : trace 1 sampleOps (run init sampleOps).2 = [(4294967000, 0), (100, 396), (4294967290, 290)] := by
  decide

/-- **one step**: if the writer's clock moved by `step` ticks with `|step| < 2^31` (the timestamp field
carries `prev + step` modulo 2^32), the PTS moves by exactly `step` — forwards, backwards, across a wrap. -/
theorem pts_step_exact (s : State) (o : Op) (t : Track) (step : Int)
    (hr : o.rate ≠ 0) (ht : s.tracks o.id = some t)
    (hlo : -2147483648 ≤ step) (hhi : step < 2147483648)
    (hts : (o.ts.toNat : Int) = ((t.prev.toNat : Int) + step) % 4294967296) :
    (decode s o).2 = some (t.overall + step) := by
  rw [decode_old s o hr t ht]
  exact congrArg (fun d => some (t.overall + d)) (sdelta_of_step o.ts t.prev step hlo hhi hts)

example : (4294967290 : UInt32).toNat = 4294967290 ∧
    ((100 : UInt32).toNat : Int) = (((4294967000 : UInt32).toNat : Int) + 396) % 4294967296 := by decide

/-- **any number of wraps**: if the timestamps of a track are the low 32 bits of a writer clock
`w 0, w 1, …` (unbounded integers) whose consecutive values differ by less than 2^31 in absolute value,
then `PTS(j) − PTS(i) = w j − w i` for all `i ≤ j`: the PTS *is* the writer's 64-bit clock up to the
start offset. -/
theorem pts_follows_writer_clock (s : State) (ops : List Op) (id : Nat) (w : Nat → Int)
    (hts : ∀ k (hk : k < (trace id ops (run s ops).2).length),
              (trace id ops (run s ops).2)[k].1 = low32 (w k))
    (hstep : ∀ k, k + 1 < (trace id ops (run s ops).2).length →
              -2147483648 ≤ w (k + 1) - w k ∧ w (k + 1) - w k < 2147483648)
    (i j : Nat) (hij : i ≤ j) (hj : j < (trace id ops (run s ops).2).length) :
    (trace id ops (run s ops).2)[j].2 - (trace id ops (run s ops).2)[i].2 = w j - w i := by
  refine chain_follows (trace_chain id ops s) w (fun k hk => ?_) i j hij hj
  rw [hts (k + 1) hk, hts k (Nat.lt_of_succ_lt hk)]
  exact sdelta_low32 _ _ (hstep k hk)

/-- the PTS difference is congruent to the timestamp difference modulo 2^32 (no hypothesis on steps) -/
theorem pts_congruent_mod_2_32 (s : State) (ops : List Op) (id : Nat) (i j : Nat)
    (hij : i ≤ j) (hj : j < (trace id ops (run s ops).2).length) :
    ((trace id ops (run s ops).2)[j].2 - (trace id ops (run s ops).2)[i].2
      - (((trace id ops (run s ops).2)[j].1.toNat : Int) - (trace id ops (run s ops).2)[i].1.toNat))
      % 4294967296 = 0 :=
  chain_congr (trace_chain id ops s) i j hij hj

/-- which packets get a PTS -/
theorem pts_available_iff (s : State) (o : Op) :
    (decode s o).2.isSome = true ↔ o.rate ≠ 0 ∧ (s.tracks o.id ≠ none ∨ o.eq = true) := by
  rcases decode_cases s o with hc | ⟨hr, hn, he⟩ | ⟨hr, t, ht⟩
  · rw [decode_refused s o hc]
    rcases hc with hr | ⟨hn, he⟩
    · simp [hr]
    · simp [hn, he]
  · rw [decode_new s o hr hn he]; simp [hr, he]
  · rw [decode_old s o hr t ht]; simp [hr, ht]

/-- once a track has started, every later packet of it gets a PTS (unless its clock rate is 0), whatever
happens on the other tracks in between -/
theorem started_track_keeps_decoding (s : State) (ops : List Op) (o : Op) (h : s.tracks o.id ≠ none)
    (hr : o.rate ≠ 0) : (decode (run s ops).1 o).2.isSome = true :=
  (pts_available_iff _ o).2 ⟨hr, Or.inl (run_tracks_mono ops s o.id h)⟩

-- `mulDiv_floor` on a sample
example : mulDiv 12345678901 48000 90000 = (12345678901 * 48000) / 90000 := by decide

/-- for all signs it is Go's truncated quotient of the exact product -/
theorem mulDiv_trunc (v m d : Int) (hd : d ≠ 0) : mulDiv v m d = (v * m).tdiv d :=
  mulDiv_eq_tdiv v m d

/-- the result is off the exact quotient by less than one unit: `|v·m − d·result| < |d|` -/
theorem mulDiv_error_lt_one (v m d : Int) (hd : d ≠ 0) :
    (v * m - d * mulDiv v m d).natAbs < d.natAbs := by
  rw [mulDiv_eq_tdiv v m d, Int.mul_tdiv_self, Int.sub_sub_self, Int.natAbs_tmod]
  exact Nat.mod_lt _ (Int.natAbs_pos.mpr hd)

/-! ## a track that starts later is placed on the leading track's timeline

`leaderRef none ops results` is computed from the *history* alone: the track of the first packet that
got a PTS leads; the reference point is the PTS and wall-clock instant of the leader's latest packet
with PTS = DTS (PTS 0 at the instant of election to begin with). -/

/-- the decoder's `startPTS / startSystem / startPTSClockRate / leadingTrack` are exactly the reference
point defined by the history -/
theorem leader_reference_is_history (ops : List Op) :
    stateRef (run init ops).1 = leaderRef none ops (run init ops).2 :=
  (run_ref ops init inv_init).2

/-- the packet that elects the leader gets PTS 0 -/
theorem leader_starts_at_zero (o : Op) (p : Int) (h : (decode init o).2 = some p) : p = 0 := by
  rcases decode_cases init o with hc | ⟨hr, hn, he⟩ | ⟨hr, t, ht⟩
  · rw [decode_refused init o hc] at h; cases h
  · rw [decode_new init o hr hn he, startOf_elect_of_no_leader o rfl] at h
    cases h; rfl
  · cases ht

/-- **late track**: after any history `pre` in which a leader exists with reference point `ref`, the
first packet `o` of a track not seen before (PTS = DTS, clock rate ≠ 0) gets

    start = A + B,   A = ref.pts · rate / ref.rate,   B = (now − ref.now) · rate / 10^9

where each quotient is truncated: `|ref.pts·rate − ref.rate·A| < |ref.rate|` and
`|(now − ref.now)·rate − 10^9·B| < 10^9` — each rescaling is off by less than one tick of the new track. -/
theorem late_track_on_leader_timeline (pre : List Op) (o : Op) (ref : Ref)
    (hr : o.rate ≠ 0) (he : o.eq = true) (hnew : (run init pre).1.tracks o.id = none)
    (href : leaderRef none pre (run init pre).2 = some ref) :
    ∃ A B : Int,
      (decode (run init pre).1 o).2 = some (A + B) ∧ ref.rate ≠ 0 ∧
      (ref.pts * o.rate - ref.rate * A).natAbs < ref.rate.natAbs ∧
      ((o.now - ref.now) * o.rate - 1000000000 * B).natAbs < 1000000000 := by
  obtain ⟨hinv, hsr⟩ := run_ref pre init inv_init
  rw [show stateRef init = none from rfl, href] at hsr
  generalize (run init pre).1 = s at *
  cases hl : s.leading with
  | none => simp [stateRef, hl] at hsr
  | some L =>
    simp only [stateRef, hl, Option.some.injEq] at hsr
    subst hsr
    exact ⟨_, _, by rw [decode_new s o hr hnew he, elect_of_leader o hl]; rfl, hinv.rateNZ L hl,
      mulDiv_error_lt_one _ _ _ (hinv.rateNZ L hl), mulDiv_error_lt_one _ _ _ (by decide)⟩

/-- non-vacuity: the second track of `sampleOps` joins 0.5 s after the leader started -/
example : leaderRef none (sampleOps.take 1) (run init (sampleOps.take 1)).2
    = some { leader := 1, rate := 90000, pts := 0, now := 1000000000 } := by decide

-- `ntp_decode_encode` on a sample: one nanosecond is lost
example : Ntp.encode 1700000000123456789 = 16788979056960527671 ∧
    Ntp.decode 16788979056960527671 = 1700000000123456788 := by decide

/-- **Encode ∘ Decode**: for every 64-bit NTP value `v`, `Encode (Decode v)` has the same seconds and a
fraction between `v − 4` and `v` units of 2^-32 s (4 units = 0.93 ns). -/
theorem ntp_encode_decode (v : Nat) (hv : v < 18446744073709551616) :
    Ntp.encode (Ntp.decode v) ≤ v ∧ v ≤ Ntp.encode (Ntp.decode v) + 4 ∧
    Ntp.encode (Ntp.decode v) / 4294967296 = v / 4294967296 := by
  rw [Ntp.decode_eq, Ntp.encode_era0 _ (by omega)]
  have h := Ntp.encFrac_spec
    ((v / 4294967296 * 1000000000 + v % 4294967296 * 1000000000 / 4294967296) % 1000000000)
  omega

/-- `Encode t` is the nearest 32.32 fixed-point value of the NTP time of `t` (RFC 3550 §4) -/
theorem ntp_encode_nearest (t : Int) (hlo : -2208988800000000000 ≤ t) (hhi : t < 2085978496000000000) :
    2 * ((Ntp.encode t : Int) * 1000000000 - (t + 2208988800000000000) * 4294967296) ≤ 1000000000 ∧
    -1000000000 ≤ 2 * ((Ntp.encode t : Int) * 1000000000 - (t + 2208988800000000000) * 4294967296) := by
  obtain ⟨N, hN, rfl⟩ := Ntp.era0 t hlo hhi
  rw [Ntp.encode_era0 N hN, Int.sub_add_cancel]
  have h := Ntp.encFrac_spec (N % 1000000000)
  omega

/-- `Decode v` is the NTP value in Unix nanoseconds rounded down -/
theorem ntp_decode_floor (v : Nat) :
    0 ≤ (v : Int) * 1000000000 - (Ntp.decode v + 2208988800000000000) * 4294967296 ∧
    (v : Int) * 1000000000 - (Ntp.decode v + 2208988800000000000) * 4294967296 < 4294967296 := by
  rw [Ntp.decode_eq, Int.sub_add_cancel]
  omega

/-- **the float path of `Encode` is exact integer rounding**: the Go expression
`uint64(math.Round(float64((ntp%1000000000)*(1<<32)) / 1000000000))`, transcribed onto the binary64 model
(`F64`: exact conversion of the 30-significant-bit product, one correctly rounded division, `math.Round`),
equals the nearest integer of `n·2^32/10^9` for every `n < 10^9` — the model `Ntp.encode` may therefore use
integer arithmetic.  (For the real `float64` the harness checks the same equality, thorough tier.) -/
theorem ntp_encode_float_path_exact (n : Nat) (hn : n < 1000000000) :
    Ntp.encFracFloat n = Ntp.encFrac n :=
  Ntp.encFracFloat_eq n hn

example : Ntp.encFracFloat 999999999 = 4294967292 ∧ Ntp.encFracFloat 123456789 = 530242871 := by decide

/-- **PacketNTP within one tick (+ 2 ns of rounding) of the writer's time.**  The sender associated
`lastNTP` with RTP timestamp `lastRTP` at system time `lastSystem`; at `now` it reports
`(Encode (lastNTP + d), lastRTP + e)`, `d = now − lastSystem`, where `e` is the truncated float product
`d.Seconds()·rate`, assumed within one tick of `d·rate/10^9` (hypotheses `hqlo`, `hqhi`; checked by the
harness on every generated report).  For a packet whose timestamp lies `k` ticks from `lastRTP`
(`|k − e| < 2^31`) the writer's time is `lastNTP + k·10^9/rate` ns, and

    |rate·(PacketNTP ts − lastNTP) − k·10^9| < 10^9 + 2·rate

i.e. the receiver's answer is within `1/rate s + 2 ns` of it. -/
theorem packet_ntp_within_tick (s : SR.Sender) (r : SR.Recv) (now : Int) (e : Nat) (ts : UInt32) (k : Int)
    (hrate : r.rate = s.rate) (hR : 0 < s.rate)
    (hTlo : -2208988800000000000 ≤ s.lastNTP + (now - s.lastSystem))
    (hThi : s.lastNTP + (now - s.lastSystem) < 2085978496000000000)
    (hts : (ts.toNat : Int) = ((s.lastRTP.toNat : Int) + k) % 4294967296)
    (hlo : -2147483648 ≤ k - e) (hhi : k - e < 2147483648)
    (hqlo : -1000000000 ≤ (now - s.lastSystem) * s.rate - e * 1000000000)
    (hqhi : (now - s.lastSystem) * s.rate - e * 1000000000 ≤ 1000000000 + s.rate) :
    ∃ P : Int,
      (r.processSR (s.reportWith now e).ntp (s.reportWith now e).rtp).packetNTP ts = some P ∧
      -(1000000000 + 2 * s.rate) < s.rate * (P - s.lastNTP) - k * 1000000000 ∧
      s.rate * (P - s.lastNTP) - k * 1000000000 < 1000000000 + 2 * s.rate :=
  SR.packet_ntp_within_tick s r now e ts k hrate hR hTlo hThi hts hlo hhi hqlo hqhi

/-- non-vacuity: 90 kHz, report 1 s after the packet, float product exact (e = 90000), query 10 ticks
after the packet: the hypotheses hold and the model answers 111112 ns after `lastNTP` (exact: 111111.1) -/
def sampleSender : SR.Sender :=
  (SR.Sender.init 90000).processPacket 4294967290 1700000000000000000 true 5000000000 7 100

example :
    let s := sampleSender
    (0 : Int) < s.rate ∧
    -2208988800000000000 ≤ s.lastNTP + (6000000000 - s.lastSystem) ∧
    s.lastNTP + (6000000000 - s.lastSystem) < 2085978496000000000 ∧
    (((4 : UInt32).toNat : Int) = ((s.lastRTP.toNat : Int) + 10) % 4294967296) ∧
    (-1000000000 ≤ (6000000000 - s.lastSystem) * s.rate - (90000 : Nat) * 1000000000) ∧
    ((6000000000 - s.lastSystem) * s.rate - (90000 : Nat) * 1000000000 ≤ 1000000000 + s.rate) ∧
    SR.floatTicks (6000000000 - s.lastSystem) s.rate = 90000 ∧
    ((SR.Recv.init 90000).processSR (s.reportWith 6000000000 90000).ntp (s.reportWith 6000000000 90000).rtp).packetNTP 4
      = some 1700000000000111112 := by decide

/-- after any history of `ProcessPacket` calls the sender's reference `(lastRTP, lastNTP, lastSystem)` is
that of the latest packet with PTS = DTS -/
theorem sender_reference_is_last_eq_packet (s : SR.Sender) (ps : List SR.Pkt) (p : SR.Pkt)
    (hp : SR.lastEq ps = some p) :
    (s.feed ps).lastRTP = p.ts ∧ (s.feed ps).lastNTP = p.ntp ∧ (s.feed ps).lastSystem = p.now := by
  simpa only [hp] using SR.feed_anchor ps s

/-- the receiver answers from the last report it processed, whatever came before -/
theorem receiver_uses_last_report (r : SR.Recv) (srs : List (Nat × UInt32)) (n : Nat) (t ts : UInt32) :
    (r.feed (srs ++ [(n, t)])).packetNTP ts = (r.processSR n t).packetNTP ts := by
  rw [SR.recv_uses_last_report]

/-- **history form**: the sender has processed any packets `ps` (latest PTS = DTS packet: `p`), the receiver
any earlier reports `srs`; a report made at `now` then reaches the receiver.  `PacketNTP` of the timestamp
`k` ticks from `p.ts` is within `1/rate s + 2 ns` of the writer's `p.ntp + k/rate s`. -/
theorem packet_ntp_history (rate : Int) (ps : List SR.Pkt) (p : SR.Pkt) (srs : List (Nat × UInt32))
    (now : Int) (e : Nat) (ts : UInt32) (k : Int)
    (hp : SR.lastEq ps = some p) (hR : 0 < rate)
    (hTlo : -2208988800000000000 ≤ p.ntp + (now - p.now))
    (hThi : p.ntp + (now - p.now) < 2085978496000000000)
    (hts : (ts.toNat : Int) = ((p.ts.toNat : Int) + k) % 4294967296)
    (hlo : -2147483648 ≤ k - e) (hhi : k - e < 2147483648)
    (hqlo : -1000000000 ≤ (now - p.now) * rate - e * 1000000000)
    (hqhi : (now - p.now) * rate - e * 1000000000 ≤ 1000000000 + rate) :
    ∃ P : Int,
      ((SR.Recv.init rate).feed (srs ++ [((((SR.Sender.init rate).feed ps).reportWith now e).ntp,
                                       (((SR.Sender.init rate).feed ps).reportWith now e).rtp)])).packetNTP ts = some P ∧
      -(1000000000 + 2 * rate) < rate * (P - p.ntp) - k * 1000000000 ∧
      rate * (P - p.ntp) - k * 1000000000 < 1000000000 + 2 * rate := by
  have ha := sender_reference_is_last_eq_packet (SR.Sender.init rate) ps p hp
  have hr : _ = rate := SR.feed_rate ps (SR.Sender.init rate)
  rw [receiver_uses_last_report]
  -- name the sender after the history and express `p` and `rate` through its fields
  generalize (SR.Sender.init rate).feed ps = s at ha hr ⊢
  obtain ⟨pts, pntp, peq, pnow, pssrc, plen⟩ := p
  obtain ⟨rfl, rfl, rfl⟩ := ha
  subst hr
  exact SR.packet_ntp_within_tick s (SR.Recv.init s.rate) now e ts k rfl hR hTlo hThi hts hlo hhi hqlo hqhi

example : SR.lastEq [⟨4294967290, 1700000000000000000, true, 5000000000, 7, 100⟩, ⟨3000, 5, false, 6, 7, 8⟩]
    = some ⟨4294967290, 1700000000000000000, true, 5000000000, 7, 100⟩ := by decide

/-! ### the float product, proved for the binary64 model

`F64` (Model/F64.lean) is an exact model of IEEE-754 binary64 round-to-nearest-even on
non-negative rationals; the harness compares it bit for bit with the real `float64` computation on every
generated report.  For the model the hypothesis of `packet_ntp_within_tick` is a theorem. -/

/-- every `F64` rounding has relative error at most 2^-53 -/
theorem float_rounding_relative_error (p q : Nat) (hq : 0 < q) :
    0 < (F64.roundQ p q).den ∧
    9007199254740992 * ((F64.roundQ p q).num * q) ≤ (9007199254740992 + 1) * (p * (F64.roundQ p q).den) ∧
    (9007199254740992 - 1) * (p * (F64.roundQ p q).den) ≤ 9007199254740992 * ((F64.roundQ p q).num * q) :=
  let h := F64.roundQ_near p q hq
  ⟨h.den_pos, h.upper, h.lower⟩

/-- `int64(d.Seconds()*float64(rate))` is `⌊d·rate/10^9⌋` up to a float error worth less than 1 ns of
time, for elapsed times up to 2^51 ns (26 days) -/
theorem float_ticks_bounds (d rate : Nat) (hd : d ≤ 2251799813685248) (hr : rate < 9007199254740992) :
    F64.ticks d rate * 1000000000 ≤ d * rate + rate ∧
    d * rate < (F64.ticks d rate + 1) * 1000000000 + rate := by
  obtain ⟨hu, hl⟩ := F64.ticks_rel d rate (by unfold F64.two53; omega) hr
  -- `d ≤ 2^51` turns the cubic factors into `+ rate`
  have hX : d * rate ≤ 2251799813685248 * rate := Nat.mul_le_mul_right rate hd
  rw [show F64.two53 - 1 = 9007199254740991 from rfl] at hl
  unfold F64.two53 at hu hl
  generalize d * rate = X at hu hl hX ⊢
  omega

example : F64.ticks 2311625000 48000 = 110957 ∧ 2311625000 * 48000 = 110958 * 1000000000 := by decide

/-- the hypothesis of `packet_ntp_within_tick` holds for the float product as the binary64 model
computes it, whenever at most 2^51 ns (26 days) elapsed since the last packet and the clock rate is at
most 10^9 -/
theorem sender_float_product_within_tick (d rate : Int) (hd0 : 0 ≤ d) (hd : d ≤ 2251799813685248)
    (hr0 : 0 < rate) (hr : rate ≤ 1000000000) :
    -1000000000 ≤ d * rate - (SR.floatTicks d rate : Nat) * 1000000000 ∧
    d * rate - (SR.floatTicks d rate : Nat) * 1000000000 ≤ 1000000000 + rate := by
  obtain ⟨D, rfl⟩ := Int.eq_ofNat_of_zero_le hd0
  obtain ⟨R, rfl⟩ := Int.eq_ofNat_of_zero_le (Int.le_of_lt hr0)
  have hb := float_ticks_bounds D R (by omega) (by omega)
  have hf : SR.floatTicks D R = F64.ticks D R := by
    unfold SR.floatTicks
    rw [if_pos hd0]
    rfl
  rw [hf]
  generalize F64.ticks D R = e at hb
  omega

/-- **PacketNTP within one tick + 2 ns of the writer's time, for the report `Sender.report` computes**
(no hypothesis on the float product): clock rate `0 < rate ≤ 10^9`, at most 2^51 ns (26 days) between the
sender's last packet and the report, instants in NTP era 0, queried timestamp `k` ticks from the last
packet with `x − (2^31 − 1) ≤ k ≤ x + 2^31 − 3`, `x = ⌊d·rate/10^9⌋` the report's own position. -/
theorem packet_ntp_within_tick_report (s : SR.Sender) (r : SR.Recv) (now : Int) (ts : UInt32) (k : Int)
    (hrate : r.rate = s.rate) (hR : 0 < s.rate) (hR1 : s.rate ≤ 1000000000)
    (hd0 : 0 ≤ now - s.lastSystem) (hd : now - s.lastSystem ≤ 2251799813685248)
    (hTlo : -2208988800000000000 ≤ s.lastNTP + (now - s.lastSystem))
    (hThi : s.lastNTP + (now - s.lastSystem) < 2085978496000000000)
    (hts : (ts.toNat : Int) = ((s.lastRTP.toNat : Int) + k) % 4294967296)
    (hlo : ((now - s.lastSystem) * s.rate) / 1000000000 + 1 - 2147483648 ≤ k)
    (hhi : k < 2147483648 + ((now - s.lastSystem) * s.rate) / 1000000000 - 2) :
    ∃ P : Int,
      (r.processSR (s.report now).ntp (s.report now).rtp).packetNTP ts = some P ∧
      -(1000000000 + 2 * s.rate) < s.rate * (P - s.lastNTP) - k * 1000000000 ∧
      s.rate * (P - s.lastNTP) - k * 1000000000 < 1000000000 + 2 * s.rate := by
  unfold SR.Sender.report
  have hf := sender_float_product_within_tick (now - s.lastSystem) s.rate hd0 hd hR hR1
  generalize SR.floatTicks (now - s.lastSystem) s.rate = e at hf ⊢
  -- `e` is within one tick of `x`, so the window around `x` lies within 2^31 of `e`
  have hw : -2147483648 ≤ k - e ∧ k - e < 2147483648 := by
    generalize (now - s.lastSystem) * s.rate = X at hf hlo hhi
    clear hts hTlo hThi
    omega
  exact SR.packet_ntp_within_tick s r now e ts k hrate hR hTlo hThi hts hw.1 hw.2 hf.1 hf.2

example :
    let s := sampleSender
    (0 : Int) < s.rate ∧ s.rate ≤ 1000000000 ∧ 0 ≤ 6000000000 - s.lastSystem ∧
    6000000000 - s.lastSystem ≤ 2251799813685248 ∧
    ((6000000000 - s.lastSystem) * s.rate) / 1000000000 + 1 - 2147483648 ≤ 10 ∧
    (10 : Int) < 2147483648 + ((6000000000 - s.lastSystem) * s.rate) / 1000000000 - 2 ∧
    ((SR.Recv.init 90000).processSR (s.report 6000000000).ntp (s.report 6000000000).rtp).packetNTP 4
      = some 1700000000000111112 := by decide

end Rtsp.C15
