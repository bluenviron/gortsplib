import Rtsp.Generated.Facts.Ring
import Rtsp.Proofs.Queue.RingQueue
import Rtsp.Proofs.Queue.RingConcLin
import Rtsp.Proofs.Queue.RingConcWake
import Rtsp.Proofs.Queue.AsyncProps
import Rtsp.Proofs.Queue.AsyncDriver
/-
C16 — Outbound write queue: FIFO, bounded, loss only when signalled.

  "Items accepted by the outbound queue are executed exactly once, in acceptance order, by a single
   consumer; an item is refused - and the caller told - only when the queue already holds its
   configured capacity, and nothing runs after Close has returned.  This holds under any number of
   concurrent producers and any interleaving with Start and Close: every concurrent history is
   linearizable to a bounded FIFO queue, a waiting consumer is always woken by a push or a close,
   and a processing error stops the queue and is reported exactly once."

Models: Model/Ring.lean (pkg/ringbuffer, one function per critical section), Model/RingConc.lean
(threads, mutex, sync.Cond), Model/Async.lean (internal/asyncprocessor), Spec/BoundedFifo.lean.
The theorems below are the ones listed in props/C16.json; their proofs are in Proofs/Queue/Ring*.lean,
Proofs/Queue/FifoProps.lean, Proofs/Queue/Async*.lean (`ring_unchanged`, `reachable_runActs` and
`Async.drain` are proved here).  All of them hold for EVERY capacity ≥ 1 (the Go constructor only
admits powers of two, which nothing below needs), every operation sequence / schedule and any number
of producers.

"Exactly once" is split as the property's own wording suggests: at most once + in order always
(`fifo_order`, `executed_at_most_once`, `Async.prefix_executed`); exactly once unless Close or an
error — the two signalled cases — intervened (`fifo_order`'s equation, `Async.exactly_once_while_open`,
`Async.drain`).
-/
namespace Rtsp.C16
open Rtsp.Facts
open Rtsp.Ring (Ring Op RingInv abs absItems)
open Rtsp.Fifo (accepted pulled pushes noCloseReset noReset)

/-- Structure facts regenerated from /repo on every run: the shape of the critical sections the
models mirror (lock before any access, `Broadcast` after `Unlock` in `Push` and `Close`, `Pull`
re-tests in a loop around `cond.Wait()`, `runInner` stops at the first error after one `OnError`,
`Close` = cancel; close ring; join if running).  If one of them stops matching, this no longer
compiles. -/
theorem structure_facts :
    Ring.lockCount = 3 ∧ Ring.broadcastCount = 2 ∧ Ring.waitCount = 1 ∧
    Ring.pushLocksBeforeBuffer = true ∧ Ring.closeLocksAndBroadcastsAfterUnlock = true ∧
    Ring.pullRetestsInLoop = true ∧ Ring.resetRestoresEverything = true ∧ Ring.condUsesRingMutex = true ∧
    Ring.newRejectsNonPowerOfTwo = true ∧ Ring.runInnerStopsOnError = true ∧
    Ring.closeCancelsClosesJoins = true ∧ Ring.runClosesDone = true ∧
    Ring.pushDelegatesToRing = true ∧ Ring.startSetsRunningAndSpawns = true ∧
    Ring.newAllocatesSizeSlots = true ∧ Ring.initializeUsesBufferSize = true := by decide

/-- "…and the caller told": every call of `Processor.Push` in the library (server session format /
media, client format / media, multicast writer media / format) is immediately followed by
`if !ok { return liberrors.Err…WriteQueueFull{} }`; and a size-0 ring is never created by the
library: `WriteQueueSize` 0 is replaced by the default and anything else must be a power of two. -/
theorem user_facts :
    Ring.ssfmtRefusalsReported = Ring.ssfmtPushCalls ∧ Ring.ssmedRefusalsReported = Ring.ssmedPushCalls ∧
    Ring.clfmtRefusalsReported = Ring.clfmtPushCalls ∧ Ring.clmedRefusalsReported = Ring.clmedPushCalls ∧
    Ring.mcmedRefusalsReported = Ring.mcmedPushCalls ∧ Ring.mcfmtRefusalsReported = Ring.mcfmtPushCalls ∧
    0 < Ring.ssfmtPushCalls + Ring.ssmedPushCalls + Ring.clfmtPushCalls + Ring.clmedPushCalls +
        Ring.mcmedPushCalls + Ring.mcfmtPushCalls ∧
    0 < Ring.serverDefaultQueueSize ∧ 0 < Ring.clientDefaultQueueSize ∧
    Rtsp.Ring.sizeRejected Ring.serverDefaultQueueSize = false ∧
    Rtsp.Ring.sizeRejected Ring.clientDefaultQueueSize = false ∧
    -- the capacity each owner gives its queue (createWriter): the configured WriteQueueSize for the
    -- application-facing shapes (client: recording or back channel set up; session: play; multicast
    -- writer), and this power of two for the RTCP-only shapes (the Go capacity probes expect 8)
    Ring.clientRtcpOnlyQueueSize = 8 ∧ Ring.sessionRtcpOnlyQueueSize = 8 ∧
    Rtsp.Ring.sizeRejected Ring.clientRtcpOnlyQueueSize = false ∧
    Ring.multicastWriterUsesQueueSize = true ∧ Ring.multicastWriterQueueSizeFromServer = true ∧
    -- the owners' OnError gives up when the Processor's own context is done (Close cancels it before joining)
    Ring.sessionOnErrorGivesUpOnProcessorCtx = true ∧ Ring.clientOnErrorGivesUpOnProcessorCtx = true := by decide

/-- test (bounded, by evaluation): the sizes `New` accepts up to 260 are 0 and the powers of two -/
example : (List.range 261).filter (fun n => !Rtsp.Ring.sizeRejected n) =
    [0, 1, 2, 4, 8, 16, 32, 64, 128, 256] := by decide

variable {α : Type}

/-- `RingInv` (the occupied slots are one cyclic interval ending just before `writeIndex` and,
while open, starting at `readIndex`; see `Rtsp.Ring.Inv`) holds after `New` and is preserved by every operation. -/
theorem ringInv_new {size : Nat} (h : 0 < size) : RingInv (Rtsp.Ring.new (α := α) size) :=
  Rtsp.Ring.ringInv_new h
theorem ringInv_step {r : Ring α} (hr : RingInv r) (op : Op α) : RingInv (Rtsp.Ring.step r op).1 :=
  (Rtsp.Ring.step_refines hr op).1

theorem push_refines {r : Ring α} (hr : RingInv r) (x : α) :
    Fifo.push (abs r) x = (abs (Rtsp.Ring.push r x).1, (Rtsp.Ring.push r x).2) :=
  (Rtsp.Ring.push_refines hr x).2
theorem pull_refines {r : Ring α} (hr : RingInv r) :
    Fifo.pull (abs r) = (abs (Rtsp.Ring.pullTry r).1, (Rtsp.Ring.pullTry r).2) :=
  (Rtsp.Ring.pull_refines hr).2
theorem close_refines {r : Ring α} (hr : RingInv r) : Fifo.close (abs r) = abs (Rtsp.Ring.close r) :=
  (Rtsp.Ring.close_refines hr).2
theorem reset_refines {r : Ring α} (hr : RingInv r) : Fifo.reset (abs r) = abs (Rtsp.Ring.reset r) :=
  (Rtsp.Ring.reset_refines hr).2

/-- every run of the ring from `New(size)`, over any operation sequence, returns exactly what the
bounded FIFO of capacity `size` returns and ends in the abstraction of the FIFO's final state -/
theorem run_refines {size : Nat} (h : 0 < size) (ops : List (Op α)) :
    Fifo.run (Fifo.new size) ops =
      (abs (Rtsp.Ring.run (Rtsp.Ring.new size) ops).1, (Rtsp.Ring.run (Rtsp.Ring.new size) ops).2) :=
  Rtsp.Ring.run_new_refines h ops

/-- **FIFO order / no loss / no duplication** while open -/
theorem fifo_order {size : Nat} (h : 0 < size) (ops : List (Op α)) (hops : noCloseReset ops) :
    accepted ops (Rtsp.Ring.run (Rtsp.Ring.new size) ops).2 =
      pulled (Rtsp.Ring.run (Rtsp.Ring.new size) ops).2 ++ absItems (Rtsp.Ring.run (Rtsp.Ring.new size) ops).1 :=
  Rtsp.Ring.fifo_order h ops hops

/-- the same from any reachable state (so: in every epoch between Close/Reset); `hc` is not used:
`Rtsp.Ring.fifo_order_from` is the statement without it -/
theorem fifo_order_from {r : Ring α} (hr : RingInv r) (hc : r.closed = false) (ops : List (Op α))
    (hops : noCloseReset ops) :
    absItems r ++ accepted ops (Rtsp.Ring.run r ops).2 =
      pulled (Rtsp.Ring.run r ops).2 ++ absItems (Rtsp.Ring.run r ops).1 :=
  Rtsp.Ring.fifo_order_from hr ops hops

/-- with Close/Reset anywhere, what is pulled is a subsequence of what was accepted -/
theorem pulled_sublist_accepted {size : Nat} (h : 0 < size) (ops : List (Op α)) :
    (pulled (Rtsp.Ring.run (Rtsp.Ring.new size) ops).2).Sublist
      (accepted ops (Rtsp.Ring.run (Rtsp.Ring.new size) ops).2) :=
  Rtsp.Ring.pulled_sublist_accepted h ops

/-- **loss only when signalled**: with Close / Reset anywhere, every accepted item is — exactly
once — pulled, or discarded by a Close / Reset, or still held -/
theorem accounting {size : Nat} (h : 0 < size) (ops : List (Op α)) :
    (accepted ops (Rtsp.Ring.run (Rtsp.Ring.new size) ops).2).Perm
      (pulled (Rtsp.Ring.run (Rtsp.Ring.new size) ops).2 ++
        (Fifo.discarded (Fifo.new size) ops ++ absItems (Rtsp.Ring.run (Rtsp.Ring.new size) ops).1)) :=
  Rtsp.Ring.accounting h ops

theorem executed_at_most_once {size : Nat} (h : 0 < size) (ops : List (Op α)) (hd : (pushes ops).Nodup) :
    (pulled (Rtsp.Ring.run (Rtsp.Ring.new size) ops).2).Nodup :=
  Rtsp.Ring.executed_at_most_once h ops hd

/-- **refused only when full**: `Push` returns false ⇔ the queue holds `size` items -/
theorem refused_iff_full {r : Ring α} (hr : RingInv r) (x : α) :
    (Rtsp.Ring.push r x).2 = false ↔ (abs r).items.length = r.size :=
  Rtsp.Ring.refused_iff_full hr x

theorem never_over_capacity {size : Nat} (h : 0 < size) (ops : List (Op α)) :
    (absItems (Rtsp.Ring.run (Rtsp.Ring.new size) ops).1).length ≤ size :=
  Rtsp.Ring.never_over_capacity h ops

/-- **nothing after close** (until a Reset), whatever is pushed in between -/
theorem nothing_after_close {r : Ring α} (hr : RingInv r) (ops1 ops2 : List (Op α)) (h2 : noReset ops2) :
    pulled (Rtsp.Ring.run r (ops1 ++ .close :: ops2)).2 = pulled (Rtsp.Ring.run r ops1).2 :=
  Rtsp.Ring.nothing_after_close hr ops1 ops2 h2

-- tests: the hypotheses used above are satisfiable by non-trivial values
example : noCloseReset [Op.push 1, .pull, .push 2, .push 3, .pull] := by simp [noCloseReset]
example : noReset [Op.push 1, .close, .push 2, .pull] := by simp [noReset]
example : (pushes [Op.push 1, .push 2, .pull, .close, .push 3]).Nodup := by decide
example : RingInv (Rtsp.Ring.run (Rtsp.Ring.new (α := Nat) 4) [.push 1, .push 2, .pull, .close, .push 3]).1 :=
  Rtsp.Ring.ringInv_run (by decide) _
-- test: a capacity-2 ring wraps, refuses the third item, returns items in order
example : (Rtsp.Ring.run (Rtsp.Ring.new (α := Nat) 2) [.push 1, .push 2, .push 3, .pull, .push 4, .pull, .pull, .pull]).2 =
    [.pushed true, .pushed true, .pushed false, .pulled (.item 1), .pushed true, .pulled (.item 2),
     .pulled (.item 4), .pulled .wait] := by decide
-- test guarding the defect repaired by /repo commit b595ca0: items pushed after Close are not pulled
example : (Rtsp.Ring.run (Rtsp.Ring.new (α := Nat) 2) [.push 1, .close, .push 2, .push 3, .push 4, .pull, .reset, .push 5, .pull]).2 =
    [.pushed true, .done, .pushed true, .pushed true, .pushed false, .pulled .closed, .done, .pushed true,
     .pulled (.item 5)] := by decide
-- test: what a Close discards
example : Fifo.discarded (Fifo.new (α := Nat) 4) [.push 1, .push 2, .pull, .push 3, .close, .push 4, .reset, .push 5] = [2, 3, 4] := by decide
-- test: the abstraction of a wrapped ring
example : absItems (Rtsp.Ring.run (Rtsp.Ring.new (α := Nat) 4) [.push 1, .push 2, .push 3, .pull, .pull, .push 4, .push 5, .push 6]).1 =
    [3, 4, 5, 6] := by decide

open Rtsp.RingConc (State Reachable Act Tid holding step? runActs BcastPending Visible Prog)

/-- **mutual exclusion** of the critical sections -/
theorem mutual_exclusion {size : Nat} {s : State α} (h : Reachable size s) (t1 t2 : Tid)
    (h1 : holding s t1 = true) (h2 : holding s t2 = true) : t1 = t2 :=
  Rtsp.RingConc.mutual_exclusion h t1 t2 h1 h2

/-- every access to ring state is made by the mutex owner; all other steps leave the ring alone -/
theorem ring_access_by_owner {size : Nat} {s s' : State α} (h : Reachable size s) {a : Act α}
    (hs : step? s a = some s') (ha : a.accessesRing = true) : s.owner = some a.tid :=
  Rtsp.RingConc.ring_access_by_owner h hs ha
theorem ring_unchanged {s s' : State α} {a : Act α} (hs : step? s a = some s')
    (ha : a.accessesRing = false) : s'.ring = s.ring := by
  cases Rtsp.RingConc.step?_elim hs <;> first | rfl | contradiction

/-- **conc_linearizable**: after any run, with any number of producers, the ring state and every
value returned to a thread are those of the sequential ring — and of the bounded FIFO — run on the
critical sections in execution order -/
theorem conc_linearizable {size : Nat} (hsize : 0 < size) {s : State α} (h : Reachable size s) :
    Rtsp.Ring.run (Rtsp.Ring.new size) (s.log.map (·.op)) = (s.ring, s.log.map (·.res)) ∧
    Fifo.run (Fifo.new size) (s.log.map (·.op)) = (abs s.ring, s.log.map (·.res)) ∧
    RingInv s.ring :=
  Rtsp.RingConc.conc_linearizable hsize h

/-- the critical sections are executed in the order in which their threads acquired the mutex -/
theorem acq_order {size : Nat} {s : State α} (h : Reachable size s) (ho : s.owner = none) :
    s.acq = s.log.map (fun e => (e.tid, e.op)) :=
  Rtsp.RingConc.acq_order h ho

/-- **every concurrent history is linearizable to the bounded FIFO**, in linearization-point form
(the instrumentation with call / lin / ret events is described at the head of
Proofs/Queue/RingConcLin.lean): the `lin` events of the history `h` of a run, in order, are a legal
sequential history of the bounded FIFO with the results the threads observed, and every thread's
part of `h` is well-formed, so each linearization point lies inside its own operation. -/
theorem conc_history_linearizable {size : Nat} (hsize : 0 < size) {s : State α}
    {h : List (Rtsp.RingConc.HEv α)} (hr : Rtsp.RingConc.IReach size s h) :
    Fifo.run (Fifo.new size) ((Rtsp.RingConc.lins h).map (·.op)) =
      (abs s.ring, (Rtsp.RingConc.lins h).map (·.res)) ∧
    ∀ t, Rtsp.RingConc.WF t h (Rtsp.RingConc.phase s t) :=
  Rtsp.RingConc.conc_history_linearizable hsize hr

theorem reachable_has_history {size : Nat} {s : State α} (hr : Reachable size s) :
    ∃ h, Rtsp.RingConc.IReach size s h :=
  Rtsp.RingConc.Reachable.history hr

/-- **no_lost_wakeup**: a consumer parked in `cond.Wait()` either has nothing to see (slot at
`readIndex` empty, ring open) or a `Broadcast` is still pending -/
theorem no_lost_wakeup {size : Nat} {s : State α} (h : Reachable size s) (hw : s.cons = .waiting) :
    (Rtsp.Ring.slot s.ring s.ring.readIndex = none ∧ s.ring.closed = false) ∨ BcastPending s :=
  Rtsp.RingConc.noLostWakeup_reachable h hw

/-- **progress**: from every reachable state with an item at the read position or `closed` set,
a finite schedule makes the consumer's `Pull` return (no deadlock, no lost wake-up) -/
theorem progress {size : Nat} {s : State α} (h : Reachable size s) (hv : Visible s.ring) : Prog s :=
  Rtsp.RingConc.progress h hv

theorem reachable_runActs {size : Nat} {s s' : State α} (h : Reachable size s) (acts : List (Act α))
    (hr : runActs s acts = some s') : Reachable size s' := by
  induction acts generalizing s with
  | nil => simp only [runActs] at hr; injection hr with hr; subst hr; exact h
  | cons a as ih =>
    simp only [runActs] at hr
    split at hr
    · rename_i s1 h1; exact ih (.step a h h1) hr
    · cases hr

-- non-vacuity: reachable states with a waiting consumer, with and without something to see
/-- schedule: the consumer finds the ring empty and parks -/
def exWait : List (Act Nat) := [.consLock, .consBody]
/-- … then producer 3 pushes 7 and has not broadcast yet -/
def exPending : List (Act Nat) := exWait ++ [.prodLock 3 7, .prodBody 3]
/-- … then it broadcasts, the consumer re-acquires, loops and returns 7 -/
def exDone : List (Act Nat) := exPending ++ [.prodBcast 3, .consReacq, .consUnlock, .consLock, .consBody]

example : (runActs (Rtsp.RingConc.init 2) exWait).map (·.cons) = some .waiting := rfl
example : (runActs (Rtsp.RingConc.init 2) exPending).map (fun s => (s.cons, Rtsp.Ring.slot s.ring s.ring.readIndex, s.owner)) =
    some (.waiting, some 7, none) := rfl
example : (runActs (Rtsp.RingConc.init 2) exDone).map (·.returns) = some [.item 7] := rfl
example : ∃ s : State Nat, Reachable 2 s ∧ s.cons = .waiting ∧ Visible s.ring :=
  ⟨_, reachable_runActs .init exPending rfl, rfl, .inl (by decide)⟩

open Rtsp.Async (Proc AOp held)

/-- **error reported exactly once** (once iff a failing callback ran; it is the last that ran) -/
theorem Async.error_once {size : Nat} {b : Bool} {p : Proc} (h : 0 < size) (hr : Rtsp.Async.Reachable size b p) :
    p.errors.length ≤ 1 ∧ p.errors = p.executed.filter (·.fails) ∧
      (∀ c, c ∈ p.errors → p.executed.getLast? = some c) :=
  Rtsp.Async.error_once h hr

/-- … **and the processor stops** -/
theorem Async.stops_after_error {size : Nat} {b : Bool} {p : Proc} (h : 0 < size)
    (hr : Rtsp.Async.Reachable size b p) (he : p.errors ≠ []) (ops : List AOp) :
    (Rtsp.Async.run p ops).executed = p.executed ∧ (Rtsp.Async.run p ops).errors = p.errors :=
  Rtsp.Async.stops_after_error h hr he ops

/-- **executed (and in execution) is a prefix of accepted**: acceptance order, at most once -/
theorem Async.prefix_executed {size : Nat} {b : Bool} {p : Proc} (h : 0 < size)
    (hr : Rtsp.Async.Reachable size b p) : (p.executed ++ held p) <+: p.accepted :=
  Rtsp.Async.prefix_executed h hr

/-- **exactly once unless Close intervened**: while the ring is open every accepted callback has
run, is running, or is still queued, in that order -/
theorem Async.exactly_once_while_open {size : Nat} {b : Bool} {p : Proc} (h : 0 < size)
    (hr : Rtsp.Async.Reachable size b p) (hopen : p.ring.closed = false) :
    p.accepted = p.executed ++ held p ++ absItems p.ring :=
  Rtsp.Async.exactly_once_while_open h hr hopen

open Rtsp.Async Rtsp.Ring in
/-- … and when neither Close nor an error intervenes and the consumer runs, everything accepted is
executed: from any reachable state in which the ring is open, the consumer is alive and no queued or
running callback fails, there is a schedule of consumer steps after which `executed = accepted` (and
no error was reported) -/
theorem Async.drain {size : Nat} {b : Bool} {p : Proc} (h : 0 < size) (hr : Rtsp.Async.Reachable size b p)
    (hopen : p.ring.closed = false) (halive : p.cons = .pulling ∨ ∃ c, p.cons = .holding c)
    (hok : ∀ c ∈ held p ++ absItems p.ring, c.fails = false) :
    ∃ cs : List AOp, (∀ o ∈ cs, o = .cpull ∨ o = .cexec) ∧
      (Rtsp.Async.run p cs).executed = p.accepted ∧ (Rtsp.Async.run p cs).errors = p.errors := by
  -- induction on what is still to run: the callback in the consumer's hands, then the queue
  generalize hxs : held p ++ absItems p.ring = xs at hok
  induction xs generalizing p with
  | nil =>
    have := exactly_once_while_open h hr hopen
    rw [List.append_assoc, hxs, List.append_nil] at this
    exact ⟨[], fun _ h => absurd h List.not_mem_nil, this.symm, rfl⟩
  | cons c xs ih =>
    have hc := hok c (List.mem_cons_self ..)
    -- after the steps `cs1` the first callback has run and the consumer is back in `Pull`
    have next : ∀ (cs1 : List AOp) (r : Ring Cb), (∀ o ∈ cs1, o = .cpull ∨ o = .cexec) →
        run p cs1 = { p with ring := r, cons := .pulling, executed := p.executed ++ [c] } →
        r.closed = false → absItems r = xs →
        ∃ cs : List AOp, (∀ o ∈ cs, o = .cpull ∨ o = .cexec) ∧
          (run p cs).executed = p.accepted ∧ (run p cs).errors = p.errors := by
      intro cs1 r hcs1 e hro hri
      have hr2 := hr.run cs1
      rw [e] at hr2
      obtain ⟨cs, hcs, hex, her⟩ := ih hr2 hro (.inl rfl) hri (fun x hx => hok x (List.mem_cons_of_mem _ hx))
      refine ⟨cs1 ++ cs, fun o ho => (List.mem_append.mp ho).elim (hcs1 o) (hcs o), ?_, ?_⟩ <;>
        rw [run_append, e] <;> assumption
    rcases halive with hp | ⟨c', hp⟩
    · simp only [held, hp, List.nil_append] at hxs
      obtain ⟨hp2, hp1⟩ := pull_head (hr.inv h).ring hopen hxs
      refine next [.cpull, .cexec] _ (by decide) ?_ ((pullTry_closed _).trans hopen) hp1
      show cexec (cpull p) = _
      rw [cpull_item hp hp2]; exact cexec_ok rfl hc
    · simp only [held, hp, List.singleton_append, List.cons.injEq] at hxs
      obtain ⟨rfl, hxs⟩ := hxs
      exact next [.cexec] _ (by decide) (cexec_ok hp hc) hopen hxs

/-- **nothing runs after Close has returned** -/
theorem Async.nothing_after_close {size : Nat} {b : Bool} {p : Proc} (h : 0 < size)
    (hr : Rtsp.Async.Reachable size b p) (hret : p.closer = .returned) (ops : List AOp) :
    (Rtsp.Async.run p ops).executed = p.executed :=
  Rtsp.Async.nothing_after_close h hr hret ops

/-- `Close` waits on `done` when running: it returns only if the consumer was never started or has exited -/
theorem Async.close_returned_joined {size : Nat} {b : Bool} {p : Proc} (h : 0 < size)
    (hr : Rtsp.Async.Reachable size b p) (hnot : p.closer ≠ .returned)
    (hret : (Rtsp.Async.closeStep p).closer = .returned) :
    p.cons = .notStarted ∨ p.cons = .exited :=
  Rtsp.Async.close_returned_joined h hr hnot hret

/-- `Close` can always return: after `buffer.Close()` some steps of the consumer alone make it exit -/
theorem Async.close_terminates {size : Nat} {b : Bool} {p : Proc} (h : 0 < size)
    (hr : Rtsp.Async.Reachable size b p) (hcl : p.closer = .ringClosed) :
    ∃ cs : List AOp, (∀ o ∈ cs, o = .cpull ∨ o = .cexec ∨ o = .cerr) ∧
      (Rtsp.Async.closeStep (Rtsp.Async.run p cs)).closer = .returned :=
  Rtsp.Async.close_terminates h hr hcl

/-- the deterministic schedule of the correspondence driver is made of model steps: every state
behind a line the compiled oracle prints (`async push / start / exec / closebegin / closeend`) is
reachable, so the theorems above apply to exactly the states that are compared with the real
Processor -/
theorem Async.oracle_states_reachable {size : Nat} {b : Bool} {p : Proc} (hr : Rtsp.Async.Reachable size b p) :
    (∀ c, Rtsp.Async.Reachable size b (Rtsp.Drv.Async.post (Rtsp.Async.push p c).1)) ∧
    Rtsp.Async.Reachable size b (Rtsp.Drv.Async.post (Rtsp.Async.start p)) ∧
    Rtsp.Async.Reachable size b (Rtsp.Drv.Async.post (Rtsp.Async.cexec p)) ∧
    Rtsp.Async.Reachable size b (Rtsp.Drv.Async.post (Rtsp.Async.closeStep (Rtsp.Async.closeStep p))) ∧
    Rtsp.Async.Reachable size b (Rtsp.Async.joinFuel 4 p) :=
  ⟨fun c => (hr.step (.push c)).post, (hr.step .start).post, (hr.step .cexec).post,
   ((hr.step .closeStep).step .closeStep).post, hr.joinFuel 4⟩

/-- three pushes (the second fails), Start, the consumer runs until the error, Close -/
def exErr : List AOp :=
  [.push ⟨1, false⟩, .push ⟨2, true⟩, .push ⟨3, false⟩, .start, .cpull, .cexec, .cpull, .cexec, .cerr, .cpull,
   .closeStep, .closeStep, .closeStep, .push ⟨4, false⟩, .cpull, .cexec]
example : Rtsp.Async.Reachable 4 false (Rtsp.Async.run (Rtsp.Async.init 4 false) exErr) := ⟨exErr, rfl⟩
example : ((Rtsp.Async.run (Rtsp.Async.init 4 false) exErr).executed.map (·.id),
           (Rtsp.Async.run (Rtsp.Async.init 4 false) exErr).errors.map (·.id),
           (Rtsp.Async.run (Rtsp.Async.init 4 false) exErr).accepted.map (·.id),
           (Rtsp.Async.run (Rtsp.Async.init 4 false) exErr).closer) = ([1, 2], [2], [1, 2, 3, 4], .returned) := by decide
/-- Close in progress while a callback is held, pushes racing with it (the schedule of the
defect repaired by /repo commit b595ca0: callbacks must not run out of order) -/
def exWindow : List AOp :=
  [.start, .push ⟨1, false⟩, .cpull, .push ⟨2, false⟩, .closeStep, .closeStep, .push ⟨3, false⟩, .push ⟨4, false⟩,
   .cexec, .cpull, .closeStep]
example : ((Rtsp.Async.run (Rtsp.Async.init 2 false) exWindow).executed.map (·.id),
           (Rtsp.Async.run (Rtsp.Async.init 2 false) exWindow).closer,
           (Rtsp.Async.run (Rtsp.Async.init 2 false) exWindow).cons) = ([1], .returned, .exited) := by decide
/-- the hypotheses `hopen`, `halive` of `Async.drain` hold in a reachable state -/
example : (Rtsp.Async.run (Rtsp.Async.init 2 false) [.start, .push ⟨1, false⟩, .cpull]).ring.closed = false
    ∧ (∃ c, (Rtsp.Async.run (Rtsp.Async.init 2 false) [.start, .push ⟨1, false⟩, .cpull]).cons = .holding c) :=
  ⟨by decide, ⟨⟨1, false⟩, by decide⟩⟩

end Rtsp.C16
