import Rtsp.Model.Session
import Rtsp.Model.SessionTimer
import Rtsp.Proofs.Sess.Timer
import Rtsp.Proofs.Sess.Step
import Rtsp.Proofs.Sess.Resp
import Rtsp.Proofs.Sess.Ends
import Rtsp.Proofs.Sess.Wf
import Rtsp.Proofs.Sess.A2
import Rtsp.Proofs.Sess.Reasons
import Rtsp.Proofs.Sess.Conv
import Rtsp.Proofs.Sess.Bystander
/-
C02 — server sessions follow the RTSP state machine; one response per request.

Property theorems about `Model/Session.lean` (control skeleton of server_conn.go / server_session.go /
server.go / server_conn_reader.go), `Model/SessionTimer.lean` (timer arithmetic) and the
specification `Spec/Rfc2326.lean`.  Statements quantify over every server state, request,
configuration, event history and timeout value; there is no bound on lengths.
-/
namespace Rtsp.Sess.C02
open Rtsp.Sess Rtsp.Rfc2326 Rtsp.Facts

/-- The per-method allowed-state sets, the Session-header rule, the TEARDOWN rule, the
"no connection left" rule, the CSeq echo, the two session-lookup rules, the "error closes the
connection" shape of both read loops, the read-loop switch and the interleaved-owner bookkeeping, and
the error-free 461 / 501 answers are still written in the code the way the model mirrors them;
the constants of the timer formulas have the values the arithmetic theorems use. -/
theorem facts_shape :
    Sess.allowedAnnounce = true ∧ Sess.allowedSetup = true ∧ Sess.allowedPlay = true ∧
    Sess.allowedRecord = true ∧ Sess.allowedPause = true ∧ Sess.checkStateCallSites = 5 ∧
    Sess.sessionHeaderRuleExpr = true ∧ Sess.teardownEndsExpr = true ∧ Sess.removeConnRuleExpr = true ∧
    Sess.cseqEchoExpr = true ∧ Sess.otherSessionExpr = true ∧ Sess.otherIPExpr = true ∧
    Sess.errorClosesConnCount = 2 ∧
    Sess.unexpectedFrameStd = true ∧ Sess.unexpectedResponseCount = 2 ∧ Sess.switchReadFuncExpr = true ∧
    Sess.tcpOwnerSetCount = 2 ∧ Sess.tcpOwnerClearCount = 2 ∧ Sess.tcpOwnerCheckExpr = true ∧
    Sess.teardownSwitchExpr = true ∧ Sess.unsupportedTransportNoErrorCount = 2 ∧
    Sess.notImplementedNoErrorCount = 1 ∧
    Sess.noDeadlineRuleExpr = true ∧ Sess.noDeadlineCount = 1 ∧ Sess.pauseRearmExpr = true ∧
    Sess.tcpLoopDeadlineCount = 4 ∧ Sess.playRefusedKeepsWriterExpr = true ∧
    Sess.udpCheckRecordExpr = true ∧ Sess.udpCheckPlayExpr = true ∧ Sess.udpCheckRearmExpr = true ∧
    Sess.lastPacketNanosCount = 4 ∧ Sess.startPacketNanosCount = 2 ∧ Sess.lastPacketSecondsLeft = 0 ∧
    Sess.advertisedSub = 5 ∧ Sess.advertisedMin = 1 ∧
    Sess.keepAliveSub = 5 * Timer.sec ∧ Sess.keepAliveMin = Timer.sec ∧
    Sess.statusOK = 200 ∧ Sess.statusBadRequest = 400 ∧ Sess.statusSessionNotFound = 454 ∧
    Sess.statusUnsupportedTransport = 461 ∧ Sess.statusNotImplemented = 501 ∧
    [Sess.stateInitial, Sess.statePrePlay, Sess.statePlay, Sess.statePreRecord, Sess.stateRecord] = [0, 1, 2, 3, 4] := by
  decide

/-- **session_ends_once** (structural half) — the invariant of every reachable server state:
connections and sessions point at each other consistently (`WFc`: distinct identifiers, a
connection's `session` names a live session that lists it, every listed connection is open and
points back), and **a live session that has no connection is streaming over UDP or multicast**
(`NoLeak`) — i.e. whenever the last connection of a session goes away the session is ended in the
same step unless it is streaming over UDP / multicast, where only the stream timeout (`expire`)
ends it.  All histories of connects, requests, client-side closes and expiries. -/
theorem invariant_all_histories (cfg : Config) (evs : List Event) :
    WFc (run cfg {} evs).1 ∧ NoLeak (run cfg {} evs).1 :=
  ⟨(wfc_kept cfg).run wfc_init evs, (noLeak_kept cfg).run noLeak_init evs⟩

/-- every reachable session record is well-shaped (`SessOk`: a publisher has announced ≥ 1 media and
set all of them up before recording, a reader has ≥ 1 media set up, …) -/
theorem session_shape (cfg : Config) (evs : List Event) : ∀ ss ∈ (run cfg {} evs).1.sessions, SessOk ss :=
  (AllOk.kept cfg).run allOk_init evs

/-- **one_response_per_request**, all histories (any number of connections, requests, client-side
closes, expiries): the output of `run` has one slot per event; the slot of a request that reached an
open connection holds exactly one response and that response carries the request's CSeq; every
other slot is empty.  Responses therefore come in request order (`responses_echo_cseq`). -/
theorem one_response_per_request (cfg : Config) (srv : Server) (evs : List Event) :
    (run cfg srv evs).2.length = evs.length ∧ AnswersAll cfg srv evs (run cfg srv evs).2 :=
  ⟨(runs cfg).length srv evs, run_answers cfg evs srv⟩

/-- the responses read off the wire, in order, carry the CSeqs of the delivered requests, in order -/
theorem responses_echo_cseq (cfg : Config) (srv : Server) (evs : List Event) :
    ((run cfg srv evs).2.filterMap id).map (·.cseq) = (delivered cfg srv evs).map (·.cseq) := by
  induction evs generalizing srv with
  | nil => rfl
  | cons e es ih =>
    have ha := stepEv_answers cfg srv e
    cases e with
    | req c r =>
      simp only [Answers] at ha
      by_cases hc : (findConn srv c).isSome = true
      · simp only [hc, if_true] at ha
        obtain ⟨res, h1, h2⟩ := ha
        simp [run, delivered, hc, h1, h2, ih]
      · simp only [hc, Bool.false_eq_true, if_false] at ha
        simp [run, delivered, hc, ha, ih]
    | _ => simp only [Answers] at ha; simp [run, delivered, ha, ih]

/-- a response that ends in an error closes the connection: the next request on that connection is
not delivered (the client sees the close instead of a response) -/
theorem no_response_after_error (cfg : Config) (srv : Server) (c : Nat) (cn : Conn) (r r' : Request)
    (hc : findConn srv c = some cn) (hid : cn.id = c) (h : (handleRequest cfg srv cn r).2.err = .fail) :
    (stepEv cfg (stepEv cfg srv (.req c r)).1 (.req c r')).2 = none := by
  have h1 : (stepEv cfg srv (.req c r)).1 = (handleRequest cfg srv cn r).1 := by simp [stepEv, hc]
  rw [h1]
  have := handleRequest_fail_closes cfg srv cn r h
  rw [hid] at this
  simp [stepEv, this]

/-- non-vacuity: SETUP, PLAY, a PLAY without Session header (501, no error), TEARDOWN with a wrong
id (400 + close), then a request on the closed connection: four responses in order, then none. -/
example :
    let evs : List Event := [.open 0 0,
      .req 0 { method := .setup, cseq := some 1, trs := some [{ proto := .udp }] },
      .req 0 { method := .play, cseq := some 2, sid := .id 0 },
      .req 0 { method := .play, cseq := some 3 },
      .req 0 { method := .teardown, cseq := some 4, sid := .wrong },
      .req 0 { method := .options, cseq := some 5 }]
    ((run {} {} evs).2.map fun o => o.map fun r => (r.status, r.cseq)) =
      [none, some (200, some 1), some (200, some 2), some (501, some 3), some (400, some 4), none] := by
  decide

/-- **one_response_per_request, one connection**: in every reachable server state with connection
`c` open, the requests `rs` written on `c` (any number, any content) are answered as a
`Conversation`: each is answered once, in order, with its own CSeq, as long as no response ends in an
error; an error response is the last one — the server closes the connection and the remaining
requests are never read. -/
theorem conversation (cfg : Config) (evs : List Event) (c : Nat) (cn : Conn) (rs : List Request)
    (hopen : findConn (run cfg {} evs).1 c = some cn) :
    Conversation rs (run cfg (run cfg {} evs).1 (rs.map (.req c))).2 :=
  Sess.conversation cfg c rs _ cn (invariant_all_histories cfg evs).1 hopen

/-- in a reachable state the connection is closed after a response **iff** the request ended in an
error (an error status written by the library itself, or an error returned by the handler) -/
theorem conn_closed_iff_error (cfg : Config) (evs : List Event) (cn : Conn)
    (hcn : cn ∈ (run cfg {} evs).1.conns) (r : Request) :
    findConn (handleRequest cfg (run cfg {} evs).1 cn r).1 cn.id = none ↔
      (handleRequest cfg (run cfg {} evs).1 cn r).2.err = .fail :=
  Sess.conn_closed_iff_error (invariant_all_histories cfg evs).1 cfg hcn r

/-- **refines_rfc**: a request answered 200 moves `ServerSession.state` exactly as the table says
(TEARDOWN leaves the record alone: the session ends, see `teardown_ends`); for every session, every
connection, every request, every configuration and every handler answer. -/
theorem refines_rfc (cfg : Config) (ss : Session) (c : Nat) (r : Request)
    (h : (sessInner cfg ss c r).2.status = 200) (hm : r.method ≠ .teardown) :
    (sessInner cfg ss c r).1.state = next ss.state r.method :=
  (sessInner_moves cfg ss c r h).state_eq hm

/-- a request that is not answered 200 leaves the whole session record unchanged -/
theorem error_unchanged (cfg : Config) (ss : Session) (c : Nat) (r : Request)
    (h : (sessInner cfg ss c r).2.status ≠ 200) : (sessInner cfg ss c r).1 = ss :=
  (sessInner_spec cfg ss c r).resolve_right (fun hn => h hn.1) |>.2

/-- … in particular what flows keeps flowing: a request refused by the application (or by the
library) is a no-op on the streaming resources of the session -/
theorem refused_keeps_flow (cfg : Config) (ss : Session) (c : Nat) (r : Request)
    (h : (sessInner cfg ss c r).2.status ≠ 200) : flows (sessInner cfg ss c r).1 = flows ss := by
  rw [error_unchanged cfg ss c r h]

/-- both together, in the vocabulary of the specification -/
theorem state_is_rfc_step (cfg : Config) (ss : Session) (c : Nat) (r : Request) (hm : r.method ≠ .teardown) :
    (sessInner cfg ss c r).1.state =
      Rfc2326.step ss.state r.method ((sessInner cfg ss c r).2.status == 200) := by
  unfold Rfc2326.step
  by_cases h : (sessInner cfg ss c r).2.status = 200
  · simp [h, refines_rfc cfg ss c r h hm]
  · simp [h, error_unchanged cfg ss c r h]

/-- the state guard of the code: outside `implAllowed` the answer is 400 + error, session untouched -/
theorem state_guard (cfg : Config) (ss : Session) (c : Nat) (r : Request)
    (h : implAllowed ss.state r.method = false) : sessInner cfg ss c r = bad ss := by
  unfold sessInner
  split
  · rfl
  -- every handler begins with the test `implAllowed` tabulates
  cases hm : r.method <;> rw [hm] at h <;> first | cases h | dsimp only
  all_goals exact if_pos (by simpa [implAllowed] using h)

/-- **illegal_is_error_and_unchanged**: a request the table does not allow in the current state is
answered 400 with an error (which also closes the connection) and nothing about the session changes. -/
theorem illegal_is_error_and_unchanged (cfg : Config) (ss : Session) (c : Nat) (r : Request)
    (h : allowed ss.state r.method = false) :
    (sessInner cfg ss c r).2.status = 400 ∧ (sessInner cfg ss c r).2.err = .fail ∧
      (sessInner cfg ss c r).1 = ss := by
  rw [state_guard cfg ss c r (implAllowed_sub_rfc h)]
  exact ⟨rfl, rfl, rfl⟩

example : allowed .record .play = false ∧ allowed .initial .pause = false ∧ allowed .prePlay .announce = false := by
  decide

/-- Against the literal A.2 table (which does not list PAUSE for Ready) the only deviation is PAUSE
in a ready state: it may be answered 200 — and the state does not move. -/
theorem illegal_strict (cfg : Config) (ss : Session) (c : Nat) (r : Request)
    (h : allowedStrict ss.state r.method = false) :
    ((sessInner cfg ss c r).2.status = 400 ∧ (sessInner cfg ss c r).1 = ss) ∨
    (r.method = .pause ∧ (ss.state = .prePlay ∨ ss.state = .preRecord) ∧
      (sessInner cfg ss c r).1.state = ss.state) := by
  by_cases hp : pauseInReady ss.state r.method = true
  · right
    obtain ⟨hm, hst⟩ : r.method = .pause ∧ (ss.state = .prePlay ∨ ss.state = .preRecord) := by
      unfold pauseInReady at hp
      split at hp
      next h1 h2 => exact ⟨h2, .inl h1⟩
      next h1 h2 => exact ⟨h2, .inr h1⟩
      · cases hp
    refine ⟨hm, hst, ?_⟩
    rw [state_is_rfc_step cfg ss c r (by rw [hm]; nofun), hm, Rfc2326.step]
    rcases hst with h1 | h1 <;> rw [h1] <;> split <;> rfl
  · left
    have : allowed ss.state r.method = false := by rw [allowed, h, Bool.false_or]; simpa using hp
    obtain ⟨h1, _, h3⟩ := illegal_is_error_and_unchanged cfg ss c r this
    exact ⟨h1, h3⟩

/-- the deviation is real: PAUSE in pre-play is answered 200 -/
theorem pause_in_ready_accepted :
    (sessInner {} { id := 0, authorIp := 0, conns := [0], state := .prePlay, transport := some .udp, medias := [0] }
      0 { method := .pause }).2.status = 200 := by decide

/-- The code is stricter than the table in exactly three places (400 where A.2 has an entry):
SETUP while playing / recording, RECORD while recording. -/
theorem stricter_than_rfc_exactly (s : SState) (m : Method) :
    (allowed s m = true ∧ implAllowed s m = false) ↔
      (s, m) = (.play, .setup) ∨ (s, m) = (.record, .setup) ∨ (s, m) = (.record, .record) := by
  cases s <;> cases m <;> decide

/-- non-vacuity of `refines_rfc`: a request that passes the state guard and is well-formed
(`WellFormed`: free interleaved connection, matching path, supported and consistent transport,
existing and not yet set up media, all announced medias set up, handler answers 200) is answered 200. -/
theorem legal_wellformed_ok (cfg : Config) (ss : Session) (c : Nat) (r : Request)
    (hl : implAllowed ss.state r.method = true) (hw : WellFormed cfg ss c r) :
    (sessInner cfg ss c r).2.status = 200 := by
  obtain ⟨hc, hw⟩ := hw
  have hc' : (ss.tcpConn.isSome && ss.tcpConn != some c) = false := by
    rcases hc with h | h <;> simp [h]
  unfold sessInner
  rw [if_neg (by rw [hc']; decide)]
  cases hm : r.method <;> simp only [hm, implAllowed] at hl hw ⊢
  case options | teardown => rfl
  case announce =>
    obtain ⟨h1, h2, h3, h4⟩ := hw
    have h3 : r.nAnn ≠ 0 := by omega
    have hs : ss.state = .initial := by simpa using hl
    simp [doAnnounce, hs, h1, h2, h3, h4]
  case setup =>
    obtain ⟨ts, t, i, h1, h2, h3, h4, h5, h6, h7, h8⟩ := hw
    have hf : mediaFound cfg ss r i = true := by
      unfold mediaFound
      split at h7 <;> simp_all
    have hb : (ss.state == .initial && t.proto == .udp && r.portBusy) = false := by
      cases hb : (ss.state == .initial && t.proto == .udp && r.portBusy)
      · rfl
      · simp only [Bool.and_eq_true, beq_iff_eq] at hb
        exact absurd ⟨hb.1.1, hb.1.2, hb.2⟩ h8
    simp [doSetup, hl, h1, h2, h3, h4, setupMedia, h5, hf, h6, hb]
  case play =>
    obtain ⟨h1, h2⟩ := hw
    have h1 : (ss.state == .prePlay && r.path != ss.path) = false := by
      cases hs : ss.state == .prePlay
      · rfl
      · simp [h1 (by simpa using hs)]
    unfold doPlay
    rw [if_neg (by simp [hl]), if_neg (by simp [h1]), if_neg (by simp [h2])]
    split
    · rfl
    · split <;> rfl
  case record =>
    obtain ⟨h1, h2, h3⟩ := hw
    unfold doRecord
    rw [if_neg (by simpa using hl), if_neg (by simp [h1]), if_neg (by simp [h2]), if_neg (by simp [h3])]
    split <;> rfl
  case pause =>
    unfold doPause
    rw [if_neg (by simpa using hl), if_neg (by simp [hw])]
    split
    · split <;> rfl
    · split <;> rfl
    · rfl
  case getParameter =>
    unfold doGetParameter
    split
    · exact hw ‹_›
    · rfl
  case setParameter =>
    unfold doSetParameter
    rw [if_pos hw.1]
    exact hw.2

example : WellFormed {} { id := 0, authorIp := 0, conns := [0], state := .prePlay, transport := some .udp, medias := [0] }
    0 { method := .play, sid := .id 0 } := by
  simp [WellFormed]

/-- **refines_rfc2326_A2**: mapped to Init / Ready / Playing / Recording (`Rfc2326.abs`), a request
answered 200 moves a well-shaped session exactly along the server state table of RFC 2326 appendix
A.2; methods outside that table leave the A.2 state alone; the one pair outside the table that can be
answered 200 — PAUSE outside Playing / Recording — leaves it alone too. -/
theorem refines_rfc2326_A2 (cfg : Config) (ss : Session) (c : Nat) (r : Request) (hok : SessOk ss)
    (h : (sessInner cfg ss c r).2.status = 200) :
    let a := Rfc2326.abs ss.state ss.medias.length
    let a' := Rfc2326.abs (sessInner cfg ss c r).1.state (sessInner cfg ss c r).1.medias.length
    (r.method = .setup ∨ r.method = .play ∨ r.method = .record → a2next a r.method = some a') ∧
    (r.method = .pause → a2next a .pause = some a' ∨ (a2next a .pause = none ∧ a' = a)) ∧
    (r.method.neutral = true ∨ r.method = .announce → a' = a) :=
  (sessInner_moves cfg ss c r h).a2 hok

example : SessOk { id := 0, authorIp := 0, conns := [0], state := .prePlay, transport := some .udp, medias := [0] } := by
  constructor <;> simp

/-- a successful TEARDOWN ends the session; TEARDOWN succeeds unless another connection owns the
session's interleaved stream -/
theorem teardown_ends (cfg : Config) (ss : Session) (c : Nat) (r : Request) (hm : r.method = .teardown)
    (hc : ss.tcpConn = none ∨ ss.tcpConn = some c) :
    (sessHandle cfg ss c r).ended = true ∧ (sessHandle cfg ss c r).res.status = 200 ∧
      (sessHandle cfg ss c r).res.sessHdr = none := by
  have hp : sessInner cfg { ss with conns := addConn ss.conns c } c r =
      doTeardown { ss with conns := addConn ss.conns c } := by
    unfold sessInner
    rw [if_neg (by rcases hc with h | h <;> simp [h]), hm]
  have he : (doTeardown { ss with conns := addConn ss.conns c }).2.err ≠ .fail := by
    unfold doTeardown; dsimp only; split <;> nofun
  rcases sessHandle_cases cfg ss c r with ⟨_, hf, _⟩ | ⟨hend, _, _, hr, _⟩
  · exact absurd (hp ▸ hf hm) he
  · rw [hr, hp]; exact ⟨hend, rfl, rfl⟩

/-- **bystanders_untouched**: in every reachable state, a request leaves every session alone that is
neither the one its connection is associated with nor the one named by its Session header: that
session's record — state, transport, medias, connections — is still in the server, unchanged. -/
theorem bystanders_untouched (cfg : Config) (evs : List Event) (cn : Conn) (r : Request) (x : Session)
    (hcn : cn ∈ (run cfg {} evs).1.conns) (hx : x ∈ (run cfg {} evs).1.sessions)
    (h1 : cn.sess ≠ some x.id) (h2 : r.sid ≠ .id x.id) :
    x ∈ (handleRequest cfg (run cfg {} evs).1 cn r).1.sessions :=
  handleRequest_bystander cfg (invariant_all_histories cfg evs).1 hcn r hx h1 h2

/-- A request whose Session header names no live session is refused — 454 on a connection that owns
no session, 400 on one that does, 501 where the application lacks the method's handler — for every
method that is handled in a session, except SETUP and ANNOUNCE on a connection without session (next
theorem).  DESCRIBE never looks at the header.  A request without CSeq or with a misplaced `*` is
answered 400 before the header is looked at, so `hcs` and `hstar` are not needed (`connInner_unknown_sid`). -/
theorem unknown_session_id_refused (cfg : Config) (srv : Server) (cn : Conn) (r : Request)
    (hsid : lookupSid srv r.sid = none) (hn : r.sid ≠ .none)
    (hm : r.method ≠ .describe) (hcs : r.cseq.isSome = true) (hstar : r.star = false)
    (hcreate : cn.sess = none → r.method ≠ .setup ∧ r.method ≠ .announce)
    (hlinked : ∀ cur, cn.sess = some cur → r.sid ≠ .id cur) :
    400 ≤ (connInner cfg srv cn r).2.status :=
  connInner_unknown_sid cfg srv cn r hsid hn hm hcreate hlinked

/-- The exception, deliberate in the library (retries after a 301 redirect carry the identifier of
another server) and not demanded otherwise by the property: SETUP with an unknown
Session identifier on a connection that owns no session opens a new session and is answered 200 with
the new identifier. -/
theorem unknown_session_id_creates_session :
    let srv := (run {} {} [.open 0 0]).1
    let out := stepEv {} srv (.req 0 { method := .setup, sid := .wrong, trs := some [{ proto := .udp }] })
    (out.2.map fun r => (r.status, r.sessHdr)) = some (200, some 0) ∧ sessIds out.1 = [0] := by
  decide

/-- **session_ends_once** (bookkeeping half): in every history from the empty server, every session
identifier handed out so far has exactly one `OnSessionOpen`; it has exactly one `OnSessionClose`
if the session is gone and none while it is alive; no other identifier appears in the log. -/
theorem session_ends_once (cfg : Config) (evs : List Event) (id : Nat) :
    let srv := (run cfg {} evs).1
    openCount srv id = (if id < srv.nextSid then 1 else 0) ∧
    closeCount srv id = (if id < srv.nextSid ∧ id ∉ sessIds srv then 1 else 0) ∧
    closeCount srv id ≤ 1 ∧ closeCount srv id ≤ openCount srv id := by
  have h := (LogInv.kept cfg).run logInv_init evs
  intro srv
  have ho := h.opens id
  have hc := h.closes id
  refine ⟨ho, hc, ?_, ?_⟩
  · rw [hc]; split <;> omega
  · rw [hc, ho]; split <;> split <;> simp_all

/-- `invariant_all_histories`, spelled out for one session -/
theorem alive_has_conn_or_udp_streaming (cfg : Config) (evs : List Event) (ss : Session)
    (h : ss ∈ (run cfg {} evs).1.sessions) :
    (∃ cn ∈ (run cfg {} evs).1.conns, cn.sess = some ss.id ∧ cn.id ∈ ss.conns) ∨
    ((ss.state = .play ∨ ss.state = .record) ∧ ss.transport ≠ some .tcp) := by
  obtain ⟨hw, hn⟩ := invariant_all_histories cfg evs
  cases hc : ss.conns with
  | nil => exact .inr ((hn ss h hc).imp_left (isStreaming_iff _).mp)
  | cons c cs =>
    left
    obtain ⟨cn, hcn, hid, hl⟩ := hw.link2 ss h c (by rw [hc]; exact List.mem_cons_self)
    exact ⟨cn, hcn, hl, by rw [hid]; exact List.mem_cons_self⟩

/-- `endsWhenUnused` spelled out: the "no connection left" rule, applied when a connection goes away — one of
the three ways a session ends in the model, beside a successful TEARDOWN (`teardown_ends`) and the stream
timeout (`ends_only_for_a_reason` lists them) -/
theorem unused_rule (ss : Session) :
    endsWhenUnused ss = true ↔
      ss.conns = [] ∧ ¬ ((ss.state = .play ∨ ss.state = .record) ∧ ss.transport ≠ some .tcp) := by
  rw [endsWhenUnused_iff, isStreaming_iff, not_and, Decidable.not_not]

/-- **session_ends_once** (the "only" half): in any step from any state, a session that was alive
before and is gone after ended for one of the listed reasons — its stream timeout fired (`expire`,
or the composite `silence`, in which read deadlines and stream timeouts run out); a TEARDOWN
was answered 200 (without error); the client closed a connection (or made the server close it by
sending something that is not a request), or the server closed one after an error response, and that
connection was the session's only one at that moment (and the session was
not streaming over UDP / multicast: `endsWhenUnused`, see `unused_rule`). -/
theorem ends_only_for_a_reason (cfg : Config) (srv : Server) (e : Event) (id : Nat)
    (hid : id ∈ sessIds srv) (hgone : id ∉ sessIds (stepEv cfg srv e).1) :
    e = .expire id ∨ e = .silence ∨
    (∃ c r res, e = .req c r ∧ (stepEv cfg srv e).2 = some res ∧ r.method = .teardown ∧
        res.status = 200 ∧ res.err ≠ .fail) ∨
    (∃ c cn ss, (e = .close c ∨ e = .frame c ∨ e = .response c) ∧ findConn srv c = some cn ∧ cn.sess = some id ∧
        findSession srv id = some ss ∧
        (∀ x ∈ ss.conns, x = c) ∧ endsWhenUnused { ss with conns := ss.conns.erase c } = true) ∨
    (∃ c r res cn srv1 ss1, e = .req c r ∧ (stepEv cfg srv e).2 = some res ∧ res.err = .fail ∧
        findConn srv c = some cn ∧ srv1 = (connInner cfg srv cn r).1 ∧ findSession srv1 id = some ss1 ∧
        (∀ x ∈ ss1.conns, x = cn.id) ∧ endsWhenUnused { ss1 with conns := ss1.conns.erase cn.id } = true) := by
  have hclose := fun c hg => (closeConn_ids (c := c) hid).resolve_left hg
  have hnon : ∀ c b, id ∉ sessIds (nonRequest srv c b) → _ := fun c b hg => hclose c <| by
    unfold nonRequest at hg
    split at hg
    · exact absurd hid hg
    · split at hg
      · exact absurd hid hg
      · exact hg
  cases e with
  | «open» c ip =>
    exfalso; apply hgone
    simp only [stepEv]; split; exact hid; exact hid
  | silence => right; left; rfl
  | expire sid =>
    left
    by_cases he : id = sid
    · rw [he]
    · exact absurd (mem_sessIds_endSession.mpr ⟨hid, he⟩) hgone
  | close c =>
    obtain ⟨cn, ss, h⟩ := hclose c hgone
    exact .inr (.inr (.inr (.inl ⟨c, cn, ss, .inl rfl, h⟩)))
  | frame c =>
    obtain ⟨cn, ss, h⟩ := hnon c true hgone
    exact .inr (.inr (.inr (.inl ⟨c, cn, ss, .inr (.inl rfl), h⟩)))
  | response c =>
    obtain ⟨cn, ss, h⟩ := hnon c false hgone
    exact .inr (.inr (.inr (.inl ⟨c, cn, ss, .inr (.inr rfl), h⟩)))
  | req c r =>
    simp only [stepEv] at hgone ⊢
    cases hf : findConn srv c with
    | none => rw [hf] at hgone; exact absurd hid hgone
    | some cn =>
      rw [hf] at hgone
      simp only at hgone ⊢
      rw [handleRequest_eq] at hgone ⊢
      have hids := connInner_ids cfg cn r hid
      by_cases hfail : ((connInner cfg srv cn r).2.err == Err.fail) = true
      · rw [if_pos hfail] at hgone ⊢
        rcases hids with h | ⟨_, _, he⟩
        · right; right; right; right
          rcases closeConn_ids (srv := arm srv _ cn.id) (c := cn.id) h with h' | ⟨cn1, ss1, _, _, h3, h4, h5⟩
          · exact absurd h' hgone
          · exact ⟨c, r, _, cn, _, ss1, rfl, rfl, by simpa using hfail, hf, rfl, h3, h4, h5⟩
        · exact absurd (by simpa using hfail) he
      · rw [if_neg hfail] at hgone ⊢
        rcases hids with h | ⟨hm, hs, he⟩
        · exact absurd (show id ∈ sessIds (arm srv (setMode _ cn.id _) cn.id) by simpa [sessIds] using h) hgone
        · right; right; left
          exact ⟨c, r, _, rfl, rfl, hm, hs, he⟩

/-- non-vacuity: a reader over UDP in pre-play whose only connection is closed ends; once it plays
it survives the same close (and only `expire` or a TEARDOWN from a new connection ends it). -/
example :
    let pre : List Event := [.open 0 0, .req 0 { method := .setup, trs := some [{ proto := .udp }] }]
    sessIds (run {} {} (pre ++ [.close 0])).1 = [] ∧
    sessIds (run {} {} (pre ++ [.req 0 { method := .play, sid := .id 0 }, .close 0])).1 = [0] ∧
    sessIds (run {} {} (pre ++ [.req 0 { method := .play, sid := .id 0 }, .close 0, .expire 0])).1 = [] := by
  decide

/-- **keepalive_margin**: the keep-alive period a
gortsplib client derives from the Session header of a gortsplib server, plus one second, is at most
the server's IdleTimeout — for every IdleTimeout ≥ 2 s (any value in nanoseconds). -/
theorem keepalive_margin (idle : Nat) (h : 2 * Timer.sec ≤ idle) :
    Timer.clientPeriod idle + Timer.sec ≤ idle := Timer.keepalive_margin idle h

example : 2 * Timer.sec ≤ Sess.defaultIdleTimeout := by decide

/-- … and 2 s is the exact threshold. -/
theorem keepalive_margin_tight :
    ¬ (Timer.clientPeriod (2 * Timer.sec - 1) + Timer.sec ≤ 2 * Timer.sec - 1) := by decide

/-- **live_never_expired** (UDP / multicast stream check): a peer that at every check has sent a
keep-alive request less than IdleTimeout ago (PLAY), or a packet less than the timeout ago (PLAY and
RECORD), is never timed out; all interleavings, all timeouts, all start times. -/
theorem live_never_expired (cfg : Timer.Cfg) (recording : Bool) (hr : 0 < cfg.read) (hi : 0 < cfg.idle)
    (t0 : Nat) (es : List Timer.Ev) (h : Timer.PeerLive cfg recording t0 t0 es) :
    (Timer.run cfg recording (Timer.start t0) es).expired = false :=
  Timer.live_never_expired cfg recording hr hi t0 es h

example : Timer.PeerLive { idle := 3 * Timer.sec, read := 2 * Timer.sec } false 0 0
    [.tick Timer.sec, .request Timer.sec, .tick (2 * Timer.sec)] := by simp [Timer.PeerLive, Timer.sec]

/-- A session that is resumed (PLAY / RECORD again) after a pause longer than the timeout starts its
timeout anew at the resume (`restart`): a publisher whose first packet comes 1.5 s after the resume is
live with ReadTimeout 2 s, although its previous packet is 9 s old. -/
theorem resumed_after_long_pause_is_live :
    Timer.PeerLive { idle := 6 * Timer.sec, read := 2 * Timer.sec } true 0 0
      [.packet (3 * Timer.sec), .restart (21 * (Timer.sec / 2)), .tick (11 * Timer.sec), .tick (23 * (Timer.sec / 2)),
       .tick (12 * Timer.sec), .packet (12 * Timer.sec), .tick (25 * (Timer.sec / 2))] :=
  Timer.resumed_after_long_pause_is_live

/-- With packet times kept in nanoseconds (fix a905e5a) a publisher with ReadTimeout = 1 s that
sends a packet every 100 ms is live; the same timeline was timed out while the code kept the times
in whole seconds (packet at 1.9 s stored as 1 s, check at 2.0 s). -/
theorem record_1s_live :
    (Timer.run { idle := 60 * Timer.sec, read := Timer.sec } true (Timer.start 0)
      [.packet (Timer.sec / 2), .tick Timer.sec, .packet (Timer.sec + 9 * (Timer.sec / 10)),
       .tick (2 * Timer.sec)]).expired = false := by decide

/-- **silent_closed_within**: after the peer's last transmission (state `s`), with checks at most
`period` apart, some check no later than `deadline + period` finds the session timed out, where
`deadline = last transmission + timeout` (`deadline_eq`). -/
theorem silent_closed_within (cfg : Timer.Cfg) (recording : Bool) (period : Nat) (s : Timer.State)
    (clock : Nat) (es : List Timer.Ev) (hne : es ≠ []) (hsp : Timer.Spaced period clock es)
    (hreach : Timer.deadline cfg recording s ≤ Timer.lastTime clock es)
    (hclock : clock ≤ Timer.deadline cfg recording s) :
    ∃ t, Timer.expiryTime cfg recording s es = some t ∧ t ≤ Timer.deadline cfg recording s + period :=
  Timer.silent_closed_within cfg recording period s clock es hne hsp hreach hclock

theorem deadline_eq (cfg : Timer.Cfg) (recording : Bool) (r p : Nat) :
    Timer.deadline cfg recording { lastReq := r, lastPkt := p } =
      (if recording then p + cfg.read else max r p + cfg.idle) := by
  unfold Timer.deadline
  cases recording <;> simp

example : Timer.Spaced Timer.sec 0 [.tick Timer.sec, .tick (2 * Timer.sec), .tick (3 * Timer.sec)] := by
  simp [Timer.Spaced, Timer.sec]

end Rtsp.Sess.C02
