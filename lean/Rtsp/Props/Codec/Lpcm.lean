import Rtsp.Model.Codec.Lpcm
import Rtsp.Proofs.Codec.Common
/-
Property theorems for pkg/format/rtplpcm (LPCM, also used for G711), about the model in
`Model/Codec/Lpcm.lean`.  A frame is a block of samples that the encoder cuts into packets of whole
samples; every packet is self-contained and the decoder is stateless.
The theorems `c03_*`, `c06_*`, `c08_*` are this format's part of properties C03, C06, C08 (C03 in the
grouping form: every packet returns its piece, the pieces concatenate to the block); C07 does not
apply (no inter-packet state: `c08_stateless`).
-/
namespace Rtsp.Codec.Lpcm
open Rtsp.Rtp

/-- a usable encoder: at least one whole sample fits the payload limit (`sampleSize = 0` or a
limit below one sample make Go divide by zero) -/
structure ValidEnc (e : Enc) : Prop where
  ss_pos : 0 < e.sampleSize
  mp_pos : 0 < e.maxPayload
  mp_le  : e.maxPayload ≤ e.cfg.max
  mp_mul : e.maxPayload % e.sampleSize = 0

/-- `Init` yields a usable encoder whenever one sample fits the limit -/
theorem init_valid (cfg : EncCfg) (bd cc : Nat) (sq : UInt16) (h1 : 0 < bd * cc / 8)
    (h2 : bd * cc / 8 ≤ cfg.max) : ValidEnc (Enc.init cfg bd cc sq) := by
  refine ⟨h1, ?_, ?_, ?_⟩
  · show 0 < cfg.max / (bd * cc / 8) * (bd * cc / 8)
    exact Nat.mul_pos (Nat.div_pos h2 h1) h1
  · exact Nat.div_mul_le_self _ _
  · show cfg.max / (bd * cc / 8) * (bd * cc / 8) % (bd * cc / 8) = 0
    exact Nat.mul_mod_left _ _

/-- "Samples must contain at least 1 byte." -/
def ValidFrame (f : Bytes) : Prop := 0 < f.length
instance (f : Bytes) : Decidable (ValidFrame f) := by unfold ValidFrame; infer_instance

theorem packetCount_eq (mp le : Nat) : packetCount mp le = ceilDiv le mp := rfl

theorem emit_length (c : EncCfg) (ss n : Nat) (sq : UInt16) (ts : UInt32) (ps : Nat) (rest : Bytes) :
    (emit c ss n sq ts ps rest).length = n := by
  induction n generalizing sq ts ps rest with
  | zero => rfl
  | succ n ih => simp [emit, ih]

theorem emit_seq (c : EncCfg) (ss n : Nat) (sq : UInt16) (ts : UInt32) (ps : Nat) (rest : Bytes) :
    (emit c ss n sq ts ps rest).map (·.seq) = seqFrom sq n := by
  induction n generalizing sq ts ps rest with
  | zero => rfl
  | succ n ih => simp [emit, seqFrom, ih]

theorem emit_hdr {c : EncCfg} {ss n : Nat} {sq : UInt16} {ts : UInt32} {ps : Nat} {rest : Bytes} :
    ∀ p ∈ emit c ss n sq ts ps rest, p.pt = c.pt ∧ p.ssrc = c.ssrc ∧ p.marker = false := by
  induction n generalizing sq ts ps rest with
  | zero => simp [emit]
  | succ n ih =>
    intro p hp
    simp only [emit, List.mem_cons] at hp
    rcases hp with hp | hp
    · subst hp; simp
    · exact ih p hp

theorem emit_payload_le {c : EncCfg} {ss n : Nat} {sq : UInt16} {ts : UInt32} {ps : Nat} {rest : Bytes} :
    ∀ p ∈ emit c ss n sq ts ps rest, p.payload.length ≤ ps := by
  induction n generalizing sq ts ps rest with
  | zero => simp [emit]
  | succ n ih =>
    intro p hp
    simp only [emit, List.mem_cons] at hp
    rcases hp with hp | hp
    · subst hp; simp only [List.length_take]; split <;> omega
    · have := ih p hp
      split at this <;> omega

theorem emit_flatten (c : EncCfg) (ss n : Nat) (sq : UInt16) (ts : UInt32) (ps : Nat) (rest : Bytes)
    (h : rest.length ≤ n * ps) : ((emit c ss n sq ts ps rest).map (·.payload)).flatten = rest := by
  induction n generalizing sq ts ps rest with
  | zero => simp at h; simp [emit, h]
  | succ n ih =>
    simp only [emit, List.map_cons, List.flatten_cons]
    rw [ih]
    · exact List.take_append_drop _ _
    · simp only [List.length_drop]
      rw [Nat.add_mul] at h
      split
      · rename_i hlt; simp
      · omega

theorem emit_sizes {c : EncCfg} {ss n : Nat} {sq : UInt16} {ts : UInt32} {ps : Nat} {rest : Bytes}
    (hlo : n * ps < rest.length) (hhi : rest.length ≤ (n + 1) * ps) :
    (emit c ss (n + 1) sq ts ps rest).map (·.payload.length) = List.replicate n ps ++ [rest.length - n * ps] := by
  induction n generalizing sq ts rest with
  | zero =>
    simp only [Nat.zero_mul, Nat.zero_add, Nat.one_mul] at hlo hhi
    simp only [emit, List.map_cons, List.map_nil, List.replicate_zero, List.nil_append, List.length_take]
    split <;> simp <;> omega
  | succ n ih =>
    have hmul : (n + 1) * ps = n * ps + ps := by rw [Nat.add_mul]; omega
    have hmul2 : (n + 1 + 1) * ps = n * ps + ps + ps := by rw [Nat.add_mul]; omega
    have hlen : ps < rest.length := by
      have : 0 ≤ n * ps := Nat.zero_le _
      omega
    have hnot : ¬ ps > rest.length := by omega
    rw [emit]
    simp only [hnot, ↓reduceIte, List.map_cons, List.length_take]
    rw [ih]
    · simp only [List.replicate_succ, List.cons_append, List.length_drop]
      congr 1
      · omega
      · congr 2; omega
    · simp only [List.length_drop]; omega
    · simp only [List.length_drop]; omega

/-- timestamps advance by the number of samples of the preceding (full) packets -/
def tsFrom (t step : UInt32) : Nat → List UInt32
  | 0 => []
  | n + 1 => t :: tsFrom (t + step) step n

theorem emit_ts {c : EncCfg} {ss n : Nat} {sq : UInt16} {ts : UInt32} {ps : Nat} {rest : Bytes}
    (hlo : n * ps < rest.length) :
    (emit c ss (n + 1) sq ts ps rest).map (·.ts) = tsFrom ts (UInt32.ofNat (ps / ss)) (n + 1) := by
  induction n generalizing sq ts rest with
  | zero => simp [emit, tsFrom]
  | succ n ih =>
    have hmul : (n + 1) * ps = n * ps + ps := by rw [Nat.add_mul]; omega
    have hnot : ¬ ps > rest.length := by
      have : 0 ≤ n * ps := Nat.zero_le _
      omega
    rw [emit]
    simp only [hnot, ↓reduceIte, List.map_cons]
    rw [ih]
    · rfl
    · simp only [List.length_drop]; omega

/-- **C06 size clause**: every payload is at most `PayloadMaxSize` (in fact at most the largest
whole number of samples below it), for every block of samples. -/
theorem c06_payload_le (e : Enc) (f : Bytes) (hv : ValidEnc e) :
    ∀ p ∈ (encode e f).2, p.payload.length ≤ e.cfg.max := by
  intro p hp
  exact Nat.le_trans (emit_payload_le p hp) hv.mp_le

/-- **C06 numbering, one call**: the packets carry `seq, seq+1, …` (mod 2^16) and the encoder
continues after them. -/
theorem c06_seq_consecutive (e : Enc) (f : Bytes) :
    (encode e f).2.map (·.seq) = seqFrom e.seq (encode e f).2.length ∧
    (encode e f).1.seq = e.seq + UInt16.ofNat (encode e f).2.length := by
  simp [encode, emit_seq, emit_length]

def encodeMany (e : Enc) : List Bytes → Enc × List Pkt
  | [] => (e, [])
  | f :: fs =>
    let (e1, ps) := encode e f
    let (e2, qs) := encodeMany e1 fs
    (e2, ps ++ qs)

/-- **C06 numbering, any series of calls, any initial value (incl. wrap inside the run)**. -/
theorem c06_seq_many (e : Enc) (fs : List Bytes) :
    (encodeMany e fs).2.map (·.seq) = seqFrom e.seq (encodeMany e fs).2.length ∧
    (encodeMany e fs).1.seq = e.seq + UInt16.ofNat (encodeMany e fs).2.length :=
  seq_series c06_seq_consecutive e fs

/-- **C06 payload type and SSRC** are the configured ones on every packet. -/
theorem c06_pt_ssrc (e : Enc) (f : Bytes) :
    ∀ p ∈ (encode e f).2, p.pt = e.cfg.pt ∧ p.ssrc = e.cfg.ssrc := by
  intro p hp
  have := emit_hdr p hp
  exact ⟨this.1, this.2.1⟩

/-- the format never sets the marker (every packet is a complete unit) -/
theorem c06_no_marker (e : Enc) (f : Bytes) : ∀ p ∈ (encode e f).2, p.marker = false := by
  intro p hp
  exact (emit_hdr p hp).2.2

theorem encode_emit (e : Enc) (f : Bytes) (hv : ValidEnc e) (hf : ValidFrame f) :
    ∃ n, n * e.maxPayload < f.length ∧ f.length ≤ (n + 1) * e.maxPayload ∧
      (encode e f).2 = emit e.cfg e.sampleSize (n + 1) e.seq 0 e.maxPayload f := by
  obtain ⟨n, hn, hlo⟩ := ceilDiv_eq_succ f.length e.maxPayload hv.mp_pos hf
  exact ⟨n, hlo, hn ▸ ceilDiv_upper _ _ hv.mp_pos, by rw [encode, packetCount_eq, hn]⟩

theorem encode_sizes (e : Enc) (f : Bytes) (hv : ValidEnc e) (hf : ValidFrame f) :
    ∃ n, n * e.maxPayload < f.length ∧ f.length ≤ (n + 1) * e.maxPayload ∧
      ∀ p ∈ (encode e f).2, p.payload.length = e.maxPayload ∨ p.payload.length = f.length - n * e.maxPayload := by
  obtain ⟨n, hlo, hhi, he⟩ := encode_emit e f hv hf
  refine ⟨n, hlo, hhi, fun p hp => ?_⟩
  have : p.payload.length ∈ (encode e f).2.map (·.payload.length) := List.mem_map_of_mem hp
  rw [he, emit_sizes hlo hhi] at this
  simp only [List.mem_append, List.mem_replicate, List.mem_singleton] at this
  exact this.imp And.right id

/-- **sample-aligned splitting**: when the block is a whole number of samples, every packet carries a
whole number of samples, and at least one (every packet but the last carries exactly `maxPayload`
bytes: `emit_sizes`). -/
theorem c06_sample_aligned (e : Enc) (f : Bytes) (hv : ValidEnc e) (hf : ValidFrame f)
    (hal : f.length % e.sampleSize = 0) :
    ∀ p ∈ (encode e f).2, p.payload.length % e.sampleSize = 0 ∧ 0 < p.payload.length := by
  obtain ⟨n, hlo, hhi, hs⟩ := encode_sizes e f hv hf
  intro p hp
  rcases hs p hp with h | h <;> rw [h]
  · exact ⟨hv.mp_mul, hv.mp_pos⟩
  · refine ⟨?_, by omega⟩
    have h1 : (n * e.maxPayload) % e.sampleSize = 0 := by
      rw [Nat.mul_mod, hv.mp_mul]; simp
    have hle : n * e.maxPayload ≤ f.length := by omega
    exact (Nat.sub_mod_eq_zero_of_mod_eq (by rw [hal, h1]))

def Inv (_ : Dec) : Prop := True

theorem c08_inv_init : Inv {} := trivial
theorem c08_inv_decode (d : Dec) (p : Pkt) (_ : Inv d) : Inv (decode d p).1 := trivial
/-- nothing is retained between calls -/
theorem c08_retained_le (d : Dec) (_ : Inv d) : retained d ≤ 0 := Nat.le_refl 0
/-- a returned block is the payload of the packet itself -/
theorem c08_out_le (d : Dec) (p : Pkt) (f : Bytes) (h : (decode d p).2 = .ok f) : f = p.payload := by
  unfold decode at h; split at h <;> simp_all
/-- the answer to a packet does not depend on the history -/
theorem c08_stateless (h : List Pkt) (p : Pkt) : decode (runDec {} h).1 p = decode {} p := rfl

theorem runDec_all_ok (d : Dec) (ps : List Pkt) (h : ∀ p ∈ ps, 0 < p.payload.length) :
    runDec d ps = (d, ps.map (fun p => .ok p.payload)) := by
  induction ps with
  | nil => rfl
  | cons p ps ih =>
    have hp : ¬ p.payload.length = 0 := by have := h p (by simp); omega
    simp only [runDec, decode, hp, ↓reduceIte, List.map_cons]
    rw [ih (fun q hq => h q (by simp [hq]))]

/-- **C03 round trip, grouping form**: every packet of a valid block returns a non-empty piece
(there is no 'more packets needed': each packet is complete) and the pieces, concatenated in
order, are exactly the block. -/
theorem c03_roundtrip_grouping (e : Enc) (f : Bytes) (d : Dec) (hv : ValidEnc e) (hf : ValidFrame f) :
    runDec d (encode e f).2 = (d, (encode e f).2.map (fun p => .ok p.payload)) ∧
    ((encode e f).2.map (·.payload)).flatten = f ∧
    ∀ p ∈ (encode e f).2, 0 < p.payload.length := by
  obtain ⟨n, hlo, hhi, hs⟩ := encode_sizes e f hv hf
  have hpos : ∀ p ∈ (encode e f).2, 0 < p.payload.length := fun p hp => by
    have := hv.mp_pos
    rcases hs p hp with h | h <;> omega
  refine ⟨runDec_all_ok d _ hpos, ?_, hpos⟩
  unfold encode
  apply emit_flatten
  exact ceilDiv_upper f.length e.maxPayload hv.mp_pos

theorem encode_fits (e : Enc) (f : Bytes) (hf : ValidFrame f) (hfit : f.length ≤ e.maxPayload) :
    ∃ p, (encode e f).2 = [p] ∧ p.payload = f ∧ p.ts = 0 := by
  rw [encode, packetCount_eq, ceilDiv_eq_one _ _ hfit hf]
  exact ⟨_, rfl, List.take_of_length_le (by show f.length ≤ ite _ _ _; split <;> omega), rfl⟩

/-- a block that fits one packet is sent as one packet carrying the block (`hv` is not needed: `encode_fits`) -/
theorem c03_fits_single (e : Enc) (f : Bytes) (hv : ValidEnc e) (hf : ValidFrame f)
    (hfit : f.length ≤ e.maxPayload) : ∃ p, (encode e f).2 = [p] ∧ p.payload = f ∧ p.ts = 0 :=
  encode_fits e f hf hfit

/-- **timestamps**: packet `i` carries the relative timestamp `i · (maxPayload / sampleSize)`, the
number of samples in the `i` full packets before it (`maxPayload` is a whole number of samples). -/
theorem c03_timestamps (e : Enc) (f : Bytes) (hv : ValidEnc e) (hf : ValidFrame f) :
    (encode e f).2.map (·.ts) = tsFrom 0 (UInt32.ofNat (e.maxPayload / e.sampleSize)) (encode e f).2.length ∧
    e.maxPayload / e.sampleSize * e.sampleSize = e.maxPayload := by
  obtain ⟨n, hlo, _, he⟩ := encode_emit e f hv hf
  rw [he, emit_length]
  exact ⟨emit_ts hlo, Nat.div_mul_cancel (Nat.dvd_of_mod_eq_zero hv.mp_mul)⟩

def runFrames (d : Dec) : List (List Pkt) → List (List (DecRes Bytes))
  | [] => []
  | ps :: rest => (runDec d ps).2 :: runFrames (runDec d ps).1 rest

def encodeEach (e : Enc) : List Bytes → List (List Pkt)
  | [] => []
  | f :: fs => (encode e f).2 :: encodeEach (encode e f).1 fs

/-- the pieces returned for one call -/
def okPieces : List (DecRes Bytes) → List Bytes
  | [] => []
  | .ok f :: rest => f :: okPieces rest
  | _ :: rest => okPieces rest

theorem okPieces_map (ps : List Pkt) : okPieces (ps.map (fun p => DecRes.ok p.payload)) = ps.map (·.payload) := by
  induction ps with
  | nil => rfl
  | cons p ps ih => simp [okPieces, ih]

theorem validEnc_encode (e : Enc) (f : Bytes) (hv : ValidEnc e) : ValidEnc (encode e f).1 :=
  ⟨hv.ss_pos, hv.mp_pos, hv.mp_le, hv.mp_mul⟩

/-- **C03, consecutive blocks** through the same encoder / decoder pair: for every call the
returned pieces concatenate to the block of that call. -/
theorem c03_roundtrip_many (e : Enc) (fs : List Bytes) (d : Dec) (hv : ValidEnc e)
    (hf : ∀ f ∈ fs, ValidFrame f) :
    (runFrames d (encodeEach e fs)).map (fun outs => (okPieces outs).flatten) = fs := by
  induction fs generalizing e d with
  | nil => rfl
  | cons f fs ih =>
    obtain ⟨h1, h2, _⟩ := c03_roundtrip_grouping e f d hv (hf f (by simp))
    simp only [encodeEach, runFrames, List.map_cons, h1, okPieces_map, h2]
    rw [ih _ _ (validEnc_encode e f hv) (fun g hg => hf g (by simp [hg]))]

/-- 16-bit stereo (4-byte samples) at limit 10: 8-byte packets; 20 bytes → 8 + 8 + 4 across a wrap -/
def exEnc : Enc := Enc.init { pt := 96, ssrc := 7, max := 10 } 16 2 65535
def exBlock : Bytes := [1, 2, 3, 4, 5, 6, 7, 8, 9, 10, 11, 12, 13, 14, 15, 16, 17, 18, 19, 20]

example : ValidEnc exEnc := init_valid _ 16 2 _ (by decide) (by decide)
example : ValidFrame exBlock ∧ exBlock.length % exEnc.sampleSize = 0 := by decide
example : (encode exEnc exBlock).2.map (fun p => (p.seq, p.ts, p.payload.length)) = [(65535, 0, 8), (0, 2, 8), (1, 4, 4)] := by decide

end Rtsp.Codec.Lpcm
