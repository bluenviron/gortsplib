import Rtsp.Model.Codec.SimpleAudio
import Rtsp.Proofs.Codec.Common
/-
Property theorems for pkg/format/rtpsimpleaudio (Opus, G722, … : one frame = one packet), about the
model in `Model/Codec/SimpleAudio.lean`.  The theorems `c03_*`, `c06_*`, `c08_*` are this format's
part of properties C03, C06, C08.  The format does not fragment: the size clause of C06 does not apply,
by the property's own wording, and it never sets the marker; C07 does not apply (no inter-packet
state: `c08_stateless`).
-/
namespace Rtsp.Codec.SimpleAudio
open Rtsp.Rtp

/-- "Frame must contain at least 1 byte." -/
def ValidFrame (f : Bytes) : Prop := 0 < f.length
instance (f : Bytes) : Decidable (ValidFrame f) := by unfold ValidFrame; infer_instance

/-- one frame, one packet, carrying the frame unchanged, without marker -/
theorem c06_one_packet (e : Enc) (f : Bytes) :
    ∃ p, (encode e f).2 = [p] ∧ p.payload = f ∧ p.marker = false ∧ p.ts = 0 := ⟨_, rfl, rfl, rfl, rfl⟩

theorem c06_seq_consecutive (e : Enc) (f : Bytes) :
    (encode e f).2.map (·.seq) = seqFrom e.seq (encode e f).2.length ∧
    (encode e f).1.seq = e.seq + UInt16.ofNat (encode e f).2.length := by
  simp [encode, seqFrom]

/-- a series of `Encode` calls through the same encoder -/
def encodeMany (e : Enc) : List Bytes → Enc × List Pkt
  | [] => (e, [])
  | f :: fs =>
    let (e1, ps) := encode e f
    let (e2, qs) := encodeMany e1 fs
    (e2, ps ++ qs)

/-- **C06 numbering, any series of calls, any initial value (incl. wrap inside the run)**. -/
theorem c06_seq_many (e : Enc) (fs : List Bytes) :
    (encodeMany e fs).2.map (·.seq) = seqFrom e.seq (encodeMany e fs).2.length ∧
    (encodeMany e fs).1.seq = e.seq + UInt16.ofNat (encodeMany e fs).2.length :=
  seq_series c06_seq_consecutive e fs

theorem c06_pt_ssrc (e : Enc) (f : Bytes) :
    ∀ p ∈ (encode e f).2, p.pt = e.cfg.pt ∧ p.ssrc = e.cfg.ssrc := by
  intro p hp; simp [encode] at hp; subst hp; simp

theorem encode_cfg (e : Enc) (f : Bytes) : (encode e f).1.cfg = e.cfg := rfl

/-- the decoder has no state: the invariant is trivial -/
def Inv (_ : Dec) : Prop := True

theorem c08_inv_init : Inv {} := trivial
theorem c08_inv_decode (d : Dec) (p : Pkt) (_ : Inv d) : Inv (decode d p).1 := trivial
/-- nothing is retained between calls -/
theorem c08_retained_le (d : Dec) (_ : Inv d) : retained d ≤ 0 := Nat.le_refl 0
/-- a returned frame is the payload of the packet itself -/
theorem c08_out_le (d : Dec) (p : Pkt) (f : Bytes) (h : (decode d p).2 = .ok f) : f = p.payload := by
  unfold decode at h; split at h <;> simp_all
/-- the answer to a packet does not depend on the history -/
theorem c08_stateless (h : List Pkt) (p : Pkt) : decode (runDec {} h).1 p = decode {} p := rfl

/-- **C03 round trip**: the packet of a valid frame decodes to exactly that frame. -/
theorem c03_roundtrip (e : Enc) (f : Bytes) (d : Dec) (hf : ValidFrame f) :
    runDec d (encode e f).2 = (d, [.ok f]) := by
  have : ¬ f.length = 0 := by unfold ValidFrame at hf; omega
  simp [encode, runDec, decode, this]

def runFrames (d : Dec) : List (List Pkt) → List (List (DecRes Bytes))
  | [] => []
  | ps :: rest => (runDec d ps).2 :: runFrames (runDec d ps).1 rest

/-- the packets of consecutive `Encode` calls, one list per call -/
def encodeEach (e : Enc) : List Bytes → List (List Pkt)
  | [] => []
  | f :: fs => (encode e f).2 :: encodeEach (encode e f).1 fs

/-- **C03, consecutive frames** through the same encoder / decoder pair. -/
theorem c03_roundtrip_many (e : Enc) (fs : List Bytes) (d : Dec) (hf : ∀ f ∈ fs, ValidFrame f) :
    runFrames d (encodeEach e fs) = fs.map (fun f => [.ok f]) := by
  induction fs generalizing e d with
  | nil => rfl
  | cons f fs ih =>
    have h := c03_roundtrip e f d (hf f (by simp))
    simp only [encodeEach, runFrames, List.map_cons, h]
    rw [ih _ _ (fun g hg => hf g (by simp [hg]))]

example : ValidFrame [1, 2, 3] := by decide
example : (runDec {} (encode { cfg := { pt := 96, ssrc := 1, max := 1450 }, seq := 65535 } [1, 2, 3]).2).2 = [.ok [1, 2, 3]] := by decide

end Rtsp.Codec.SimpleAudio
