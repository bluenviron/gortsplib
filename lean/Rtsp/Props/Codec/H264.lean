import Rtsp.Proofs.Codec.H264Enc
/-
Property theorems for the encoder of pkg/format/rtph264 about the model in `Model/Codec/H264.lean`
(where `ValidCfg` and `ValidFrame` stand): this format's part of property C06.  A frame is an access
unit, a list of NALUs.  The statements quantify over every access unit, payload limit and sequence
number; there is no bound on sizes or lengths.
-/
namespace Rtsp.Codec.H264
open Rtsp.Rtp Rtsp.Codec.H26x

/-- **C06 size clause**: every payload is at most `PayloadMaxSize`, for every access unit whatever
its NALU sizes (below, at or above the limit; no hypothesis on the NALUs at all). -/
theorem c06_payload_le (e : Enc) (au : List Bytes) (hc : ValidCfg e.cfg) :
    ∀ p ∈ (encode e au).2, p.payload.length ≤ e.cfg.max := by
  intro p hp
  obtain ⟨it, hit, hpl⟩ := mem_number_payload hp
  rw [← hpl]
  obtain ⟨b, hb, m, hm⟩ := mem_itemsOf (encodeItems_eq .. ▸ hit)
  exact writeBatch_payload_le _ b m hc.1 (splitBatches_ok 1 _ [] au (Or.inl (Nat.zero_le 1)) b hb) it hm

/-- **C06 numbering, one call**: the packets of one `Encode` carry `seq, seq+1, …` (mod 2^16) and
the encoder continues after them. -/
theorem c06_seq_consecutive (e : Enc) (au : List Bytes) :
    (encode e au).2.map (·.seq) = seqFrom e.seq (encode e au).2.length ∧
    (encode e au).1.seq = e.seq + UInt16.ofNat (encode e au).2.length := by
  unfold encode
  simp [number_seq]

/-- a series of `Encode` calls through the same encoder -/
def encodeMany (e : Enc) : List (List Bytes) → Enc × List Pkt
  | [] => (e, [])
  | f :: fs =>
    let (e1, ps) := encode e f
    let (e2, qs) := encodeMany e1 fs
    (e2, ps ++ qs)

/-- **C06 numbering, any series of calls, any initial value (incl. wrap inside the run)**. -/
theorem c06_seq_many (e : Enc) (fs : List (List Bytes)) :
    (encodeMany e fs).2.map (·.seq) = seqFrom e.seq (encodeMany e fs).2.length ∧
    (encodeMany e fs).1.seq = e.seq + UInt16.ofNat (encodeMany e fs).2.length :=
  seq_series c06_seq_consecutive e fs

/-- **C06 payload type and SSRC** are the configured ones on every packet. -/
theorem c06_pt_ssrc (e : Enc) (au : List Bytes) :
    ∀ p ∈ (encode e au).2, p.pt = e.cfg.pt ∧ p.ssrc = e.cfg.ssrc := by
  unfold encode; exact number_pt_ssrc _ _ _

/-- **C06 marker**: set on the packet that completes the access unit and on no other packet. -/
theorem c06_marker_only_last (e : Enc) (au : List Bytes) (hc : ValidCfg e.cfg)
    (hn : ∀ n ∈ au, n ≠ []) :
    (encode e au).2.map (·.marker) = List.replicate ((encode e au).2.length - 1) false ++ [true] := by
  obtain ⟨k, hk⟩ := writeBatches_markers e.cfg.max _ hc.1 (splitBatches_ne_nil 1 e.cfg.max [] au)
  exact map_eq_replicate_length ((number_marker ..).trans hk)

/-- [SPS, PPS, 30-byte IDR, 2-byte SEI] at limit 12: STAP-A, 3 FU-A, single — across a wrap -/
def exEnc : Enc := { cfg := { pt := 96, ssrc := 7, max := 12 }, seq := 65534 }
def exAU : List Bytes :=
  [[0x67, 0x42, 0x00], [0x68, 0xce], 0x65 :: (List.range 29).map (fun i => UInt8.ofNat (i + 2)), [0x06, 0x05]]

example : ValidCfg exEnc.cfg ∧ ValidFrame exAU := by decide
example : (encode exEnc exAU).2.map (·.seq) = [65534, 65535, 0, 1, 2] := by decide
example : (encode exEnc exAU).2.map (·.marker) = [false, false, false, false, true] := by decide
example : (encode exEnc exAU).2.map (·.payload.length) = [10, 12, 12, 11, 2] := by decide

end Rtsp.Codec.H264
