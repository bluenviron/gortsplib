import Rtsp.Model.Codec.Klv
import Rtsp.Proofs.Codec.FragmentLoop
/-
Property theorems for pkg/format/rtpklv about the value-level model `Model/Codec/Klv.lean`.  A frame
is a KLV unit (one or more items), cut into packets as rtpfragmented does; the caller of the encoder
sets the timestamp (`stamp`), which the decoder reads.  The theorems `c03_*`, `c06_*`, `c07_*`, `c08_*`
are this format's part of properties C03, C06, C07, C08.  Two recorded findings are stated as
theorems: retained bytes are unbounded (`c08_retained_unbounded`), and a fragmented multi-item unit
is cut at its first item (`c03_multi_item_truncated`; `c03_roundtrip` therefore assumes
`NoEarlyCut`).  That returned units are not altered by later calls is in `Props/Codec/KlvSlice.lean`.
-/
namespace Rtsp.Codec.Klv
open Rtsp.Rtp

/-- the first packet must be able to carry the 4-byte label prefix the decoder looks for
(below 4 no unit of more than one packet can be decoded); 0 / negative values: see `encode`. -/
def ValidCfg (c : EncCfg) : Prop := 4 ≤ c.max

instance (c : EncCfg) : Decidable (ValidCfg c) := by unfold ValidCfg; infer_instance

/-- total length of the KLV item at the head of `b`: 16-byte key with the label prefix, BER length,
value — `none` if `b` does not start with a complete item -/
def itemLen (b : Bytes) : Option Nat :=
  if isKLVStart b ∧ 17 ≤ b.length then
    match parseKLVLength (b.drop 16) with
    | some (v, ls) => if 16 + ls + v ≤ b.length then some (16 + ls + v) else none
    | none => none
  else none

/-- `b` is the concatenation of exactly `k` KLV items -/
def isItems : Nat → Bytes → Bool
  | 0, b => b.isEmpty
  | k + 1, b =>
    match itemLen b with
    | some n => isItems k (b.drop n)
    | none => false

/-- a KLV unit with a single item (`len < 2^63`: a Go slice) -/
def SingleItem (f : Bytes) : Prop := itemLen f = some f.length ∧ f.length < 2 ^ 63

/-- RFC 6597 §4.2 KLVunit: one or more items -/
def ValidUnit (f : Bytes) : Prop := ∃ k, isItems (k + 1) f = true

instance (f : Bytes) : Decidable (SingleItem f) := by unfold SingleItem; infer_instance

/-- what the round trip of the code as it stands needs: the size declared by the first item, if the
first packet reveals it, is not reached before the last packet -/
def NoEarlyCut (c : EncCfg) (f : Bytes) : Prop :=
  f.length ≤ c.max ∨
  match declaredSize (f.take c.max) with
  | none => True
  | some s => s ≤ 0 ∨ (((packetCount c.max f.length - 1) * c.max : Nat) : Int) < s

instance (c : EncCfg) (f : Bytes) : Decidable (NoEarlyCut c f) := by
  unfold NoEarlyCut; cases declaredSize (f.take c.max) <;> infer_instance

theorem packetCount_eq (avail le : Nat) : packetCount avail le = ceilDiv le avail := rfl

theorem emit_frags (c : EncCfg) (n : Nat) (first : Bool) (sq : UInt16) (pos : Nat) (rest : Bytes) :
    emit c n sq rest = frags (plain c 0) c.max n first sq pos rest := by
  induction n using frags_ind generalizing first sq pos rest with
  | h0 => rfl
  | h1 => rfl
  | h2 n ih => rw [emit, frags, ← ih]; rfl

/-- the number of packets of a unit: one if it fits, else `packetCount` -/
def count (a : Nat) (f : Bytes) : Nat := if f.length ≤ a then 1 else ceilDiv f.length a

theorem count_spec (a : Nat) (f : Bytes) (ha : 0 < a) :
    ∃ k, count a f = k + 1 ∧ f.length ≤ (k + 1) * a ∧ (0 < f.length → k * a < f.length) := by
  unfold count
  split
  · exact ⟨0, rfl, by omega, fun h => by omega⟩
  · obtain ⟨k, hk, hlo⟩ := ceilDiv_eq_succ f.length a ha (by omega)
    exact ⟨k, hk, hk ▸ ceilDiv_upper _ _ ha, fun _ => hlo⟩

theorem encode_frags (e : Enc) (f : Bytes) :
    encode e f = ({ e with seq := e.seq + UInt16.ofNat (count e.cfg.max f) },
      frags (plain e.cfg 0) e.cfg.max (count e.cfg.max f) true e.seq 0 f) := by
  unfold encode count
  split
  · rfl
  · simp only [emit_frags e.cfg _ true _ 0]; rfl

/-- **C06 size clause**: every payload is at most `PayloadMaxSize`, for every unit. -/
theorem c06_payload_le (e : Enc) (f : Bytes) (hc : 0 < e.cfg.max) :
    ∀ p ∈ (encode e f).2, p.payload.length ≤ e.cfg.max := by
  obtain ⟨k, hk, hup, _⟩ := count_spec e.cfg.max f hc
  rw [encode_frags]
  exact frags_forall (Q := fun p => p.payload.length ≤ e.cfg.max) fun _ _ _ _ _ h => h (hk ▸ hup)

/-- **C06 numbering, one call** -/
theorem c06_seq_consecutive (e : Enc) (f : Bytes) :
    (encode e f).2.map (·.seq) = seqFrom e.seq (encode e f).2.length ∧
    (encode e f).1.seq = e.seq + UInt16.ofNat (encode e f).2.length := by
  rw [encode_frags]
  exact ⟨frags_seq, by rw [frags_length]⟩

def encodeMany (e : Enc) : List Bytes → Enc × List Pkt
  | [] => (e, [])
  | f :: fs =>
    let (e1, ps) := encode e f
    let (e2, qs) := encodeMany e1 fs
    (e2, ps ++ qs)

/-- **C06 numbering, any series of calls, any initial value (incl. wrap inside the run)** -/
theorem c06_seq_many (e : Enc) (fs : List Bytes) :
    (encodeMany e fs).2.map (·.seq) = seqFrom e.seq (encodeMany e fs).2.length ∧
    (encodeMany e fs).1.seq = e.seq + UInt16.ofNat (encodeMany e fs).2.length :=
  seq_series c06_seq_consecutive e fs

/-- **C06 payload type and SSRC** -/
theorem c06_pt_ssrc (e : Enc) (f : Bytes) :
    ∀ p ∈ (encode e f).2, p.pt = e.cfg.pt ∧ p.ssrc = e.cfg.ssrc := by
  rw [encode_frags]; exact frags_forall fun _ _ _ _ _ _ => ⟨rfl, rfl⟩

/-- **C06 marker**: set on the packet that completes the unit and on no other packet. -/
theorem c06_marker_only_last (e : Enc) (f : Bytes) (hc : 0 < e.cfg.max) :
    (encode e f).2.map (·.marker) = List.replicate ((encode e f).2.length - 1) false ++ [true] := by
  obtain ⟨k, hk, _⟩ := count_spec e.cfg.max f hc
  rw [encode_frags, frags_length, hk, Nat.add_sub_cancel]
  exact frags_markers

/-- state invariant: outside a unit nothing is buffered and no size is expected -/
structure Inv (d : Dec) : Prop where
  idle : d.assembling = false → d.expected = 0 ∧ d.buffer = []

/-- clean with respect to the sequence number `sq` of the next packet: idle, and if the sequence
check is armed it expects `sq` -/
def Clean (d : Dec) (sq : UInt16) : Prop :=
  d.assembling = false ∧ d.expected = 0 ∧ d.buffer = [] ∧ (d.firstRecv = true → d.lastSeq + 1 = sq)

instance (d : Dec) (sq : UInt16) : Decidable (Clean d sq) := by unfold Clean; infer_instance

theorem c08_inv_init : Inv {} := ⟨fun _ => ⟨rfl, rfl⟩⟩

theorem inv_reset (d : Dec) : Inv d.reset := ⟨fun _ => ⟨rfl, rfl⟩⟩

theorem finish_marker (d : Dec) : finish d true = (d.reset, .ok d.buffer) := by
  rw [finish, if_pos rfl]

theorem finish_more (d : Dec) (h : ¬ (d.expected > 0 ∧ (d.buffer.length : Int) ≥ d.expected)) :
    finish d false = (d, .more) := by
  rw [finish, if_neg Bool.false_ne_true, if_neg h]

theorem inv_finish (d : Dec) (m : Bool) (ha : d.assembling = true) : Inv (finish d m).1 := by
  unfold finish
  split
  · exact inv_reset d
  split
  · exact inv_reset d
  · exact ⟨fun h => by simp [ha] at h⟩

/-- the state in which a starting payload is handed to `finish` -/
def Dec.start (d : Dec) (p : Pkt) : Dec :=
  match declaredSize p.payload with
  | some s => { d with lastSeq := p.seq, firstRecv := true, curTs := p.ts, assembling := true,
                       buffer := p.payload, expected := s }
  | none => { d with lastSeq := p.seq, firstRecv := true, curTs := p.ts, assembling := true,
                     buffer := p.payload }

theorem decode_gap (d : Dec) (p : Pkt) (hg : d.firstRecv = true ∧ p.seq ≠ d.lastSeq + 1) :
    decode d p = (d.reset, .err) := by
  rw [decode, if_pos hg]

theorem decode_nonStart (d : Dec) (p : Pkt) (hg : ¬ (d.firstRecv = true ∧ p.seq ≠ d.lastSeq + 1))
    (ha : d.assembling = false) (hk : isKLVStart p.payload = false) :
    decode d p = ({ d with lastSeq := p.seq, firstRecv := true }, .nonStart) := by
  have h1 : (!d.assembling) = true := by rw [ha]; rfl
  have h2 : (!isKLVStart p.payload) = true := by rw [hk]; rfl
  simp only [decode, if_neg hg, h1, h2, if_true]

theorem decode_start (d : Dec) (p : Pkt) (hg : ¬ (d.firstRecv = true ∧ p.seq ≠ d.lastSeq + 1))
    (ha : d.assembling = false) (hk : isKLVStart p.payload = true) :
    decode d p = finish (d.start p) p.marker := by
  have h1 : (!d.assembling) = true := by rw [ha]; rfl
  have h2 : ¬ (!isKLVStart p.payload) = true := by rw [hk]; decide
  simp only [decode, if_neg hg, h1, h2, if_true]
  unfold Dec.start
  cases declaredSize p.payload <;> rfl

theorem decode_ts (d : Dec) (p : Pkt) (hg : ¬ (d.firstRecv = true ∧ p.seq ≠ d.lastSeq + 1))
    (ha : d.assembling = true) (ht : p.ts ≠ d.curTs) : decode d p = (Dec.reset { d with lastSeq := p.seq, firstRecv := true }, .err) := by
  have h1 : ¬ (!d.assembling) = true := by rw [ha]; decide
  simp only [decode, if_neg hg, h1, if_pos ht]
  rfl

theorem decode_cont (d : Dec) (p : Pkt) (hg : ¬ (d.firstRecv = true ∧ p.seq ≠ d.lastSeq + 1))
    (ha : d.assembling = true) (ht : p.ts = d.curTs) :
    decode d p
      = finish { d with lastSeq := p.seq, firstRecv := true, buffer := d.buffer ++ p.payload } p.marker := by
  have h1 : ¬ (!d.assembling) = true := by rw [ha]; decide
  have h2 : ¬ p.ts ≠ d.curTs := fun h => h ht
  simp only [decode, if_neg hg, h1, if_false, h2]
  rfl

theorem start_fields (d : Dec) (p : Pkt) :
    (d.start p).assembling = true ∧ (d.start p).buffer = p.payload ∧ (d.start p).firstRecv = true ∧
    (d.start p).lastSeq = p.seq ∧ (d.start p).curTs = p.ts ∧
    (d.start p).expected = (declaredSize p.payload).getD d.expected := by
  unfold Dec.start
  cases declaredSize p.payload <;> exact ⟨rfl, rfl, rfl, rfl, rfl, rfl⟩

theorem decode_cases (d : Dec) (p : Pkt) :
    (∃ d0, decode d p = (Dec.reset d0, .err)) ∨
    (d.assembling = false ∧ decode d p = ({ d with lastSeq := p.seq, firstRecv := true }, .nonStart)) ∨
    (∃ d', d'.assembling = true ∧ d'.buffer.length ≤ d.buffer.length + p.payload.length ∧
        decode d p = finish d' p.marker) := by
  by_cases hg : d.firstRecv = true ∧ p.seq ≠ d.lastSeq + 1
  · exact Or.inl ⟨d, decode_gap d p hg⟩
  rcases Bool.eq_false_or_eq_true d.assembling with ha | ha
  · by_cases ht : p.ts = d.curTs
    · exact Or.inr (Or.inr ⟨{ d with lastSeq := p.seq, firstRecv := true, buffer := d.buffer ++ p.payload }, ha,
        Nat.le_of_eq List.length_append, decode_cont d p hg ha ht⟩)
    · exact Or.inl ⟨_, decode_ts d p hg ha ht⟩
  · cases hk : isKLVStart p.payload
    · exact Or.inr (Or.inl ⟨ha, decode_nonStart d p hg ha hk⟩)
    · refine Or.inr (Or.inr ⟨d.start p, (start_fields d p).1, ?_, decode_start d p hg ha hk⟩)
      rw [(start_fields d p).2.1]; exact Nat.le_add_left _ _

/-- **C08**: the invariant is preserved by `Decode` on EVERY packet. -/
theorem c08_inv_decode (d : Dec) (p : Pkt) (hi : Inv d) : Inv (decode d p).1 := by
  rcases decode_cases d p with ⟨d0, h⟩ | ⟨ha, h⟩ | ⟨d', ha, _, h⟩ <;> rw [h]
  · exact inv_reset d0
  · exact ⟨fun _ => hi.idle ha⟩
  · exact inv_finish d' _ ha

theorem runs : Runs decode runDec := ⟨fun _ => rfl, fun _ _ _ => rfl⟩

theorem inv_run (d : Dec) (ps : List Pkt) (hi : Inv d) : Inv (runDec d ps).1 :=
  runs.inv (Q := fun _ => True) (fun d p hi _ => c08_inv_decode d p hi) d ps hi fun _ _ => trivial

theorem finish_out_le (d : Dec) (m : Bool) (f : Bytes) (h : (finish d m).2 = .ok f) :
    f.length ≤ d.buffer.length := by
  unfold finish at h
  split at h
  · simp at h; subst h; exact Nat.le_refl _
  split at h
  · simp at h; subst h; simp [List.length_take]; omega
  · simp at h

/-- **C08 output bound**: a returned unit is never longer than what was buffered plus the packet
(no maximum unit size is documented for KLV). -/
theorem c08_out_le (d : Dec) (p : Pkt) (f : Bytes) (h : (decode d p).2 = .ok f) :
    f.length ≤ d.buffer.length + p.payload.length := by
  rcases decode_cases d p with ⟨d0, h'⟩ | ⟨ha, h'⟩ | ⟨d', _, hl, h'⟩ <;> rw [h'] at h
  · cases h
  · cases h
  · exact Nat.le_trans (finish_out_le d' _ f h) hl

/-! ### the retained-bytes bound is FALSE for the KLV decoder as it stands

`c08_retained_le : Inv d → retained d ≤ Bound` cannot be proved for any `Bound`: a unit start
followed by same-timestamp, consecutively numbered packets without marker grows the buffer for
ever.  (Finding `klv-unbounded` in known-findings.txt; replayed on the real decoder by the corpus
case `klv-corpus-unbounded`.) -/

/-- (F) the decoder struct has exactly one byte-carrying field, `buffer []byte` — what `retained`
measures (regenerated from /repo on every run; a new slice field stops this from compiling) -/
theorem c08_state_fields : Rtsp.Facts.CodecMisc.klvBufferIsByteSlice = true ∧
    Rtsp.Facts.CodecMisc.klvDecoderSliceFields = 1 := by decide

/-- (F) regenerated from /repo on every run: `rtpklv/decoder.go` mentions no maximum size at all.
If a cap is ever added this stops compiling and the negative theorem below must be replaced by
`c08_retained_le`. -/
theorem c08_no_cap_in_code : Rtsp.Facts.CodecMisc.klvHasSizeCap = false := by decide

def growPkt (sq : UInt16) : Pkt := { seq := sq, ts := 0, marker := false, payload := [0] }

def startPkt : Pkt := { seq := 0, ts := 0, marker := false, payload := [0x06, 0x0e, 0x2b, 0x34] }

theorem grow_run (n : Nat) (sq : UInt16) (d : Dec) (ha : d.assembling = true)
    (hs : d.lastSeq + 1 = sq) (ht : d.curTs = 0) (he : d.expected = 0) :
    (runDec d ((seqFrom sq n).map growPkt)).1.buffer.length = d.buffer.length + n := by
  induction n generalizing sq d with
  | zero => rfl
  | succ n ih =>
    have hstep : decode d (growPkt sq)
        = ({ d with lastSeq := sq, firstRecv := true, buffer := d.buffer ++ [0] }, .more) := by
      rw [decode_cont d _ (fun h => h.2 hs.symm) ha ht.symm]
      exact finish_more _ fun h => absurd (he ▸ h.1) (by decide)
    rw [seqFrom, List.map_cons, runs.cons, hstep]
    refine (ih (sq + 1) { d with lastSeq := sq, firstRecv := true, buffer := d.buffer ++ [0] } ha rfl ht he).trans ?_
    rw [List.length_append, List.length_singleton]; omega

/-- **C08 retained bytes: unbounded** — for every bound `B` there is a packet history (payloads of
at most 4 bytes) after which the decoder retains more than `B` bytes. -/
theorem c08_retained_unbounded (B : Nat) :
    ∃ ps : List Pkt, (∀ p ∈ ps, p.payload.length ≤ 4) ∧ B < retained (runDec {} ps).1 := by
  refine ⟨startPkt :: (seqFrom 1 B).map growPkt, ?_, ?_⟩
  · intro p hp
    rcases List.mem_cons.mp hp with rfl | hp
    · decide
    · obtain ⟨_, _, rfl⟩ := List.mem_map.mp hp
      exact (by decide : 1 ≤ 4)
  · have h0 : decode {} startPkt
        = ({ buffer := [0x06, 0x0e, 0x2b, 0x34], assembling := true, firstRecv := true }, .more) := by
      decide
    rw [runs.cons, h0, retained, grow_run B 1 _ rfl (by decide) rfl rfl]
    exact Nat.lt_add_left_iff_pos.mpr (by decide)

theorem clean_reset (d : Dec) (sq : UInt16) : Clean d.reset sq := ⟨rfl, rfl, rfl, by simp [Dec.reset]⟩

/-- all packets of a unit carry the unit's timestamp (the encoder leaves it to the caller) -/
def stamp (t : UInt32) (ps : List Pkt) : List Pkt := ps.map fun p => { p with ts := t }

theorem isKLVStart_take (f : Bytes) (n : Nat) (h : isKLVStart f = true) (hn : 4 ≤ n) :
    isKLVStart (f.take n) = true := by
  match f, h with
  | a :: b :: c :: d :: t, h =>
    obtain ⟨k, rfl⟩ : ∃ k, n = k + 4 := ⟨n - 4, by omega⟩
    simpa [isKLVStart, List.take] using h

theorem stamp_frags (c : EncCfg) (t : UInt32) (n : Nat) (first : Bool) (sq : UInt16) (pos : Nat) (rest : Bytes) :
    stamp t (frags (plain c 0) c.max n first sq pos rest) = frags (plain c t) c.max n first sq pos rest := by
  induction n using frags_ind generalizing first sq pos rest with
  | h0 => rfl
  | h1 => rfl
  | h2 n ih => rw [frags, frags, ← ih]; rfl

/-- the decoder is assembling the unit of timestamp `t`, holds `pre`, has seen sequence number `sq - 1`, and the
size its first packet declared is not reached by the `k` packets of `a` bytes that come before the last -/
def Holds (a : Nat) (t : UInt32) (d : Dec) (pre : Bytes) (sq : UInt16) (k : Nat) (_ : Bytes) : Prop :=
  d.assembling = true ∧ d.buffer = pre ∧ d.lastSeq + 1 = sq ∧ d.curTs = t ∧
  (d.expected ≤ 0 ∨ ((pre.length + k * a : Nat) : Int) < d.expected)

/-- **C03 round trip**: for every valid limit, every unit that begins with the label prefix and whose
declared size is not reached early, every clean decoder and every timestamp: "more packets needed"
on all packets but the last, exactly the unit at the last one, clean for the following unit. -/
theorem c03_roundtrip (e : Enc) (f : Bytes) (d : Dec) (t : UInt32)
    (hc : ValidCfg e.cfg) (hk : isKLVStart f = true) (hcut : NoEarlyCut e.cfg f) (hd : Clean d e.seq) :
    ∃ d', runDec d (stamp t (encode e f).2)
        = (d', List.replicate ((encode e f).2.length - 1) .more ++ [.ok f]) ∧ Clean d' (encode e f).1.seq := by
  obtain ⟨hd1, hd2, hd3, hd4⟩ := hd
  have hg : ∀ p : Pkt, p.seq = e.seq → ¬ (d.firstRecv = true ∧ p.seq ≠ d.lastSeq + 1) :=
    fun p hp h => h.2 (hp.trans (hd4 h.1).symm)
  have hmax : 0 < e.cfg.max := Nat.lt_of_lt_of_le (by decide) hc
  have hfl : 0 < f.length := by
    match f, hk with
    | _ :: _, _ => exact Nat.succ_pos _
  obtain ⟨k, hcnt, hup, hlo⟩ := count_spec e.cfg.max f hmax
  rw [encode_frags, stamp_frags, frags_length, hcnt, Nat.add_sub_cancel]
  obtain ⟨d', r, hrun, rfl, hcl⟩ := run_unit runs (plain e.cfg t) e.cfg.max (Holds e.cfg.max t)
    (fun whole d' r => r = .ok whole ∧ ∀ sq, Clean d' sq) f d e.seq k (hlo hfl)
    (fun _ => ⟨_, _, (decode_start d _ (hg _ rfl) hd1 hk).trans (finish_marker _),
      by rw [(start_fields d _).2.1]; rfl, clean_reset _⟩)
    (fun j ch rest hkj hcr hch hr => by
      subst hkj
      obtain ⟨s1, s2, s3, s4, s5, s6⟩ := start_fields d (plain e.cfg t true false e.seq 0 ch)
      have hmul : (j + 1) * e.cfg.max = j * e.cfg.max + e.cfg.max := Nat.succ_mul j _
      have htk : ch = f.take e.cfg.max := by rw [← hcr, List.take_left' hch]
      -- the size declared, if any, is beyond the `j + 1` packets before the last
      have hex : (d.start (plain e.cfg t true false e.seq 0 ch)).expected ≤ 0 ∨
          ((ch.length + j * e.cfg.max : Nat) : Int) < (d.start (plain e.cfg t true false e.seq 0 ch)).expected := by
        rw [s6, show (plain e.cfg t true false e.seq 0 ch).payload = ch from rfl, htk]
        have hcut' := hcut.resolve_left (by omega)
        cases hds : declaredSize (f.take e.cfg.max) with
        | none => exact Or.inl (Int.le_of_eq hd2)
        | some s =>
          rw [hds, packetCount_eq, show ceilDiv f.length e.cfg.max = j + 1 + 1 from
            (if_neg (by omega)).symm.trans hcnt, Nat.add_sub_cancel] at hcut'
          rw [← htk, hch, show e.cfg.max + j * e.cfg.max = (j + 1) * e.cfg.max by omega]
          exact hcut'
      refine ⟨_, (decode_start d _ (hg _ rfl) hd1 (htk ▸ isKLVStart_take f e.cfg.max hk hc)).trans
        (finish_more _ ?_), s1, s2, by rw [s4]; rfl, s5, hex⟩
      rw [s2]
      show ¬ (_ ∧ ((ch.length : Nat) : Int) ≥ _)
      omega)
    (fun d pre sq k ch rest ⟨h1, h2, h3, h4, h5⟩ hch hr => by
      have hmul : (k + 1) * e.cfg.max = k * e.cfg.max + e.cfg.max := Nat.succ_mul k _
      refine ⟨_, (decode_cont d _ (fun h => h.2 h3.symm) h1 h4.symm).trans (finish_more _ ?_), h1,
        by rw [← h2]; rfl, rfl, h4, ?_⟩
      · show ¬ (d.expected > 0 ∧ (((d.buffer ++ ch).length : Nat) : Int) ≥ d.expected)
        rw [List.length_append, h2]; omega
      · show d.expected ≤ 0 ∨ (((pre ++ ch).length + k * e.cfg.max : Nat) : Int) < d.expected
        rw [List.length_append]; omega)
    (fun d pre sq rest ⟨h1, h2, h3, h4, _⟩ hr =>
      ⟨_, _, (decode_cont d _ (fun h => h.2 h3.symm) h1 h4.symm).trans (finish_marker _),
        congrArg (fun b => DecRes.ok (b ++ rest)) h2, clean_reset _⟩)
  exact ⟨d', hrun, hcl _⟩

theorem parse_prefix (a b : Bytes) (r : Nat × Nat) (h : parseKLVLength a = some r) :
    parseKLVLength (a ++ b) = some r := by
  cases a with
  | nil => simp [parseKLVLength] at h
  | cons x rest =>
    simp only [parseKLVLength, List.cons_append, List.length_cons, List.length_append] at h ⊢
    split
    · rename_i hx; simpa [hx] using h
    · rename_i hx
      simp only [hx, if_false] at h
      split at h
      · simp at h
      split at h
      · simp at h
      rename_i h1 h2
      simp only [h1, if_false]
      have h3 : ¬ (1 + (x.toNat - 128) > rest.length + b.length + 1) := by omega
      simp only [h3, if_false]
      have : (rest ++ b).take (x.toNat - 128) = rest.take (x.toNat - 128) :=
        List.take_append_of_le_length (by omega)
      rw [this]; exact h

theorem toInt64_small (n : Nat) (h : n < 2 ^ 63) : toInt64 n = (n : Int) := by
  unfold toInt64
  have : n % 2 ^ 64 = n := Nat.mod_eq_of_lt (by omega)
  simp only [this, h, if_true]

/-- **C03, single-item units**: when the unit is one KLV item, the size its first packet declares is
the size of the whole unit, which is reached only with the last packet. -/
theorem c03_single_item (c : EncCfg) (f : Bytes) (hs : SingleItem f) : NoEarlyCut c f := by
  obtain ⟨hi, hlt⟩ := hs
  unfold NoEarlyCut
  by_cases hle : f.length ≤ c.max
  · exact Or.inl hle
  right
  cases hds : declaredSize (f.take c.max) with
  | none => trivial
  | some s =>
    simp only
    right
    unfold declaredSize at hds
    split at hds
    · rename_i h17
      have hmax : 17 ≤ c.max := by
        simp only [List.length_take] at h17; omega
      cases hp : parseKLVLength ((f.take c.max).drop 16) with
      | none => simp [hp] at hds
      | some r =>
        obtain ⟨v, ls⟩ := r
        simp only [hp, Option.some.injEq] at hds
        -- the same length field is read from the whole unit
        have hsplit : f.drop 16 = (f.take c.max).drop 16 ++ f.drop c.max := by
          have : f = f.take c.max ++ f.drop c.max := (List.take_append_drop _ _).symm
          conv => lhs; rw [this]
          exact List.drop_append_of_le_length (by simp only [List.length_take]; omega)
        have hp' : parseKLVLength (f.drop 16) = some (v, ls) := by
          rw [hsplit]; exact parse_prefix _ _ _ hp
        unfold itemLen at hi
        split at hi
        · simp only [hp'] at hi
          split at hi
          · simp only [Option.some.injEq] at hi
            rw [← hds, hi, toInt64_small _ hlt]
            have hlow := ceilDiv_lower f.length c.max (by omega) (by omega)
            rw [← packetCount_eq] at hlow
            exact Int.ofNat_lt.mpr hlow
          · simp at hi
        · simp at hi
    · simp at hds

/-- a unit of two 30-byte items (RFC 6597 §4.2 allows several items per unit) -/
def exItem (b : UInt8) : Bytes :=
  [0x06, 0x0e, 0x2b, 0x34, 1, 1, 1, 1, 2, 2, 2, 2, 3, 3, 3, 3, 13] ++ List.replicate 13 b
def exUnit2 : Bytes := exItem 7 ++ exItem 9
def exEnc20 : Enc := { cfg := { pt := 96, ssrc := 1, max := 20 }, seq := 10 }

/-- **C03 is FALSE for multi-item units that are fragmented** (finding `klv-multi-item-truncated`):
the two-item unit at limit 20 comes back as its first item at the second of three packets, and the
third packet is answered with "non-starting packet".  Replayed on the real decoder by the corpus
case `klv-corpus-multi-item`. -/
theorem c03_multi_item_truncated :
    ValidCfg exEnc20.cfg ∧ isItems 2 exUnit2 = true ∧ ¬ NoEarlyCut exEnc20.cfg exUnit2 ∧
    (runDec {} (encode exEnc20 exUnit2).2).2 = [.more, .ok (exItem 7), .nonStart] := by
  decide

/-- after any packet that carries the marker the decoder is clean for the next sequence number,
whatever state satisfying the invariant it was in -/
theorem c07_marker_cleans (d : Dec) (p : Pkt) (hi : Inv d) (hm : p.marker = true) :
    Clean (decode d p).1 (p.seq + 1) := by
  rcases decode_cases d p with ⟨d0, h⟩ | ⟨ha, h⟩ | ⟨d', _, _, h⟩ <;> rw [h]
  · exact clean_reset d0 _
  · exact ⟨ha, (hi.idle ha).1, (hi.idle ha).2, fun _ => rfl⟩
  · rw [hm, finish_marker]; exact clean_reset d' _

/-- **C07 flush**: from ANY reachable (invariant) state, the packets of one unit, in order, leave the
decoder clean for the unit that follows — whatever was lost, duplicated or reordered before, and
whatever the decoder answered meanwhile. -/
theorem c07_flush (e : Enc) (f : Bytes) (d : Dec) (t : UInt32) (hi : Inv d) (hc : 0 < e.cfg.max) :
    Clean (runDec d (stamp t (encode e f).2)).1 (encode e f).1.seq := by
  obtain ⟨k, hk, _⟩ := count_spec e.cfg.max f hc
  -- the last packet carries the marker and the sequence number before the encoder's next
  obtain ⟨ini, fi, pos, r, h1, _⟩ := frags_last (plain e.cfg t) e.cfg.max k true e.seq 0 f
  rw [encode_frags, stamp_frags, hk, h1, runs.snoc, ofNat_succ, ← UInt16.add_assoc]
  exact c07_marker_cleans _ _ (inv_run _ _ hi) rfl

theorem encode_cfg (e : Enc) (f : Bytes) : (encode e f).1.cfg = e.cfg := by
  unfold encode; split <;> rfl

/-- **C07 resynchronisation**: after ANY packet history `h`, a unit `f` followed by a unit `g` (that
begins with the label prefix and is not cut early) ends with exactly `g`, returned at `g`'s last
packet and not before. -/
theorem c07_resync (h : List Pkt) (e : Enc) (f g : Bytes) (tf tg : UInt32)
    (hc : ValidCfg e.cfg) (hk : isKLVStart g = true) (hcut : NoEarlyCut e.cfg g) :
    let d0 := (runDec {} h).1
    let e1 := (encode e f).1
    ∃ d', runDec (runDec d0 (stamp tf (encode e f).2)).1 (stamp tg (encode e1 g).2)
        = (d', List.replicate ((encode e1 g).2.length - 1) .more ++ [.ok g]) ∧ Clean d' (encode e1 g).1.seq := by
  intro d0 e1
  have hinv : Inv d0 := inv_run {} h c08_inv_init
  have hmax : 0 < e.cfg.max := by unfold ValidCfg at hc; omega
  have hclean := c07_flush e f d0 tf hinv hmax
  have hcfg : e1.cfg = e.cfg := encode_cfg e f
  exact c03_roundtrip e1 g _ tg (by rw [hcfg]; exact hc) hk (by rw [hcfg]; exact hcut) hclean

/-- a series of `Encode` calls, each unit sent with its own timestamp -/
def encodeManyT (e : Enc) : List (Bytes × UInt32) → Enc × List Pkt
  | [] => (e, [])
  | (f, t) :: fs =>
    let (e1, ps) := encode e f
    let (e2, qs) := encodeManyT e1 fs
    (e2, stamp t ps ++ qs)

open Rtsp.Codec.Misc in
/-- **C03, consecutive units**: any series of units (each beginning with the label prefix and not
cut early, e.g. single-item units), each with its own timestamp, through one encoder / decoder pair
comes back as exactly that series, with only "more packets needed" in between. -/
theorem c03_roundtrip_many (e : Enc) (fs : List (Bytes × UInt32)) (d : Dec)
    (hc : ValidCfg e.cfg) (hf : ∀ x ∈ fs, isKLVStart x.1 = true ∧ NoEarlyCut e.cfg x.1) (hd : Clean d e.seq) :
    okFrames (runDec d (encodeManyT e fs).2).2 = fs.map (·.1) ∧ NoErr (runDec d (encodeManyT e fs).2).2 ∧
    Clean (runDec d (encodeManyT e fs).2).1 (encodeManyT e fs).1.seq := by
  induction fs generalizing e d with
  | nil => exact ⟨rfl, by intro r hr; simp [encodeManyT, runDec] at hr, hd⟩
  | cons x fs ih =>
    obtain ⟨f, t⟩ := x
    obtain ⟨hk, hcut⟩ := hf (f, t) (by simp)
    obtain ⟨d1, hr1, hc1⟩ := c03_roundtrip e f d t hc hk hcut hd
    have hcfg := encode_cfg e f
    obtain ⟨i1, i2, i3⟩ := ih (encode e f).1 d1 (by rw [hcfg]; exact hc)
      (fun y hy => by rw [hcfg]; exact hf y (by simp [hy])) hc1
    simp only [encodeManyT, List.map_cons]
    rw [runs.append, hr1]
    refine ⟨?_, only_frame_append i2, i3⟩
    rw [frames_frame_append okFrames, i1]

/-- a single 40-byte item at limit 17 (the first packet just reveals the length field): 3 packets
across a sequence-number wrap -/
def exItem40 : Bytes :=
  [0x06, 0x0e, 0x2b, 0x34, 1, 1, 1, 1, 2, 2, 2, 2, 3, 3, 3, 3, 23] ++ List.replicate 23 0x55
def exEnc17 : Enc := { cfg := { pt := 96, ssrc := 7, max := 17 }, seq := 65535 }

example : ValidCfg exEnc17.cfg ∧ SingleItem exItem40 ∧ isKLVStart exItem40 = true ∧ Clean {} exEnc17.seq := by
  decide
example : NoEarlyCut exEnc17.cfg exItem40 := by decide
example : (encode exEnc17 exItem40).2.map (·.seq) = [65535, 0, 1] := by decide
example : (runDec {} (stamp 9000 (encode exEnc17 exItem40).2)).2 = [.more, .more, .ok exItem40] := by decide
/-- a dirty state (mid-unit, armed sequence check) satisfies the invariant -/
example : Inv { buffer := [6, 14, 43, 52, 9], expected := 40, curTs := 5, assembling := true, lastSeq := 77, firstRecv := true } :=
  ⟨by decide⟩

end Rtsp.Codec.Klv
