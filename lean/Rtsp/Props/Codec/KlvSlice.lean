import Rtsp.Model.Codec.KlvSlice
import Rtsp.Proofs.Codec.SliceSem
import Rtsp.Props.Codec.Klv
/-
C08 "frames already returned are never altered by later Decode calls" for the decoder of
pkg/format/rtpklv, the one decoder that keeps a `[]byte` across calls, in slice semantics (`Model/SliceSem.lean`,
`Model/Codec/KlvSlice.lean`): the slice-level decoder refines the value-level model of
`Model/Codec/Klv.lean`; with the buffer handed over a returned unit reads the same after any later
history under any growth policy of `append`; without the hand-over it does not (the recorded
failure `klv-output-altered`).
-/
namespace Rtsp.Codec.KlvSlice
open Rtsp.Rtp Rtsp.SliceSem Rtsp.Codec.Klv

/-- the state after a unit has been returned -/
def afterReturn (handOver : Bool) (d : SDec) : SDec :=
  (if handOver then { d with buf := Slice.nil } else d).reset

theorem afterReturn_abs (ho : Bool) (st : Store) (d : SDec) :
    abs st (afterReturn ho d) = (abs st d).reset := by
  cases ho <;> simp [afterReturn, abs, SDec.reset, Dec.reset, read_upTo0]

theorem afterReturn_WF (ho : Bool) (st : Store) (d : SDec) (h : d.buf.WF st) : (afterReturn ho d).buf.WF st := by
  cases ho
  · exact upTo0_WF st _ h
  · exact upTo0_WF st _ (nil_WF st)

theorem sfinish_marker (ho : Bool) (d : SDec) : sfinish ho d true = (afterReturn ho d, .ok d.buf) := by
  simp [sfinish, afterReturn]

theorem sfinish_early (ho : Bool) (d : SDec) (he : d.expected > 0 ∧ (d.buf.len : Int) ≥ d.expected) :
    sfinish ho d false = (afterReturn ho d, .ok (d.buf.upTo d.expected.toNat)) := by
  simp [sfinish, afterReturn, he]

theorem sfinish_more (ho : Bool) (d : SDec) (he : ¬ (d.expected > 0 ∧ (d.buf.len : Int) ≥ d.expected)) :
    sfinish ho d false = (d, .more) := by
  simp only [sfinish, Bool.false_eq_true, if_false, he]

theorem sfinish_spec (ho : Bool) (st : Store) (d : SDec) (m : Bool) (hwf : d.buf.WF st) :
    finish (abs st d) m = (abs st (sfinish ho d m).1, absRes st (sfinish ho d m).2) ∧ (sfinish ho d m).1.buf.WF st ∧
    (ho = true → ((sfinish ho d m).1.buf.cap = 0 ∨ (sfinish ho d m).1.buf = d.buf) ∧
      ∀ o, (sfinish ho d m).2 = .ok o → (sfinish ho d m).1.buf.cap = 0 ∧ o.arr = d.buf.arr ∧ o.len ≤ d.buf.len) := by
  have e2 : ((abs st d).buffer.length : Int) = (d.buf.len : Int) :=
    congrArg Nat.cast (read_length st _ hwf)
  cases m
  · by_cases he : d.expected > 0 ∧ (d.buf.len : Int) ≥ d.expected
    · rw [sfinish_early ho d he]
      refine ⟨?_, afterReturn_WF ho st d hwf,
        fun hho => hho ▸ ⟨Or.inl rfl, fun o ho => by cases ho; exact ⟨rfl, rfl, by show d.expected.toNat ≤ _; omega⟩⟩⟩
      rw [finish, if_neg Bool.false_ne_true, if_pos (e2 ▸ he), afterReturn_abs, absRes,
        read_upTo st d.buf _ (by omega)]
      rfl
    · rw [sfinish_more ho d he]
      exact ⟨finish_more _ (e2 ▸ he), hwf, fun _ => ⟨Or.inr rfl, fun o ho => nomatch ho⟩⟩
  · rw [sfinish_marker]
    exact ⟨by rw [finish_marker, afterReturn_abs]; rfl, afterReturn_WF ho st d hwf,
      fun hho => hho ▸ ⟨Or.inl rfl, fun o ho => by cases ho; exact ⟨rfl, rfl, Nat.le_refl _⟩⟩⟩

/-- the state in which a starting payload, appended as `b`, is handed to `sfinish` -/
def SDec.start (d : SDec) (p : Pkt) (b : Slice) : SDec :=
  match declaredSize p.payload with
  | some s => { d with lastSeq := p.seq, firstRecv := true, curTs := p.ts, assembling := true, buf := b,
                       expected := s }
  | none => { d with lastSeq := p.seq, firstRecv := true, curTs := p.ts, assembling := true, buf := b }

section
variable (grow : Nat → Nat → Nat) (ho : Bool) (st : Store) (d : SDec) (p : Pkt)

theorem sdecode_gap (hg : d.firstRecv = true ∧ p.seq ≠ d.lastSeq + 1) :
    sdecode grow ho st d p = (st, d.reset, .err) := by
  rw [sdecode, if_pos hg]

theorem sdecode_nonStart (hg : ¬ (d.firstRecv = true ∧ p.seq ≠ d.lastSeq + 1)) (ha : d.assembling = false)
    (hk : isKLVStart p.payload = false) :
    sdecode grow ho st d p = (st, { d with lastSeq := p.seq, firstRecv := true }, .nonStart) := by
  have h1 : (!d.assembling) = true := by rw [ha]; rfl
  have h2 : (!isKLVStart p.payload) = true := by rw [hk]; rfl
  simp only [sdecode, if_neg hg, h1, h2, if_true]

theorem sdecode_start (hg : ¬ (d.firstRecv = true ∧ p.seq ≠ d.lastSeq + 1)) (ha : d.assembling = false)
    (hk : isKLVStart p.payload = true) :
    sdecode grow ho st d p = ((st.append grow (d.buf.upTo 0) p.payload).1,
      sfinish ho (d.start p (st.append grow (d.buf.upTo 0) p.payload).2) p.marker) := by
  have h1 : (!d.assembling) = true := by rw [ha]; rfl
  have h2 : ¬ (!isKLVStart p.payload) = true := by rw [hk]; decide
  simp only [sdecode, if_neg hg, h1, h2, if_true]
  unfold SDec.start
  cases declaredSize p.payload <;> rfl

theorem sdecode_ts (hg : ¬ (d.firstRecv = true ∧ p.seq ≠ d.lastSeq + 1)) (ha : d.assembling = true)
    (ht : p.ts ≠ d.curTs) :
    sdecode grow ho st d p = (st, SDec.reset { d with lastSeq := p.seq, firstRecv := true }, .err) := by
  have h1 : ¬ (!d.assembling) = true := by rw [ha]; decide
  simp only [sdecode, if_neg hg, h1, if_pos ht, Bool.false_eq_true, if_false]

theorem sdecode_cont (hg : ¬ (d.firstRecv = true ∧ p.seq ≠ d.lastSeq + 1)) (ha : d.assembling = true)
    (ht : p.ts = d.curTs) :
    sdecode grow ho st d p = ((st.append grow d.buf p.payload).1,
      sfinish ho { d with lastSeq := p.seq, firstRecv := true, buf := (st.append grow d.buf p.payload).2 }
        p.marker) := by
  have h1 : ¬ (!d.assembling) = true := by rw [ha]; decide
  have h2 : ¬ p.ts ≠ d.curTs := fun h => h ht
  simp only [sdecode, if_neg hg, h1, h2]
  rfl

end

theorem start_buf (d : SDec) (p : Pkt) (b : Slice) : (d.start p b).buf = b := by
  unfold SDec.start; cases declaredSize p.payload <;> rfl

theorem abs_reset (st : Store) (d : SDec) : abs st d.reset = (abs st d).reset := by
  simp [abs, SDec.reset, Dec.reset, read_upTo0]

/-- the decoder cannot touch `o`: `o` is empty, or its array exists and is not the array of the
decoder's buffer (a buffer without capacity has no array) -/
def Safe (st : Store) (d : SDec) (o : Slice) : Prop :=
  o.len = 0 ∨ (o.arr < st.arrays.length ∧ (d.buf.cap = 0 ∨ d.buf.arr ≠ o.arr))

theorem append_finish (grow : Nat → Nat → Nat) (ho : Bool) (st : Store) (d : SDec) (p : Pkt) (s : Slice)
    (hs : s.WF st) (hsa : s.arr = d.buf.arr) (hsc : s.cap = d.buf.cap) (dd : SDec)
    (hdd : dd.buf = (st.append grow s p.payload).2) :
    let a := st.append grow s p.payload
    let q := sfinish ho dd p.marker
    a.1.read a.2 = st.read s ++ p.payload ∧ finish (abs a.1 dd) p.marker = (abs a.1 q.1, absRes a.1 q.2) ∧
    q.1.buf.WF a.1 ∧
    (ho = true → (∀ o, Safe st d o → Safe a.1 q.1 o ∧ a.1.read o = st.read o) ∧ ∀ o, q.2 = .ok o → Safe a.1 q.1 o) := by
  dsimp only
  obtain ⟨hb, hmono, hread, hother⟩ := append_spec grow st s p.payload hs
  obtain ⟨h1, h2, hgo⟩ := sfinish_spec ho _ dd p.marker (hdd ▸ hb)
  refine ⟨hread, h1, h2, fun hho => ⟨fun o ho => ?_, fun o ho => ?_⟩⟩
  · rcases ho with ho | ⟨ho1, ho2⟩
    · exact ⟨Or.inl ho, by rw [read_empty _ _ ho, read_empty _ _ ho]⟩
    · obtain ⟨hr, hbo⟩ := hother o ho1 (hsa ▸ hsc ▸ ho2)
      refine ⟨Or.inr ⟨Nat.lt_of_lt_of_le ho1 hmono, ?_⟩, hr⟩
      rcases (hgo hho).1 with h | h
      · exact Or.inl h
      · rw [h, hdd]; exact hbo
  · obtain ⟨h1, h2, h3⟩ := (hgo hho).2 o ho
    rw [hdd] at h2 h3
    by_cases hz : o.len = 0
    · exact Or.inl hz
    · have hbcap : (st.append grow s p.payload).2.cap ≠ 0 := by have := hb.1; omega
      exact Or.inr ⟨h2 ▸ (hb.2.resolve_left hbcap).1, Or.inl h1⟩

theorem sdecode_spec (grow : Nat → Nat → Nat) (ho : Bool) (st : Store) (d : SDec) (p : Pkt) (hwf : d.buf.WF st) :
    let s := sdecode grow ho st d p
    decode (abs st d) p = (abs s.1 s.2.1, absRes s.1 s.2.2) ∧ s.2.1.buf.WF s.1 ∧
    (ho = true → (∀ o, Safe st d o → Safe s.1 s.2.1 o ∧ s.1.read o = st.read o) ∧ ∀ o, s.2.2 = .ok o → Safe s.1 s.2.1 o) := by
  -- the exits that leave the store alone keep the buffer in its array: `Safe` does not see the difference
  have still : ∀ d1 : SDec, Safe st d = Safe st d1 → ∀ e : DecRes Slice, (∀ o, e ≠ .ok o) →
      ho = true → (∀ o, Safe st d o → Safe st d1 o ∧ st.read o = st.read o) ∧ ∀ o, e = .ok o → Safe st d1 o :=
    fun d1 hd e he _ => ⟨fun o ho => ⟨hd ▸ ho, rfl⟩, fun o ho => absurd ho (he o)⟩
  by_cases hg : d.firstRecv = true ∧ p.seq ≠ d.lastSeq + 1
  · rw [sdecode_gap grow ho st d p hg]
    exact ⟨by rw [decode_gap (abs st d) p hg, abs_reset]; rfl, upTo0_WF st _ hwf, still _ rfl _ nofun⟩
  rcases Bool.eq_false_or_eq_true d.assembling with ha | ha
  · by_cases ht : p.ts = d.curTs
    · rw [sdecode_cont grow ho st d p hg ha ht]
      obtain ⟨hread, h1, h2, h3⟩ := append_finish grow ho st d p d.buf hwf rfl rfl
        { d with lastSeq := p.seq, firstRecv := true, buf := (st.append grow d.buf p.payload).2 } rfl
      refine ⟨?_, h2, h3⟩
      rw [decode_cont (abs st d) p hg ha ht, ← h1]
      simp [abs, hread]
    · rw [sdecode_ts grow ho st d p hg ha ht]
      exact ⟨by rw [decode_ts (abs st d) p hg ha ht, abs_reset]; rfl, upTo0_WF st _ hwf, still _ rfl _ nofun⟩
  · cases hk : isKLVStart p.payload
    · rw [sdecode_nonStart grow ho st d p hg ha hk]
      exact ⟨by rw [decode_nonStart (abs st d) p hg ha hk]; rfl, hwf, still _ rfl _ nofun⟩
    · rw [sdecode_start grow ho st d p hg ha hk]
      obtain ⟨hread, h1, h2, h3⟩ := append_finish grow ho st d p (d.buf.upTo 0) (upTo0_WF st _ hwf) rfl rfl
        (d.start p (st.append grow (d.buf.upTo 0) p.payload).2) (start_buf d p _)
      rw [read_upTo0, List.nil_append] at hread
      refine ⟨?_, h2, h3⟩
      rw [decode_start (abs st d) p hg ha hk, ← h1]
      unfold SDec.start Dec.start
      cases declaredSize p.payload <;> simp [abs, hread]

/-- **refinement**: one `Decode` in slice semantics computes exactly what the value-level model
computes (for the original and for the repaired handling of the buffer), and keeps the buffer
well formed. -/
theorem c08_slice_refines (grow : Nat → Nat → Nat) (ho : Bool) (st : Store) (d : SDec) (p : Pkt)
    (hwf : d.buf.WF st) (st' : Store) (d' : SDec) (r : DecRes Slice)
    (h : sdecode grow ho st d p = (st', d', r)) :
    decode (abs st d) p = (abs st' d', absRes st' r) ∧ d'.buf.WF st' := by
  have := sdecode_spec grow ho st d p hwf
  rw [h] at this
  exact ⟨this.1, this.2.1⟩

theorem srun_spec (grow : Nat → Nat → Nat) (ps : List Pkt) (st : Store) (d : SDec) (hwf : d.buf.WF st) :
    let r := srun grow true st d ps
    runDec (abs st d) ps = (abs r.1 r.2.1, r.2.2.map (absRes r.1)) ∧ r.2.1.buf.WF r.1 ∧
    ∀ o, Safe st d o → Safe r.1 r.2.1 o ∧ r.1.read o = st.read o := by
  induction ps generalizing st d with
  | nil => exact ⟨rfl, hwf, fun o ho => ⟨ho, rfl⟩⟩
  | cons p ps ih =>
    have hd := sdecode_spec grow true st d p hwf
    cases hsd : sdecode grow true st d p with
    | mk st1 x =>
      obtain ⟨d1, r⟩ := x
      rw [hsd] at hd
      obtain ⟨href, hwf1, hs⟩ := hd
      obtain ⟨hrun, hwf2, hsafe⟩ := ih st1 d1 hwf1
      simp only [runDec, href, srun, hsd, hrun, List.map_cons]
      refine ⟨?_, hwf2, fun o ho => ?_⟩
      · -- the unit returned at this packet is safe, so it reads the same in the final store
        cases r with
        | ok u => simp only [absRes, (hsafe u ((hs rfl).2 u rfl)).2]
        | more => rfl
        | nonStart => rfl
        | err => rfl
      · obtain ⟨h1, h2⟩ := (hs rfl).1 o ho
        exact ⟨(hsafe o h1).1, (hsafe o h1).2.trans h2⟩

/-- **C08 output stability (repaired decoder, slice semantics)**: a unit returned by `Decode` reads
the same bytes after ANY later packet history — any payloads, sequence numbers, timestamps and
markers — under ANY growth policy of `append`. -/
theorem c08_returned_stable (grow : Nat → Nat → Nat) (st : Store) (d : SDec) (p : Pkt) (hwf : d.buf.WF st)
    (st1 : Store) (d1 : SDec) (u : Slice) (h : sdecode grow true st d p = (st1, d1, .ok u))
    (later : List Pkt) : (srun grow true st1 d1 later).1.read u = st1.read u := by
  have := sdecode_spec grow true st d p hwf
  rw [h] at this
  exact ((srun_spec grow later st1 d1 this.2.1).2.2 u ((this.2.2 rfl).2 u rfl)).2

/-- the same over a whole history from the initial state: every unit returned along the way is
intact at the end -/
theorem c08_returned_stable_init (grow : Nat → Nat → Nat) (before : List Pkt) (p : Pkt) (later : List Pkt)
    (u : Slice) :
    let s0 := srun grow true {} {} before
    (sdecode grow true s0.1 s0.2.1 p).2.2 = .ok u →
    let s1 := sdecode grow true s0.1 s0.2.1 p
    (srun grow true s1.1 s1.2.1 later).1.read u = s1.1.read u := by
  intro s0 hu s1
  exact c08_returned_stable grow s0.1 s0.2.1 p (srun_spec grow before {} {} (nil_WF _)).2.1 s1.1 s1.2.1 u
    (by show sdecode grow true s0.1 s0.2.1 p = (s1.1, s1.2.1, .ok u); rw [← hu]) later

/-- **whole histories**: run any packet history through the repaired decoder in slice semantics and
read every unit it returned along the way in the FINAL store — the result is exactly what the
value-level model (the one compared with the real code) returned, packet by packet.  Refinement
and stability in one statement. -/
theorem c08_slice_run_final (grow : Nat → Nat → Nat) (ps : List Pkt) (st : Store) (d : SDec)
    (hwf : d.buf.WF st) :
    runDec (abs st d) ps
      = (abs (srun grow true st d ps).1 (srun grow true st d ps).2.1,
         (srun grow true st d ps).2.2.map (absRes (srun grow true st d ps).1)) :=
  (srun_spec grow ps st d hwf).1

/-- (F) the code this theorem is about is the repaired one: both return paths of
`rtpklv/decoder.go` hand the buffer over (`d.buffer = nil` occurs twice); regenerated from /repo on
every run — if a hand-over disappears this stops compiling -/
theorem c08_handover_in_code : Rtsp.Facts.CodecMisc.klvBufferHandedOver = 2 := by decide

def exPkt (sq : UInt16) (ts : UInt32) (b : UInt8) : Pkt :=
  { seq := sq, ts := ts, marker := true,
    payload := [0x06, 0x0e, 0x2b, 0x34, 1, 1, 1, 1, 2, 2, 2, 2, 3, 3, 3, 3, 2, b, b] }

/-- two single-packet units through the ORIGINAL decoder: the unit returned first reads differently
after the second call (`append(d.buffer[:0], …)` wrote into the array it shares) -/
theorem c08_original_aliases :
    let g : Nat → Nat → Nat := fun _ n => n
    let s1 := sdecode g false {} {} (exPkt 1 100 0x41)
    let s2 := sdecode g false s1.1 s1.2.1 (exPkt 2 200 0x42)
    ∃ u, s1.2.2 = .ok u ∧ s1.1.read u = (exPkt 1 100 0x41).payload ∧ s2.1.read u = (exPkt 2 200 0x42).payload := by
  refine ⟨{ arr := 0, off := 0, len := 19, cap := 19 }, ?_, ?_, ?_⟩ <;> decide

/-- the same two calls through the repaired decoder leave the first unit alone (instance of
`c08_returned_stable`, evaluated) -/
example :
    let g : Nat → Nat → Nat := fun _ n => n
    let s1 := sdecode g true {} {} (exPkt 1 100 0x41)
    let s2 := sdecode g true s1.1 s1.2.1 (exPkt 2 200 0x42)
    ∃ u, s1.2.2 = .ok u ∧ s2.1.read u = (exPkt 1 100 0x41).payload := by
  refine ⟨{ arr := 0, off := 0, len := 19, cap := 19 }, ?_, ?_⟩ <;> decide

end Rtsp.Codec.KlvSlice
