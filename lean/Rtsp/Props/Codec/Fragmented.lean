import Rtsp.Model.Codec.Fragmented
import Rtsp.Proofs.Codec.FragmentLoop
/-
Property theorems for pkg/format/rtpfragmented (MPEG-4 video, MPEG-4 audio LATM), about the model in
`Model/Codec/Fragmented.lean`.  A frame is one byte string, cut into packets of `PayloadMaxSize` bytes;
the marker closes it.  The theorems `c03_*`, `c06_*`, `c07_*`, `c08_*` are this format's part of
properties C03, C06, C07, C08, all in full.  Frames, payload limits, sequence numbers, packets and
histories are universally quantified; the round trip and the flush are for frames the decoder
accepts (`ValidFrame`: non-empty, at most `MaxFrameSize`).
-/
namespace Rtsp.Codec.Fragmented
open Rtsp.Rtp Rtsp.Facts

/-- `PayloadMaxSize` must be positive (`0` divides by zero in Go). -/
def ValidCfg (c : EncCfg) : Prop := 0 < c.max

/-- "Frame must contain at least 1 byte"; frames above `MaxFrameSize` are refused by the decoder. -/
def ValidFrame (f : Bytes) : Prop := 0 < f.length ∧ f.length ≤ Codec.mpeg4videoMaxFrameSize

instance (c : EncCfg) : Decidable (ValidCfg c) := by unfold ValidCfg; infer_instance
instance (f : Bytes) : Decidable (ValidFrame f) := by unfold ValidFrame; infer_instance

theorem emit_frags (c : EncCfg) (n : Nat) (first : Bool) (sq : UInt16) (pos : Nat) (rest : Bytes) :
    emit c n sq rest = frags (plain c 0) c.max n first sq pos rest := by
  induction n using frags_ind generalizing first sq pos rest with
  | h0 => rfl
  | h1 => rfl
  | h2 n ih => rw [emit, frags, ← ih]; rfl

theorem encode_frags (e : Enc) (f : Bytes) :
    encode e f = ({ e with seq := e.seq + UInt16.ofNat (ceilDiv f.length e.cfg.max) },
      frags (plain e.cfg 0) e.cfg.max (ceilDiv f.length e.cfg.max) true e.seq 0 f) := by
  rw [encode, emit_frags]; rfl

/-- **C06 size clause**: every payload is at most `PayloadMaxSize`, for every frame (empty or not,
below, at or above the limit). -/
theorem c06_payload_le (e : Enc) (f : Bytes) (hc : ValidCfg e.cfg) :
    ∀ p ∈ (encode e f).2, p.payload.length ≤ e.cfg.max := by
  rw [encode_frags]
  exact frags_forall (Q := fun p => p.payload.length ≤ e.cfg.max) fun _ _ _ _ _ h => h (ceilDiv_upper _ _ hc)

/-- **C06 numbering, one call**: the packets of one `Encode` carry `seq, seq+1, …` (mod 2^16) and
the encoder continues after them. -/
theorem c06_seq_consecutive (e : Enc) (f : Bytes) :
    (encode e f).2.map (·.seq) = seqFrom e.seq (encode e f).2.length ∧
    (encode e f).1.seq = e.seq + UInt16.ofNat (encode e f).2.length := by
  rw [encode_frags]
  exact ⟨frags_seq, by rw [frags_length]⟩

/-- a series of `Encode` calls through the same encoder -/
def encodeMany (e : Enc) : List Bytes → Enc × List Pkt
  | [] => (e, [])
  | f :: fs =>
    let (e1, ps) := encode e f
    let (e2, qs) := encodeMany e1 fs
    (e2, ps ++ qs)

/-- **C06 numbering, any series of calls, any initial value (incl. wrap inside the run)**. -/
theorem c06_seq_many (e : Enc) (fs : List Bytes) :
    (encodeMany e fs).2.map (·.seq) = seqFrom e.seq (encodeMany e fs).2.length ∧
    (encodeMany e fs).1.seq = e.seq + UInt16.ofNat (encodeMany e fs).2.length :=
  seq_series c06_seq_consecutive e fs

/-- **C06 payload type and SSRC** are the configured ones on every packet. -/
theorem c06_pt_ssrc (e : Enc) (f : Bytes) :
    ∀ p ∈ (encode e f).2, p.pt = e.cfg.pt ∧ p.ssrc = e.cfg.ssrc := by
  rw [encode_frags]; exact frags_forall fun _ _ _ _ _ _ => ⟨rfl, rfl⟩

/-- **C06 marker**: set on the packet that completes the frame and on no other packet. -/
theorem c06_marker_only_last (e : Enc) (f : Bytes) (hc : ValidCfg e.cfg) (hf : 0 < f.length) :
    (encode e f).2.map (·.marker) = List.replicate ((encode e f).2.length - 1) false ++ [true] := by
  obtain ⟨k, hk, _⟩ := ceilDiv_eq_succ f.length e.cfg.max hc hf
  rw [encode_frags, hk, frags_length, Nat.add_sub_cancel]
  exact frags_markers

/-- state invariant, relative to a bound `P` on the payload size of the packets of the history
(65535 for anything that arrived in a UDP datagram or an interleaved frame) -/
structure Inv (P : Nat) (d : Dec) : Prop where
  size_eq : d.size = totalLen d.fragments
  size_le : d.size ≤ Codec.mpeg4videoMaxFrameSize + P
  empty   : d.size = 0 → d.fragments = []

/-- no fragment of an unfinished frame is held -/
def Clean (d : Dec) : Prop := d.size = 0 ∧ d.fragments = []

instance (d : Dec) : Decidable (Clean d) := by unfold Clean; infer_instance

theorem c08_inv_init (P : Nat) : Inv P {} := ⟨rfl, by simp, fun _ => rfl⟩

theorem decode_single (d : Dec) (p : Pkt) (h0 : p.payload.length ≠ 0) (hz : d.size = 0)
    (hm : p.marker = true) : decode d p = (d, .ok p.payload) := by
  simp [decode, h0, hz, hm]

theorem decode_start (d : Dec) (p : Pkt) (h0 : p.payload.length ≠ 0) (hz : d.size = 0)
    (hm : p.marker = false) :
    decode d p = ({ d with size := p.payload.length, fragments := d.fragments ++ [p.payload],
                           nextSeq := p.seq + 1 }, .more) := by
  simp [decode, h0, hz, hm]

theorem decode_mid (d : Dec) (p : Pkt) (h0 : p.payload.length ≠ 0) (hz : d.size ≠ 0)
    (hs : p.seq = d.nextSeq) (hb : ¬ d.size + p.payload.length > Codec.mpeg4videoMaxFrameSize)
    (hm : p.marker = false) :
    decode d p = ({ d with size := d.size + p.payload.length, fragments := d.fragments ++ [p.payload],
                           nextSeq := d.nextSeq + 1 }, .more) := by
  simp [decode, h0, hz, hs, hb, hm]

theorem decode_last (d : Dec) (p : Pkt) (h0 : p.payload.length ≠ 0) (hz : d.size ≠ 0)
    (hs : p.seq = d.nextSeq) (hb : ¬ d.size + p.payload.length > Codec.mpeg4videoMaxFrameSize)
    (hm : p.marker = true) :
    decode d p = ({ d with size := 0, fragments := [], nextSeq := d.nextSeq + 1 },
                  .ok (joinFragments (d.fragments ++ [p.payload]) (d.size + p.payload.length))) := by
  simp [decode, h0, hz, hs, hb, hm, Dec.reset]

theorem decode_elim {motive : Dec × DecRes Bytes → Prop} (d : Dec) (p : Pkt)
    (empty : p.payload.length = 0 → motive (d, .err))
    (single : d.size = 0 → motive (d, .ok p.payload))
    (reset : d.size ≠ 0 → motive (d.reset, .err))
    (push : p.payload.length ≠ 0 → p.marker = false →
      d.size = 0 ∨ d.size + p.payload.length ≤ Codec.mpeg4videoMaxFrameSize → ∀ sq,
      motive ({ d with size := d.size + p.payload.length, fragments := d.fragments ++ [p.payload],
                       nextSeq := sq }, .more))
    (last : d.size ≠ 0 → d.size + p.payload.length ≤ Codec.mpeg4videoMaxFrameSize →
      motive ({ d with size := 0, fragments := [], nextSeq := d.nextSeq + 1 },
        .ok (joinFragments (d.fragments ++ [p.payload]) (d.size + p.payload.length)))) :
    motive (decode d p) := by
  by_cases h0 : p.payload.length = 0
  · rw [show decode d p = (d, .err) by simp [decode, h0]]; exact empty h0
  by_cases hz : d.size = 0
  · cases hm : p.marker
    · rw [decode_start d p h0 hz hm]
      have := push h0 hm (Or.inl hz) (p.seq + 1)
      rwa [hz, Nat.zero_add] at this
    · rw [decode_single d p h0 hz hm]; exact single hz
  by_cases hs : p.seq = d.nextSeq
  · by_cases hb : d.size + p.payload.length > Codec.mpeg4videoMaxFrameSize
    · rw [show decode d p = (d.reset, .err) by simp [decode, h0, hz, hs, hb]]; exact reset hz
    · cases hm : p.marker
      · rw [decode_mid d p h0 hz hs hb hm]; exact push h0 hm (Or.inr (Nat.le_of_not_gt hb)) _
      · rw [decode_last d p h0 hz hs hb hm]; exact last hz (Nat.le_of_not_gt hb)
  · rw [show decode d p = (d.reset, .err) by simp [decode, h0, hz, hs]]; exact reset hz

/-- **C08**: the invariant is preserved by `Decode` on EVERY packet (any payload bytes, sequence
number, timestamp, marker). -/
theorem c08_inv_decode (P : Nat) (d : Dec) (p : Pkt) (hi : Inv P d) (hp : p.payload.length ≤ P) :
    Inv P (decode d p).1 := by
  have hreset : ∀ sq, Inv P { d with size := 0, fragments := [], nextSeq := sq } :=
    fun _ => ⟨rfl, Nat.zero_le _, fun _ => rfl⟩
  refine decode_elim (motive := fun r => Inv P r.1) d p (fun _ => hi) (fun _ => hi) (fun _ => hreset _)
    (fun h0 _ hb sq => ⟨?_, ?_, fun h => absurd (Nat.eq_zero_of_add_eq_zero_left h) h0⟩) (fun _ _ => hreset _)
  · show d.size + p.payload.length = totalLen (d.fragments ++ [p.payload])
    rw [totalLen_append, totalLen_singleton, hi.size_eq]
  · show d.size + p.payload.length ≤ _
    have := hi.size_le
    omega

/-- **C08 bounded memory**: retained bytes ≤ documented maximum frame size + one packet. -/
theorem c08_retained_le (P : Nat) (d : Dec) (hi : Inv P d) :
    retained d ≤ Codec.mpeg4videoMaxFrameSize + P := by
  unfold retained; rw [← hi.size_eq]; exact hi.size_le

theorem joinFragments_snoc (fs : List Bytes) (b : Bytes) (sz : Nat) (h : sz = totalLen fs) :
    joinFragments (fs ++ [b]) (sz + b.length) = fs.flatten ++ b :=
  take_flatten_snoc fs b sz h

/-- **C08 output bound**: a returned frame is either a single packet's payload or at most
`MaxFrameSize` long. -/
theorem c08_out_le (P : Nat) (d : Dec) (p : Pkt) (f : Bytes) (hi : Inv P d)
    (h : (decode d p).2 = .ok f) : f = p.payload ∨ f.length ≤ Codec.mpeg4videoMaxFrameSize := by
  revert h
  refine decode_elim (motive := fun r => r.2 = .ok f → _) d p (fun _ => nofun)
    (fun _ h => Or.inl (DecRes.ok.inj h).symm) (fun _ => nofun) (fun _ _ _ _ => nofun) (fun _ hb h => Or.inr ?_)
  rw [← DecRes.ok.inj h, joinFragments_snoc _ _ _ hi.size_eq, List.length_append, flatten_length, ← hi.size_eq]
  exact hb

theorem runs : Runs decode runDec := ⟨fun _ => rfl, fun _ _ _ => rfl⟩

/-- the decoder holds the fragments of `pre`, expects sequence number `sq`, and the frame stays
within the limit with the bytes `rest` -/
def Holds (d : Dec) (pre : Bytes) (sq : UInt16) (_ : Nat) (rest : Bytes) : Prop :=
  d.size = totalLen d.fragments ∧ d.fragments.flatten = pre ∧ 0 < d.size ∧ d.nextSeq = sq ∧
  d.size + rest.length ≤ Codec.mpeg4videoMaxFrameSize

/-- **C03 round trip**: for every valid configuration, every valid frame and every clean decoder,
the decoder answers "more packets needed" on all packets but the last and returns exactly the
frame at the last one, and is clean again afterwards. -/
theorem c03_roundtrip (e : Enc) (f : Bytes) (d : Dec)
    (hc : ValidCfg e.cfg) (hf : ValidFrame f) (hd : Clean d) :
    ∃ d', runDec d (encode e f).2
        = (d', List.replicate ((encode e f).2.length - 1) .more ++ [.ok f]) ∧ Clean d' := by
  have hmax : 0 < e.cfg.max := hc
  obtain ⟨k, hk, hlow⟩ := ceilDiv_eq_succ f.length e.cfg.max hc hf.1
  rw [encode_frags, frags_length, hk]
  obtain ⟨d', r, hrun, rfl, hcl⟩ := run_unit runs (plain e.cfg 0) e.cfg.max Holds
    (fun whole d' r => r = .ok whole ∧ Clean d') f d e.seq k hlow
    (fun _ => ⟨_, _, decode_single d _ (Nat.ne_of_gt hf.1) hd.1 rfl, rfl, hd⟩)
    (fun _ ch rest _ hcr hch hr => ⟨_, decode_start d _ (by show ch.length ≠ 0; omega) hd.1 rfl,
      by rw [hd.2]; exact (totalLen_singleton _).symm, by rw [hd.2]; exact List.flatten_singleton,
      by show 0 < ch.length; omega,
      rfl, by have := hf.2; rw [← hcr, List.length_append] at this; exact this⟩)
    (fun d pre sq _ ch rest ⟨h1, h2, h3, h4, h5⟩ hch hr => by
      rw [List.length_append] at h5
      exact ⟨_, decode_mid d _ (by show ch.length ≠ 0; omega) (by omega) h4.symm
        (by show ¬ d.size + ch.length > _; omega) rfl, by rw [totalLen_append, totalLen_singleton, ← h1],
        by rw [List.flatten_append, List.flatten_singleton, h2]; rfl, by show 0 < d.size + ch.length; omega,
        by rw [← h4], by show d.size + ch.length + _ ≤ _; omega⟩)
    (fun d pre sq rest ⟨h1, h2, h3, h4, h5⟩ hr =>
      ⟨_, _, decode_last d _ (by show rest.length ≠ 0; omega) (by omega) h4.symm
        (by show ¬ d.size + rest.length > _; omega) rfl, by rw [joinFragments_snoc _ _ _ h1, h2]; rfl, rfl, rfl⟩)
  exact ⟨d', hrun, hcl⟩

/-- after any packet that carries the marker and a non-empty payload the decoder is clean, whatever
its state was (mid-frame garbage, wrong expected sequence number, …) -/
theorem c07_marker_cleans (P : Nat) (d : Dec) (p : Pkt) (hi : Inv P d) (hm : p.marker = true)
    (hp : 0 < p.payload.length) : Clean (decode d p).1 :=
  decode_elim (motive := fun r => Clean r.1) d p (fun h0 => absurd h0 (Nat.ne_of_gt hp)) (fun hz => ⟨hz, hi.empty hz⟩)
    (fun _ => ⟨rfl, rfl⟩) (fun _ hf => absurd hm (hf ▸ Bool.false_ne_true)) (fun _ _ => ⟨rfl, rfl⟩)

/-- **C07 flush**: from ANY reachable (invariant) state, the packets of one intact valid frame, in
order, leave the decoder clean — whatever was lost, duplicated or reordered before. -/
theorem c07_flush (P : Nat) (e : Enc) (f : Bytes) (d : Dec) (hi : Inv P d)
    (hc : ValidCfg e.cfg) (hf : ValidFrame f) (hP : e.cfg.max ≤ P) :
    Clean (runDec d (encode e f).2).1 := by
  obtain ⟨k, hk, hlow⟩ := ceilDiv_eq_succ f.length e.cfg.max hc hf.1
  -- the last packet carries the marker and a non-empty payload
  obtain ⟨ini, fi, pos, r, hsplit, hpl⟩ := frags_last (plain e.cfg 0) e.cfg.max k true e.seq 0 f
  have hsz := c06_payload_le e f hc
  rw [encode_frags, hk, hsplit] at hsz ⊢
  rw [runs.snoc]
  exact c07_marker_cleans P _ _
    (runs.inv (c08_inv_decode P) d ini hi fun p hp => Nat.le_trans (hsz p (List.mem_append_left _ hp)) hP) rfl (hpl hlow)

/-- **C07 resynchronisation**: after ANY packet history `h` (arbitrary packets: this subsumes every
loss / duplication / reordering pattern applied to any stream), an intact frame `f` followed by an
intact frame `g` ends with exactly `g`, returned at `g`'s last packet and not before. -/
theorem c07_resync (P : Nat) (h : List Pkt) (e : Enc) (f g : Bytes)
    (hh : ∀ p ∈ h, p.payload.length ≤ P) (hc : ValidCfg e.cfg) (hP : e.cfg.max ≤ P)
    (hf : ValidFrame f) (hg : ValidFrame g) :
    let d0 := (runDec {} h).1
    let e1 := (encode e f).1
    ∃ d', runDec (runDec d0 (encode e f).2).1 (encode e1 g).2
        = (d', List.replicate ((encode e1 g).2.length - 1) .more ++ [.ok g]) ∧ Clean d' := by
  intro d0 e1
  have hinv : Inv P d0 := runs.inv (c08_inv_decode P) {} h (c08_inv_init P) hh
  have hclean := c07_flush P e f d0 hinv hc hf hP
  have hc1 : ValidCfg e1.cfg := by simpa [e1, encode] using hc
  exact c03_roundtrip e1 g _ hc1 hg hclean

/-- expected decoder answers for a series of frames -/
def expected (e : Enc) : List Bytes → List (DecRes Bytes)
  | [] => []
  | f :: fs => List.replicate ((encode e f).2.length - 1) .more ++ [.ok f] ++ expected (encode e f).1 fs

/-- **C03, consecutive frames through the same encoder / decoder pair**: every frame of the series
comes back exactly, each at its own last packet, and the decoder ends clean. -/
theorem c03_roundtrip_many (e : Enc) (fs : List Bytes) (d : Dec)
    (hc : ValidCfg e.cfg) (hf : ∀ f ∈ fs, ValidFrame f) (hd : Clean d) :
    ∃ d', runDec d (encodeMany e fs).2 = (d', expected e fs) ∧ Clean d' := by
  induction fs generalizing e d with
  | nil => exact ⟨d, by simp [encodeMany, runDec, expected], hd⟩
  | cons f fs ih =>
    obtain ⟨d1, h1, hc1⟩ := c03_roundtrip e f d hc (hf f (by simp)) hd
    have hcfg : ValidCfg (encode e f).1.cfg := by simpa [encode] using hc
    obtain ⟨d2, h2, hc2⟩ := ih (encode e f).1 d1 hcfg (fun g hg => hf g (by simp [hg])) hc1
    refine ⟨d2, ?_, hc2⟩
    simp only [encodeMany, expected]
    rw [runs.append, h1]
    simp only [h2]

/-- a 9-byte frame at limit 4 takes the fragmented path (3 packets) across a sequence-number wrap -/
def exEnc : Enc := { cfg := { pt := 96, ssrc := 7, max := 4 }, seq := 65535 }
def exFrame : Bytes := [1, 2, 3, 4, 5, 6, 7, 8, 9]

example : ValidCfg exEnc.cfg ∧ ValidFrame exFrame ∧ Clean {} := by decide
example : (encode exEnc exFrame).2.map (·.seq) = [65535, 0, 1] := by decide
example : (runDec {} (encode exEnc exFrame).2).2 = [.more, .more, .ok exFrame] := by decide

/-- a dirty state (mid-frame, wrong expected sequence number) satisfies the invariant -/
example : Inv 1500 { fragments := [[1,2],[3]], size := 3, nextSeq := 77 } :=
  ⟨by decide, by decide, by decide⟩

end Rtsp.Codec.Fragmented
