import Rtsp.Proofs.Codec.H264Dec
/-
Property theorems for the decoder of pkg/format/rtph264 and for `format.H264.PTSEqualsDTS` about the
model in `Model/Codec/H264.lean`: this format's part of property C08 — the invariant (`Inv` of
`Proofs/Codec/H264Dec`), the bounds read off it, and totality (no loop exhausts the fuel the model
gives it; `PTSEqualsDTS` makes no out-of-range access).
All statements quantify over every packet (any payload bytes, sequence number, timestamp, marker)
and every history.  `P` is a bound on the payload size of the packets of the history (65535 for
anything that arrived in a UDP datagram or an interleaved frame).
-/
namespace Rtsp.Codec.H264
open Rtsp.Rtp Rtsp.Codec.H26x Rtsp.Facts

theorem c08_inv_init (P : Nat) : Inv P {} :=
  ⟨⟨rfl, by simp, fun _ => rfl, by simp⟩, ⟨rfl, rfl, by simp, by simp, by simp⟩⟩

/-- **C08**: the invariant is preserved by `Decode` on EVERY packet. -/
theorem c08_inv_decode (P : Nat) (d : Dec) (p : Pkt) (hi : Inv P d) (hp : p.payload.length ≤ P) :
    Inv P (decode d p).1 := (decode_spec P d p hi hp).1

/-- … hence by every history. -/
theorem c08_inv_run (P : Nat) (d : Dec) (ps : List Pkt) (hi : Inv P d)
    (hp : ∀ p ∈ ps, p.payload.length ≤ P) : Inv P (runDec d ps).1 :=
  runs.inv (c08_inv_decode P) d ps hi hp

/-- **C08 bounded memory**: the NALU under reassembly (≤ MaxAccessUnitSize, or the first fragment
alone) and the access unit being collected (≤ MaxAccessUnitSize) are capped separately, so the
decoder never references more than twice the documented maximum plus one packet. -/
theorem c08_retained_le (P : Nat) (d : Dec) (hi : Inv P d) : retained d ≤ 2 * maxAU + P := by
  unfold retained
  rw [← hi.1.1, ← hi.2.2]
  have := hi.1.2
  have := hi.2.4
  omega

/-- **C08 bounded memory, number of slices**: the decoder never holds more byte slices than bytes
plus one (every stored fragment but the first data fragment, and every buffered NALU, is
non-empty), so the slice headers and the packet buffers they pin are bounded as well.  False before
/repo commit f1b05d6 (continuation fragments without data were stored without limit). -/
theorem c08_fragment_count_le (P : Nat) (d : Dec) (hi : Inv P d) :
    d.fragments.length + d.frameBuffer.length ≤ retained d + 1 ∧
    d.fragments.length ≤ maxAU + P + 1 ∧ d.frameBuffer.length ≤ maxNALUs := by
  have h1 := hi.1.1
  have h2 := hi.1.2
  have h4 := hi.1.4
  have hb := AllNonempty.length_le hi.2.5
  refine ⟨?_, by omega, by rw [← hi.2.1]; exact hi.2.3⟩
  unfold retained
  omega

/-- **C08 output bound**: a returned access unit has at most MaxNALUsPerAccessUnit NALUs and at
most MaxAccessUnitSize bytes. -/
theorem c08_out_le (P : Nat) (d : Dec) (p : Pkt) (f : List Bytes) (hi : Inv P d)
    (hp : p.payload.length ≤ P) (h : (decode d p).2 = .ok f) :
    f.length ≤ maxNALUs ∧ totalLen f ≤ maxAU :=
  ((decode_spec P d p hi hp).2 f h).2.2

/-- **C08 "a frame or an error"**: a returned access unit has at least one NALU and no empty NALU
(what upstream's fuzz target asserts; false before /repo commit a0e65b7). -/
theorem c08_out_nonempty (P : Nat) (d : Dec) (p : Pkt) (f : List Bytes) (hi : Inv P d)
    (hp : p.payload.length ≤ P) (h : (decode d p).2 = .ok f) : f ≠ [] ∧ ∀ n ∈ f, n ≠ [] :=
  ⟨((decode_spec P d p hi hp).2 f h).1, ((decode_spec P d p hi hp).2 f h).2.1⟩

/-- **C08 totality**, `splitNALUs`: more fuel changes nothing (every iteration removes ≥ 3 bytes) -/
theorem c08_split_total (b : Bytes) (k : Nat) : splitNALUsF (b.length + 1 + k) b = splitNALUs b :=
  splitNALUsF_fuel _ _ b (by omega) (by omega)

/-- **C08 totality**, the STAP-A walk -/
theorem c08_stap_total (payload : Bytes) (acc : List Bytes) (k : Nat) :
    aggLoop true (payload.length + 1 + k) payload acc = aggLoop true (payload.length + 1) payload acc :=
  aggLoop_fuel true _ _ payload acc (by omega) (by omega)

/-- **C08 totality**, the Annex-B walk (in `annexBBody` the fuel is `len(buf)+1`, the walk starts
after the delimiter) -/
theorem c08_annexb_total (rest : Bytes) (acc : List Bytes) (sz k : Nat) :
    annexBLoop (rest.length + 1 + k) rest acc sz = annexBLoop (rest.length + 1) rest acc sz :=
  annexBLoop_fuel _ _ rest acc sz (by omega) (by omega)

theorem ptsLoopC_cons (fuel : Nat) (hi lo : UInt8) (rest : Bytes) :
    ptsLoopC (fuel + 1) (hi :: lo :: rest) =
      if hi.toNat * 256 + lo.toNat = 0 ∨ hi.toNat * 256 + lo.toNat > rest.length then some false
      else if isKeyType (((rest.take (hi.toNat * 256 + lo.toNat)).headD 0) &&& 0x1F).toNat then some true
      else if (rest.drop (hi.toNat * 256 + lo.toNat)).length = 0 then some false
      else ptsLoopC fuel (rest.drop (hi.toNat * 256 + lo.toNat)) := by
  have hlen : ¬ (hi :: lo :: rest).length < 2 := by simp
  rw [ptsLoopC, if_neg hlen]
  by_cases hsz : hi.toNat * 256 + lo.toNat = 0 ∨ hi.toNat * 256 + lo.toNat > rest.length
  · rw [if_pos hsz]; exact if_pos hsz
  · rw [if_neg hsz]
    refine (if_neg hsz).trans ?_
    show (sliceTo? rest _).bind _ = _
    rw [sliceTo?_of_le (by omega)]
    show (sliceFrom? rest _).bind _ = _
    rw [sliceFrom?_of_le (by omega)]
    show (idx? _ 0).bind _ = _
    rw [idx?_zero_of_ne_nil (take_ne_nil (by omega) (by omega))]
    rfl

theorem ptsLoopC_eq (fuel : Nat) (payload : Bytes) (h : payload.length < fuel) :
    ptsLoopC fuel payload = some (ptsLoop fuel payload) := by
  induction fuel generalizing payload with
  | zero => omega
  | succ fuel ih =>
    match payload with
    | [] => rfl
    | [_] => rfl
    | hi :: lo :: rest =>
      rw [ptsLoopC_cons, ptsLoop,
        ih (rest.drop _) (by simp only [List.length_drop, List.length_cons] at h ⊢; omega)]
      simp only [apply_ite some]

/-- **C08 (PTSEqualsDTS)**: on EVERY payload the statement-by-statement rendering with checked
indices never hits an out-of-range access, stops within its fuel, and computes `ptsEqualsDts`. -/
theorem c08_pts_total (payload : Bytes) : ptsEqualsDtsC payload = some (ptsEqualsDts payload) := by
  match payload with
  | [] => rfl
  | b0 :: tl =>
    -- the FU-A branch looks at one more byte, if there is one
    have hfu : (if (b0 :: tl).length < 2 then some false
        else do
          let b1 ← idx? (b0 :: tl) 1
          if b1 >>> 7 ≠ 1 then some false else some (isKeyType (b1 &&& 0x1F).toNat)) =
        some (match tl with
          | [] => false
          | b1 :: _ => if b1 >>> 7 ≠ 1 then false else isKeyType (b1 &&& 0x1F).toNat) := by
      cases tl with
      | nil => rfl
      | cons b1 t => exact (apply_ite some _ _ _).symm
    show (if isKeyType (b0 &&& 0x1F).toNat then some true
      else if (b0 &&& 0x1F).toNat = CodecH26x.h264PtsStapA then ptsLoopC (tl.length + 1) tl
      else if (b0 &&& 0x1F).toNat = CodecH26x.h264PtsFuA then _ else some false) = _
    rw [ptsLoopC_eq _ _ (Nat.lt_add_one _), hfu]
    simp only [ptsEqualsDts, apply_ite some]
    rfl

/-- a dirty state: a half-reassembled NALU, a stale access unit, wrong expected sequence number -/
example : Inv 1500 { fragments := [[0x65], [1, 2, 3]], fragmentsSize := 4, fragmentNextSeqNum := 77,
                     frameBuffer := [[0x67, 1], [0x68]], frameBufferLen := 2, frameBufferSize := 3,
                     frameBufferTimestamp := 9000, firstPacketReceived := true } :=
  ⟨⟨by decide, by decide, by decide, by decide⟩, ⟨by decide, by decide, by decide, by decide, by decide⟩⟩

example : ptsEqualsDts [0x18, 0x00, 0x01, 0x09, 0x00, 0x02, 0x67, 0x42] = true := by decide
example : ptsEqualsDtsC [0x18, 0x00, 0x05, 0x09] = some false := by decide

end Rtsp.Codec.H264
