import Rtsp.Proofs.Codec.Mpeg4Audio
/-
Property theorems for pkg/format/rtpmpeg4audio (RFC 3640 generic mode), about the model in
`Model/Codec/Mpeg4Audio.lean`, for ALL bit-length configurations (SizeLength ≥ 1, any IndexLength /
IndexDeltaLength).  A frame is a group of access units; the encoder aggregates AUs while they fit,
splits a group that does not fit into several self-contained packets and fragments a single
oversize AU.
The theorems `c03_*`, `c06_*`, `c07_*`, `c08_*` are this format's part of properties C03, C06, C07, C08
(C03 in the grouping form, from a clean decoder with the encoder's bit lengths).
`c07_marker_cleans` and `c07_ok_needs_marker` hold of every decoder; `c07_synced_stays`, `c07_flush`, `c07_resync`
are for decoders whose ADTS sniffing is over (`Synced`), `c07_first_group_syncs` and the two `*_unsniffed` ones say
what remains true before (the comments at `Synced` and at `decode_agg_dirty` say what is not covered).
-/
namespace Rtsp.Codec.Mpeg4Audio
open Rtsp.Rtp Rtsp.Facts Rtsp.Codec.Audio

/-- a usable configuration: the AU size field exists, and a fragment has room for at least one
byte of data after the 2-byte AU-headers-length and one AU header -/
structure ValidCfg (c : EncCfg) (p : Params) : Prop where
  sl_pos : 1 ≤ p.sl
  max_ok : 3 + ceil8 (p.sl + p.il) ≤ c.max

/-- a valid access unit: non-empty, its size fits the AU-size field and `MaxAccessUnitSize`, and it
does not start with the ADTS sync word (the decoder would take the stream for ADTS-wrapped) -/
def ValidUnit (p : Params) (au : Bytes) : Prop := SizeOk p au.length ∧ adtsSync au = false

/-- "AUs must contain at least 1 element"; the AU headers of the group fit the 16-bit
AU-headers-length field -/
def ValidFrame (p : Params) (aus : List Bytes) : Prop :=
  aus ≠ [] ∧ (∀ au ∈ aus, ValidUnit p au) ∧ hdrBitsLen p aus.length < 65536

instance (p : Params) (n : Nat) : Decidable (SizeOk p n) := by unfold SizeOk; infer_instance
instance (p : Params) (au : Bytes) : Decidable (ValidUnit p au) := by unfold ValidUnit; infer_instance
instance (p : Params) (aus : List Bytes) : Decidable (ValidFrame p aus) := by unfold ValidFrame; infer_instance

/-- sample count of a batch -/
def inc (b : List Bytes) : UInt32 := UInt32.ofNat b.length * UInt32.ofNat samplesPerAU

def parts (c : EncCfg) (p : Params) (aus : List Bytes) : List (List Bytes) := batches (ops c p).fits aus []

/-- the packets of one `Encode` call -/
def pkts (e : Enc) (aus : List Bytes) : List Pkt :=
  writeAllOk (writeBatch e.cfg e.par) inc (parts e.cfg e.par aus) 0 e.seq

theorem encode_eq (e : Enc) (aus : List Bytes) :
    encode e aus = ({ e with seq := e.seq + UInt16.ofNat (pkts e aus).length }, some (pkts e aus)) := by
  unfold encode
  rw [batchLoop_ok (ops e.cfg e.par) inc _ _ _ _ (fun b _ => rfl)]
  rfl

theorem pkts_eq (e : Enc) (aus : List Bytes) :
    pkts e aus = writeAllOk (writer e.cfg e.par).write inc (parts e.cfg e.par aus) 0 e.seq := by
  rw [pkts, writeBatch_eq]

theorem lenAggregated_snoc (p : Params) (b : List Bytes) (f : Bytes) :
    lenAggregated p (b ++ [f]) none = lenAggregated p b (some f) := by
  simp [lenAggregated]; omega

theorem fits_iff (c : EncCfg) (p : Params) (b : List Bytes) (f : Bytes) :
    (ops c p).fits b f = true ↔ (writer c p).len (b ++ [f]) ≤ (writer c p).max := by
  show decide (lenAggregated p b (some f) ≤ c.max) = true ↔ lenAggregated p (b ++ [f]) none ≤ c.max
  rw [decide_eq_true_eq, lenAggregated_snoc]

theorem frag_unit_gt (c : EncCfg) (p : Params) (f : Bytes) (h : ¬ (writer c p).len [f] < (writer c p).max) :
    c.max - 2 - ceil8 (p.sl + p.il) ≤ f.length := by
  simp only [writer, lenAggregated_single] at h
  omega

theorem parts_flatten (c : EncCfg) (p : Params) (aus : List Bytes) : (parts c p aus).flatten = aus := by
  simp [parts, batches_flatten]

/-- **C06 size clause**: every payload is at most `PayloadMaxSize`, for every group of AUs of any
sizes (below, at or above the limit) and every bit-length configuration. -/
theorem c06_payload_le (e : Enc) (aus : List Bytes) (hc : ValidCfg e.cfg e.par) :
    ∀ ps, (encode e aus).2 = some ps → ∀ q ∈ ps, q.payload.length ≤ e.cfg.max := by
  intro ps h
  rw [encode_eq] at h
  obtain rfl := Option.some.inj h
  have hmax := hc.max_ok
  rw [pkts_eq]
  exact (writer e.cfg e.par).payload_le _ inc (by simp [writer, lenAggregated, hdrBitsLen, ceil8]; omega)
    (fits_iff e.cfg e.par) (show 0 < e.cfg.max - 2 - ceil8 (e.par.sl + e.par.il) by omega)
    (fun b => Nat.le_of_eq (payload_length e.par b))
    (fun f fi pos ch h => by simp only [writer, fragPayload_length] at h ⊢; omega) aus 0 e.seq

/-- **C06 numbering, one call**: the packets of one `Encode` carry `seq, seq+1, …` (mod 2^16) and
the encoder continues after them. -/
theorem c06_seq_consecutive (e : Enc) (aus : List Bytes) :
    (pkts e aus).map (·.seq) = seqFrom e.seq (pkts e aus).length ∧
    (encode e aus).1.seq = e.seq + UInt16.ofNat (pkts e aus).length ∧ (encode e aus).2 = some (pkts e aus) := by
  refine ⟨by rw [pkts_eq]; exact (writer e.cfg e.par).seq inc _ 0 e.seq, ?_, ?_⟩ <;> rw [encode_eq]

/-- a series of `Encode` calls through the same encoder -/
def encodeMany (e : Enc) : List (List Bytes) → Enc × List Pkt
  | [] => (e, [])
  | f :: fs =>
    let (e2, qs) := encodeMany (encode e f).1 fs
    (e2, pkts e f ++ qs)

/-- **C06 numbering, any series of calls, any initial value (incl. wrap inside the run)**. -/
theorem c06_seq_many (e : Enc) (fs : List (List Bytes)) :
    (encodeMany e fs).2.map (·.seq) = seqFrom e.seq (encodeMany e fs).2.length ∧
    (encodeMany e fs).1.seq = e.seq + UInt16.ofNat (encodeMany e fs).2.length :=
  seq_series (fun e f => ⟨(c06_seq_consecutive e f).1, (c06_seq_consecutive e f).2.1⟩) e fs

/-- **C06 payload type and SSRC** are the configured ones on every packet. -/
theorem c06_pt_ssrc (e : Enc) (aus : List Bytes) :
    ∀ q ∈ pkts e aus, q.pt = e.cfg.pt ∧ q.ssrc = e.cfg.ssrc := by
  rw [pkts_eq]; exact (writer e.cfg e.par).pt_ssrc inc _ 0 e.seq

theorem write_markers (c : EncCfg) (p : Params) (hc : ValidCfg c p) (b : List Bytes) (ts : UInt32) (sq : UInt16) :
    ∃ n, ((writer c p).write b ts sq).map (·.marker) = List.replicate n false ++ [true] :=
  have hmax := hc.max_ok
  (writer c p).write_markers rfl (show 0 < c.max - 2 - ceil8 (p.sl + p.il) by omega)
    (fun f h => by have := frag_unit_gt c p f h; omega) b ts sq

/-- the packets of one call, piece by piece (one piece per batch) -/
def pieces (e : Enc) (aus : List Bytes) : List (List Pkt) :=
  piecePkts (writeBatch e.cfg e.par) inc (parts e.cfg e.par aus) 0 e.seq

theorem pieces_flatten (e : Enc) (aus : List Bytes) : (pieces e aus).flatten = pkts e aus :=
  piecePkts_flatten _ _ _ _ _

/-- **C06 marker**: within every piece (the packets that carry one batch, i.e. one unit the
decoder completes) the marker is set on the last packet and on no other. -/
theorem c06_marker_last (e : Enc) (aus : List Bytes) (hc : ValidCfg e.cfg e.par) :
    (pieces e aus).flatten = pkts e aus ∧
    ∀ ps ∈ pieces e aus, ∃ n, ps.map (·.marker) = List.replicate n false ++ [true] :=
  ⟨pieces_flatten e aus, by
    rw [pieces, writeBatch_eq]
    exact piecePkts_forall _ _ _ _ _ _ fun b _ ts sq => write_markers e.cfg e.par hc b ts sq⟩

/-- state invariant: the fragments held are at most `MaxAccessUnitSize` bytes (every AU size is
checked against it when the AU header is read, so no bound on the packet size is needed) -/
structure Inv (d : Dec) : Prop where
  size_eq : d.size = totalLen d.fragments
  empty   : d.size = 0 → d.fragments = []
  size_le : d.size ≤ maxAU
  nonempty : ∀ f ∈ d.fragments, 0 < f.length

/-- clean decoder: nothing held, not in ADTS mode -/
def Clean (d : Dec) : Prop := d.size = 0 ∧ d.fragments = [] ∧ d.adtsMode = false

instance (d : Dec) : Decidable (Clean d) := by unfold Clean; infer_instance

theorem c08_inv_init (p : Params) : Inv { par := p } := ⟨rfl, fun _ => rfl, by simp, by simp⟩

theorem inv_of_clean (d : Dec) (h1 : d.size = 0) (h2 : d.fragments = []) : Inv d :=
  ⟨by simp [h1, h2], fun _ => h2, by omega, by simp [h2]⟩

theorem removeADTS_state (d : Dec) (aus : List Bytes) :
    (removeADTS d aus).1.fragments = d.fragments ∧ (removeADTS d aus).1.size = d.size ∧
    (removeADTS d aus).1.par = d.par := by
  unfold removeADTS
  split
  · split
    · split
      · split <;> simp
      · simp
    · simp
  · split
    · split
      · split <;> simp
      · simp
    · simp

/-- **C08**: the invariant is preserved by `Decode` on EVERY packet. -/
theorem c08_inv_decode (d : Dec) (q : Pkt) (hi : Inv d) : Inv (decode d q).1 := by
  have hrm : ∀ (d' : Dec) (aus : List Bytes), d'.size = 0 → d'.fragments = [] → Inv (removeADTS d' aus).1 := by
    intro d' aus hs hf
    obtain ⟨e1, e2, _⟩ := removeADTS_state d' aus
    exact inv_of_clean _ (by rw [e2, hs]) (by rw [e1, hf])
  refine decode_elim (motive := fun r => Inv r.1) d q ?_ ?_ ?_ ?_ ?_
  · exact inv_of_clean _ rfl rfl
  · exact fun _ _ aus _ => hrm _ aus rfl rfl
  · intro _ _ chunk hpos hle
    refine ⟨by simp, fun hz => ?_, hle, fun f hf => ?_⟩
    · simp only at hz; omega
    · simp only [List.mem_singleton] at hf; subst hf; exact hpos
  · intro _ _ chunk hpos hle
    refine ⟨by simp [hi.size_eq], fun hz => ?_, hle, fun f hf => ?_⟩
    · simp only at hz; omega
    · simp only [List.mem_append, List.mem_singleton] at hf
      rcases hf with hf | hf
      · exact hi.nonempty f hf
      · subst hf; exact hpos
  · exact fun _ _ _ _ _ => hrm _ _ rfl rfl

/-- **C08 bounded memory**: retained bytes never exceed `MaxAccessUnitSize` (5 KiB). -/
theorem c08_retained_le (d : Dec) (hi : Inv d) : retained d ≤ maxAU := by
  unfold retained; rw [← hi.size_eq]; exact hi.size_le

/-- **C08 bounded memory, number of retained slices**: every retained fragment is non-empty, so the
decoder never holds more slices than retained bytes. -/
theorem c08_fragment_count_le (d : Dec) (hi : Inv d) : d.fragments.length ≤ retained d :=
  length_le_totalLen _ hi.nonempty

theorem removeADTS_out (d : Dec) (aus out : List Bytes) (h : (removeADTS d aus).2 = .ok out)
    (hb : ∀ au ∈ aus, au.length ≤ maxAU) : ∀ au ∈ out, au.length ≤ maxAU := by
  have single : ∀ (au x : Bytes), adtsUnmarshal au = some [x] → x.length ≤ maxAU := by
    intro au x hx
    exact adtsLoop_bounds _ _ _ hx x (by simp)
  unfold removeADTS at h
  split at h
  · split at h
    · rename_i au
      split at h
      · split at h
        · rename_i x hx
          simp only [DecRes.ok.injEq] at h; subst h
          intro a ha; simp only [List.mem_singleton] at ha; subst ha; exact single _ _ hx
        · simp only [DecRes.ok.injEq] at h; subst h; exact hb
      · simp only [DecRes.ok.injEq] at h; subst h; exact hb
    · simp only [DecRes.ok.injEq] at h; subst h; exact hb
  · split at h
    · split at h
      · rename_i au
        split at h
        · rename_i x hx
          simp only [DecRes.ok.injEq] at h; subst h
          intro a ha; simp only [List.mem_singleton] at ha; subst ha; exact single _ _ hx
        · simp at h
      · simp at h
    · simp only [DecRes.ok.injEq] at h; subst h; exact hb

/-- **C08 output bound**: every returned access unit is at most `MaxAccessUnitSize` long. -/
theorem c08_out_le (d : Dec) (q : Pkt) (aus : List Bytes) (hi : Inv d)
    (h : (decode d q).2 = .ok aus) : ∀ au ∈ aus, au.length ≤ maxAU := by
  revert h
  refine decode_elim (motive := fun r => r.2 = .ok aus → ∀ au ∈ aus, au.length ≤ maxAU) d q ?_ ?_ ?_ ?_ ?_
  · exact fun h => nomatch h
  · exact fun _ _ aus0 hb h => removeADTS_out _ aus0 aus h hb
  · exact fun _ _ _ _ _ h => nomatch h
  · exact fun _ _ _ _ _ h => nomatch h
  · intro _ _ chunk _ hle h
    refine removeADTS_out _ _ aus h fun au hau => ?_
    simp only [List.mem_singleton] at hau
    subst hau
    rw [joinFragments_length]
    exact hle

/-- **C08 totality (AU headers)**: the header loop never runs out of fuel — with any fuel above
the number of header bits the result is the same (every iteration takes `SizeLength ≥ 1` bits). -/
theorem c08_headers_total (p : Params) (hsl : 1 ≤ p.sl) (buf : Bytes) (f1 f2 hl pos : Nat) (first : Bool)
    (h1 : hl < f1) (h2 : hl < f2) :
    readAUHeadersLoop p buf f1 hl pos first = readAUHeadersLoop p buf f2 hl pos first := by
  induction f1 generalizing f2 hl pos first with
  | zero => omega
  | succ f ih =>
    match f2, h2 with
    | f2 + 1, h2 =>
      rw [readLoop_succ, readLoop_succ]
      by_cases h0 : hl = 0
      · rw [if_pos h0, if_pos h0]
      rw [if_neg h0, if_neg h0]
      cases readHeader p buf pos first with
      | none => rfl
      | some x => simp only; rw [ih f2 _ _ _ (by omega) (by omega)]

/-- **C08 no out-of-range slice**: whenever the AU headers parse, `payload[pos:]` with
`pos = ⌈headersLen/8⌉` is inside the payload (Go would panic otherwise). -/
theorem c08_header_in_bounds (p : Params) (buf : Bytes) (hl : Nat) (l : List Nat)
    (h : readAUHeaders p buf hl = some l) : ceil8 hl ≤ buf.length := by
  have := (readLoop_bounds p buf _ _ _ _ l h (Nat.zero_le _)).2
  rw [ceil8_eq]; omega

/-- **C08 totality (ADTS)**: the ADTS loop never runs out of fuel. -/
theorem c08_adts_total (f1 f2 : Nat) (r : Bytes) (h1 : r.length < f1) (h2 : r.length < f2) :
    adtsLoop f1 r = adtsLoop f2 r := by
  induction f1 generalizing f2 r with
  | zero => omega
  | succ f ih =>
    match f2, h2 with
    | f2 + 1, h2 =>
      rw [adtsLoop, adtsLoop]
      cases hh : adtsHead r with
      | none => rfl
      | some x =>
        obtain ⟨au, rest⟩ := x
        have hb := adtsHead_bounds r au rest hh
        simp only
        split
        · rfl
        · rw [ih f2 rest (by omega) (by omega)]

/-- what `Decode` sees at the front of the payload the encoder builds for `units`; the only place where
the written header bytes are read as the bit string they spell (`hdrBytes_eq_pack`) -/
theorem written_front (p : Params) (hsl : 1 ≤ p.sl) (units : List Bytes) (hne : units ≠ [])
    (hv : ∀ u ∈ units, SizeOk p u.length) (h16 : hdrBitsLen p units.length < 65536) (pl : Bytes)
    (hq : pl = payload p units) :
    ¬ pl.length < 2 ∧ (pl.getD 0 0).toNat * 256 + (pl.getD 1 0).toNat = hdrBitsLen p units.length ∧
    hdrBitsLen p units.length ≠ 0 ∧
    readAUHeaders p (pl.drop 2) (hdrBitsLen p units.length) = some (units.map (·.length)) ∧
    (pl.drop 2).drop (ceil8 (hdrBitsLen p units.length)) = units.flatten := by
  subst hq
  have hd2 : (payload p units).drop 2 = hdrBytes p units ++ units.flatten := by simp [payload, be16]
  refine ⟨by simp [payload, be16], ?_, ?_, ?_, ?_⟩
  · rw [payload, List.append_assoc]; exact be16_read _ h16 _
  · cases units with
    | nil => exact absurd rfl hne
    | cons u rest => simp [hdrBitsLen]; omega
  · rw [hd2, hdrBytes_eq_pack p units fun u hu => (hv u hu).2.1, hdrBitsLen_eq, ← auHeaders_length]
    exact readAUHeaders_written p hsl units _ hv
  · rw [hd2]; exact List.drop_left' (hdrBytes_length p units)

theorem decode_written (d : Dec) (q : Pkt) (units : List Bytes) (p : Params) (hp : d.par = p) (hsl : 1 ≤ p.sl)
    (hne : units ≠ []) (hv : ∀ u ∈ units, SizeOk p u.length) (h16 : hdrBitsLen p units.length < 65536)
    (hq : q.payload = payload p units) :
    decode d q =
      if d.size = 0 then
        if q.marker then removeADTS d.reset units
        else match units with
          | [u] => ({ d.reset with size := u.length, fragments := [u], nextSeq := q.seq + 1 }, .more)
          | _ => (d.reset, .err)
      else match units with
        | [u] =>
          if q.seq ≠ d.nextSeq then (d.reset, .err)
          else if d.size + u.length > maxAU then (d.reset, .err)
          else if !q.marker then
            ({ d with size := d.size + u.length, fragments := d.fragments ++ [u], nextSeq := d.nextSeq + 1 }, .more)
          else removeADTS { d with size := 0, fragments := [], nextSeq := d.nextSeq + 1 }
                 [joinFragments (d.fragments ++ [u]) (d.size + u.length)]
        | _ => (d.reset, .err) := by
  subst hp
  obtain ⟨f1, f2, f3, f4, f5⟩ := written_front d.par hsl units hne hv h16 q.payload hq
  unfold decode
  simp only [f1, ↓reduceIte, f2, f3, f4, f5, splitAUs_flatten]
  match units, hne with
  | [u], _ =>
    simp only [List.map_cons, List.map_nil, List.flatten_cons, List.flatten_nil, List.append_nil,
      Nat.lt_irrefl, ↓reduceIte, List.take_length, Dec.reset, List.nil_append]
  | _ :: _ :: _, _ => rfl

theorem decode_one (d : Dec) (q : Pkt) (u : Bytes) (p : Params) (hp : d.par = p) (hsl : 1 ≤ p.sl) (hv : SizeOk p u.length)
    (h16 : hdrBitsLen p 1 < 65536) (hq : q.payload = fragPayload p u) :
    decode d q =
      if d.size = 0 then
        if q.marker then removeADTS d.reset [u]
        else ({ d.reset with size := u.length, fragments := [u], nextSeq := q.seq + 1 }, .more)
      else if q.seq ≠ d.nextSeq then (d.reset, .err)
      else if d.size + u.length > maxAU then (d.reset, .err)
      else if !q.marker then
        ({ d with size := d.size + u.length, fragments := d.fragments ++ [u], nextSeq := d.nextSeq + 1 }, .more)
      else removeADTS { d with size := 0, fragments := [], nextSeq := d.nextSeq + 1 }
             [joinFragments (d.fragments ++ [u]) (d.size + u.length)] :=
  decode_written d q [u] p hp hsl (by simp) (by simpa using hv) h16 (hq.trans (fragPayload_eq _ _))

theorem removeADTS_valid (d : Dec) (b : List Bytes) (hm : d.adtsMode = false)
    (hb : ∀ au ∈ b, adtsSync au = false) :
    removeADTS d b = ({ d with firstAUParsed := true }, .ok b) := by
  unfold removeADTS
  cases hf : d.firstAUParsed
  · simp only [Bool.not_false, ↓reduceIte]
    match b, hb with
    | [au], hb => simp [hb au (by simp)]
    | [], _ => rfl
    | _ :: _ :: _, _ => rfl
  · simp only [Bool.not_true, Bool.false_eq_true, ↓reduceIte, hm]
    cases d
    simp_all

theorem decode_whole (d : Dec) (q : Pkt) (b : List Bytes) (p : Params) (hp : d.par = p) (hsl : 1 ≤ p.sl)
    (hb : ValidFrame p b) (hq : q.payload = payload p b) (hd : Clean d) (hm : q.marker = true) :
    decode d q = ({ d.reset with firstAUParsed := true }, .ok b) := by
  rw [decode_written d q b p hp hsl hb.1 (fun u hu => (hb.2.1 u hu).1) hb.2.2 hq, if_pos hd.1, if_pos hm,
    removeADTS_valid d.reset _ hd.2.2 (fun au hau => (hb.2.1 au hau).2)]

/-- the decoder holds the bytes `pre` of the access unit `au`, waits for sequence number `sq` and the bytes `rest` -/
def Holds (p : Params) (au : Bytes) (d : Dec) (pre : Bytes) (sq : UInt16) (_ : Nat) (rest : Bytes) : Prop :=
  d.par = p ∧ d.size = totalLen d.fragments ∧ d.fragments.flatten = pre ∧ d.size = pre.length ∧ 0 < pre.length ∧
  d.nextSeq = sq ∧ d.adtsMode = false ∧ pre ++ rest = au

theorem runs : Runs decode runDec := ⟨fun _ => rfl, fun _ _ _ => rfl⟩

theorem run_batch (c : EncCfg) (p : Params) (hc : ValidCfg c p) (b : List Bytes) (hb : ValidFrame p b)
    (ts : UInt32) (sq : UInt16) (d : Dec) (hd : Clean d) (hpar : d.par = p) :
    ∃ d' n, runDec d ((writer c p).write b ts sq) = (d', List.replicate n .more ++ [.ok b]) ∧ Clean d' ∧ d'.par = p ∧
      d'.firstAUParsed = true := by
  have hmax := hc.max_ok
  have hsl := hc.sl_pos
  rcases (writer c p).write_cases b ts sq with ⟨h, _⟩ | ⟨au, rfl, hge, h⟩ <;> rw [h]
  · refine ⟨{ d.reset with firstAUParsed := true }, 0, ?_, ⟨rfl, rfl, hd.2.2⟩, hpar, rfl⟩
    rw [runs.cons, runs.nil, decode_whole d _ b p hpar hsl hb rfl hd rfl]
    rfl
  · obtain ⟨⟨hau0, hau1, hau2⟩, hausync⟩ := hb.2.1 au (by simp)
    have h16 : hdrBitsLen p 1 < 65536 := hb.2.2
    have hge := frag_unit_gt c p au hge
    refine run_packetCount _ (c.max - 2 - ceil8 (p.sl + p.il)) (by omega) au hau0 d sq [au]
      (fun d' => Clean d' ∧ d'.par = p ∧ d'.firstAUParsed = true) fun k hlo _ =>
      run_unit runs _ (c.max - 2 - ceil8 (p.sl + p.il)) (Holds p au)
        (fun w d' r => r = .ok [w] ∧ Clean d' ∧ d'.par = p ∧ d'.firstAUParsed = true) au d sq k hlo ?_ ?_ ?_ ?_
    · -- the AU is exactly as long as one fragment: a single packet with the marker
      exact fun _ => ⟨_, _, decode_whole d _ [au] p hpar hsl hb (fragPayload_eq _ _) hd rfl, rfl, ⟨rfl, rfl, hd.2.2⟩,
        hpar, rfl⟩
    · intro _ ch rest _ hf hch hr
      have hlen := congrArg List.length hf
      rw [List.length_append] at hlen
      exact ⟨_, (decode_one d _ ch p hpar hsl ⟨by omega, by omega, by omega⟩ h16 rfl).trans ((if_pos hd.1).trans (if_neg nofun)),
        hpar, by simp, by simp, rfl, by omega, rfl, hd.2.2, hf⟩
    · intro d pre sq _ ch rest ⟨h0, h1, h2, h3, h4, h5, h6, hw⟩ hch hr
      have hlen := congrArg List.length hw
      simp only [List.length_append] at hlen
      exact ⟨_, (decode_one d _ ch p h0 hsl ⟨by omega, by omega, by omega⟩ h16 rfl).trans ((if_neg (by omega)).trans
        ((if_neg fun h => h h5.symm).trans ((if_neg (by omega)).trans (if_pos rfl)))), h0, by simp [h1], by simp [h2],
        by simp [h3], by simp; omega, by simp [h5], h6, (List.append_assoc ..).trans hw⟩
    · intro d pre sq rest ⟨h0, h1, h2, h3, h4, h5, h6, hw⟩ hr
      have hlen := congrArg List.length hw
      rw [List.length_append] at hlen
      exact ⟨_, _, (decode_one d _ rest p h0 hsl ⟨by omega, by omega, by omega⟩ h16 rfl).trans ((if_neg (by omega)).trans
          ((if_neg fun h => h h5.symm).trans ((if_neg (by omega)).trans ((if_neg (by simp [Writer.frag])).trans
            (removeADTS_valid { d with size := 0, fragments := [], nextSeq := d.nextSeq + 1 } _ h6
              (by rw [joinFragments_snoc _ _ _ h1, h2, hw]; simpa using hausync)))))),
        by rw [joinFragments_snoc _ _ _ h1, h2], ⟨rfl, rfl, h6⟩, h0, rfl⟩

theorem parts_valid (c : EncCfg) (p : Params) (aus : List Bytes) (hf : ValidFrame p aus) :
    ∀ b ∈ parts c p aus, ValidFrame p b := by
  intro b hb
  refine (batches_valid _ (ValidUnit p) aus hf.1 hf.2.1 b hb).imp_right fun hbv => ⟨hbv, ?_⟩
  -- a batch has at most as many AUs as the group
  have hle := (List.sublist_flatten_of_mem hb).length_le
  rw [parts_flatten] at hle
  exact Nat.lt_of_le_of_lt (hdrBitsLen_mono p hle) hf.2.2

theorem run_parts (c : EncCfg) (p : Params) (hc : ValidCfg c p) (bs : List (List Bytes))
    (hbs : ∀ b ∈ bs, ValidFrame p b) (ts : UInt32) (sq : UInt16) (d : Dec) (hd : Clean d) (hpar : d.par = p) :
    ∃ d' outs, runDec d (writeAllOk (writer c p).write inc bs ts sq) = (d', outs) ∧ (bs = [] → d' = d) ∧
      (bs ≠ [] → (Clean d' ∧ d'.par = p) ∧ d'.firstAUParsed = true) ∧ okFrames outs = bs ∧ OnlyOkMore outs :=
  run_writeAllOk runs (fun d0 => Clean d0 ∧ d0.par = p) (fun d0 => (Clean d0 ∧ d0.par = p) ∧ d0.firstAUParsed = true)
    (fun _ h => h.1) _ inc bs ts sq d ⟨hd, hpar⟩ fun b hb ts sq d0 hd0 =>
      have ⟨d1, n, hr, hc1, hp1, hf1⟩ := run_batch c p hc b (hbs b hb) ts sq d0 hd0.1 hd0.2
      ⟨d1, n, hr, ⟨hc1, hp1⟩, hf1⟩

/-- **C03 round trip, grouping form**: for every valid configuration (any bit lengths), every valid
group and every clean decoder with the same bit lengths, `Encode` succeeds; the decoder answers
every packet with a frame or "more packets needed"; the returned frames are exactly the batches of
the group (the pieces the encoder split it into), so their concatenation is the group — same AUs,
same bytes, same order; and the decoder is clean afterwards. -/
theorem c03_roundtrip_grouping (e : Enc) (aus : List Bytes) (d : Dec)
    (hc : ValidCfg e.cfg e.par) (hf : ValidFrame e.par aus) (hd : Clean d) (hpar : d.par = e.par) :
    (encode e aus).2 = some (pkts e aus) ∧
    ∃ d' outs, runDec d (pkts e aus) = (d', outs) ∧ Clean d' ∧ d'.par = e.par ∧ OnlyOkMore outs ∧
      okFrames outs = parts e.cfg e.par aus ∧ (okFrames outs).flatten = aus := by
  refine ⟨by rw [encode_eq], ?_⟩
  rw [pkts_eq]
  obtain ⟨d', outs, h1, _, hcl, h3, h4⟩ := run_parts e.cfg e.par hc _ (parts_valid e.cfg e.par aus hf) 0 e.seq d hd hpar
  obtain ⟨⟨hcl, hp⟩, _⟩ := hcl (batches_ne_nil _ _ _)
  exact ⟨d', outs, h1, hcl, hp, h4, h3, by rw [h3, parts_flatten]⟩

/-- the group fits one packet: AU-headers-length, AU headers and AUs within the limit -/
def Fits (c : EncCfg) (p : Params) (aus : List Bytes) : Prop := lenAggregated p aus none ≤ c.max

theorem ceil8_mono (a b : Nat) (h : a ≤ b) : ceil8 a ≤ ceil8 b := by
  rw [ceil8_eq, ceil8_eq]; omega

theorem len_mono (p : Params) (pre : List Bytes) (au : Bytes) (post : List Bytes) :
    lenAggregated p (pre ++ [au]) none ≤ lenAggregated p (pre ++ au :: post) none := by
  have h2 := ceil8_mono _ _ (hdrBitsLen_mono p (m := (pre ++ [au]).length) (n := (pre ++ au :: post).length) (by simp))
  simp only [lenAggregated, Option.isSome_none, Bool.false_eq_true, ↓reduceIte, Nat.add_zero]
  rw [totalLen_prefix, totalLen_prefix, totalLen_nil]
  omega

/-- a group that fits is sent as ONE packet, and that packet returns the whole group -/
theorem c03_fits_single (e : Enc) (aus : List Bytes) (d : Dec) (hc : ValidCfg e.cfg e.par)
    (hf : ValidFrame e.par aus) (hd : Clean d) (hpar : d.par = e.par) (hfit : Fits e.cfg e.par aus) :
    ∃ q d', pkts e aus = [q] ∧ q.ts = 0 ∧ q.marker = true ∧ runDec d [q] = (d', [.ok aus]) ∧ Clean d' := by
  rw [pkts_eq]
  obtain ⟨q, d', h1, h2, h3, h4, hcl, _⟩ := (writer e.cfg e.par).fits_single _ inc runs _ aus 0 e.seq d
    (fits_iff e.cfg e.par) (len_mono e.par) hfit
    (fun au hfs hge => by
      -- a "fragmented" AU of exactly the fragment size
      subst hfs
      have hmax := hc.max_ok
      have := frag_unit_gt e.cfg e.par au hge
      rw [Fits, lenAggregated_single] at hfit
      refine ⟨?_, ?_⟩ <;> simp only [writer] <;> omega) (run_batch e.cfg e.par hc aus hf 0 e.seq d hd hpar)
  exact ⟨q, d', h1, h2, h3, h4, hcl⟩

/-- **timestamps**: the packets of piece `i` (batch `i`) all carry the relative timestamp
`1024 · (number of AUs in the batches before it)`: the first piece 0, every following piece its
predecessor's timestamp plus `1024 ·` the predecessor's AU count; the fragments of one AU share it. -/
theorem c03_timestamps (e : Enc) (aus : List Bytes) :
    (pieces e aus).flatten = pkts e aus ∧ AllTs (pieces e aus) (pieceTs inc (parts e.cfg e.par aus) 0) :=
  ⟨pieces_flatten e aus, by rw [pieces, writeBatch_eq]; exact (writer e.cfg e.par).piece_ts inc _ 0 e.seq⟩

def encodeEach (e : Enc) : List (List Bytes) → List (List Pkt)
  | [] => []
  | f :: fs => pkts e f :: encodeEach (encode e f).1 fs

def runFrames (d : Dec) : List (List Pkt) → List (List (DecRes (List Bytes)))
  | [] => []
  | ps :: rest => (runDec d ps).2 :: runFrames (runDec d ps).1 rest

theorem encode_cfg (e : Enc) (aus : List Bytes) : (encode e aus).1.cfg = e.cfg ∧ (encode e aus).1.par = e.par := by
  rw [encode_eq]; exact ⟨rfl, rfl⟩

/-- **C03, consecutive groups** through the same encoder / decoder pair: for every call the
returned frames concatenate to the group of that call, and nothing else but "more packets needed"
is answered. -/
theorem c03_roundtrip_many (e : Enc) (gs : List (List Bytes)) (d : Dec) (hc : ValidCfg e.cfg e.par)
    (hf : ∀ g ∈ gs, ValidFrame e.par g) (hd : Clean d) (hpar : d.par = e.par) :
    (runFrames d (encodeEach e gs)).map (fun outs => (okFrames outs).flatten) = gs ∧
    ∀ outs ∈ runFrames d (encodeEach e gs), OnlyOkMore outs := by
  induction gs generalizing e d with
  | nil => exact ⟨rfl, by simp [runFrames, encodeEach]⟩
  | cons g gs ih =>
    obtain ⟨_, d', outs, h1, h2, hp, h3, _, h5⟩ := c03_roundtrip_grouping e g d hc (hf g (by simp)) hd hpar
    obtain ⟨hc1, hc2⟩ := encode_cfg e g
    obtain ⟨ih1, ih2⟩ := ih (encode e g).1 d' (by rw [hc1, hc2]; exact hc)
      (fun x hx => by rw [hc2]; exact hf x (by simp [hx])) h2 (by rw [hc2]; exact hp)
    simp only [encodeEach, runFrames, h1, List.map_cons]
    exact ⟨by rw [h5, ih1], List.forall_mem_cons.mpr ⟨h3, ih2⟩⟩

/-
The decoder sniffs the first access unit it ever returns for an ADTS header and then stays in
"ADTS mode" or "raw mode" for ever (`firstAUParsed`, `adtsMode`).  `c07_synced_stays`, `c07_flush` and
`c07_resync` below are for a decoder whose sniffing is over and ended in raw mode (`Synced`).  The last two
are false without that hypothesis: a decoder that has not returned anything yet sniffs whatever comes first — also the
tail of an AU whose first fragment was lost — and a decoder in ADTS mode refuses every raw AU
(see `partial` in props/codec/audio.json and known-findings.txt, key `mpeg4audio-resync-adts-sniff`). -/

/-- the ADTS sniffing is over and the decoder is in raw mode -/
def Synced (d : Dec) : Prop := d.firstAUParsed = true ∧ d.adtsMode = false

instance (d : Dec) : Decidable (Synced d) := by unfold Synced; infer_instance

theorem removeADTS_synced (d : Dec) (aus : List Bytes) (hs : Synced d) : removeADTS d aus = (d, .ok aus) := by
  unfold removeADTS; simp [hs.1, hs.2]

/-- **C07**: after ANY packet that carries the marker — whatever its payload and whatever the
decoder held — nothing is held any more. -/
theorem c07_marker_cleans (d : Dec) (q : Pkt) (hm : q.marker = true) :
    (decode d q).1.size = 0 ∧ (decode d q).1.fragments = [] := by
  have hrm : ∀ (d' : Dec) (aus : List Bytes), d'.size = 0 → d'.fragments = [] →
      (removeADTS d' aus).1.size = 0 ∧ (removeADTS d' aus).1.fragments = [] := by
    intro d' aus hs hf
    obtain ⟨e1, e2, _⟩ := removeADTS_state d' aus
    exact ⟨by rw [e2, hs], by rw [e1, hf]⟩
  refine decode_elim (motive := fun r => r.1.size = 0 ∧ r.1.fragments = []) d q ?_ ?_ ?_ ?_ ?_
  · exact ⟨rfl, rfl⟩
  · exact fun _ _ aus _ => hrm _ aus rfl rfl
  · exact fun h => absurd hm (by simp [h])
  · exact fun h => absurd hm (by simp [h])
  · exact fun _ _ _ _ _ => hrm _ _ rfl rfl

/-- **C07 at most once**: access units are only ever returned at a packet that carries the marker,
and at that step the fragment buffer is emptied — nothing can be returned twice. -/
theorem c07_ok_needs_marker (d : Dec) (q : Pkt) (aus : List Bytes) (h : (decode d q).2 = .ok aus) :
    q.marker = true ∧ (decode d q).1.size = 0 ∧ (decode d q).1.fragments = [] := by
  have hm : q.marker = true := by
    revert h
    refine decode_elim (motive := fun r => r.2 = .ok aus → q.marker = true) d q ?_ ?_ ?_ ?_ ?_
    · exact fun h => nomatch h
    · exact fun hm _ _ _ _ => hm
    · exact fun _ _ _ _ _ h => nomatch h
    · exact fun _ _ _ _ _ h => nomatch h
    · exact fun hm _ _ _ _ _ => hm
  exact ⟨hm, c07_marker_cleans d q hm⟩

theorem decode_par (d : Dec) (q : Pkt) : (decode d q).1.par = d.par := by
  have hrm : ∀ (d' : Dec) (aus : List Bytes), (removeADTS d' aus).1.par = d'.par :=
    fun d' aus => (removeADTS_state d' aus).2.2
  refine decode_elim (motive := fun r => r.1.par = d.par) d q rfl ?_ ?_ ?_ ?_
  · exact fun _ _ aus _ => hrm _ aus
  · exact fun _ _ _ _ _ => rfl
  · exact fun _ _ _ _ _ => rfl
  · exact fun _ _ _ _ _ => hrm _ _

/-- **C07**: once the sniffing is over in raw mode it stays so, on EVERY packet; the bit lengths
never change. -/
theorem c07_synced_stays (d : Dec) (q : Pkt) (hs : Synced d) :
    Synced (decode d q).1 ∧ (decode d q).1.par = d.par := by
  have hrm : ∀ (d' : Dec) (aus : List Bytes), Synced d' → Synced (removeADTS d' aus).1 := by
    intro d' aus h; rw [removeADTS_synced d' aus h]; exact h
  refine ⟨?_, decode_par d q⟩
  refine decode_elim (motive := fun r => Synced r.1) d q hs ?_ ?_ ?_ ?_
  · exact fun _ _ aus _ => hrm _ aus hs
  · exact fun _ _ _ _ _ => hs
  · exact fun _ _ _ _ _ => hs
  · exact fun _ _ _ _ _ => hrm _ _ hs

theorem synced_run (d : Dec) (ps : List Pkt) (hs : Synced d) :
    Synced (runDec d ps).1 ∧ (runDec d ps).1.par = d.par :=
  runs.inv (I := fun x => Synced x ∧ x.par = d.par) (Q := fun _ => True)
    (fun x q hx _ => ⟨(c07_synced_stays x q hx.1).1, (c07_synced_stays x q hx.1).2.trans hx.2⟩) d ps ⟨hs, rfl⟩
    fun _ _ => trivial

/-- **C07**: a clean decoder — in particular a new one — is `Synced` for ever once it has decoded
ONE intact valid group: the sniffing sees a raw AU and settles on raw mode.  (The only way into
the sticky ADTS mode with a raw stream is damage before the very first returned AU.) -/
theorem c07_first_group_syncs (e : Enc) (aus : List Bytes) (d : Dec) (hc : ValidCfg e.cfg e.par)
    (hf : ValidFrame e.par aus) (hd : Clean d) (hpar : d.par = e.par) :
    Synced (runDec d (pkts e aus)).1 ∧ Clean (runDec d (pkts e aus)).1 := by
  rw [pkts_eq]
  obtain ⟨d', outs, h1, _, hcl, _, _⟩ := run_parts e.cfg e.par hc _ (parts_valid e.cfg e.par aus hf) 0 e.seq d hd hpar
  obtain ⟨⟨hcl, _⟩, hfp⟩ := hcl (batches_ne_nil _ _ _)
  rw [h1]
  exact ⟨⟨hfp, hcl.2.2⟩, hcl⟩

/-- **C07 flush**: from ANY state whose sniffing is over (whatever fragments it holds, whatever
sequence number it expects), the packets of one intact valid group, in order, leave the decoder
clean: the group's last packet carries the marker. -/
theorem c07_flush (e : Enc) (aus : List Bytes) (d : Dec) (hc : ValidCfg e.cfg e.par)
    (hf : ValidFrame e.par aus) (hs : Synced d) :
    Clean (runDec d (pkts e aus)).1 ∧ Synced (runDec d (pkts e aus)).1 ∧ (runDec d (pkts e aus)).1.par = d.par := by
  obtain ⟨hs', hp'⟩ := synced_run d (pkts e aus) hs
  refine ⟨?_, hs', hp'⟩
  obtain ⟨ini, lst, hsplit, hm⟩ := writeAllOk_last (writer e.cfg e.par).write inc (parts e.cfg e.par aus) 0 e.seq
    (batches_ne_nil _ _ _) (fun b _ ts sq => write_markers e.cfg e.par hc b ts sq)
  have hpk : pkts e aus = ini ++ [lst] := (pkts_eq e aus).trans hsplit
  have hfin : (runDec d (pkts e aus)).1 = (decode (runDec d ini).1 lst).1 := by
    rw [hpk, runs.snoc]
  obtain ⟨h1, h2⟩ := c07_marker_cleans (runDec d ini).1 lst hm
  rw [hfin] at hs' ⊢
  exact ⟨h1, h2, hs'.2⟩

/-- **C07 resynchronisation**: from ANY state whose sniffing is over, of a decoder with the encoder's
bit lengths — in particular after any packet history (arbitrary packets: every loss / duplication /
reordering pattern) applied to such a state — an intact valid group `f` followed by an intact valid
group `g` ends with exactly `g`: nothing but "more packets needed" and the AUs of `g`, once, in order. -/
theorem c07_resync (d : Dec) (e : Enc) (f g : List Bytes) (hc : ValidCfg e.cfg e.par)
    (hs : Synced d) (hpar : d.par = e.par) (hf : ValidFrame e.par f) (hg : ValidFrame e.par g) :
    let e1 := (encode e f).1
    ∃ d' outs, runDec (runDec d (pkts e f)).1 (pkts e1 g) = (d', outs) ∧ Clean d' ∧ OnlyOkMore outs ∧
      (okFrames outs).flatten = g := by
  intro e1
  obtain ⟨hcl, _, hp⟩ := c07_flush e f d hc hf hs
  obtain ⟨hc1, hc2⟩ := encode_cfg e f
  obtain ⟨_, d', outs, h1, h2, _, h3, _, h5⟩ := c03_roundtrip_grouping e1 g (runDec d (pkts e f)).1
    (by rw [hc1, hc2]; exact hc) (by rw [hc2]; exact hg) hcl (by rw [hp, hc2]; exact hpar)
  exact ⟨d', outs, h1, h2, h3, h5⟩

/-
Decoders whose sniffing is NOT over.  What remains true without `Synced`: if the group starts with
a whole packet (its first batch is not a fragmented AU) and the first packet does not happen to carry the sequence number a stale fragment
run is waiting for, a decoder holding stale fragments answers that first packet with an error,
drops the stale fragments, and decodes the rest of the group exactly — damage stays local, the
sniffing then sees only raw AUs.  Not covered (and false on the real code, see the known finding):
a stale or new decoder that has returned nothing yet and meets the TAIL of a fragmented AU first. -/

theorem decode_agg_dirty (d : Dec) (q : Pkt) (units : List Bytes) (p : Params) (hp : d.par = p) (hsl : 1 ≤ p.sl)
    (hne : units ≠ []) (hv : ∀ u ∈ units, SizeOk p u.length) (h16 : hdrBitsLen p units.length < 65536)
    (hq : q.payload = payload p units) (hz : d.size ≠ 0) (hna : units.length ≠ 1 ∨ q.seq ≠ d.nextSeq) :
    decode d q = (d.reset, .err) := by
  rw [decode_written d q units p hp hsl hne hv h16 hq, if_neg hz]
  match units, hna with
  | [], _ => rfl
  | [u], hna => exact if_pos (hna.resolve_left fun h => h rfl)
  | _ :: _ :: _, _ => rfl

/-- **C07, sniffing not over**: a decoder holding stale fragments (any, with any expected sequence
number, whether or not it has ever returned an AU) that is not in ADTS mode, fed the packets of a
valid group whose first batch goes into one whole packet, refuses that packet, and then returns
exactly the remaining batches; it is clean afterwards.  `hna` excludes the 1-in-65536 coincidence
that a single-AU first packet carries exactly the sequence number the stale run expects. -/
theorem c07_flush_unsniffed (e : Enc) (aus : List Bytes) (d : Dec) (hc : ValidCfg e.cfg e.par)
    (hf : ValidFrame e.par aus) (hpar : d.par = e.par) (hm : d.adtsMode = false) (hz : d.size ≠ 0)
    (b1 : List Bytes) (rest : List (List Bytes)) (hparts : parts e.cfg e.par aus = b1 :: rest)
    (hwhole : b1.length ≠ 1 ∨ lenAggregated e.par b1 none < e.cfg.max)
    (hna : b1.length ≠ 1 ∨ e.seq ≠ d.nextSeq) :
    ∃ d' outs, runDec d (pkts e aus) = (d', .err :: outs) ∧ Clean d' ∧ OnlyOkMore outs ∧ okFrames outs = rest := by
  have hbv := parts_valid e.cfg e.par aus hf
  have hb1 := hbv b1 (by rw [hparts]; simp)
  rw [pkts_eq, hparts]
  have hagg : (writer e.cfg e.par).write b1 0 e.seq = [(writer e.cfg e.par).agg b1 0 e.seq] := by
    rcases (writer e.cfg e.par).write_cases b1 0 e.seq with ⟨h, _⟩ | ⟨f, rfl, hge, _⟩
    · exact h
    · exact absurd (hwhole.resolve_left fun h => h rfl) hge
  have hd := decode_agg_dirty d ((writer e.cfg e.par).agg b1 0 e.seq) b1 e.par hpar hc.sl_pos hb1.1
    (fun u hu => (hb1.2.1 u hu).1) hb1.2.2 rfl hz hna
  obtain ⟨d', outs, h1, he, hn, h3, h4⟩ := run_parts e.cfg e.par hc rest (fun b hb => hbv b (by rw [hparts]; simp [hb]))
    (0 + inc b1) (e.seq + UInt16.ofNat ((writer e.cfg e.par).write b1 0 e.seq).length) d.reset ⟨rfl, rfl, hm⟩ hpar
  have hcl : Clean d' := by
    by_cases hr : rest = []
    · rw [he hr]; exact ⟨rfl, rfl, hm⟩
    · exact (hn hr).1.1
  refine ⟨d', outs, ?_, hcl, h4, h3⟩
  have h0 : runDec d ((writer e.cfg e.par).write b1 0 e.seq) = (d.reset, [.err]) := by
    rw [hagg, runs.cons, runs.nil, hd]
  rw [writeAllOk, runs.append, h0]
  simp only [h1]
  rfl

theorem runDec_par (d : Dec) (ps : List Pkt) : (runDec d ps).1.par = d.par :=
  runs.inv (I := fun x => x.par = d.par) (Q := fun _ => True) (fun x q hx _ => (decode_par x q).trans hx) d ps rfl
    fun _ _ => trivial

/-- **C07 resynchronisation, sniffing not over**: under the hypotheses of `c07_flush_unsniffed` for
the intact group `f`, the intact group `g` after it is returned exactly. -/
theorem c07_resync_unsniffed (e : Enc) (f g : List Bytes) (d : Dec) (hc : ValidCfg e.cfg e.par)
    (hf : ValidFrame e.par f) (hg : ValidFrame e.par g) (hpar : d.par = e.par) (hm : d.adtsMode = false)
    (hz : d.size ≠ 0) (b1 : List Bytes) (rest : List (List Bytes)) (hparts : parts e.cfg e.par f = b1 :: rest)
    (hwhole : b1.length ≠ 1 ∨ lenAggregated e.par b1 none < e.cfg.max)
    (hna : b1.length ≠ 1 ∨ e.seq ≠ d.nextSeq) :
    let e1 := (encode e f).1
    ∃ d' outs, runDec (runDec d (pkts e f)).1 (pkts e1 g) = (d', outs) ∧ Clean d' ∧ OnlyOkMore outs ∧
      (okFrames outs).flatten = g := by
  intro e1
  obtain ⟨d1, outs1, h1, hcl, _, _⟩ := c07_flush_unsniffed e f d hc hf hpar hm hz b1 rest hparts hwhole hna
  have hp1 : (runDec d (pkts e f)).1.par = e.par := by rw [runDec_par, hpar]
  obtain ⟨hc1, hc2⟩ := encode_cfg e f
  rw [h1] at hp1 ⊢
  obtain ⟨_, d', outs, h2, h3, _, h4, _, h5⟩ := c03_roundtrip_grouping e1 g d1
    (by rw [hc1, hc2]; exact hc) (by rw [hc2]; exact hg) hcl (by rw [hc2]; exact hp1)
  exact ⟨d', outs, h2, h3, h4, h5⟩

/-- the decoder checks every AU size read from an AU header against `MaxAccessUnitSize`
(`c08_inv_decode` needs no bound on the packet size because of it); the fragment header takes 2 bytes
+ the AU header -/
example : CodecAudio.mpeg4audioAuSizeChecked = true ∧ CodecAudio.mpeg4audioFragHeaderBytes = 2 := ⟨rfl, rfl⟩

/-- AAC-hbr (13/3/3) at limit 20 across a sequence-number wrap -/
def exEnc : Enc := { cfg := { pt := 96, ssrc := 7, max := 20 }, par := ⟨13, 3, 3⟩, seq := 65535 }
/-- two small AUs (aggregated), a 30-byte AU (fragmented 16 + 14), a 1-byte AU (single) -/
def exGroup : List Bytes := [[1, 2, 3], [4, 5, 6, 7], List.replicate 30 9, [8]]

example : ValidCfg exEnc.cfg exEnc.par := ⟨by decide, by decide⟩
set_option maxRecDepth 8000 in
example : ValidFrame exEnc.par exGroup ∧ Clean { par := exEnc.par } := by decide
set_option maxRecDepth 8000 in
example : (pkts exEnc exGroup).map (fun q => (q.seq, q.marker, q.ts, q.payload.length)) =
    [(65535, true, 0, 13), (0, false, 2048, 20), (1, true, 2048, 18), (2, true, 3072, 5)] := by decide
set_option maxRecDepth 8000 in
example : (runDec { par := exEnc.par } (pkts exEnc exGroup)).2 =
    [.ok [[1, 2, 3], [4, 5, 6, 7]], .more, .ok [List.replicate 30 9], .ok [[8]]] := by decide
set_option maxRecDepth 8000 in
example : Fits exEnc.cfg exEnc.par [[1, 2, 3], [4, 5, 6, 7]] := by unfold Fits; decide
/-- a dirty state (mid-AU, wrong expected sequence number) satisfies the invariant and `Synced` -/
example : Inv { par := ⟨13, 3, 3⟩, firstAUParsed := true, fragments := [[1, 2], [3]], size := 3, nextSeq := 77 } ∧
    Synced { par := ⟨13, 3, 3⟩, firstAUParsed := true, fragments := [[1, 2], [3]], size := 3, nextSeq := 77 } :=
  ⟨⟨by decide, by decide, by decide, by decide⟩, by decide⟩

end Rtsp.Codec.Mpeg4Audio
