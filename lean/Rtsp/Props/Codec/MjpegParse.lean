import Rtsp.Props.Codec.Mjpeg
import Rtsp.Proofs.Common.Bits
/-
C03 for M-JPEG says "the reconstructed image has the same dimensions, quantisation tables and
entropy-coded data".  `c03_roundtrip` returns `rebuild j`; here the components are read back from
those bytes (fixed segment order of the decoder: SOI, DQT, SOF, 4 × DHT, SOS, data).
-/
namespace Rtsp.Codec.Mjpeg
open Rtsp.Rtp Rtsp.Facts

/-- the components of an image laid out as the decoder writes it -/
structure Parts where
  type0  : Bool          -- sampling 4:2:2 (type 0) rather than 4:2:0
  width  : Nat
  height : Nat
  tables : List Bytes
  data   : Bytes         -- everything after the SOS segment
deriving DecidableEq, Repr

/-- read the components back: SOI (2 bytes); DQT with its length field, tables at 65-byte strides;
SOF (19 bytes: height and width at offsets 5..8, sampling factor of component 0 at 11); the four
DHT segments (432 bytes) and SOS (14 bytes) are skipped -/
def readBack (img : Bytes) : Parts :=
  let b := img.drop 2
  let l := (b.getD 2 0).toNat * 256 + (b.getD 3 0).toNat
  let n := (l - 2) / 65
  let body := (b.drop 4).take (l - 2)
  let tables := (List.range n).map fun i => (body.drop (65 * i + 1)).take 64
  let b := b.drop (2 + l)
  { type0 := b.getD 11 0 == 0x21,
    height := (b.getD 5 0).toNat * 256 + (b.getD 6 0).toNat,
    width := (b.getD 7 0).toNat * 256 + (b.getD 8 0).toNat,
    tables := tables,
    data := b.drop (19 + 432 + 14) }

/-- the entropy-coded data as the decoder leaves it: with an end-of-image marker -/
def withEOI (data : Bytes) : Bytes := data ++ (if endsWithEOI data then [] else eoi)

theorem sof_shape (h : JHdr) (n : Nat) :
    ∃ q : UInt8, sof h n = [0xFF, 0xC0, 0, 17, 8, UInt8.ofNat (h.height / 256), UInt8.ofNat h.height,
      UInt8.ofNat (h.width / 256), UInt8.ofNat h.width, 3, 0,
      (if h.typ &&& 0x3f = 0 then 0x21 else 0x22), 0, 1, 0x11, q, 2, 0x11, q] := by
  refine ⟨if n % 256 = 2 then 1 else 0, ?_⟩
  simp only [sof, be16]
  split <;> rfl

theorem getD_append_lt (a b : Bytes) (k : Nat) (h : k < a.length) : (a ++ b).getD k 0 = a.getD k 0 := by
  simp [List.getD_eq_getElem?_getD, List.getElem?_append_left h]

/-- `Q` is the body of the DQT segment (declared length `l`), `S` the SOF segment, `R` the Huffman
tables and SOS, `D` the data -/
theorem readBack_shape (s0 s1 : UInt8) (l : Nat) (Q S R D : Bytes) (hl : l < 65536) (hl2 : 2 ≤ l)
    (hQ : Q.length = l - 2) (hS : S.length = 19) (hR : R.length = 446) :
    readBack ([s0, s1] ++ ([0xFF, 0xDB] ++ be16 l ++ Q) ++ S ++ R ++ D) =
      { type0 := S.getD 11 0 == 0x21,
        height := (S.getD 5 0).toNat * 256 + (S.getD 6 0).toNat,
        width := (S.getD 7 0).toNat * 256 + (S.getD 8 0).toNat,
        tables := (List.range ((l - 2) / 65)).map fun i => (Q.drop (65 * i + 1)).take 64,
        data := D } := by
  -- `2 + l` and `19 + 432 + 14` in the form in which the `drop`s peel the segments off one by one
  have h2l : 2 + l = l - 2 + 4 := by omega
  have hSR : 19 + 432 + 14 = 19 + 446 := rfl
  simp only [readBack, be16, List.append_assoc, List.cons_append, List.nil_append, List.drop_succ_cons,
    List.drop_zero, List.getD_cons_succ, List.getD_cons_zero, Bits.be16_toNat hl, List.take_left' hQ, h2l,
    List.drop_left' hQ, hSR, ← List.drop_drop, List.drop_left' hS, List.drop_left' hR,
    getD_append_lt S _ 11 (by omega), getD_append_lt S _ 5 (by omega), getD_append_lt S _ 6 (by omega),
    getD_append_lt S _ 7 (by omega), getD_append_lt S _ 8 (by omega)]

theorem sos_length : sos.length = 14 := rfl

theorem dqtBody_tables (id : Nat) (ts : List Bytes) (ht : ∀ t ∈ ts, t.length = 64) :
    (List.range ts.length).map (fun i => ((dqtBody id ts).drop (65 * i + 1)).take 64) = ts := by
  induction ts generalizing id with
  | nil => rfl
  | cons t ts ih =>
    have h1 : t.length = 64 := ht t (by simp)
    have h65 : (dqtBody id (t :: ts)).drop 65 = dqtBody (id + 1) ts := by
      rw [dqtBody, List.cons_append, List.drop_succ_cons, List.drop_left' h1]
    have hd : ∀ i, (dqtBody id (t :: ts)).drop (65 * (i + 1) + 1)
        = (dqtBody (id + 1) ts).drop (65 * i + 1) := by
      intro i
      rw [show 65 * (i + 1) + 1 = 65 + (65 * i + 1) by omega, ← List.drop_drop, h65]
    rw [List.length_cons, List.range_succ_eq_map, List.map_cons, List.map_map]
    simp only [Function.comp_def, hd]
    rw [ih (id + 1) (fun x hx => ht x (List.mem_cons_of_mem _ hx))]
    simp only [dqtBody, List.cons_append, Nat.mul_zero, Nat.zero_add, List.drop_succ_cons,
      List.drop_zero, List.take_left' h1]

/-- **C03 (M-JPEG), components**: the image the decoder rebuilds carries the input's sampling
(4:2:2 or 4:2:0: the one bit `typ &&& 0x3f == 0` of the type that the frame header records),
dimensions, quantisation tables and entropy-coded data (closed by the end-of-image marker). -/
theorem readBack_buildJpeg (h : JHdr) (ts : List Bytes) (data : Bytes)
    (hn : ts.length = 1 ∨ ts.length = 2) (ht : ∀ t ∈ ts, t.length = 64)
    (hw : h.width < 65536) (hh : h.height < 65536) :
    readBack (buildJpeg h ts data) =
      { type0 := (h.typ &&& 0x3f == 0), width := h.width, height := h.height, tables := ts,
        data := withEOI data } := by
  obtain ⟨q, hsof⟩ := sof_shape h ts.length
  have hlen : ts.length + totalLen ts = 65 * ts.length := by rw [totalLen_tables ts ht]; omega
  have hQ : (dqtBody 0 ts).length = 2 + 65 * ts.length - 2 := by rw [dqtBody_length]; omega
  have himg : buildJpeg h ts data = [0xFF, UInt8.ofNat CodecMisc.markerJpegSOI]
      ++ ([0xFF, 0xDB] ++ be16 (2 + 65 * ts.length) ++ dqtBody 0 ts)
      ++ sof h ts.length ++ (dhts ++ sos) ++ withEOI data := by
    simp only [buildJpeg, dqt, dqt_sum, hlen, withEOI, List.append_assoc]; rfl
  rw [himg, readBack_shape 0xFF _ (2 + 65 * ts.length) (dqtBody 0 ts) (sof h ts.length) (dhts ++ sos)
    (withEOI data) (by omega) (by omega) hQ (by rw [hsof]; rfl)
    (by rw [List.length_append, dhts_length, sos_length]),
    show (2 + 65 * ts.length - 2) / 65 = ts.length by omega, dqtBody_tables 0 ts ht, hsof]
  simp only [List.getD_cons_succ, List.getD_cons_zero, Bits.be16_toNat hw, Bits.be16_toNat hh]
  by_cases hc : h.typ &&& 0x3f = 0 <;> simp [hc]

/-- the statement of the M-JPEG round trip in terms of components: what the decoder returns for the
packets of a valid image reads back as that image -/
theorem c03_components (j : Jpeg) (c : EncCfg) (hf : ValidFrame c j) :
    readBack (rebuild j) =
      { type0 := (j.typ &&& 0x3f == 0), width := j.width, height := j.height, tables := j.tables,
        data := withEOI j.data } := by
  obtain ⟨_, hw1, hw2, hh1, hh2, htn, htl, _, _, _⟩ := hf
  exact readBack_buildJpeg _ _ _ htn htl (by show j.width < 65536; omega) (by show j.height < 65536; omega)

end Rtsp.Codec.Mjpeg
