import Rtsp.Model.Codec.Mpeg1Video
import Rtsp.Proofs.Codec.FragmentLoop
import Rtsp.Proofs.Codec.AudioBatch
/-
Property theorems for pkg/format/rtpmpeg1video about the model in `Model/Codec/Mpeg1Video.lean`: this
format's part of properties C06 (for every frame on which the encoder returns packets) and C08.  A
frame is one byte string, which `Encode` splits into slices at the `00 00 01` start codes.  The loop of
`Encode` is walked once (`loop_written`): it cuts the slices into batches as the audio packetisers do
(`Audio.batches`, `AudioBatch`) and writes them one after the other (`Written`); C06 here and C03 / C07 in
`Mpeg1VideoRT.lean` are inductions over the batches.  The decoder modelled refuses header-only slices
and fragments and bounds slice buffer plus fragments together; `Inv` and `c08_fragment_count_le` are
what guards that.
-/
namespace Rtsp.Codec.Mpeg1Video
open Rtsp.Rtp Rtsp.Facts
open Rtsp.Codec.Audio (batches batches_ne_nil batches_nil_forall)

/-- four header bytes plus at least one byte of data per fragment (`PayloadMaxSize - 4` is a divisor
in `packetCount`) -/
def ValidCfg (c : EncCfg) : Prop := 5 ≤ c.max

/-- the documented precondition of `Encode`: the frame is a sequence of slices of at least 4 bytes
(as the encoder itself splits it), picture headers (start code value 0) have at least 6; and the
decoder accepts at most `maxFrameSize` bytes -/
def ValidFrame (f : Bytes) : Prop :=
  (match split f with
   | some ss => ∀ s ∈ ss, s.getD 3 0 = 0 → 6 ≤ s.length
   | none => False) ∧ f.length ≤ maxFrameSize

instance (c : EncCfg) : Decidable (ValidCfg c) := by unfold ValidCfg; infer_instance
instance (f : Bytes) : Decidable (ValidFrame f) := by
  unfold ValidFrame; cases split f <;> infer_instance

theorem packetCount_eq (avail le : Nat) : packetCount avail le = ceilDiv le avail := rfl

@[simp] theorem hdrBytes_length (h : Hdr) (a b c : Bool) : (hdrBytes h a b c).length = 4 := rfl

/-- a packet as the encoder builds it, with marker `m` -/
def pk (c : EncCfg) (sq : UInt16) (m : Bool) (payload : Bytes) : Pkt :=
  { pt := payloadType, seq := sq, ssrc := c.ssrc, marker := m, payload := payload }

/-- the packet of `writeFragmented`, in the argument order of `frags`' packet builder: the
begin-of-sequence bit on the first fragment only; `m` is the marker of the last fragment (false as
the loop writes it, true once `Encode` has marked the last packet of the frame) -/
def fragPkt (c : EncCfg) (h : Hdr) (bos m first last : Bool) (sq : UInt16) (_pos : Nat) (ch : Bytes) : Pkt :=
  pk c sq (last && m) (hdrBytes h (first && bos) first last ++ ch)

theorem emitFrag_frags (c : EncCfg) (h : Hdr) (bos : Bool) (n : Nat) (first : Bool) (sq : UInt16) (pos : Nat)
    (rest : Bytes) :
    emitFrag c h n first (first && bos) sq rest = frags (fragPkt c h bos false) (c.max - 4) n first sq pos rest := by
  induction n using frags_ind generalizing first sq pos rest with
  | h0 => rfl
  | h1 => rfl
  | h2 n ih => rw [emitFrag, frags, ← ih]; rfl

/-- a batch as the loop keeps it: one slice of any size, or slices that fit one packet together -/
def BatchOk (c : EncCfg) (b : List Bytes) : Prop := b.length = 1 ∨ lenAgg b [] ≤ c.max

theorem lenAgg_snoc (b : List Bytes) (s : Bytes) : lenAgg (b ++ [s]) [] = lenAgg b s := by
  simp [lenAgg]; omega

theorem writeBatch_eq (c : EncCfg) (b : List Bytes) (h : Hdr) (sq : UInt16) :
    ∃ n, writeBatch c b h sq = frags (fragPkt c h h.bos false) (c.max - 4) n true sq 0 b.flatten ∧
      (ValidCfg c → 0 < n ∧ (b.flatten ≠ [] → (n - 1) * (c.max - 4) < b.flatten.length) ∧
        (BatchOk c b → b.flatten.length ≤ n * (c.max - 4))) := by
  have agg : (BatchOk c b → lenAgg b [] ≤ c.max) →
      ∃ n, writeAggregated c b h sq = frags (fragPkt c h h.bos false) (c.max - 4) n true sq 0 b.flatten ∧
      (ValidCfg c → 0 < n ∧ (b.flatten ≠ [] → (n - 1) * (c.max - 4) < b.flatten.length) ∧
        (BatchOk c b → b.flatten.length ≤ n * (c.max - 4))) := fun hl =>
    ⟨1, rfl, fun _ => ⟨Nat.one_pos, fun hne => by simpa using List.length_pos_iff.mpr hne, fun hb => by
      have := hl hb
      rw [lenAgg, ← flatten_length] at this
      simp only [List.length_nil] at this
      omega⟩⟩
  unfold writeBatch
  split
  · rename_i s
    split
    · rename_i hlt; exact agg fun _ => Nat.le_of_lt hlt
    · rename_i hge
      refine ⟨packetCount (c.max - 4) s.length, by
        rw [writeFragmented, List.flatten_singleton]; exact emitFrag_frags c h h.bos _ true sq 0 s, fun hc => ?_⟩
      have hcv : 5 ≤ c.max := hc
      have hs : 0 < s.length := by simp [lenAgg] at hge; omega
      rw [List.flatten_singleton, packetCount_eq]
      exact ⟨ceilDiv_pos _ _ (by omega) hs, fun _ => ceilDiv_lower _ _ (by omega) hs,
        fun _ => ceilDiv_upper _ _ (by omega)⟩
  · rename_i hns
    refine agg fun hb => hb.resolve_left fun h1 => ?_
    match b, h1 with
    | [s], _ => exact hns s rfl

theorem writeBatch_spec (c : EncCfg) (b : List Bytes) (h : Hdr) (sq : UInt16) :
    (writeBatch c b h sq).map (·.seq) = seqFrom sq (writeBatch c b h sq).length ∧
    (∀ p ∈ writeBatch c b h sq, p.pt = payloadType ∧ p.ssrc = c.ssrc ∧ p.marker = false) ∧
    (ValidCfg c → writeBatch c b h sq ≠ [] ∧ (BatchOk c b → ∀ p ∈ writeBatch c b h sq, p.payload.length ≤ c.max)) := by
  obtain ⟨n, e, hv⟩ := writeBatch_eq c b h sq
  rw [e]
  refine ⟨frags_seq, frags_forall fun _ l _ _ _ _ => ⟨rfl, rfl, Bool.and_false l⟩, fun hc => ⟨fun hnil => ?_, fun hb =>
    frags_forall (Q := fun p => p.payload.length ≤ c.max) fun f l sq pos ch hch => ?_⟩⟩
  · have := (hv hc).1
    rw [← frags_length (fragPkt c h h.bos false) (c.max - 4) n true sq 0 b.flatten, hnil] at this
    exact Nat.lt_irrefl _ this
  · have hcv : 5 ≤ c.max := hc
    have := hch ((hv hc).2.2 hb)
    show (hdrBytes h (f && h.bos) f l ++ ch).length ≤ c.max
    rw [List.length_append, hdrBytes_length]; omega

/-- first half of a loop iteration: the slice joins the batch, or the batch is written out and the
slice starts a new one -/
def place (c : EncCfg) (st : St) (s : Bytes) : St :=
  if lenAgg st.batch s ≤ c.max then { st with batch := st.batch ++ [s] }
  else if st.batch ≠ [] then
    let ps := writeBatch c st.batch st.h st.seq
    { st with out := st.out ++ ps, seq := st.seq + UInt16.ofNat ps.length,
              h := { st.h with bos := false }, batch := [s] }
  else { st with batch := [s] }

/-- second half: the header values a picture or group-of-pictures start code sets -/
def note (s : Bytes) (st1 : St) : St :=
  if s.getD 3 0 = 0 then
    if s.length < 6 then { st1 with bad := true }
    else { st1 with h := { st1.h with
            tr := ((s.getD 4 0).toUInt16 <<< 2) ||| ((s.getD 5 0).toUInt16 >>> 6),
            ft := ((s.getD 5 0) >>> 3) &&& 7 } }
  else if s.getD 3 0 = 0xB8 then { st1 with h := { st1.h with bos := true } }
  else st1

theorem step_eq (c : EncCfg) (st : St) (s : Bytes) :
    step c st s = if st.bad then st else note s (place c st s) := rfl

theorem note_fields (s : Bytes) (st1 : St) :
    (note s st1).batch = st1.batch ∧ (note s st1).out = st1.out ∧ (note s st1).seq = st1.seq := by
  unfold note
  split
  · split <;> exact ⟨rfl, rfl, rfl⟩
  · split <;> exact ⟨rfl, rfl, rfl⟩

theorem step_cases (c : EncCfg) (st : St) (s : Bytes) (hb : st.bad = false) :
    ((lenAgg st.batch s ≤ c.max ∨ st.batch = []) ∧ (step c st s).batch = st.batch ++ [s]
        ∧ (step c st s).out = st.out ∧ (step c st s).seq = st.seq) ∨
    ((¬ lenAgg st.batch s ≤ c.max ∧ st.batch ≠ []) ∧ (step c st s).batch = [s]
        ∧ (step c st s).out = st.out ++ writeBatch c st.batch st.h st.seq
        ∧ (step c st s).seq = st.seq + UInt16.ofNat (writeBatch c st.batch st.h st.seq).length) := by
  obtain ⟨e1, e2, e3⟩ := note_fields s (place c st s)
  rw [step_eq, hb, if_neg Bool.false_ne_true, e1, e2, e3]
  unfold place
  by_cases h1 : lenAgg st.batch s ≤ c.max
  · rw [if_pos h1]; exact Or.inl ⟨Or.inl h1, rfl, rfl, rfl⟩
  · rw [if_neg h1]
    by_cases h2 : st.batch ≠ []
    · rw [if_pos h2]; exact Or.inr ⟨⟨h1, h2⟩, rfl, rfl, rfl⟩
    · rw [if_neg h2]
      have h2 := Decidable.not_not.mp h2
      exact Or.inl ⟨Or.inr h2, by rw [h2]; rfl, rfl, rfl⟩

theorem step_bad (c : EncCfg) (st : St) (s : Bytes) (hb : st.bad = true) : step c st s = st := by
  rw [step_eq, hb, if_pos rfl]

/-- the packets with marker `m` on the last one; `markLast` is `setLast true` -/
def setLast (m : Bool) : List Pkt → List Pkt
  | [] => []
  | [p] => [{ p with marker := m }]
  | p :: q :: ps => p :: setLast m (q :: ps)

theorem markLast_eq (ps : List Pkt) : markLast ps = setLast true ps := by
  induction ps with
  | nil => rfl
  | cons p ps ih =>
    cases ps with
    | nil => rfl
    | cons q qs => simp only [markLast, setLast, ih]

theorem setLast_concat (m : Bool) (ini : List Pkt) (l : Pkt) :
    setLast m (ini ++ [l]) = ini ++ [{ l with marker := m }] := by
  induction ini with
  | nil => rfl
  | cons p ini ih =>
    cases ini with
    | nil => rfl
    | cons q qs => exact congrArg (List.cons p) ih

theorem eq_nil_or_snoc (ps : List Pkt) : ps = [] ∨ ∃ ini l, ps = ini ++ [l] := by
  rcases List.eq_nil_or_concat ps with h | ⟨ini, l, h⟩
  · exact Or.inl h
  · exact Or.inr ⟨ini, l, by rw [h, List.concat_eq_append]⟩

theorem setLast_map {α : Type} (m : Bool) (g : Pkt → α) (hg : ∀ p, g { p with marker := m } = g p)
    (ps : List Pkt) : (setLast m ps).map g = ps.map g := by
  rcases eq_nil_or_snoc ps with rfl | ⟨ini, l, rfl⟩
  · rfl
  · rw [setLast_concat, List.map_append, List.map_append, List.map_singleton, List.map_singleton, hg]

theorem setLast_length (m : Bool) (ps : List Pkt) : (setLast m ps).length = ps.length := by
  simpa using congrArg List.length (setLast_map m (fun _ => ()) (fun _ => rfl) ps)

theorem setLast_append (m : Bool) (a b : List Pkt) (hb : b ≠ []) : setLast m (a ++ b) = a ++ setLast m b := by
  obtain ⟨ini, l, rfl⟩ := (eq_nil_or_snoc b).resolve_left hb
  rw [← List.append_assoc, setLast_concat, setLast_concat, List.append_assoc]

theorem setLast_false (ps : List Pkt) (h : ∀ p ∈ ps, p.marker = false) : setLast false ps = ps := by
  rcases eq_nil_or_snoc ps with rfl | ⟨ini, l, rfl⟩
  · rfl
  · rw [setLast_concat, ← h l (by simp)]

theorem markLast_markers (ps : List Pkt) (hne : ps ≠ []) (h : ∀ p ∈ ps, p.marker = false) :
    (markLast ps).map (·.marker) = List.replicate (ps.length - 1) false ++ [true] := by
  obtain ⟨ini, l, rfl⟩ := (eq_nil_or_snoc ps).resolve_left hne
  rw [markLast_eq, setLast_concat, List.map_append, List.length_append, List.length_singleton,
    Nat.add_sub_cancel, List.map_eq_replicate_iff.mpr fun p hp => h p (List.mem_append_left _ hp)]
  rfl

/-- the header values the encoder loop can hold: a 10-bit temporal reference, a 3-bit picture type -/
structure HOk (h : Hdr) : Prop where
  tr : h.tr.toNat < 1024
  ft : h.ft.toNat < 8

theorem tr_lt (a b : UInt8) : ((a.toUInt16 <<< 2) ||| (b.toUInt16 >>> 6)).toNat < 1024 := by
  have ha := a.toNat_lt
  have hb := b.toNat_lt
  simp only [UInt16.toNat_or, UInt16.toNat_shiftLeft, UInt16.toNat_shiftRight, UInt8.toNat_toUInt16]
  have h2 : (2 : UInt16).toNat % 16 = 2 := by decide
  have h6 : (6 : UInt16).toNat % 16 = 6 := by decide
  rw [h2, h6, Nat.shiftLeft_eq, Nat.shiftRight_eq_div_pow]
  apply Nat.or_lt_two_pow (n := 10)
  · have : a.toNat * 2 ^ 2 % 2 ^ 16 = a.toNat * 4 := Nat.mod_eq_of_lt (by omega)
    omega
  · omega

theorem ft_lt (b : UInt8) : ((b >>> 3) &&& 7).toNat < 8 := by
  simp only [UInt8.toNat_and]
  have : (b >>> 3).toNat &&& (7 : UInt8).toNat ≤ (7 : UInt8).toNat := Nat.and_le_right
  have h7 : (7 : UInt8).toNat = 7 := by decide
  omega

theorem step_hok (c : EncCfg) (st : St) (s : Bytes) (hk : HOk st.h) : HOk (step c st s).h := by
  rw [step_eq]
  split
  · exact hk
  · have hp : HOk (place c st s).h := by
      unfold place
      split
      · exact hk
      · split
        · exact ⟨hk.tr, hk.ft⟩
        · exact hk
    unfold note
    split
    · split
      · exact hp
      · exact ⟨tr_lt _ _, ft_lt _⟩
    · split
      · exact ⟨hp.tr, hp.ft⟩
      · exact hp

theorem hok_init : HOk {} := ⟨by decide, by decide⟩

/-- `lenAggregated(batch, slice) <= PayloadMaxSize`, the test of the batching loop -/
def fits (c : EncCfg) (b : List Bytes) (s : Bytes) : Bool := decide (lenAgg b s ≤ c.max)

/-- `ps` is what the loop emits for the batches `bs`: each written by `writeBatch` under some header with
values in range, one after the other from sequence number `sq` -/
inductive Written (c : EncCfg) : UInt16 → List (List Bytes) → List Pkt → Prop
  | nil (sq : UInt16) : Written c sq [] []
  | cons {sq : UInt16} {b : List Bytes} {bs : List (List Bytes)} {ps : List Pkt} (h : Hdr) (hk : HOk h)
      (tl : Written c (sq + UInt16.ofNat (writeBatch c b h sq).length) bs ps) :
      Written c sq (b :: bs) (writeBatch c b h sq ++ ps)

theorem foldl_bad (c : EncCfg) (ss : List Bytes) (st : St) (hb : st.bad = true) : ss.foldl (step c) st = st := by
  induction ss with
  | nil => rfl
  | cons s ss ih => rw [List.foldl_cons, step_bad c st s hb, ih]

theorem batches_join (c : EncCfg) (b : List Bytes) (s : Bytes) (ss : List Bytes)
    (h : lenAgg b s ≤ c.max ∨ b = []) : batches (fits c) (s :: ss) b = batches (fits c) ss (b ++ [s]) := by
  rw [batches]
  by_cases hf : fits c b s = true
  · rw [if_pos hf]
  · rw [if_neg hf, if_pos (by rw [h.resolve_left fun h' => hf (decide_eq_true h')]; rfl),
      h.resolve_left fun h' => hf (decide_eq_true h')]; rfl

theorem batches_close (c : EncCfg) (b : List Bytes) (s : Bytes) (ss : List Bytes)
    (h : ¬ lenAgg b s ≤ c.max ∧ b ≠ []) : batches (fits c) (s :: ss) b = b :: batches (fits c) ss [s] := by
  rw [batches, if_neg (fun hf : fits c b s = true => h.1 (of_decide_eq_true hf)),
    if_neg (fun he => h.2 (List.isEmpty_iff.mp he))]

/-- `ps`: what is written from `st` on, the pending batch of the end included -/
theorem loop_written (c : EncCfg) (ss : List Bytes) (st : St) (hk : HOk st.h)
    (hb : (ss.foldl (step c) st).bad = false) :
    ∃ ps, Written c st.seq (batches (fits c) ss st.batch) ps ∧
      (ss.foldl (step c) st).out ++ writeBatch c (ss.foldl (step c) st).batch (ss.foldl (step c) st).h
        (ss.foldl (step c) st).seq = st.out ++ ps ∧
      (ss.foldl (step c) st).seq + UInt16.ofNat (writeBatch c (ss.foldl (step c) st).batch
        (ss.foldl (step c) st).h (ss.foldl (step c) st).seq).length = st.seq + UInt16.ofNat ps.length := by
  induction ss generalizing st with
  | nil => exact ⟨_, .cons st.h hk (.nil _), by rw [List.append_nil]; rfl, by rw [List.append_nil]; rfl⟩
  | cons s ss ih =>
    have hb0 : st.bad = false := by
      cases h : st.bad with
      | false => rfl
      | true => rw [foldl_bad c _ st h, h] at hb; cases hb
    rw [List.foldl_cons] at hb ⊢
    obtain ⟨ps, hw, ho, hs⟩ := ih (step c st s) (step_hok c st s hk) hb
    rcases step_cases c st s hb0 with ⟨h0, h1, h2, h3⟩ | ⟨h0, h1, h2, h3⟩
    · rw [h1, h3] at hw
      rw [h2] at ho
      rw [h3] at hs
      exact ⟨ps, batches_join c _ s ss h0 ▸ hw, ho, hs⟩
    · rw [h1, h3] at hw
      rw [h2, List.append_assoc] at ho
      rw [h3, UInt16.add_assoc, ← UInt16.ofNat_add, ← List.length_append] at hs
      exact ⟨_, batches_close c _ s ss h0 ▸ .cons st.h hk hw, ho, hs⟩

theorem Written.spec {c : EncCfg} {sq : UInt16} {bs : List (List Bytes)} {ps : List Pkt} (hw : Written c sq bs ps) :
    ps.map (·.seq) = seqFrom sq ps.length ∧
    (∀ p ∈ ps, p.pt = payloadType ∧ p.ssrc = c.ssrc ∧ p.marker = false) ∧
    (ValidCfg c → (bs ≠ [] → ps ≠ []) ∧ ((∀ b ∈ bs, BatchOk c b) → ∀ p ∈ ps, p.payload.length ≤ c.max)) := by
  induction hw with
  | nil sq => exact ⟨rfl, fun _ hp => (nomatch hp), fun _ => ⟨fun h => absurd rfl h, fun _ _ hp => (nomatch hp)⟩⟩
  | @cons sq b bs ps h hk tl ih =>
    obtain ⟨i1, i2, i3⟩ := ih
    obtain ⟨w1, w2, w3⟩ := writeBatch_spec c b h sq
    refine ⟨(seqFrom_concat w1 rfl i1 (sq2 := _) rfl).1, fun p hp => ?_,
      fun hc => ⟨fun _ hnil => (w3 hc).1 (List.append_eq_nil_iff.mp hnil).1, fun hb p hp => ?_⟩⟩ <;>
      rcases List.mem_append.mp hp with hp | hp
    · exact w2 p hp
    · exact i2 p hp
    · exact (w3 hc).2 (hb b List.mem_cons_self) p hp
    · exact (i3 hc).2 (fun x hx => hb x (List.mem_cons_of_mem _ hx)) p hp

theorem batches_ok (c : EncCfg) (hc : ValidCfg c) (ss : List Bytes) :
    ∀ b ∈ batches (fits c) ss [], BatchOk c b ∧ (ss ≠ [] → b ≠ []) :=
  batches_nil_forall (fits c) (BatchOk c) ss (fun _ => Or.inr (show 4 ≤ c.max from Nat.le_trans (by decide) hc))
    (fun _ _ => Or.inl rfl) (fun b s _ _ hf => Or.inr (by rw [lenAgg_snoc]; exact of_decide_eq_true hf))

theorem encode_written (e : Enc) (f : Bytes) (ps : List Pkt) (h : (encode e f).2 = some ps) :
    ∃ ss out, split f = some ss ∧ Written e.cfg e.seq (batches (fits e.cfg) ss []) out ∧ ps = markLast out ∧
      (encode e f).1.seq = e.seq + UInt16.ofNat out.length := by
  cases hs : split f with
  | none => simp [encode, hs] at h
  | some ss =>
    cases hb : (ss.foldl (step e.cfg) { seq := e.seq }).bad with
    | true => simp [encode, hs, hb] at h
    | false =>
      obtain ⟨out, hw, ho, hq⟩ := loop_written e.cfg ss { seq := e.seq } hok_init hb
      simp only [encode, hs, hb, Bool.false_eq_true, if_false, Option.some.injEq] at h ⊢
      exact ⟨ss, out, rfl, hw, by rw [← h, ho]; rfl, hq⟩

theorem encode_out (e : Enc) (f : Bytes) (ps : List Pkt) (h : (encode e f).2 = some ps) :
    ∃ out, ps = markLast out ∧ (ValidCfg e.cfg → out ≠ [] ∧ ∀ p ∈ out, p.payload.length ≤ e.cfg.max) ∧
      out.map (·.seq) = seqFrom e.seq out.length ∧ (encode e f).1.seq = e.seq + UInt16.ofNat out.length ∧
      ∀ p ∈ out, p.pt = payloadType ∧ p.ssrc = e.cfg.ssrc ∧ p.marker = false := by
  obtain ⟨ss, out, hsp, hw, hps, hseq⟩ := encode_written e f ps h
  obtain ⟨h1, h2, h3⟩ := hw.spec
  exact ⟨out, hps, fun hc => ⟨(h3 hc).1 (batches_ne_nil _ _ _),
    (h3 hc).2 fun b hb => (batches_ok e.cfg hc ss b hb).1⟩, h1, hseq, h2⟩

/-- **C06 size clause**: every payload is at most `PayloadMaxSize`, for every frame the encoder
accepts (slices below, at and above the limit). -/
theorem c06_payload_le (e : Enc) (f : Bytes) (ps : List Pkt) (hc : ValidCfg e.cfg)
    (h : (encode e f).2 = some ps) : ∀ p ∈ ps, p.payload.length ≤ e.cfg.max := by
  obtain ⟨out, rfl, hv, _⟩ := encode_out e f ps h
  intro p hp
  have := List.mem_map_of_mem (f := (·.payload)) hp
  rw [markLast_eq, setLast_map true _ (fun _ => rfl)] at this
  obtain ⟨q, hq, he⟩ := List.mem_map.mp this
  exact he ▸ (hv hc).2 q hq

/-- **C06 numbering, one call**: the packets of one `Encode` carry `seq, seq+1, …` (mod 2^16) and
the encoder continues after them. -/
theorem c06_seq_consecutive (e : Enc) (f : Bytes) (ps : List Pkt) (h : (encode e f).2 = some ps) :
    ps.map (·.seq) = seqFrom e.seq ps.length ∧ (encode e f).1.seq = e.seq + UInt16.ofNat ps.length := by
  obtain ⟨out, rfl, _, hs, hn, _⟩ := encode_out e f ps h
  rw [markLast_eq, setLast_map true _ (fun _ => rfl), setLast_length]
  exact ⟨hs, hn⟩

/-- **C06 payload type and SSRC**: the format-mandated payload type 32 and the configured SSRC -/
theorem c06_pt_ssrc (e : Enc) (f : Bytes) (ps : List Pkt) (h : (encode e f).2 = some ps) :
    ∀ p ∈ ps, p.pt = payloadType ∧ p.ssrc = e.cfg.ssrc := by
  obtain ⟨out, rfl, _, _, _, hm⟩ := encode_out e f ps h
  intro p hp
  have := List.mem_map_of_mem (f := fun p => (p.pt, p.ssrc)) hp
  rw [markLast_eq, setLast_map true _ (fun _ => rfl)] at this
  obtain ⟨q, hq, he⟩ := List.mem_map.mp this
  rw [← (Prod.mk.inj he).1, ← (Prod.mk.inj he).2]
  exact ⟨(hm q hq).1, (hm q hq).2.1⟩

/-- **C06 marker**: set on the last packet of the frame and on no other packet. -/
theorem c06_marker_only_last (e : Enc) (f : Bytes) (ps : List Pkt) (hc : ValidCfg e.cfg)
    (h : (encode e f).2 = some ps) :
    ps.map (·.marker) = List.replicate (ps.length - 1) false ++ [true] := by
  obtain ⟨out, rfl, hv, _, _, hm⟩ := encode_out e f ps h
  rw [markLast_eq, setLast_length, ← markLast_eq]
  exact markLast_markers out (hv hc).1 fun p hp => (hm p hp).2.2

/-- a series of `Encode` calls through the same encoder (`none` if a frame is refused) -/
def encodeMany (e : Enc) : List Bytes → Option (Enc × List Pkt)
  | [] => some (e, [])
  | f :: fs =>
    match encode e f with
    | (e1, some ps) => (encodeMany e1 fs).map fun r => (r.1, ps ++ r.2)
    | (_, none) => none

theorem encodeMany_cons (e : Enc) (f : Bytes) (fs : List Bytes) :
    encodeMany e (f :: fs) =
      (encode e f).2.bind fun ps => (encodeMany (encode e f).1 fs).map fun r => (r.1, ps ++ r.2) := by
  rw [encodeMany]; rcases encode e f with ⟨_, _ | _⟩ <;> rfl

/-- **C06 numbering, any series of calls, any initial value (incl. wrap inside the run)** -/
theorem c06_seq_many (e e' : Enc) (fs : List Bytes) (ps : List Pkt) (h : encodeMany e fs = some (e', ps)) :
    ps.map (·.seq) = seqFrom e.seq ps.length ∧ e'.seq = e.seq + UInt16.ofNat ps.length := by
  induction fs generalizing e ps with
  | nil => cases h; exact ⟨rfl, by simp⟩
  | cons f fs ih =>
    obtain ⟨qs, rs, hq, hm, rfl⟩ := Misc.many_some encode encodeMany encodeMany_cons e e' f fs ps h
    exact seqFrom_concat (c06_seq_consecutive e f qs hq).1
      (c06_seq_consecutive e f qs hq).2 (ih _ rs hm).1 (ih _ rs hm).2

/-- state invariant, relative to a bound `P` on the payload size of the packets of the history -/
structure Inv (P : Nat) (d : Dec) : Prop where
  frag_eq  : d.fragSize = totalLen d.fragments
  slice_eq : d.sliceSize = totalLen d.sliceBuf
  slice_le : d.sliceSize ≤ maxFrameSize
  sum_le   : d.sliceSize + d.fragSize ≤ maxFrameSize + P
  frag_n   : d.fragments.length ≤ d.fragSize + 1   -- every fragment but the first carries data
  slice_n  : d.sliceBuf.length ≤ d.sliceSize       -- every buffered slice carries data

/-- nothing of an earlier frame is buffered -/
def Clean (d : Dec) : Prop := d.sliceBuf = [] ∧ d.sliceSize = 0

instance (d : Dec) : Decidable (Clean d) := by unfold Clean; infer_instance

theorem c08_inv_init (P : Nat) : Inv P {} := ⟨rfl, rfl, by simp, by simp, by simp, by simp⟩

theorem inv_resetFragments (P : Nat) (d : Dec) (hi : Inv P d) : Inv P d.resetFragments :=
  ⟨rfl, hi.slice_eq, hi.slice_le, by simp [Dec.resetFragments]; have := hi.slice_le; omega,
   by simp [Dec.resetFragments], hi.slice_n⟩

/-- `decodeSlice` after the header checks, with the begin / end bits as booleans -/
def sliceTail (d : Dec) (sq : UInt16) (start fin : Bool) (body : Bytes) : Dec × Except SliceErr Bytes :=
  if start = true ∧ fin = true then
    if body.length = 0 then (d.resetFragments, .error .err) else (d.resetFragments, .ok body)
  else if start = true then
    ({ d with fragments := [body], fragSize := body.length, nextSeq := sq + 1 }, .error .more)
  else if d.fragSize = 0 then (d, .error .nonStart)
  else if sq ≠ d.nextSeq then (d.resetFragments, .error .err)
  else if body.length = 0 then (d.resetFragments, .error .err)
  else
    if d.sliceSize + (d.fragSize + body.length) > maxFrameSize then
      ({ d.resetFragments with sliceBuf := [], sliceSize := 0 }, .error .err)
    else
      if fin = true then
        (Dec.resetFragments { d with fragSize := d.fragSize + body.length, fragments := d.fragments ++ [body] },
         .ok (joinFragments (d.fragments ++ [body]) (d.fragSize + body.length)))
      else
        ({ d with fragSize := d.fragSize + body.length, fragments := d.fragments ++ [body],
                  nextSeq := d.nextSeq + 1 }, .error .more)

theorem decodeSlice_eq (d : Dec) (p : Pkt) :
    decodeSlice d p =
      if p.payload.length < 4 then (d.resetFragments, .error .err)
      else if p.payload.getD 0 0 >>> 3 ≠ 0 then (d.resetFragments, .error .err)
      else if (p.payload.getD 0 0 >>> 2) &&& 1 ≠ 0 then (d.resetFragments, .error .err)
      else if p.payload.getD 2 0 >>> 7 ≠ 0 then (d.resetFragments, .error .err)
      else if (p.payload.getD 2 0 >>> 6) &&& 1 ≠ 0 then (d.resetFragments, .error .err)
      else sliceTail d p.seq ((p.payload.getD 2 0 >>> 4) &&& 1 == 1) ((p.payload.getD 2 0 >>> 3) &&& 1 == 1)
        (p.payload.drop 4) := by
  simp only [decodeSlice, sliceTail, beq_iff_eq]

/-- what `c08_inv_decode` needs of a result of `decodeSlice`: the invariant, and a returned slice is
non-empty (for `slice_n`) and leaves no fragment behind (for `sum_le`) -/
def SliceOk (P : Nat) (r : Dec × Except SliceErr Bytes) : Prop :=
  Inv P r.1 ∧ ∀ s, r.2 = .ok s → r.1.fragSize = 0 ∧ 0 < s.length

theorem sliceOk_error (P : Nat) (d : Dec) (e : SliceErr) (h : Inv P d) : SliceOk P (d, .error e) :=
  ⟨h, fun _ hs => (nomatch hs)⟩

theorem sliceTail_ok (P : Nat) (d : Dec) (sq : UInt16) (start fin : Bool) (body : Bytes) (hi : Inv P d)
    (hb : body.length ≤ P) : SliceOk P (sliceTail d sq start fin body) := by
  have hr := inv_resetFragments P d hi
  have hsl := hi.slice_le
  rw [sliceTail]
  by_cases c5 : start = true ∧ fin = true
  · rw [if_pos c5]
    by_cases c5b : body.length = 0
    · rw [if_pos c5b]; exact sliceOk_error P _ _ hr
    · rw [if_neg c5b]; exact ⟨hr, fun s hs => by cases hs; exact ⟨rfl, by omega⟩⟩
  rw [if_neg c5]
  by_cases c6 : start = true
  · rw [if_pos c6]
    exact sliceOk_error P _ _ ⟨by simp, hi.slice_eq, hsl, by simp only; omega, by simp, hi.slice_n⟩
  rw [if_neg c6]
  by_cases c7 : d.fragSize = 0
  · rw [if_pos c7]; exact sliceOk_error P _ _ hi
  rw [if_neg c7]
  by_cases c8 : sq ≠ d.nextSeq
  · rw [if_pos c8]; exact sliceOk_error P _ _ hr
  rw [if_neg c8]
  by_cases c8b : body.length = 0
  · rw [if_pos c8b]; exact sliceOk_error P _ _ hr
  rw [if_neg c8b]
  by_cases c9 : d.sliceSize + (d.fragSize + body.length) > maxFrameSize
  · rw [if_pos c9]
    exact sliceOk_error P _ _ ⟨rfl, rfl, by simp, by simp [Dec.resetFragments], by simp [Dec.resetFragments], by simp⟩
  rw [if_neg c9]
  by_cases c10 : fin = true
  · rw [if_pos c10]
    refine ⟨⟨rfl, hi.slice_eq, hsl, by simp [Dec.resetFragments]; omega, by simp [Dec.resetFragments], hi.slice_n⟩,
      fun s hs => ?_⟩
    cases hs
    simp only [joinFragments, List.length_append, List.length_take, List.length_replicate]
    exact ⟨rfl, by omega⟩
  · rw [if_neg c10]
    refine sliceOk_error P _ _ ⟨by simp [hi.frag_eq], hi.slice_eq, hsl, by simp only; omega, ?_, hi.slice_n⟩
    have := hi.frag_n
    simp only [List.length_append, List.length_cons, List.length_nil]
    omega

theorem decodeSlice_inv (P : Nat) (d : Dec) (p : Pkt) (hi : Inv P d) (hp : p.payload.length ≤ P) :
    SliceOk P (decodeSlice d p) := by
  have hr := sliceOk_error P _ .err (inv_resetFragments P d hi)
  have ite : ∀ (c : Prop) [Decidable c] (b : Dec × Except SliceErr Bytes), SliceOk P b →
      SliceOk P (if c then (d.resetFragments, .error .err) else b) := fun c _ b hb => by
    split
    · exact hr
    · exact hb
  rw [decodeSlice_eq]
  exact ite _ _ (ite _ _ (ite _ _ (ite _ _ (ite _ _
    (sliceTail_ok P d _ _ _ _ hi (by rw [List.length_drop]; omega))))))

/-- the second half of `Decode`: what happens to a slice `decodeSlice` has produced -/
def deliver (d : Dec) (slice : Bytes) (m : Bool) : Dec × DecRes Bytes :=
  if d.sliceSize + slice.length > maxFrameSize then ({ d with sliceBuf := [], sliceSize := 0 }, .err)
  else
    let d1 := { d with sliceBuf := d.sliceBuf ++ [slice], sliceSize := d.sliceSize + slice.length }
    if !m then (d1, .more)
    else
      let ret := joinFragments d1.sliceBuf d1.sliceSize
      if validateFrame ret then ({ d1 with sliceBuf := [], sliceSize := 0 }, .ok ret)
      else ({ d1 with sliceBuf := [], sliceSize := 0 }, .err)

theorem decode_eq (d : Dec) (p : Pkt) :
    decode d p = match decodeSlice d p with
      | (d1, .error e) => (d1, e.toRes)
      | (d1, .ok s) => deliver d1 s p.marker := by
  unfold decode deliver
  generalize decodeSlice d p = r
  obtain ⟨d1, e | s⟩ := r <;> rfl

theorem deliver_over (d : Dec) (s : Bytes) (m : Bool) (h : d.sliceSize + s.length > maxFrameSize) :
    deliver d s m = ({ d with sliceBuf := [], sliceSize := 0 }, .err) := by
  rw [deliver, if_pos h]

theorem deliver_more (d : Dec) (s : Bytes) (h : ¬ d.sliceSize + s.length > maxFrameSize) :
    deliver d s false
      = ({ d with sliceBuf := d.sliceBuf ++ [s], sliceSize := d.sliceSize + s.length }, .more) := by
  rw [deliver, if_neg h]; rfl

theorem deliver_last (d : Dec) (s : Bytes) (h : ¬ d.sliceSize + s.length > maxFrameSize) :
    deliver d s true = ({ d with sliceBuf := [], sliceSize := 0 },
      if validateFrame (joinFragments (d.sliceBuf ++ [s]) (d.sliceSize + s.length))
      then .ok (joinFragments (d.sliceBuf ++ [s]) (d.sliceSize + s.length)) else .err) := by
  rw [deliver, if_neg h]
  dsimp only
  rw [if_neg (show ¬ (!true) = true by decide)]
  split <;> rfl

/-- **C08**: the invariant is preserved by `Decode` on EVERY packet. -/
theorem c08_inv_decode (P : Nat) (d : Dec) (p : Pkt) (hi : Inv P d) (hp : p.payload.length ≤ P) :
    Inv P (decode d p).1 := by
  obtain ⟨h1, h2⟩ := decodeSlice_inv P d p hi hp
  rw [decode_eq]
  generalize decodeSlice d p = r at h1 h2
  obtain ⟨d', e | s⟩ := r
  · exact h1
  · show Inv P (deliver d' s p.marker).1
    obtain ⟨hz, hpos⟩ := h2 s rfl
    have hz : d'.fragSize = 0 := hz
    have h1 : Inv P d' := h1
    have hclear : Inv P { d' with sliceBuf := [], sliceSize := 0 } :=
      ⟨h1.frag_eq, rfl, by simp, by simp only [hz]; simp, h1.frag_n, by simp⟩
    by_cases hov : d'.sliceSize + s.length > maxFrameSize
    · rw [deliver_over d' s _ hov]; exact hclear
    cases p.marker
    · rw [deliver_more d' s hov]
      refine ⟨h1.frag_eq, by simp [h1.slice_eq], by simp only; omega, by simp only [hz]; omega, h1.frag_n, ?_⟩
      have := h1.slice_n
      simp only [List.length_append, List.length_cons, List.length_nil]
      omega
    · rw [deliver_last d' s hov]; exact hclear

/-- (F) the decoder struct has exactly two byte-carrying fields (`fragments`, `sliceBuffer`, both
`[][]byte`) — what `retained` sums (regenerated from /repo on every run) -/
theorem c08_state_fields : CodecMisc.mpeg1videoDecoderSliceFields = 2 := by decide

/-- **C08 bounded memory**: retained bytes ≤ maximum frame size + one packet. -/
theorem c08_retained_le (P : Nat) (d : Dec) (hi : Inv P d) : retained d ≤ maxFrameSize + P := by
  unfold retained
  rw [← hi.frag_eq, ← hi.slice_eq, Nat.add_comm]
  exact hi.sum_le

/-- **C08 fragment / slice count**: the lists never hold more entries than bytes (plus one for a
header-only start fragment) — it is the refusal of header-only slices and following fragments
that makes this hold — so the lists themselves, and the packet buffers they pin, obey the same
bound. -/
theorem c08_fragment_count_le (P : Nat) (d : Dec) (hi : Inv P d) :
    d.fragments.length + d.sliceBuf.length ≤ maxFrameSize + P + 1 := by
  have := hi.frag_n; have := hi.slice_n; have := hi.sum_le
  omega

/-- **C08 output bound**: no returned frame exceeds `maxFrameSize`. -/
theorem c08_out_le (d : Dec) (p : Pkt) (f : Bytes) (h : (decode d p).2 = .ok f) :
    f.length ≤ maxFrameSize := by
  rw [decode_eq] at h
  generalize decodeSlice d p = r at h
  obtain ⟨d', e | s⟩ := r
  · cases e <;> cases h
  · change (deliver d' s p.marker).2 = _ at h
    by_cases hov : d'.sliceSize + s.length > maxFrameSize
    · rw [deliver_over d' s _ hov] at h; cases h
    cases hm : p.marker <;> rw [hm] at h
    · rw [deliver_more d' s hov] at h; cases h
    · rw [deliver_last d' s hov] at h
      dsimp only at h
      split at h <;> cases h
      simp only [joinFragments, List.length_append, List.length_take, List.length_replicate]
      omega

theorem index001_lt (b : Bytes) (e : Nat) (h : index001 b = some e) : e + 3 ≤ b.length := by
  induction b generalizing e with
  | nil => simp [index001] at h
  | cons a t ih =>
    simp only [index001] at h
    split at h
    · rename_i hc
      simp only [Option.some.injEq] at h; subst h
      have : (t.take 2).length = 2 := by rw [hc.2]; rfl
      simp only [List.length_take] at this
      simp only [List.length_cons]; omega
    · cases hi : index001 t with
      | none => simp [hi] at h
      | some e' =>
        simp [hi] at h; subst h
        have := ih e' hi
        simp only [List.length_cons]; omega

/-- fuel independence of the splitter: with any fuel above `frame.length` it returns what `split`
returns, so the fuel `split` gives is never what makes it fail -/
theorem c08_split_total (fuel : Nat) (frame : Bytes) (h : frame.length < fuel) :
    splitAux fuel frame = split frame := by
  unfold split
  suffices ∀ n (fr : Bytes) (f1 f2 : Nat), fr.length ≤ n → fr.length < f1 → fr.length < f2 →
      splitAux f1 fr = splitAux f2 fr from this _ _ _ _ (Nat.le_refl _) h (Nat.lt_succ_self _)
  intro n
  induction n with
  | zero =>
    intro fr f1 f2 hn h1 h2
    match f1, f2, h1, h2 with
    | f1 + 1, f2 + 1, _, _ =>
      have : fr.length < 4 := by omega
      simp [splitAux, this]
  | succ n ih =>
    intro fr f1 f2 hn h1 h2
    match f1, f2, h1, h2 with
    | f1 + 1, f2 + 1, h1, h2 =>
      simp only [splitAux]
      split
      · rfl
      · cases hi : index001 (fr.drop 4) with
        | none => rfl
        | some e =>
          simp only
          have hlt := index001_lt _ _ hi
          simp only [List.length_drop] at hlt
          have hd : (fr.drop (e + 4)).length ≤ n := by simp only [List.length_drop]; omega
          rw [ih (fr.drop (e + 4)) f1 f2 hd (by simp only [List.length_drop]; omega)
            (by simp only [List.length_drop]; omega)]

/-- picture header + a 9-byte slice + a 5-byte slice at limit 12: the first two do not aggregate,
the 9-byte slice is fragmented (2 packets), the last is sent alone -/
def exFrame : Bytes :=
  [0, 0, 1, 0, 0x12, 0x08] ++ [0, 0, 1, 1, 9, 9, 9, 9, 9] ++ [0, 0, 1, 2, 7]
def exEnc : Enc := { cfg := { pt := 32, ssrc := 7, max := 12 }, seq := 65534 }

example : ValidCfg exEnc.cfg ∧ ValidFrame exFrame ∧ Clean {} := by decide
example : ((encode exEnc exFrame).2.map fun ps => ps.map fun p => (p.seq, p.marker, p.payload.length))
    = some [(65534, false, 10), (65535, false, 12), (0, false, 5), (1, true, 9)] := by decide
example : (runDec {} ((encode exEnc exFrame).2.getD [])).2 = [.more, .more, .more, .ok exFrame] := by decide
/-- a dirty state satisfies the invariant -/
example : Inv 1500 { fragments := [[1, 2], [3]], fragSize := 3, nextSeq := 9, sliceBuf := [[0, 0, 1, 5]], sliceSize := 4 } :=
  ⟨by decide, by decide, by decide, by decide, by decide, by decide⟩

end Rtsp.Codec.Mpeg1Video
