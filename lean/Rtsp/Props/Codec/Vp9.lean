import Rtsp.Model.Codec.Vp9
import Rtsp.Proofs.Codec.Av1VpCommon
/-
Property theorems for pkg/format/rtpvp9 (encoder.go + pion VP9Payloader in non-flexible mode,
decoder.go + pion VP9Packet), about the model in `Model/Codec/Vp9.lean`.
The VP9 frame header (pion `vp9.Header.Unmarshal`) is part of the model; the theorems only use its
result (`header f = some h`: key frame flag, width, height), whatever it is.

The payloader's output is the chunk list `cut` behind descriptors (`fragLoop_tag`); `Decode` is
described once: two equations for the packets it accepts (`decode_start`, `decode_cont`) and
`decode_cases`, by which every other packet is refused; the C08 bounds are read off that description,
and the round trip is `runWith_collect` (`Av1VpCommon`).
-/
namespace Rtsp.Codec.Vp9
open Rtsp.Rtp Rtsp.Facts Rtsp.Codec.Av1Vp

/-- A key frame's first packet carries 3 + 8 descriptor bytes, so 12 is the smallest limit at which
every frame can be packetised; the limit is converted to `uint16` by the encoder. -/
def ValidCfg (c : EncCfg) : Prop := 12 ≤ c.max ∧ c.max ≤ 65535

/-- non-empty, at most `vp9.MaxFrameSize`, and starting with a VP9 uncompressed header that pion's
parser accepts (otherwise the payloader returns no packet at all) -/
def ValidFrame (f : Bytes) : Prop :=
  0 < f.length ∧ f.length ≤ CodecAv1vp.vp9MaxFrameSize ∧ (header f).isSome

/-- the payloader's picture id is a 15-bit counter (`Init`/first `Payload` mask it, `Payload` wraps it) -/
def ValidEnc (e : Enc) : Prop := e.pictureID < 0x8000

instance (c : EncCfg) : Decidable (ValidCfg c) := by unfold ValidCfg; infer_instance
instance (f : Bytes) : Decidable (ValidFrame f) := by unfold ValidFrame; infer_instance
instance (e : Enc) : Decidable (ValidEnc e) := by unfold ValidEnc; infer_instance

theorem validEnc_encode (e : Enc) (f : Bytes) : ValidEnc (encode e f).1 := by
  unfold ValidEnc encode at *
  simp only
  split <;> omega

/-- descriptor + chunk of one packet -/
def mkOut (h : Hdr) (pid : Nat) (first e : Bool) (chunk : Bytes) : Bytes :=
  descByte h.nonKey first e (!h.nonKey && first) :: UInt8.ofNat (pid / 256 + 128) :: UInt8.ofNat (pid % 256)
    :: ((if (!h.nonKey && first) then ssBytes h else []) ++ chunk)

/-- descriptor size of a packet -/
def hs (h : Hdr) (first : Bool) : Nat := if (!h.nonKey && first) then 11 else 3

theorem hs_le (h : Hdr) (first : Bool) : 3 ≤ hs h first ∧ hs h first ≤ 11 ∧ hs h false = 3 := by
  unfold hs; cases (!h.nonKey && first) <;> simp

theorem mkOut_length (h : Hdr) (pid : Nat) (first e : Bool) (chunk : Bytes) :
    (mkOut h pid first e chunk).length = hs h first + chunk.length := by
  unfold mkOut hs
  cases (!h.nonKey && first) <;> simp [ssBytes] <;> omega

theorem fragLoop_nil (mtu : Nat) (h : Hdr) (pid fuel : Nat) (first : Bool) :
    fragLoop mtu h pid fuel first [] = some [] := by
  cases fuel <;> simp [fragLoop]

theorem fragLoop_step (mtu : Nat) (hm : 12 ≤ mtu) (h : Hdr) (pid fuel : Nat) (first : Bool) (rest : Bytes)
    (hne : 0 < rest.length) :
    fragLoop mtu h pid (fuel + 1) first rest =
      (fragLoop mtu h pid fuel false (rest.drop (mtu - hs h first))).map fun outs =>
        mkOut h pid first (rest.drop (mtu - hs h first)).isEmpty (rest.take (mtu - hs h first)) :: outs := by
  have hemp : rest.isEmpty = false := isEmpty_of_pos hne
  have hhs : (if (!h.nonKey && first) = true then 3 + 8 else 3) = hs h first := by unfold hs; split <;> rfl
  have hle : ¬ mtu ≤ hs h first := by have := hs_le h first; omega
  have hdec : decide (rest.length = min (mtu - hs h first) rest.length) = (rest.drop (mtu - hs h first)).isEmpty := by
    rw [Bool.eq_iff_iff, decide_eq_true_iff, List.isEmpty_iff, List.drop_eq_nil_iff]; omega
  have hmin : rest.take (min (mtu - hs h first) rest.length) = rest.take (mtu - hs h first) ∧
      rest.drop (min (mtu - hs h first) rest.length) = rest.drop (mtu - hs h first) := by
    by_cases hk : mtu - hs h first ≤ rest.length
    · rw [Nat.min_eq_left hk]; exact ⟨rfl, rfl⟩
    · rw [Nat.min_eq_right (by omega), List.take_length, List.drop_length, List.take_of_length_le (by omega),
        List.drop_of_length_le (by omega)]; exact ⟨rfl, rfl⟩
  rw [fragLoop]
  simp only [hemp, Bool.false_eq_true, if_false, hhs, hle, hdec, hmin.1, hmin.2]
  cases fragLoop mtu h pid fuel false (rest.drop (mtu - hs h first)) <;> rfl

/-- with `mtu ≥ 12` the loop never takes the `currentFragmentSize <= 0` exit: its output is the tagged
chunk list, the first chunk shorter when it carries the scalability structure -/
theorem fragLoop_tag (mtu : Nat) (hm : 12 ≤ mtu) (h : Hdr) (pid : Nat) (fuel : Nat) (first : Bool) (rest : Bytes)
    (hne : 0 < rest.length) (hf : rest.length ≤ fuel + 1) :
    fragLoop mtu h pid (fuel + 1) first rest =
      some (tag (mkOut h pid) first
        (rest.take (mtu - hs h first) :: chunks (mtu - 3) fuel (rest.drop (mtu - hs h first)))) := by
  induction fuel generalizing first rest with
  | zero =>
    have hd : rest.drop (mtu - hs h first) = [] := by
      rw [List.drop_eq_nil_iff]; have := hs_le h first; omega
    rw [fragLoop_step mtu hm h pid 0 first rest hne, hd, fragLoop_nil]; rfl
  | succ fuel ih =>
    have hk := hs_le h first
    rw [fragLoop_step mtu hm h pid _ first rest hne]
    by_cases hd : 0 < (rest.drop (mtu - hs h first)).length
    · rw [ih false _ hd (by simp only [List.length_drop] at hd ⊢; omega), hk.2.2, chunks, isEmpty_of_pos hd]
      rfl
    · rw [List.eq_nil_of_length_eq_zero (Nat.eq_zero_of_not_pos hd), fragLoop_nil]; rfl

/-- the chunks of a frame: the first leaves room for the descriptor of a first packet -/
def cut (mtu : Nat) (h : Hdr) (f : Bytes) : List Bytes :=
  f.take (mtu - hs h true) :: chunks (mtu - 3) (f.length - 1) (f.drop (mtu - hs h true))

theorem cut_flatten (mtu : Nat) (hm : 12 ≤ mtu) (h : Hdr) (f : Bytes) : (cut mtu h f).flatten = f := by
  have := hs_le h true
  rw [cut, List.flatten_cons, chunks_flatten (mtu - 3) (by omega) _ _ (by simp only [List.length_drop]; omega),
    List.take_append_drop]

theorem cut_pos (mtu : Nat) (hm : 12 ≤ mtu) (h : Hdr) (f : Bytes) (hf : 0 < f.length) :
    ∀ x ∈ cut mtu h f, 0 < x.length := by
  have := hs_le h true
  intro x hx
  rcases List.mem_cons.mp hx with hx | hx
  · rw [hx, List.length_take]; omega
  · exact (chunks_mem (mtu - 3) (by omega) _ _ x hx).1

theorem outs_le (mtu : Nat) (hm : 12 ≤ mtu) (h : Hdr) (pid : Nat) (f : Bytes) :
    ∀ x ∈ tag (mkOut h pid) true (cut mtu h f), x.length ≤ mtu := by
  have := hs_le h true
  intro x hx
  rw [cut, tag] at hx
  rcases List.mem_cons.mp hx with hx | hx
  · rw [hx, mkOut_length, List.length_take]; omega
  · obtain ⟨l, c, hc, rfl⟩ := mem_tag_false _ _ _ hx
    have := (chunks_mem (mtu - 3) (by omega) _ _ c hc).2
    rw [mkOut_length, (hs_le h false).2.2]; omega

theorem payloader_valid (e : Enc) (f : Bytes) (hc : ValidCfg e.cfg) (hf : ValidFrame f) :
    ∃ h, header f = some h ∧ payloadNonFlexible (e.cfg.max % 65536) e.pictureID f =
      tag (mkOut h e.pictureID) true (cut e.cfg.max h f) := by
  obtain ⟨h1, h2⟩ := hc
  obtain ⟨f1, f2, f3⟩ := hf
  obtain ⟨h, hh⟩ := Option.isSome_iff_exists.mp f3
  refine ⟨h, hh, ?_⟩
  have hfl : f.length = f.length - 1 + 1 := by omega
  rw [payloadNonFlexible, Nat.mod_eq_of_lt (by omega), hh]
  dsimp only
  rw [hfl, fragLoop_tag e.cfg.max h1 h e.pictureID _ true f f1 (by omega)]
  rfl

/-- **C06 / C03 "a valid frame produces at least one packet"** -/
theorem c06_nonempty (e : Enc) (f : Bytes) (hc : ValidCfg e.cfg) (hf : ValidFrame f) :
    (encode e f).2 ≠ [] := by
  obtain ⟨h, _, hp⟩ := payloader_valid e f hc hf
  intro hnil
  have := congrArg List.length hnil
  simp only [encode, hp, emit_length, tag_length, cut, List.length_cons, List.length_nil] at this
  omega

/-- **C06 size clause**: every payload (descriptor included) is at most `PayloadMaxSize`. -/
theorem c06_payload_le (e : Enc) (f : Bytes) (hc : ValidCfg e.cfg) (hf : ValidFrame f) :
    ∀ p ∈ (encode e f).2, p.payload.length ≤ e.cfg.max := by
  obtain ⟨h, _, hp⟩ := payloader_valid e f hc hf
  simp only [encode, hp]
  exact emit_payload_le _ _ _ _ (outs_le e.cfg.max hc.1 h e.pictureID f)

/-- **C06 numbering, one call** (every configuration and frame, valid or not). -/
theorem c06_seq_consecutive (e : Enc) (f : Bytes) :
    (encode e f).2.map (·.seq) = seqFrom e.seq (encode e f).2.length ∧
    (encode e f).1.seq = e.seq + UInt16.ofNat (encode e f).2.length ∧ (encode e f).1.cfg = e.cfg := by
  simp [encode, emit_seq, emit_length]

/-- a series of `Encode` calls through the same encoder -/
def encodeMany (e : Enc) : List Bytes → Enc × List Pkt
  | [] => (e, [])
  | f :: fs =>
    let (e1, ps) := encode e f
    let (e2, qs) := encodeMany e1 fs
    (e2, ps ++ qs)

/-- **C06 numbering, any series of calls, any initial value (incl. wrap inside the run)**. -/
theorem c06_seq_many (e : Enc) (fs : List Bytes) :
    (encodeMany e fs).2.map (·.seq) = seqFrom e.seq (encodeMany e fs).2.length ∧
    (encodeMany e fs).1.seq = e.seq + UInt16.ofNat (encodeMany e fs).2.length :=
  seq_series (fun e f => ⟨(c06_seq_consecutive e f).1, (c06_seq_consecutive e f).2.1⟩) e fs

/-- **C06 payload type and SSRC**. -/
theorem c06_pt_ssrc (e : Enc) (f : Bytes) :
    ∀ p ∈ (encode e f).2, p.pt = e.cfg.pt ∧ p.ssrc = e.cfg.ssrc := by
  simp only [encode]; exact emit_pt_ssrc _ _ _

/-- **C06 marker**: on the last packet of the frame and on no other. -/
theorem c06_marker_only_last (e : Enc) (f : Bytes) (hc : ValidCfg e.cfg) (hf : ValidFrame f) :
    (encode e f).2.map (·.marker) = List.replicate ((encode e f).2.length - 1) false ++ [true] := by
  obtain ⟨h, _, hp⟩ := payloader_valid e f hc hf
  simp only [encode, hp, emit_length]
  exact emit_markers _ _ _ (by rw [cut, tag]; simp)

/-- state invariant, relative to a bound `P` on the payload size of the packets of the history: the
first fragment of a frame is stored unchecked, every later one only if the total stays within
`MaxFrameSize` -/
structure Inv (P : Nat) (d : Dec) : Prop where
  size_eq : d.fragmentsSize = totalLen d.fragments
  size_le : d.fragmentsSize ≤ CodecAv1vp.vp9MaxFrameSize + P
  ne      : ∀ x ∈ d.fragments, 0 < x.length

def Clean (d : Dec) : Prop := d.fragmentsSize = 0 ∧ d.fragments = []

instance (d : Dec) : Decidable (Clean d) := by unfold Clean; infer_instance

theorem c08_inv_init (P : Nat) : Inv P {} := ⟨rfl, by simp, by simp⟩

theorem inv_reset (P : Nat) (d : Dec) : Inv P d.resetFragments :=
  ⟨rfl, by simp [Dec.resetFragments], by simp [Dec.resetFragments]⟩

theorem skip1_le (r r' : Bytes) (h : skip1 r = some r') : r'.length ≤ r.length := by
  cases r with
  | nil => simp [skip1] at h
  | cons a t => simp [skip1] at h; subst h; simp

theorem parsePictureID_le (r r' : Bytes) (h : parsePictureID r = some r') : r'.length ≤ r.length := by
  cases r with
  | nil => simp [parsePictureID] at h
  | cons a t =>
    simp only [parsePictureID] at h
    split at h
    · have := skip1_le _ _ h; simp; omega
    · simp at h; subst h; simp

theorem parseLayerInfo_le (f : Bool) (r r' : Bytes) (h : parseLayerInfo f r = some r') : r'.length ≤ r.length := by
  cases r with
  | nil => simp [parseLayerInfo] at h
  | cons a t =>
    simp only [parseLayerInfo] at h
    split at h
    · simp at h
    · split at h
      · simp at h; subst h; simp
      · have := skip1_le _ _ h; simp; omega

theorem parseRefIndices_le (cnt : Nat) (r r' : Bytes) (h : parseRefIndices cnt r = some r') : r'.length ≤ r.length := by
  induction r generalizing cnt with
  | nil => simp [parseRefIndices] at h
  | cons a t ih =>
    simp only [parseRefIndices] at h
    split at h
    · simp at h; subst h; simp
    · split at h
      · simp at h
      · have := ih _ h; simp; omega

theorem skipWH_le (n : Nat) (r r' : Bytes) (h : skipWH n r = some r') : r'.length ≤ r.length := by
  induction n generalizing r with
  | zero => simp [skipWH] at h; subst h; exact Nat.le_refl _
  | succ n ih =>
    simp only [skipWH] at h
    split at h
    · simp at h
    · have := ih _ h; simp only [List.length_drop] at this; omega

theorem skipPG_le (n : Nat) (r r' : Bytes) (h : skipPG n r = some r') : r'.length ≤ r.length := by
  induction n generalizing r with
  | zero => simp [skipPG] at h; subst h; exact Nat.le_refl _
  | succ n ih =>
    cases r with
    | nil => simp [skipPG] at h
    | cons a t =>
      simp only [skipPG] at h
      split at h
      · simp at h
      · have := ih _ h; simp only [List.length_drop, List.length_cons] at this ⊢; omega

theorem stage_le {c : Bool} {p : Bytes → Option Bytes} (hp : ∀ r r', p r = some r' → r'.length ≤ r.length)
    {r r' : Bytes} (h : (if c then p r else some r) = some r') : r'.length ≤ r.length := by
  cases c with
  | true => exact hp r r' h
  | false => cases h; exact Nat.le_refl _

theorem parseSSData_le (r r' : Bytes) (h : parseSSData r = some r') : r'.length ≤ r.length := by
  cases r with
  | nil => simp [parseSSData] at h
  | cons a t =>
    simp only [parseSSData] at h
    split at h
    · simp at h
    · rename_i r1 h1
      have hr1 := stage_le (skipWH_le _) h1
      split at h
      · split at h
        · simp at h
        · have := skipPG_le _ _ _ h
          simp only [List.length_cons] at hr1 ⊢; omega
      · simp at h; subst h; simp; omega

theorem unmarshal_le (pl : Bytes) (v : Desc) (h : unmarshal pl = some v) : v.payload.length ≤ pl.length := by
  cases pl with
  | nil => simp [unmarshal] at h
  | cons b0 r =>
    simp only [unmarshal] at h
    split at h
    · simp at h
    · rename_i r1 h1
      split at h
      · simp at h
      · rename_i r2 h2
        split at h
        · simp at h
        · rename_i r3 h3
          split at h
          · simp at h
          · rename_i r4 h4
            have e1 := stage_le parsePictureID_le h1
            have e2 := stage_le (parseLayerInfo_le _) h2
            have e3 := stage_le (parseRefIndices_le 0) h3
            have e4 := stage_le parseSSData_le h4
            simp only [Option.some.injEq] at h
            subst h
            simp only [List.length_cons]
            omega

theorem decode_start (d : Dec) (p : Pkt) (v : Desc) (hv : unmarshal p.payload = some v)
    (hne : 0 < v.payload.length) (hb : v.b = true) :
    decode d p =
      if v.e then ({ d with firstPacketReceived := true, fragments := [], fragmentsSize := 0 }, .ok v.payload)
      else ({ d with firstPacketReceived := true, fragmentsSize := v.payload.length, fragments := [v.payload],
                     nextSeq := p.seq + 1 }, .more) := by
  simp only [decode, hv, isEmpty_of_pos hne, hb, Dec.resetFragments]
  cases v.e <;> simp

theorem decode_cont (d : Dec) (p : Pkt) (v : Desc) (hv : unmarshal p.payload = some v)
    (hne : 0 < v.payload.length) (hb : v.b = false) (hpos : d.fragmentsSize ≠ 0) (hseq : p.seq = d.nextSeq)
    (hle : d.fragmentsSize + v.payload.length ≤ CodecAv1vp.vp9MaxFrameSize) :
    decode d p =
      if v.e then ({ d with fragments := [], fragmentsSize := 0, nextSeq := d.nextSeq + 1 },
                   .ok (joinFragments (d.fragments ++ [v.payload]) (d.fragmentsSize + v.payload.length)))
      else ({ d with fragments := d.fragments ++ [v.payload], fragmentsSize := d.fragmentsSize + v.payload.length,
                     nextSeq := d.nextSeq + 1 }, .more) := by
  have hgt : ¬ d.fragmentsSize + v.payload.length > CodecAv1vp.vp9MaxFrameSize := by omega
  simp only [decode, hv, isEmpty_of_pos hne, hb, Dec.resetFragments]
  cases v.e <;> simp [hgt, hpos, hseq]

theorem decode_cases (d : Dec) (p : Pkt) :
    (((decode d p).1 = d.resetFragments ∨ (decode d p).1 = d) ∧ ∀ f, (decode d p).2 ≠ .ok f) ∨
    ∃ v, unmarshal p.payload = some v ∧ 0 < v.payload.length ∧
      (v.b = true ∨ v.b = false ∧ d.fragmentsSize ≠ 0 ∧ p.seq = d.nextSeq ∧
        d.fragmentsSize + v.payload.length ≤ CodecAv1vp.vp9MaxFrameSize) := by
  -- in a refusing branch, choose the left side first: `simp` then works on that side alone
  cases hv : unmarshal p.payload with
  | none =>
    left
    simp [decode, hv]
  | some v =>
    cases hemp : v.payload.isEmpty with
    | true =>
      left
      simp [decode, hv, hemp]
    | false =>
      have hne : 0 < v.payload.length := by cases hp : v.payload with | nil => simp [hp] at hemp | cons a t => simp
      cases hb : v.b with
      | true => exact Or.inr ⟨v, rfl, hne, Or.inl hb⟩
      | false =>
        by_cases h0 : d.fragmentsSize = 0
        · left
          simp only [decode, hv, hemp, hb, h0]
          cases d.firstPacketReceived <;> simp
        by_cases hs : p.seq = d.nextSeq
        · by_cases hle : d.fragmentsSize + v.payload.length ≤ CodecAv1vp.vp9MaxFrameSize
          · exact Or.inr ⟨v, rfl, hne, Or.inr ⟨hb, h0, hs, hle⟩⟩
          · left
            simp [decode, hv, hemp, hb, h0, hs, Nat.lt_of_not_le hle]
        · left
          simp [decode, hv, hemp, hb, h0, hs]

/-- **C08**: the invariant is preserved by `Decode` on EVERY packet of payload size ≤ `P`. -/
theorem c08_inv_decode (P : Nat) (d : Dec) (p : Pkt) (hi : Inv P d) (hp : p.payload.length ≤ P) :
    Inv P (decode d p).1 := by
  rcases decode_cases d p with ⟨h | h, _⟩ | ⟨v, hv, hne, hb | ⟨hb, h0, hs, hcap⟩⟩
  · rw [h]; exact inv_reset P d
  · rw [h]; exact hi
  · have := unmarshal_le _ _ hv
    rw [decode_start d p v hv hne hb]; split
    · exact inv_reset P { d with firstPacketReceived := true }
    · exact ⟨by simp, by simp only; omega, by simpa using hne⟩
  · rw [decode_cont d p v hv hne hb h0 hs hcap]; split
    · exact inv_reset P { d with nextSeq := d.nextSeq + 1 }
    · exact ⟨by simp [hi.size_eq], by simp only; omega, pos_snoc _ _ hi.ne hne⟩

/-- **C08 bounded memory**: retained bytes ≤ `vp9.MaxFrameSize` (2 MiB) + one packet. -/
theorem c08_retained_le (P : Nat) (d : Dec) (hi : Inv P d) : retained d ≤ CodecAv1vp.vp9MaxFrameSize + P := by
  unfold retained; rw [← hi.size_eq]; exact hi.size_le

/-- **C08 bounded number of retained slices**: every retained fragment is non-empty, so the decoder
never holds more fragments than bytes (no growth by descriptor-only packets). -/
theorem c08_fragment_count_le (P : Nat) (d : Dec) (hi : Inv P d) :
    d.fragments.length ≤ retained d ∧ d.fragments.length ≤ CodecAv1vp.vp9MaxFrameSize + P := by
  have h1 := length_le_totalLen d.fragments hi.ne
  have h2 := c08_retained_le P d hi
  unfold retained at *
  omega

/-- **C08 output bound**: a returned frame is at most `vp9.MaxFrameSize` long, or it is (part of) a
single packet's payload. -/
theorem c08_out_le (d : Dec) (p : Pkt) (f : Bytes) (h : (decode d p).2 = .ok f) :
    f.length ≤ CodecAv1vp.vp9MaxFrameSize ∨ f.length ≤ p.payload.length := by
  rcases decode_cases d p with ⟨_, hno⟩ | ⟨v, hv, hne, hb | ⟨hb, h0, hs, hcap⟩⟩
  · exact absurd h (hno f)
  · rw [decode_start d p v hv hne hb] at h; split at h
    · cases h; exact Or.inr (unmarshal_le _ _ hv)
    · cases h
  · rw [decode_cont d p v hv hne hb h0 hs hcap] at h; split at h
    · cases h; rw [joinFragments_length]; exact Or.inl hcap
    · cases h

/-- the bits of the descriptor byte as `Unmarshal` reads them: I = 1, L = F = 0, then B, E, V as written -/
theorem desc_bits (nk b e v : Bool) :
    tb (descByte nk b e v) 0x80 = true ∧ tb (descByte nk b e v) 0x20 = false ∧ tb (descByte nk b e v) 0x10 = false ∧
    tb (descByte nk b e v) 0x08 = b ∧ tb (descByte nk b e v) 0x04 = e ∧ tb (descByte nk b e v) 0x02 = v := by
  cases nk <;> cases b <;> cases e <;> cases v <;> decide

theorem pidHi_bit : ∀ n : Fin 128, tb (UInt8.ofNat (n.val + 128)) 0x80 = true := by decide

theorem ss_parse (h : Hdr) (chunk : Bytes) : parseSSData (ssBytes h ++ chunk) = some chunk := by
  have e1 : tb (0x18 : UInt8) 0x10 = true := by decide
  have e2 : tb (0x18 : UInt8) 0x08 = true := by decide
  have e3 : ((0x18 : UInt8) >>> 5).toNat + 1 = 1 := by decide
  have e4 : (((0x14 : UInt8) >>> 2) &&& 0x3).toNat = 1 := by decide
  have e5 : (0x01 : UInt8).toNat = 1 := by decide
  simp only [ssBytes, List.cons_append, List.nil_append, parseSSData, e1, e2, if_true, skipWH]
  rw [if_neg (by simp only [List.length_cons]; omega)]
  simp [skipWH, skipPG, e4, e5]

theorem unmarshal_mkOut (h : Hdr) (pid : Nat) (hpid : pid < 0x8000) (first e : Bool) (chunk : Bytes) :
    unmarshal (mkOut h pid first e chunk) = some { b := first, e := e, payload := chunk } := by
  have hhi : tb (UInt8.ofNat (pid / 256 + 128)) 0x80 = true := pidHi_bit ⟨pid / 256, by omega⟩
  obtain ⟨di, dl, df, db, de, dv⟩ := desc_bits h.nonKey first e (!h.nonKey && first)
  simp only [mkOut, unmarshal, di, dl, df, db, de, dv, if_true, parsePictureID, hhi,
    skip1, Bool.false_eq_true, if_false, Bool.false_and]
  cases hss : (!h.nonKey && first)
  · simp
  · simp [ss_parse]

theorem runs : Runs decode runDec := ⟨fun _ => rfl, fun _ _ _ => rfl⟩

/-- **C03 round trip**: for every valid configuration, encoder state and frame, from ANY decoder
state (the first packet carries B = 1 and restarts the decoder), the decoder answers "more packets
needed" on all packets but the last, returns exactly the frame at the last one and is clean
afterwards. -/
theorem c03_roundtrip (e : Enc) (f : Bytes) (d : Dec)
    (hc : ValidCfg e.cfg) (he : ValidEnc e) (hf : ValidFrame f) :
    ∃ d', runDec d (encode e f).2
        = (d', List.replicate ((encode e f).2.length - 1) .more ++ [.ok f]) ∧ Clean d' := by
  obtain ⟨h, _, hp⟩ := payloader_valid e f hc hf
  have hfl := cut_flatten e.cfg.max hc.1 h f
  have htot : totalLen (cut e.cfg.max h f) = f.length := by rw [← flatten_length, hfl]
  obtain ⟨d', hrun, hclean⟩ := runWith_collect runs e.cfg (mkOut h e.pictureID)
    (fun d fs sq => d.fragments = fs ∧ d.fragmentsSize = totalLen fs ∧ d.fragmentsSize ≠ 0 ∧ d.nextSeq = sq)
    Clean CodecAv1vp.vp9MaxFrameSize
    (fun d sq last x hx _ => by
      have hd := decode_start d
        { pt := e.cfg.pt, seq := sq, ssrc := e.cfg.ssrc, marker := last, payload := mkOut h e.pictureID true last x }
        ⟨true, last, x⟩ (unmarshal_mkOut h e.pictureID he true last x) hx rfl
      cases last
      · exact ⟨_, hd, rfl, by simp, by simp only; omega, rfl⟩
      · exact ⟨_, hd, rfl, rfl⟩)
    (fun d fs sq last x hh hx hle => by
      obtain ⟨h1, h2, h3, h4⟩ := hh
      have hd := decode_cont d
        { pt := e.cfg.pt, seq := sq, ssrc := e.cfg.ssrc, marker := last, payload := mkOut h e.pictureID false last x }
        ⟨false, last, x⟩ (unmarshal_mkOut h e.pictureID he false last x) hx rfl h3 h4.symm (by rw [h2]; exact hle)
      rw [joinFragments_snoc _ _ _ (h1 ▸ h2), h1] at hd
      cases last
      · exact ⟨_, hd, rfl, by simp [h2], by simp only; omega, by simp [h4]⟩
      · exact ⟨_, hd, rfl, rfl⟩)
    (cut e.cfg.max h f) (List.cons_ne_nil _ _) (cut_pos e.cfg.max hc.1 h f hf.1) (by have := hf.2.1; omega) d e.seq
  refine ⟨d', ?_, hclean⟩
  simp only [encode, hp, emit_length, tag_length]
  rw [hrun, hfl]

/-- **C07 flush**: from ANY state the packets of one intact valid frame leave the decoder clean. -/
theorem c07_flush (e : Enc) (f : Bytes) (d : Dec)
    (hc : ValidCfg e.cfg) (he : ValidEnc e) (hf : ValidFrame f) :
    Clean (runDec d (encode e f).2).1 := by
  obtain ⟨d', hrun, hclean⟩ := c03_roundtrip e f d hc he hf
  rw [hrun]; exact hclean

/-- **C07 resynchronisation**: after ANY packet history `h` (arbitrary packets: every loss /
duplication / reordering pattern applied to any stream is such a history), the packets of an intact
valid frame `g` give "more" … "more", `ok g`; the predecessor does not even have to be intact,
because a packet with B = 1 always restarts the decoder. -/
theorem c07_resync (h : List Pkt) (e : Enc) (g : Bytes)
    (hc : ValidCfg e.cfg) (he : ValidEnc e) (hg : ValidFrame g) :
    ∃ d', runDec (runDec {} h).1 (encode e g).2
        = (d', List.replicate ((encode e g).2.length - 1) .more ++ [.ok g]) ∧ Clean d' :=
  c03_roundtrip e g _ hc he hg

/-- **C03, consecutive frames** through the same encoder / decoder pair: the exact answers to the packets
of two of them, one after the other. -/
theorem c03_roundtrip_many (e : Enc) (f g : Bytes) (d : Dec)
    (hc : ValidCfg e.cfg) (he : ValidEnc e) (hf : ValidFrame f) (hg : ValidFrame g) :
    let e1 := (encode e f).1
    ∃ d', runDec d ((encode e f).2 ++ (encode e1 g).2)
        = (d', (List.replicate ((encode e f).2.length - 1) .more ++ [.ok f]) ++
               (List.replicate ((encode e1 g).2.length - 1) .more ++ [.ok g])) ∧ Clean d' := by
  intro e1
  obtain ⟨d1, hr1, _⟩ := c03_roundtrip e f d hc he hf
  obtain ⟨d2, hr2, hcl⟩ := c03_roundtrip e1 g d1 hc (validEnc_encode e f) hg
  refine ⟨d2, ?_, hcl⟩
  rw [runs.append, hr1]
  simp only [hr2]

theorem validEnc_cfg (e : Enc) (f : Bytes) : (encode e f).1.cfg = e.cfg := (c06_seq_consecutive e f).2.2

/-- **C03, any series of frames** through the same encoder / decoder pair, from ANY decoder state:
the decoder returns exactly the frames, in order, answers "more packets needed" everywhere else and
ends clean (for a non-empty series). -/
theorem c03_roundtrip_list (e : Enc) (fs : List Bytes) (d : Dec) (hc : ValidCfg e.cfg) (he : ValidEnc e)
    (hf : ∀ f ∈ fs, ValidFrame f) :
    okFrames (runDec d (encodeMany e fs).2).2 = fs ∧ OnlyMoreOk (runDec d (encodeMany e fs).2).2 ∧
    (fs ≠ [] → Clean (runDec d (encodeMany e fs).2).1) := by
  induction fs generalizing e d with
  | nil => exact ⟨rfl, by intro r hr; simp [encodeMany, runDec] at hr, fun h => absurd rfl h⟩
  | cons f fs ih =>
    obtain ⟨d1, hr1, hc1⟩ := c03_roundtrip e f d hc he (hf f (by simp))
    obtain ⟨g1, g2, g3⟩ := ih (encode e f).1 d1 hc (validEnc_encode e f) (fun x hx => hf x (by simp [hx]))
    simp only [encodeMany, runs.append, hr1]
    refine ⟨?_, only_frame_append g2, ?_⟩
    · rw [frames_frame_append okFrames, g1]
    · intro _
      cases fs with
      | nil => simpa [encodeMany, runDec] using hc1
      | cons a t => exact g3 (by simp)

/-- a key frame (profile 0, 40 x 31) of 30 bytes at limit 16: first packet 11 descriptor bytes + 5,
then 13 + 12 bytes with 3 descriptor bytes; picture id wraps after this frame -/
def exEnc : Enc := { cfg := { pt := 96, ssrc := 7, max := 16 }, seq := 65535, pictureID := 0x7fff }
def exFrame : Bytes :=
  [0x82, 0x49, 0x83, 0x42, 0x00, 0x02, 0x70, 0x01, 0xe0, 0x00, 1, 2, 3, 4, 5, 6, 7, 8, 9, 10,
   11, 12, 13, 14, 15, 16, 17, 18, 19, 20]

example : ValidCfg exEnc.cfg ∧ ValidEnc exEnc ∧ ValidFrame exFrame := by decide
example : header exFrame = some { nonKey := false, width := 40, height := 31 } := by decide
example : (encode exEnc exFrame).2.map (·.payload.length) = [16, 16, 15] := by decide
example : (encode exEnc exFrame).2.map (·.seq) = [65535, 0, 1] ∧ (encode exEnc exFrame).1.pictureID = 0 := by decide
/-- from a dirty state (mid-frame, wrong expected sequence number) the frame still comes back -/
example : (runDec { fragments := [[9, 9]], fragmentsSize := 2, nextSeq := 77 } (encode exEnc exFrame).2).2
    = [.more, .more, .ok exFrame] := by decide
example : Inv 1500 { fragments := [[9, 9]], fragmentsSize := 2, nextSeq := 77 } := ⟨by decide, by decide, by decide⟩

end Rtsp.Codec.Vp9
