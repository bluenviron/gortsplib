import Rtsp.Model.Codec.MpegTs
import Rtsp.Proofs.Codec.FragmentLoop
/-
Property theorems for pkg/format/rtpmpegts about the model in `Model/Codec/MpegTs.lean`.  A frame is a
group of 188-byte TS packets, sent `PayloadMaxSize / 188` to a packet; every packet is self-contained
and never carries the marker.  The theorems `c03_*`, `c06_*`, `c08_*` are this format's part of
properties C03, C06, C08 (C03 in the grouping form: every packet returns its TS packets, together they
are the frame).  The decoder is stateless: its totality is Lean totality, and C07 does not apply
(`c07_history_independent` records that).
-/
namespace Rtsp.Codec.MpegTs
open Rtsp.Rtp Rtsp.Facts

/-- `PayloadMaxSize / 188` must not be zero (division by zero in Go). -/
def ValidCfg (c : EncCfg) : Prop := tsSize ≤ c.max

/-- at least one TS packet, each exactly 188 bytes; the decoder also wants the sync byte -/
def ValidFrame (ts : List Bytes) : Prop :=
  ts ≠ [] ∧ ∀ t ∈ ts, t.length = tsSize ∧ t.head? = some syncByte

instance (c : EncCfg) : Decidable (ValidCfg c) := by unfold ValidCfg; infer_instance
instance (ts : List Bytes) : Decidable (ValidFrame ts) := by unfold ValidFrame; infer_instance

theorem per_pos (c : EncCfg) (hc : ValidCfg c) : 0 < c.max / tsSize :=
  Nat.div_pos hc (by decide)

@[simp] theorem pack_length (g : List Bytes) : (pack g).length = g.length * tsSize := by
  simp only [pack, List.length_append, List.length_take, List.length_replicate]
  omega

/-- the packet written for a group of TS packets (in the argument order of `frags`' packet builder) -/
def emitPkt (c : EncCfg) (_ _ : Bool) (sq : UInt16) (_ : Nat) (g : List Bytes) : Pkt :=
  { pt := payloadType, seq := sq, ssrc := c.ssrc, marker := false, payload := pack g }

/-- the outer loop is the fragment loop of the audio packetisers, over TS packets (`emitPkt` ignores
`first` and `pos`, so from any values of them) -/
theorem emit_frags (c : EncCfg) (per n : Nat) (first : Bool) (sq : UInt16) (pos : Nat) (rest : List Bytes) :
    emit c per n sq rest = frags (emitPkt c) per n first sq pos rest := by
  induction n using frags_ind generalizing first sq pos rest with
  | h0 => rfl
  | h1 => rfl
  | h2 n ih => simp only [emit, frags]; rw [ih false]; rfl

/-- **C06 size clause**: every payload is at most `PayloadMaxSize`, for every group of TS packets
(any number, any sizes). -/
theorem c06_payload_le (e : Enc) (ts : List Bytes) (hc : ValidCfg e.cfg) :
    ∀ p ∈ (encode e ts).2, p.payload.length ≤ e.cfg.max := by
  intro p hp
  unfold encode at hp
  simp only [emit_frags e.cfg _ _ true _ 0] at hp
  refine frags_forall (Q := fun p => p.payload.length ≤ e.cfg.max) (fun _ _ _ _ g hg => ?_) p hp
  have := hg (ceilDiv_upper ts.length (e.cfg.max / tsSize) (per_pos _ hc))
  rw [emitPkt, pack_length]
  exact Nat.le_trans (Nat.mul_le_mul_right _ this) (Nat.div_mul_le_self _ _)

/-- **C06 numbering, one call**: the packets carry `seq, seq+1, …` (mod 2^16) and the encoder
continues after them. -/
theorem c06_seq_consecutive (e : Enc) (ts : List Bytes) :
    (encode e ts).2.map (·.seq) = seqFrom e.seq (encode e ts).2.length ∧
    (encode e ts).1.seq = e.seq + UInt16.ofNat (encode e ts).2.length := by
  unfold encode
  simp only [emit_frags e.cfg _ _ true _ 0]
  exact ⟨frags_seq, by rw [frags_length]⟩

def encodeMany (e : Enc) : List (List Bytes) → Enc × List Pkt
  | [] => (e, [])
  | f :: fs =>
    let (e1, ps) := encode e f
    let (e2, qs) := encodeMany e1 fs
    (e2, ps ++ qs)

/-- **C06 numbering, any series of calls, any initial value (incl. wrap inside the run)** -/
theorem c06_seq_many (e : Enc) (fs : List (List Bytes)) :
    (encodeMany e fs).2.map (·.seq) = seqFrom e.seq (encodeMany e fs).2.length ∧
    (encodeMany e fs).1.seq = e.seq + UInt16.ofNat (encodeMany e fs).2.length :=
  seq_series c06_seq_consecutive e fs

theorem emit_pt_ssrc_marker (c : EncCfg) (per n : Nat) (sq : UInt16) (rest : List Bytes) :
    ∀ p ∈ emit c per n sq rest, p.pt = payloadType ∧ p.ssrc = c.ssrc ∧ p.marker = false := by
  rw [emit_frags c per n true sq 0]
  exact frags_forall fun _ _ _ _ _ _ => ⟨rfl, rfl, rfl⟩

/-- **C06 payload type and SSRC**: the format-mandated payload type 33 and the configured SSRC -/
theorem c06_pt_ssrc (e : Enc) (ts : List Bytes) :
    ∀ p ∈ (encode e ts).2, p.pt = payloadType ∧ p.ssrc = e.cfg.ssrc := by
  intro p hp
  unfold encode at hp
  exact ⟨(emit_pt_ssrc_marker _ _ _ _ _ p hp).1, (emit_pt_ssrc_marker _ _ _ _ _ p hp).2.1⟩

/-- every RTP packet is a self-contained group of TS packets; the code never sets the marker
(DESIGN.md, C06: no marker clause for MPEG-TS) -/
theorem c06_marker_never (e : Enc) (ts : List Bytes) : ∀ p ∈ (encode e ts).2, p.marker = false := by
  intro p hp
  unfold encode at hp
  exact (emit_pt_ssrc_marker _ _ _ _ _ p hp).2.2

/-- (F) `type Decoder struct{}` (regenerated from /repo on every run) -/
theorem c08_state_fields : CodecMisc.mpegtsDecoderIsEmptyStruct = true := by decide

/-- **C08 bounded memory**: the decoder keeps nothing between calls. -/
theorem c08_retained_le : retained ≤ 0 := Nat.le_refl _

theorem splitTs_flatten (n : Nat) (b : Bytes) (ts : List Bytes) (hl : b.length = n * tsSize)
    (h : splitTs n b = some ts) :
    ts.flatten = b ∧ ts.length = n ∧ ∀ t ∈ ts, t.length = tsSize ∧ t.head? = some syncByte := by
  induction n generalizing b ts with
  | zero =>
    simp [splitTs] at h; subst h
    have : b = [] := List.eq_nil_of_length_eq_zero (by simpa using hl)
    simp [this]
  | succ n ih =>
    simp only [splitTs] at h
    split at h
    · simp at h
    · rename_i hs
      simp only [ne_eq, Decidable.not_not] at hs
      cases hr : splitTs n (b.drop tsSize) with
      | none => simp [hr] at h
      | some r =>
        simp [hr] at h; subst h
        have hl' : (b.drop tsSize).length = n * tsSize := by
          simp only [List.length_drop, hl, Nat.succ_mul]; omega
        obtain ⟨h1, h2, h3⟩ := ih (b.drop tsSize) r hl' hr
        refine ⟨by simp [h1], by simp [h2], ?_⟩
        intro t ht
        simp only [List.mem_cons] at ht
        rcases ht with ht | ht
        · subst ht
          refine ⟨?_, ?_⟩
          · simp only [List.length_take, hl, Nat.succ_mul]; omega
          · cases b with
            | nil => simp at hs
            | cons a b' => simpa [tsSize, CodecMisc.mpegtsPacketSize] using hs
        · exact h3 t ht

theorem decode_ok (p : Pkt) (ts : List Bytes) (h : decode p = .ok ts) :
    ts.flatten = p.payload ∧ ts.length = p.payload.length / tsSize ∧ p.payload.length ≠ 0 ∧
    ∀ t ∈ ts, t.length = tsSize ∧ t.head? = some syncByte := by
  unfold decode at h
  by_cases h0 : p.payload.length = 0
  · rw [if_pos h0] at h; exact nomatch h
  by_cases hm : p.payload.length % tsSize ≠ 0
  · rw [if_neg h0, if_pos hm] at h; exact nomatch h
  rw [if_neg h0, if_neg hm] at h
  cases hs : splitTs (p.payload.length / tsSize) p.payload with
  | none => rw [hs] at h; exact nomatch h
  | some ts' =>
    rw [hs] at h
    obtain rfl := DecRes.ok.inj h
    have hl : p.payload.length = p.payload.length / tsSize * tsSize := by
      have := Nat.div_add_mod p.payload.length tsSize
      rw [Decidable.not_not.mp hm, Nat.mul_comm] at this; omega
    obtain ⟨h1, h2, h3⟩ := splitTs_flatten _ _ _ hl hs
    exact ⟨h1, h2, h0, h3⟩

/-- **C08 output bound**: the returned TS packets are sub-slices of the packet's payload: together
exactly its bytes (their shape is `c08_out_units`). -/
theorem c08_out_le (p : Pkt) (ts : List Bytes) (h : decode p = .ok ts) :
    ts.flatten = p.payload ∧ totalLen ts = p.payload.length := by
  obtain ⟨h1, -⟩ := decode_ok p ts h
  exact ⟨h1, by rw [← flatten_length, h1]⟩

theorem c08_out_units (p : Pkt) (ts : List Bytes) (h : decode p = .ok ts) :
    ts ≠ [] ∧ ∀ t ∈ ts, t.length = tsSize ∧ t.head? = some syncByte := by
  obtain ⟨h1, -, h0, h3⟩ := decode_ok p ts h
  refine ⟨fun hnil => h0 ?_, h3⟩
  rw [← h1, hnil]; rfl

def ValidGroup (g : List Bytes) : Prop := g ≠ [] ∧ ∀ t ∈ g, t.length = tsSize ∧ t.head? = some syncByte

theorem flatten_length_valid (g : List Bytes) (h : ∀ t ∈ g, t.length = tsSize) :
    g.flatten.length = g.length * tsSize := by
  induction g with
  | nil => simp
  | cons t g ih =>
    simp only [List.flatten_cons, List.length_append, List.length_cons, Nat.succ_mul]
    rw [ih (fun t ht => h t (by simp [ht])), h t (by simp)]
    omega

theorem pack_valid (g : List Bytes) (h : ∀ t ∈ g, t.length = tsSize) : pack g = g.flatten := by
  have := flatten_length_valid g h
  simp only [pack]
  rw [← this, List.take_length, Nat.sub_self]
  simp

theorem splitTs_flatten_valid (g : List Bytes)
    (h : ∀ t ∈ g, t.length = tsSize ∧ t.head? = some syncByte) :
    splitTs g.length g.flatten = some g := by
  induction g with
  | nil => simp [splitTs]
  | cons t g ih =>
    obtain ⟨hl, hh⟩ := h t (by simp)
    have ht : t ≠ [] := by intro e; rw [e] at hl; simp [tsSize, CodecMisc.mpegtsPacketSize] at hl
    have hhead : (t ++ g.flatten).head? = some syncByte := by
      cases t with
      | nil => exact absurd rfl ht
      | cons a t' => simpa using hh
    simp only [List.flatten_cons, List.length_cons, splitTs, hhead, ne_eq, not_true_eq_false,
      if_false]
    rw [List.drop_left' hl, List.take_left' hl, ih (fun t ht => h t (by simp [ht]))]
    simp

theorem decode_pack (g : List Bytes) (hg : ValidGroup g) (pt : UInt8) (sq : UInt16) (ts ssrc : UInt32)
    (m : Bool) : decode { pt := pt, seq := sq, ts := ts, ssrc := ssrc, marker := m, payload := pack g } = .ok g := by
  obtain ⟨hne, hv⟩ := hg
  have hlen := flatten_length_valid g (fun t ht => (hv t ht).1)
  have hpos : 0 < g.length := List.length_pos_iff.mpr hne
  unfold decode
  simp only [pack_valid g (fun t ht => (hv t ht).1), hlen]
  have h0 : g.length * tsSize ≠ 0 := by
    simp [tsSize, CodecMisc.mpegtsPacketSize]; omega
  have hm : g.length * tsSize % tsSize = 0 := Nat.mul_mod_left _ _
  have hd : g.length * tsSize / tsSize = g.length := Nat.mul_div_cancel _ (by decide)
  simp only [h0, if_false, hm, ne_eq, not_true_eq_false, hd, splitTs_flatten_valid g hv]

/-- the groups the encoder forms -/
def groups (per : Nat) : Nat → List Bytes → List (List Bytes)
  | 0, _ => []
  | 1, rest => [rest]
  | n + 2, rest => rest.take per :: groups per (n + 1) (rest.drop per)

theorem groups_flatten (per n : Nat) (rest : List Bytes) : (groups per (n + 1) rest).flatten = rest := by
  induction n generalizing rest with
  | zero => simp [groups]
  | succ n ih => simp [groups, ih]

theorem run_emit (c : EncCfg) (per n : Nat) (sq : UInt16) (rest : List Bytes) (hper : 0 < per)
    (hv : ∀ t ∈ rest, t.length = tsSize ∧ t.head? = some syncByte) (hlo : n * per < rest.length) :
    runDec (emit c per (n + 1) sq rest) = (groups per (n + 1) rest).map .ok ∧
    ∀ g ∈ groups per (n + 1) rest, ValidGroup g := by
  induction n generalizing sq rest with
  | zero =>
    have hg : ValidGroup rest := ⟨by intro e; rw [e] at hlo; simp at hlo, hv⟩
    simp only [emit, groups, runDec, List.map_cons, List.map_nil]
    exact ⟨by rw [decode_pack rest hg], by simpa using hg⟩
  | succ n ih =>
    have hmul : (n + 1) * per = n * per + per := by rw [Nat.add_mul]; omega
    have hg : ValidGroup (rest.take per) := by
      refine ⟨?_, fun t ht => hv t (List.mem_of_mem_take ht)⟩
      intro e
      have := congrArg List.length e
      simp only [List.length_take, List.length_nil] at this
      omega
    obtain ⟨h1, h2⟩ := ih (sq + 1) (rest.drop per) (fun t ht => hv t (List.mem_of_mem_drop ht))
      (by simp only [List.length_drop]; omega)
    simp only [emit, groups, runDec, List.map_cons]
    refine ⟨by rw [decode_pack _ hg, h1], ?_⟩
    intro g hgm
    simp only [List.mem_cons] at hgm
    rcases hgm with hgm | hgm
    · subst hgm; exact hg
    · exact h2 g hgm

/-- **C03 round trip (group formats)**: for every valid limit and every valid group, every packet
decodes to a non-empty valid group of TS packets and the concatenation of the outputs is exactly
the input group, in order. -/
theorem c03_roundtrip_grouping (e : Enc) (ts : List Bytes) (hc : ValidCfg e.cfg) (hf : ValidFrame ts) :
    ∃ gs : List (List Bytes), runDec (encode e ts).2 = gs.map .ok ∧ gs.flatten = ts ∧
      ∀ g ∈ gs, ValidGroup g := by
  obtain ⟨k, hk, hlo⟩ := ceilDiv_eq_succ ts.length _ (per_pos e.cfg hc) (List.length_pos_iff.mpr hf.1)
  obtain ⟨h1, h2⟩ := run_emit e.cfg _ k e.seq ts (per_pos e.cfg hc) hf.2 hlo
  exact ⟨_, by rw [encode, show _ + _ = k + 1 from hk]; exact h1, groups_flatten _ _ _, h2⟩

/-- for any limit: a non-empty group that fits makes `PayloadMaxSize / 188` positive, and the count is 1 -/
theorem encode_fits (e : Enc) (ts : List Bytes) (hf : ValidFrame ts) (hfit : ts.length ≤ e.cfg.max / tsSize) :
    runDec (encode e ts).2 = [.ok ts] := by
  rw [encode, show _ + _ = 1 from ceilDiv_eq_one _ _ hfit (List.length_pos_iff.mpr hf.1), emit, runDec,
    decode_pack ts hf]
  rfl

/-- **C03, group that fits**: a group of at most `PayloadMaxSize / 188` TS packets travels in one
packet and comes back whole (`hc` is not needed: `encode_fits`). -/
theorem c03_fits_single (e : Enc) (ts : List Bytes) (hc : ValidCfg e.cfg) (hf : ValidFrame ts)
    (hfit : ts.length ≤ e.cfg.max / tsSize) : runDec (encode e ts).2 = [.ok ts] :=
  encode_fits e ts hf hfit

/-- the decoder has no state: the answer to a packet does not depend on the history -/
theorem c07_history_independent (h ps : List Pkt) : runDec (h ++ ps) = runDec h ++ runDec ps := by
  induction h with
  | nil => rfl
  | cons p h ih => simp [runDec, ih]

def exTs (b : UInt8) : Bytes := syncByte :: List.replicate 187 b
def exEnc : Enc := { cfg := { pt := 33, ssrc := 5, max := 400 }, seq := 65535 }

set_option maxRecDepth 20000 in
example : ValidCfg exEnc.cfg ∧ ValidFrame [exTs 1, exTs 2, exTs 3] := by decide
-- three TS packets at limit 400 (two per packet) travel as 2 + 1 across a sequence-number wrap
set_option maxRecDepth 20000 in
example : (encode exEnc [exTs 1, exTs 2, exTs 3]).2.map (fun p => (p.seq, p.payload.length)) = [(65535, 376), (0, 188)] := by
  decide
set_option maxRecDepth 20000 in
example : runDec (encode exEnc [exTs 1, exTs 2, exTs 3]).2 = [.ok [exTs 1, exTs 2], .ok [exTs 3]] := by decide

end Rtsp.Codec.MpegTs
