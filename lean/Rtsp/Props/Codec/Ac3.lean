import Rtsp.Proofs.Codec.Ac3
/-
Property theorems for pkg/format/rtpac3 (RFC 4184), about the model in `Model/Codec/Ac3.lean`.
A frame is a group of AC-3 frames; the encoder aggregates frames while they fit, splits a group that
does not fit into several self-contained packets and fragments a single oversize frame.
The theorems `c03_*`, `c06_*`, `c07_*`, `c08_*` are this format's part of properties C03, C06, C07, C08
(C03 in the grouping form: the decoder returns the encoder's batches, together they are the group).
-/
namespace Rtsp.Codec.Ac3
open Rtsp.Rtp Rtsp.Facts Rtsp.Codec.Audio

/-- the first fragment must carry the five syncinfo bytes the decoder reads: `PayloadMaxSize - 4 ≥ 5` -/
def ValidCfg (c : EncCfg) : Prop := 9 ≤ c.max

/-- an AC-3 frame whose syncinfo declares its actual size -/
def ValidUnit (f : Bytes) : Prop := frameSize f = some f.length

/-- "Frames must contain at least 1 element", every element a valid AC-3 frame -/
def ValidFrame (fs : List Bytes) : Prop := fs ≠ [] ∧ ∀ f ∈ fs, ValidUnit f

instance (c : EncCfg) : Decidable (ValidCfg c) := by unfold ValidCfg; infer_instance
instance (f : Bytes) : Decidable (ValidUnit f) := by unfold ValidUnit; infer_instance
instance (fs : List Bytes) : Decidable (ValidFrame fs) := by unfold ValidFrame; infer_instance

/-- sample count of a batch -/
def inc (b : List Bytes) : UInt32 := UInt32.ofNat b.length * UInt32.ofNat samplesPerFrame

/-- the partition of a group into batches -/
def parts (c : EncCfg) (fs : List Bytes) : List (List Bytes) := batches (ops c).fits fs []

/-- the packets of one `Encode` call -/
def pkts (e : Enc) (fs : List Bytes) : List Pkt := writeAllOk (writeBatch e.cfg) inc (parts e.cfg fs) 0 e.seq

theorem encode_eq (e : Enc) (fs : List Bytes) :
    encode e fs = ({ e with seq := e.seq + UInt16.ofNat (pkts e fs).length }, some (pkts e fs)) := by
  unfold encode
  rw [batchLoop_ok (ops e.cfg) inc _ _ _ _ (fun b _ => rfl)]
  rfl

theorem pkts_eq (e : Enc) (fs : List Bytes) :
    pkts e fs = writeAllOk (writer e.cfg).write inc (parts e.cfg fs) 0 e.seq := by rw [pkts, writeBatch_eq]

theorem fits_iff (c : EncCfg) (b : List Bytes) (f : Bytes) :
    (ops c).fits b f = true ↔ (writer c).len (b ++ [f]) ≤ (writer c).max := by
  show decide (lenAggregated b (some f) ≤ c.max) = true ↔ lenAggregated (b ++ [f]) none ≤ c.max
  rw [decide_eq_true_eq]
  simp only [lenAggregated, totalLen_append, totalLen_singleton]
  omega

/-- **C06 size clause**: every payload is at most `PayloadMaxSize`, for every group of frames of
any sizes (below, at or above the limit). -/
theorem c06_payload_le (e : Enc) (fs : List Bytes) (hc : ValidCfg e.cfg) :
    ∀ ps, (encode e fs).2 = some ps → ∀ p ∈ ps, p.payload.length ≤ e.cfg.max := by
  intro ps h
  rw [encode_eq] at h
  obtain rfl := Option.some.inj h
  unfold ValidCfg at hc
  rw [pkts_eq]
  exact (writer e.cfg).payload_le _ inc (show 2 + 0 + 0 ≤ e.cfg.max by omega) (fits_iff e.cfg) (show 0 < e.cfg.max - 4 by omega)
    (fun b => by simp only [writer, lenAggregated, List.length_append, flatten_length, List.length_cons, List.length_nil]; omega)
    (fun f fi pos ch h => by simp only [writer, List.length_append, List.length_cons, List.length_nil] at h ⊢; omega)
    fs 0 e.seq

/-- **C06 numbering, one call**: the packets of one `Encode` carry `seq, seq+1, …` (mod 2^16) and
the encoder continues after them. -/
theorem c06_seq_consecutive (e : Enc) (fs : List Bytes) :
    (pkts e fs).map (·.seq) = seqFrom e.seq (pkts e fs).length ∧
    (encode e fs).1.seq = e.seq + UInt16.ofNat (pkts e fs).length ∧ (encode e fs).2 = some (pkts e fs) := by
  refine ⟨by rw [pkts_eq]; exact (writer e.cfg).seq inc _ 0 e.seq, ?_, ?_⟩ <;> rw [encode_eq]

/-- a series of `Encode` calls through the same encoder -/
def encodeMany (e : Enc) : List (List Bytes) → Enc × List Pkt
  | [] => (e, [])
  | f :: fs =>
    let (e2, qs) := encodeMany (encode e f).1 fs
    (e2, pkts e f ++ qs)

/-- **C06 numbering, any series of calls, any initial value (incl. wrap inside the run)**. -/
theorem c06_seq_many (e : Enc) (fs : List (List Bytes)) :
    (encodeMany e fs).2.map (·.seq) = seqFrom e.seq (encodeMany e fs).2.length ∧
    (encodeMany e fs).1.seq = e.seq + UInt16.ofNat (encodeMany e fs).2.length :=
  seq_series (fun e f => ⟨(c06_seq_consecutive e f).1, (c06_seq_consecutive e f).2.1⟩) e fs

/-- **C06 payload type and SSRC** are the configured ones on every packet. -/
theorem c06_pt_ssrc (e : Enc) (fs : List Bytes) :
    ∀ p ∈ pkts e fs, p.pt = e.cfg.pt ∧ p.ssrc = e.cfg.ssrc := by
  rw [pkts_eq]; exact (writer e.cfg).pt_ssrc inc _ 0 e.seq

/-- the packets of one call, piece by piece (one piece per batch) -/
def pieces (e : Enc) (fs : List Bytes) : List (List Pkt) := piecePkts (writeBatch e.cfg) inc (parts e.cfg fs) 0 e.seq

theorem pieces_flatten (e : Enc) (fs : List Bytes) : (pieces e fs).flatten = pkts e fs :=
  piecePkts_flatten _ _ _ _ _

/-- **C06 marker**: within every piece (the packets that carry one batch, i.e. one unit the
decoder completes) the marker is set on the last packet and on no other. -/
theorem c06_marker_last (e : Enc) (fs : List Bytes) (hc : ValidCfg e.cfg) :
    (pieces e fs).flatten = pkts e fs ∧
    ∀ ps ∈ pieces e fs, ∃ n, ps.map (·.marker) = List.replicate n false ++ [true] :=
  ⟨pieces_flatten e fs, by
    unfold ValidCfg at hc
    rw [pieces, writeBatch_eq]
    exact (writer e.cfg).piece_markers inc rfl (show 0 < e.cfg.max - 4 by omega)
      (fun f h => by simp only [writer, lenAggregated, totalLen_singleton] at h; omega) _ 0 e.seq⟩

/-- state invariant, relative to a bound `P` on the payload size of the packets of the history.
`size + expected` is the frame size the first fragment declared (at most the largest table entry);
a first fragment may be longer than that (then `expected < 0` and every continuation is refused). -/
structure Inv (P : Nat) (d : Dec) : Prop where
  size_eq  : d.size = totalLen d.fragments
  empty    : d.size = 0 → d.fragments = []
  declared : d.size ≠ 0 → (d.size : Int) + d.expected ≤ maxFrame
  bound    : d.size ≤ P ∨ 0 ≤ d.expected
  nonempty : ∀ f ∈ d.fragments, 0 < f.length

def Clean (d : Dec) : Prop := d.size = 0 ∧ d.fragments = []

instance (d : Dec) : Decidable (Clean d) := by unfold Clean; infer_instance

theorem c08_inv_init (P : Nat) : Inv P {} := ⟨rfl, fun _ => rfl, by simp, by simp, by simp⟩

theorem inv_of_clean (P : Nat) (d : Dec) (h1 : d.size = 0) (h2 : d.fragments = []) : Inv P d :=
  ⟨by simp [h1, h2], fun _ => h2, fun h => absurd h1 h, Or.inl (by omega), by simp [h2]⟩

/-- **C08**: the invariant is preserved by `Decode` on EVERY packet. -/
theorem c08_inv_decode (P : Nat) (d : Dec) (p : Pkt) (hi : Inv P d) (hp : p.payload.length ≤ P) :
    Inv P (decode d p).1 := by
  refine decode_elim (motive := fun r => Inv P r.1) d p _ rfl ?_ ?_ ?_ ?_ ?_ ?_
  · exact fun _ _ => inv_of_clean P _ rfl rfl
  · exact fun _ _ => inv_of_clean P _ rfl rfl
  · intro size hs
    have hb := frameSize_bounds _ _ hs
    simp only [List.length_drop] at hb ⊢
    refine ⟨by simp, fun h => ?_, fun _ => ?_, Or.inl ?_, fun f hf => ?_⟩
    · simp only at h; omega
    · simp only; omega
    · simp only; omega
    · simp only [List.mem_singleton] at hf; subst hf; simp only [List.length_drop]; omega
  · exact fun _ _ _ => hi
  · intro hz hb hpos
    refine ⟨by simp [hi.size_eq], fun h => ?_, fun _ => ?_, Or.inr (Int.le_of_lt hpos), fun f hf => ?_⟩
    · simp only at h; omega
    · have := hi.declared hz; simp only; omega
    · simp only [List.mem_append, List.mem_singleton] at hf
      rcases hf with hf | hf
      · exact hi.nonempty f hf
      · subst hf; omega
  · exact fun _ _ _ => inv_of_clean P _ rfl rfl

/-- **C08 bounded memory**: retained bytes ≤ largest AC-3 frame + one packet. -/
theorem c08_retained_le (P : Nat) (d : Dec) (hi : Inv P d) : retained d ≤ maxFrame + P := by
  unfold retained; rw [← hi.size_eq]
  by_cases hz : d.size = 0
  · omega
  · have := hi.declared hz
    rcases hi.bound with h | h <;> omega

/-- **C08 bounded memory, number of retained slices**: every retained fragment is non-empty, so
the decoder never holds more slices than retained bytes.  This rests on the decoder refusing FT-3
fragments without data (`ac3EmptyFragmentRefused` below). -/
theorem c08_fragment_count_le (P : Nat) (d : Dec) (hi : Inv P d) : d.fragments.length ≤ retained d :=
  length_le_totalLen _ hi.nonempty

/-- **C08 output bound**: every returned frame is at most the largest AC-3 frame (3840 bytes). -/
theorem c08_out_le (P : Nat) (d : Dec) (p : Pkt) (fs : List Bytes) (hi : Inv P d)
    (h : (decode d p).2 = .ok fs) : ∀ f ∈ fs, f.length ≤ maxFrame := by
  revert h
  refine decode_elim (motive := fun r => r.2 = .ok fs → ∀ f ∈ fs, f.length ≤ maxFrame) d p _ rfl ?_ ?_ ?_ ?_ ?_ ?_
  · exact fun _ _ h => nomatch h
  · intro out hout h; rw [← DecRes.ok.inj h]; exact hout
  · exact fun _ _ h => nomatch h
  · rintro r _ (rfl | rfl) h <;> exact nomatch h
  · exact fun _ _ _ h => nomatch h
  · intro hz _ hexp h f hf
    simp only [DecRes.ok.injEq] at h
    subst h
    simp only [List.mem_singleton] at hf
    subst hf
    rw [joinFragments_length]
    have := hi.declared hz
    omega

/-- **C08 totality**: the frame-splitting loop never runs out of fuel — with any fuel above the
buffer length the result is the same (every iteration consumes at least 128 bytes). -/
theorem c08_split_total (d : Dec) (f1 f2 : Nat) (buf : Bytes) (fr : List Bytes)
    (h1 : buf.length < f1) (h2 : buf.length < f2) : splitFrames d f1 buf fr = splitFrames d f2 buf fr := by
  induction f1 generalizing f2 buf fr with
  | zero => omega
  | succ f ih =>
    match f2, h2 with
    | f2 + 1, h2 =>
      simp only [splitFrames]
      cases hs : frameSize buf with
      | none => rfl
      | some size =>
        have hb := frameSize_bounds buf size hs
        simp only
        split
        · rfl
        · split
          · rfl
          · apply ih
            · simp only [List.length_drop]; omega
            · simp only [List.length_drop]; omega

theorem ft_shr2 : (1 : UInt8) >>> 2 = 0 ∧ (2 : UInt8) >>> 2 = 0 ∧ (3 : UInt8) >>> 2 = 0 := by decide
theorem ft_and3 : (1 : UInt8) &&& 3 = 1 ∧ (2 : UInt8) &&& 3 = 2 ∧ (3 : UInt8) &&& 3 = 3 := by decide
theorem two_le_len (n : Nat) : ¬ (n + 1 + 1 < 2) := by omega

theorem decode_ft0 (d : Dec) (p : Pkt) (nf : UInt8) (body : Bytes) (h : p.payload = 0 :: nf :: body) :
    decode d p = splitFrames { d.reset with first := true } (body.length + 1) body [] := by
  simp [decode, h, two_le_len]

theorem decode_start (d : Dec) (p : Pkt) (ft nf : UInt8) (body : Bytes) (size : Nat)
    (h : p.payload = ft :: nf :: body) (hft : ft = 1 ∨ ft = 2) (hs : frameSize body = some size) :
    decode d p = ({ first := true, fragments := [body], size := body.length,
                    expected := (size : Int) - body.length, nextSeq := p.seq + 1 }, .more) := by
  rcases hft with hft | hft <;> subst hft <;>
    simp [decode, h, hs, Dec.reset, two_le_len, ft_shr2.1, ft_shr2.2.1, ft_and3.1, ft_and3.2.1]

theorem decode_cont (d : Dec) (p : Pkt) (nf : UInt8) (body : Bytes) (h : p.payload = 3 :: nf :: body)
    (hz : d.size ≠ 0) (hs : p.seq = d.nextSeq) (hb : body.length ≠ 0) (hnn : ¬ d.expected - body.length < 0) :
    decode d p =
      if d.expected - body.length > 0 then
        ({ d with fragments := d.fragments ++ [body], size := d.size + body.length,
                  expected := d.expected - body.length, nextSeq := d.nextSeq + 1 }, .more)
      else
        ({ d with fragments := [], size := 0, expected := d.expected - body.length, nextSeq := d.nextSeq + 1 },
         .ok [joinFragments (d.fragments ++ [body]) (d.size + body.length)]) := by
  simp only [gt_iff_lt, Int.sub_pos] at hnn ⊢
  have hb' : ¬ body = [] := fun h0 => hb (by simp [h0])
  simp [decode, h, hz, hs, hnn, hb', Dec.reset, two_le_len, ft_shr2.2.2, ft_and3.2.2]

/-- the decoder holds the bytes `pre` of a frame, waits for sequence number `sq` and the bytes `rest` -/
def Holds (d : Dec) (pre : Bytes) (sq : UInt16) (_ : Nat) (rest : Bytes) : Prop :=
  d.size = totalLen d.fragments ∧ d.size ≠ 0 ∧ d.expected = rest.length ∧ d.nextSeq = sq ∧
  d.fragments.flatten = pre

theorem runs : Runs decode runDec := ⟨fun _ => rfl, fun _ _ _ => rfl⟩

theorem run_batch (c : EncCfg) (hc : ValidCfg c) (b : List Bytes) (hne : b ≠ [])
    (hv : ∀ f ∈ b, ValidUnit f) (ts : UInt32) (sq : UInt16) (d : Dec) :
    ∃ d' n, runDec d ((writer c).write b ts sq) = (d', List.replicate n .more ++ [.ok b]) ∧ Clean d' := by
  unfold ValidCfg at hc
  rcases (writer c).write_cases b ts sq with ⟨h, _⟩ | ⟨f, rfl, hge, h⟩ <;> rw [h]
  · refine ⟨{ d.reset with first := true }, 0, ?_, ⟨rfl, rfl⟩⟩
    simp only [runDec, runDecGen, decode_ft0 d ((writer c).agg b ts sq) _ b.flatten rfl]
    rw [splitFrames_valid _ b [] _ hne hv (by omega)]
    simp
  · have hvf : frameSize f = some f.length := hv f (by simp)
    have hfb := frameSize_bounds f f.length hvf
    have hge : ¬ 2 + 0 + f.length < c.max := by simpa [writer, lenAggregated] using hge
    have hft : ∀ P [Decidable P], (if P then (1 : UInt8) else 2) = 1 ∨ (if P then (1 : UInt8) else 2) = 2 := by
      intro P _; split <;> simp
    refine run_packetCount _ (c.max - 4) (by omega) f (by omega) d sq [f] Clean fun k hlo hup =>
      run_unit runs _ (c.max - 4) Holds (fun w d' r => r = .ok [w] ∧ Clean d') f d sq k hlo
        (fun h0 => by rw [h0] at hup; omega) ?_ ?_ ?_
    · intro _ ch rest _ hf hch hr
      have hlen := congrArg List.length hf
      rw [List.length_append] at hlen
      refine ⟨_, decode_start d _ _ _ ch f.length rfl (hft _) ?_, by simp, by simp only [ne_eq]; omega,
        by simp only; omega, rfl, by simp⟩
      rw [← hvf, ← hf, frameSize_append ch rest (by omega)]
    · intro d pre sq _ ch rest ⟨h1, h2, h3, h4, h5⟩ hch hr
      rw [List.length_append] at h3
      exact ⟨_, (decode_cont d _ _ ch rfl h2 h4.symm (by omega) (by omega)).trans (if_pos (by omega)),
        by simp [h1], by simp only [ne_eq]; omega, by simp only; omega, by simp [h4], by simp [h5]⟩
    · intro d pre sq rest ⟨h1, h2, h3, h4, h5⟩ hr
      exact ⟨_, _, (decode_cont d _ _ rest rfl h2 h4.symm (by omega) (by omega)).trans (if_neg (by omega)),
        by rw [joinFragments_snoc _ _ _ h1, h5], rfl, rfl⟩

/-- **C03 round trip, grouping form**: for every valid configuration, every valid group and ANY
decoder state, `Encode` succeeds; the decoder answers every packet with a frame or "more packets
needed"; the returned frames are exactly the batches of the group (the pieces the encoder split it
into), so their concatenation is the group — same frames, same bytes, same order; and the decoder
is clean afterwards. -/
theorem c03_roundtrip_grouping (e : Enc) (fs : List Bytes) (d : Dec)
    (hc : ValidCfg e.cfg) (hf : ValidFrame fs) :
    (encode e fs).2 = some (pkts e fs) ∧
    ∃ d' outs, runDec d (pkts e fs) = (d', outs) ∧ Clean d' ∧ OnlyOkMore outs ∧
      okFrames outs = parts e.cfg fs ∧ (okFrames outs).flatten = fs := by
  refine ⟨by rw [encode_eq], ?_⟩
  rw [pkts_eq]
  exact run_group runs Clean _ _ inc ValidUnit fs hf.1 hf.2 0 e.seq d (run_batch e.cfg hc)

/-- the group fits one packet by the encoder's packing rule: a single frame strictly below the limit
(`writeBatch` compares with `<`), several frames up to the limit -/
def Fits (c : EncCfg) (fs : List Bytes) : Prop :=
  lenAggregated fs none < c.max ∨ (2 ≤ fs.length ∧ lenAggregated fs none ≤ c.max)

/-- a group that fits is sent as ONE packet, and that packet returns the whole group -/
theorem c03_fits_single (e : Enc) (fs : List Bytes) (d : Dec) (hc : ValidCfg e.cfg) (hf : ValidFrame fs)
    (hfit : Fits e.cfg fs) :
    ∃ p d', pkts e fs = [p] ∧ p.ts = 0 ∧ p.marker = true ∧ runDec d [p] = (d', [.ok fs]) ∧ Clean d' := by
  rw [pkts_eq]
  have hle : lenAggregated fs none ≤ e.cfg.max := by rcases hfit with h | ⟨_, h⟩ <;> omega
  exact (writer e.cfg).fits_single _ inc runs Clean fs 0 e.seq d (fits_iff e.cfg)
    (fun pre au post => by
      simp only [writer, lenAggregated]; rw [totalLen_prefix, totalLen_prefix, totalLen_nil]; omega)
    hle (fun f hfs hge => by subst hfs; exact absurd (hfit.resolve_right (by simp)) hge)
    (run_batch e.cfg hc fs hf.1 hf.2 0 e.seq d)

/-- **timestamps**: the packets of piece `i` (batch `i`) all carry the relative timestamp
`1536 · (number of frames in the batches before it)`: the first piece 0, every following piece
its predecessor's timestamp plus `1536 ·` the predecessor's frame count. -/
theorem c03_timestamps (e : Enc) (fs : List Bytes) :
    (pieces e fs).flatten = pkts e fs ∧ AllTs (pieces e fs) (pieceTs inc (parts e.cfg fs) 0) :=
  ⟨pieces_flatten e fs, by rw [pieces, writeBatch_eq]; exact (writer e.cfg).piece_ts inc _ 0 e.seq⟩

/-- the packets of consecutive `Encode` calls, one list per call -/
def encodeEach (e : Enc) : List (List Bytes) → List (List Pkt)
  | [] => []
  | f :: fs => pkts e f :: encodeEach (encode e f).1 fs

def runFrames (d : Dec) : List (List Pkt) → List (List (DecRes (List Bytes)))
  | [] => []
  | ps :: rest => (runDec d ps).2 :: runFrames (runDec d ps).1 rest

theorem encode_cfg (e : Enc) (fs : List Bytes) : (encode e fs).1.cfg = e.cfg := by rw [encode_eq]

/-- **C03, consecutive groups** through the same encoder / decoder pair, from any decoder state:
for every call the returned frames concatenate to the group of that call, and nothing else but
"more packets needed" is answered. -/
theorem c03_roundtrip_many (e : Enc) (gs : List (List Bytes)) (d : Dec) (hc : ValidCfg e.cfg)
    (hf : ∀ g ∈ gs, ValidFrame g) :
    (runFrames d (encodeEach e gs)).map (fun outs => (okFrames outs).flatten) = gs ∧
    ∀ outs ∈ runFrames d (encodeEach e gs), OnlyOkMore outs := by
  induction gs generalizing e d with
  | nil => exact ⟨rfl, by simp [runFrames, encodeEach]⟩
  | cons g gs ih =>
    obtain ⟨_, d', outs, h1, _, h3, _, h5⟩ := c03_roundtrip_grouping e g d hc (hf g (by simp))
    obtain ⟨ih1, ih2⟩ := ih (encode e g).1 d' (by rw [encode_cfg]; exact hc) (fun x hx => hf x (by simp [hx]))
    simp only [encodeEach, runFrames, h1, List.map_cons]
    exact ⟨by rw [h5, ih1], List.forall_mem_cons.mpr ⟨h3, ih2⟩⟩

/-- **C07 at most once**: whenever frames are returned the fragment buffer is empty afterwards —
nothing can be returned twice. -/
theorem c07_ok_empties (d : Dec) (p : Pkt) (fs : List Bytes) (h : (decode d p).2 = .ok fs) :
    Clean (decode d p).1 := by
  revert h
  refine decode_elim (motive := fun r => r.2 = .ok fs → Clean r.1) d p _ rfl ?_ ?_ ?_ ?_ ?_ ?_
  · exact fun _ _ h => nomatch h
  · exact fun _ _ _ => ⟨rfl, rfl⟩
  · exact fun _ _ h => nomatch h
  · rintro r _ (rfl | rfl) h <;> exact nomatch h
  · exact fun _ _ _ h => nomatch h
  · exact fun _ _ _ _ => ⟨rfl, rfl⟩

/-- **C07 flush**: from ANY state, the packets of one intact valid group, in order, leave the
decoder clean (every first packet of a piece resets the fragment state). -/
theorem c07_flush (e : Enc) (fs : List Bytes) (d : Dec) (hc : ValidCfg e.cfg) (hf : ValidFrame fs) :
    Clean (runDec d (pkts e fs)).1 := by
  obtain ⟨_, d', outs, h1, h2, _⟩ := c03_roundtrip_grouping e fs d hc hf
  rw [h1]; exact h2

/-- **C07 resynchronisation**: after ANY packet history `h` (arbitrary packets: this subsumes every
loss / duplication / reordering pattern applied to any stream), an intact valid group `g` is
returned exactly — nothing but "more packets needed" and the frames of `g`, once, in order.  For
this format the predecessor need not even be intact: every piece starts with a packet that resets
the decoder. -/
theorem c07_resync (h : List Pkt) (e : Enc) (g : List Bytes) (hc : ValidCfg e.cfg) (hg : ValidFrame g) :
    ∃ d' outs, runDec (runDec {} h).1 (pkts e g) = (d', outs) ∧ Clean d' ∧ OnlyOkMore outs ∧
      (okFrames outs).flatten = g := by
  obtain ⟨_, d', outs, h1, h2, h3, _, h5⟩ := c03_roundtrip_grouping e g (runDec {} h).1 hc hg
  exact ⟨d', outs, h1, h2, h3, h5⟩

/-- the decoder refuses following fragments without data (`c08_fragment_count_le` rests on it) -/
example : CodecAudio.ac3EmptyFragmentRefused = true := rfl
example : CodecAudio.ac3FrameSizeRows = frameSizes.length ∧ CodecAudio.ac3MaxFrameWords = 1920 := ⟨rfl, rfl⟩

/-- the smallest AC-3 frame: 48 kHz, frmsizecod 0 → 64 words = 128 bytes -/
def exUnit : Bytes := [0x0B, 0x77, 0, 0, 0] ++ List.replicate 123 7
/-- an encoder about to wrap its sequence number: at limit 100 every 128-byte frame is fragmented
(96 + 32 bytes); at 300 two frames aggregate and the third goes into a second packet -/
def exEnc (max : Nat) : Enc := { cfg := { pt := 96, ssrc := 7, max := max }, seq := 65535 }

set_option maxRecDepth 8000 in
example : ValidCfg (exEnc 100).cfg ∧ ValidFrame [exUnit, exUnit, exUnit] := by decide
set_option maxRecDepth 8000 in
example : (pkts (exEnc 100) [exUnit]).map (fun p => (p.seq, p.marker, p.ts, p.payload.length)) =
    [(65535, false, 0, 98), (0, true, 0, 34)] := by decide
set_option maxRecDepth 8000 in
example : (pkts (exEnc 300) [exUnit, exUnit, exUnit]).map (fun p => (p.seq, p.marker, p.ts, p.payload.length)) =
    [(65535, true, 0, 258), (0, true, 3072, 130)] := by decide
set_option maxRecDepth 8000 in
example : (runDec {} (pkts (exEnc 100) [exUnit])).2 = [.more, .ok [exUnit]] := by decide
set_option maxRecDepth 8000 in
example : Fits (exEnc 300).cfg [exUnit, exUnit] := by unfold Fits; decide
/-- a dirty state (mid-frame, wrong expected sequence number) satisfies the invariant -/
example : Inv 1500 { first := true, fragments := [[1, 2], [3]], size := 3, expected := 125, nextSeq := 77 } :=
  ⟨by decide, by decide, by decide, by decide, by decide⟩

end Rtsp.Codec.Ac3
