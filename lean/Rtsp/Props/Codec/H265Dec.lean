import Rtsp.Proofs.Codec.H265Dec
/-
Property theorems for the decoder of pkg/format/rtph265 and for `format.H265.PTSEqualsDTS` about the
model in `Model/Codec/H265.lean`: this format's part of property C08 — the invariant (`Inv` of
`Proofs/Codec/H265Dec`), the bounds read off it, and totality (no loop exhausts its fuel;
`PTSEqualsDTS` makes no out-of-range access).
All statements quantify over every packet (any payload bytes, sequence number, timestamp, marker)
and every history.  `P` is a bound on the payload size of the packets of the history.
-/
namespace Rtsp.Codec.H265
open Rtsp.Rtp Rtsp.Codec.H26x Rtsp.Facts

theorem c08_inv_init (P : Nat) : Inv P {} :=
  ⟨⟨rfl, by simp, fun _ => rfl, by simp⟩, ⟨rfl, rfl, by simp, by simp, by simp⟩⟩

/-- **C08**: the invariant is preserved by `Decode` on EVERY packet. -/
theorem c08_inv_decode (P : Nat) (d : Dec) (p : Pkt) (hi : Inv P d) (hp : p.payload.length ≤ P) :
    Inv P (decode d p).1 := (decode_spec P d p hi hp).1

/-- … hence by every history. -/
theorem c08_inv_run (P : Nat) (d : Dec) (ps : List Pkt) (hi : Inv P d)
    (hp : ∀ p ∈ ps, p.payload.length ≤ P) : Inv P (runDec d ps).1 :=
  runs.inv (c08_inv_decode P) d ps hi hp

/-- **C08 bounded memory**: the NALU under reassembly and the access unit being collected are capped
separately (each ≤ MaxAccessUnitSize, the first fragment alone ≤ one packet). -/
theorem c08_retained_le (P : Nat) (d : Dec) (hi : Inv P d) : retained d ≤ 2 * maxAU + P := by
  unfold retained
  rw [← hi.1.1, ← hi.2.2]
  have := hi.1.2
  have := hi.2.4
  omega

/-- **C08 bounded memory, number of slices**: the decoder never holds more byte slices than bytes
plus one (every stored fragment but the first data fragment, and every buffered NALU, is
non-empty), so the slice headers and the packet buffers they pin are bounded as well.  False before
/repo commit f1b05d6 (continuation fragments without data were stored without limit). -/
theorem c08_fragment_count_le (P : Nat) (d : Dec) (hi : Inv P d) :
    d.fragments.length + d.frameBuffer.length ≤ retained d + 1 ∧
    d.fragments.length ≤ maxAU + P + 1 ∧ d.frameBuffer.length ≤ maxNALUs := by
  have h1 := hi.1.1
  have h2 := hi.1.2
  have h4 := hi.1.4
  have hb := AllNonempty.length_le hi.2.5
  refine ⟨?_, by omega, by rw [← hi.2.1]; exact hi.2.3⟩
  unfold retained
  omega

/-- **C08 output bound**: at most MaxNALUsPerAccessUnit NALUs and MaxAccessUnitSize bytes. -/
theorem c08_out_le (P : Nat) (d : Dec) (p : Pkt) (f : List Bytes) (hi : Inv P d)
    (hp : p.payload.length ≤ P) (h : (decode d p).2 = .ok f) :
    f.length ≤ maxNALUs ∧ totalLen f ≤ maxAU :=
  ((decode_spec P d p hi hp).2 f h).2.2

/-- **C08 "a frame or an error"**: a returned access unit has at least one NALU and no empty NALU
(false before /repo commit a0e65b7). -/
theorem c08_out_nonempty (P : Nat) (d : Dec) (p : Pkt) (f : List Bytes) (hi : Inv P d)
    (hp : p.payload.length ≤ P) (h : (decode d p).2 = .ok f) : f ≠ [] ∧ ∀ n ∈ f, n ≠ [] :=
  ⟨((decode_spec P d p hi hp).2 f h).1, ((decode_spec P d p hi hp).2 f h).2.1⟩

theorem c08_split_total (b : Bytes) (k : Nat) : splitNALUsF (b.length + 1 + k) b = splitNALUs b :=
  splitNALUsF_fuel _ _ b (by omega) (by omega)

theorem c08_ap_total (payload : Bytes) (acc : List Bytes) (k : Nat) :
    aggLoop false (payload.length + 1 + k) payload acc = aggLoop false (payload.length + 1) payload acc :=
  aggLoop_fuel false _ _ payload acc (by omega) (by omega)

theorem ptsLoopC_cons (fuel : Nat) (hi lo : UInt8) (rest : Bytes) :
    ptsLoopC (fuel + 1) (hi :: lo :: rest) =
      if hi.toNat * 256 + lo.toNat = 0 ∨ hi.toNat * 256 + lo.toNat > rest.length then some false
      else if isKeyType ((((rest.take (hi.toNat * 256 + lo.toNat)).headD 0) >>> 1) &&& 0x3F).toNat then some true
      else if (rest.drop (hi.toNat * 256 + lo.toNat)).length = 0 then some false
      else if (rest.drop (hi.toNat * 256 + lo.toNat)).length < 2 then some false
      else ptsLoopC fuel (rest.drop (hi.toNat * 256 + lo.toNat)) := by
  rw [ptsLoopC]
  by_cases hsz : hi.toNat * 256 + lo.toNat = 0 ∨ hi.toNat * 256 + lo.toNat > rest.length
  · rw [if_pos hsz]; exact if_pos hsz
  · rw [if_neg hsz]
    refine (if_neg hsz).trans ?_
    show (sliceTo? rest _).bind _ = _
    rw [sliceTo?_of_le (by omega)]
    show (sliceFrom? rest _).bind _ = _
    rw [sliceFrom?_of_le (by omega)]
    show (idx? _ 0).bind _ = _
    rw [idx?_zero_of_ne_nil (take_ne_nil (by omega) (by omega))]
    rfl

theorem ptsLoopC_eq (fuel : Nat) (payload : Bytes) (h : payload.length < fuel) (h2 : 2 ≤ payload.length) :
    ptsLoopC fuel payload = some (ptsLoop fuel payload) := by
  induction fuel generalizing payload with
  | zero => omega
  | succ fuel ih =>
    match payload, h2 with
    | hi :: lo :: rest, _ =>
      rw [ptsLoopC_cons, ptsLoop]
      by_cases h2' : (rest.drop (hi.toNat * 256 + lo.toNat)).length < 2
      · simp only [if_pos h2', apply_ite some]
      · rw [ih (rest.drop _) (by simp only [List.length_drop, List.length_cons] at h ⊢; omega) (by omega)]
        simp only [apply_ite some]

/-- **C08 (PTSEqualsDTS)**: on EVERY payload the statement-by-statement rendering with checked
indices never hits an out-of-range access, stops within its fuel, and computes `ptsEqualsDts`. -/
theorem c08_pts_total (payload : Bytes) : ptsEqualsDtsC payload = some (ptsEqualsDts payload) := by
  match payload with
  | [] => rfl
  | b0 :: tl =>
    have hap : (if (b0 :: tl).length < 4 then some false
        else do
          let rest ← sliceFrom? (b0 :: tl) 2
          ptsLoopC ((b0 :: tl).length + 1) rest) =
        some (if (b0 :: tl).length < 4 then false
          else ptsLoop ((b0 :: tl).length + 1) ((b0 :: tl).drop 2)) := by
      by_cases h4 : (b0 :: tl).length < 4
      · rw [if_pos h4, if_pos h4]
      · rw [if_neg h4, if_neg h4, sliceFrom?_of_le (by omega)]
        exact ptsLoopC_eq _ _ (by simp only [List.length_drop]; omega) (by simp only [List.length_drop]; omega)
    -- the FU branch looks at the third byte, if there is one
    have hfu : (if (b0 :: tl).length < 3 then some false
        else do
          let b2 ← idx? (b0 :: tl) 2
          if b2 >>> 7 ≠ 1 then some false else some (isKeyType (b2 &&& 0x3F).toNat)) =
        some (if (b0 :: tl).length < 3 then false
          else
            let b2 := tl.getD 1 0
            if b2 >>> 7 ≠ 1 then false else isKeyType (b2 &&& 0x3F).toNat) := by
      match tl with
      | [] => rfl
      | [_] => rfl
      | _ :: b2 :: t => exact (apply_ite some _ _ _).symm
    show (if isKeyType ((b0 >>> 1) &&& 0x3F).toNat then some true
      else if ((b0 >>> 1) &&& 0x3F).toNat = CodecH26x.h265TypeAP then _
      else if ((b0 >>> 1) &&& 0x3F).toNat = CodecH26x.h265TypeFU then _ else some false) = _
    rw [hap, hfu]
    simp only [ptsEqualsDts, apply_ite some]

example : Inv 1500 { fragments := [[0x26, 1], [1, 2, 3]], fragmentsSize := 5, fragmentNextSeqNum := 77,
                     frameBuffer := [[0x40, 1], [0x42, 1, 2]], frameBufferLen := 2, frameBufferSize := 5,
                     firstPacketReceived := true } :=
  ⟨⟨by decide, by decide, by decide, by decide⟩, ⟨by decide, by decide, by decide, by decide, by decide⟩⟩

example : ptsEqualsDts [0x60, 0x01, 0x00, 0x02, 0x02, 0x01, 0x00, 0x02, 0x42, 0x01] = true := by decide
example : ptsEqualsDtsC [0x60, 0x01, 0x00, 0x05, 0x02] = some false := by decide

end Rtsp.Codec.H265
