import Rtsp.Proofs.Codec.Av1RoundTrip
/-
Property theorems for pkg/format/rtpav1 (encoder.go, decoder.go, as repaired by the two `fix:`
commits) with mediacommon's LEB128, about the model in `Model/Codec/Av1.lean`.
All statements quantify over every temporal unit (any number of OBUs of any size, empty ones
included, where validity is not assumed), payload limit, sequence number, packet and history.
-/
namespace Rtsp.Codec.Av1
open Rtsp.Rtp Rtsp.Facts Rtsp.Codec.Av1Vp

/-- **C06 size clause**: every payload (aggregation header and length prefixes included) is at most
`PayloadMaxSize`, for every temporal unit — OBUs below, at and above the limit, any number of them. -/
theorem c06_payload_le (e : Enc) (obus : List Bytes) (hc : ValidCfg e.cfg) :
    ∀ p ∈ (encode e obus).2, p.payload.length ≤ e.cfg.max := by
  obtain ⟨pk, hp, _, _, _, hall⟩ := encode_shape e obus hc
  rw [hp]; split
  · exact fun p h => (setN_forall e.cfg pk hall p h).1
  · exact fun p h => (hall p h).1

/-- **C06 payload type and SSRC**. -/
theorem c06_pt_ssrc (e : Enc) (obus : List Bytes) (hc : ValidCfg e.cfg) :
    ∀ p ∈ (encode e obus).2, p.pt = e.cfg.pt ∧ p.ssrc = e.cfg.ssrc := by
  obtain ⟨pk, hp, _, _, _, hall⟩ := encode_shape e obus hc
  rw [hp]; split
  · exact fun p h => (setN_forall e.cfg pk hall p h).2
  · exact fun p h => (hall p h).2

/-- **C06 numbering, one call**: `seq, seq+1, …` (mod 2^16) and the encoder continues after them. -/
theorem c06_seq_consecutive (e : Enc) (obus : List Bytes) (hc : ValidCfg e.cfg) :
    (encode e obus).2.map (·.seq) = seqFrom e.seq (encode e obus).2.length ∧
    (encode e obus).1.seq = e.seq + UInt16.ofNat (encode e obus).2.length ∧ (encode e obus).1.cfg = e.cfg := by
  obtain ⟨pk, hp, hs, hn, _, _⟩ := encode_shape e obus hc
  rw [hp]; split
  · rw [setN_map _ (fun _ _ _ _ => rfl), setN_length]; exact ⟨hs, hn, rfl⟩
  · exact ⟨hs, hn, rfl⟩

/-- a series of `Encode` calls through the same encoder -/
def encodeMany (e : Enc) : List (List Bytes) → Enc × List Pkt
  | [] => (e, [])
  | f :: fs =>
    let (e1, ps) := encode e f
    let (e2, qs) := encodeMany e1 fs
    (e2, ps ++ qs)

/-- **C06 numbering, any series of calls, any initial value (incl. wrap inside the run)**. -/
theorem c06_seq_many (e : Enc) (fs : List (List Bytes)) (hc : ValidCfg e.cfg) :
    (encodeMany e fs).2.map (·.seq) = seqFrom e.seq (encodeMany e fs).2.length ∧
    (encodeMany e fs).1.seq = e.seq + UInt16.ofNat (encodeMany e fs).2.length := by
  induction fs generalizing e with
  | nil => simp [encodeMany, seqFrom]
  | cons f fs ih =>
    obtain ⟨h1, h2, _⟩ := c06_seq_consecutive e f hc
    obtain ⟨h3, h4⟩ := ih (encode e f).1 hc
    exact seqFrom_concat h1 h2 h3 h4

/-- **C06 marker**: on the last packet of the temporal unit and on no other. -/
theorem c06_marker_only_last (e : Enc) (obus : List Bytes) (hc : ValidCfg e.cfg) :
    (encode e obus).2.map (·.marker) = List.replicate ((encode e obus).2.length - 1) false ++ [true] := by
  obtain ⟨pk, hp, _, _, hm, _⟩ := encode_shape e obus hc
  rw [hp]; split
  · rw [setN_map_marker, setN_length]; exact hm
  · exact hm

/-- **C06 / C03 totality of the encoder loop**: for a limit ≥ 3 and a non-empty OBU the inner
`for { … }` of `Encode` terminates — the model's fuel `len(obu) + 2` is never exhausted: any larger
amount gives the same packets. (With a limit of 1 or 2 the Go loop can spin forever: an element with
its length prefix never fits.) -/
theorem c06_encode_total (c : EncCfg) (hc : ValidCfg c) (last : Bool) (st : St) (obu : Bytes) (extra : Nat)
    (hroom : 1 + st.cur.body.length ≤ c.max) (hpos : 0 < obu.length) :
    obuLoop c (lebSize c.max) last (obu.length + 2 + extra) st obu
      = obuLoop c (lebSize c.max) last (obu.length + 2) st obu :=
  obuLoop_fuel_add c hc last st obu extra

theorem c08_inv_init (P : Nat) : Inv P {} := ⟨rfl, by simp, rfl, rfl, by simp, by simp, by simp⟩

/-- **C08**: the invariant is preserved by `Decode` on EVERY packet (any payload bytes, sequence
number, timestamp, marker) of payload size ≤ `P`. -/
theorem c08_inv_decode (P : Nat) (d : Dec) (p : Pkt) (hi : Inv P d) (hp : p.payload.length ≤ P) :
    Inv P (decode d p).1 := by
  have h1 := decodeOBUs_inv P d p hi hp
  unfold decode
  cases hd : decodeOBUs d p with
  | mk d1 r =>
    rw [hd] at h1
    cases r with
    | error f => exact h1
    | ok obus =>
      have h1 : Inv P d1 := h1
      dsimp only
      by_cases hc : d1.frameBufferLen + obus.length ≤ CodecAv1vp.av1MaxOBUsPerTemporalUnit ∧
          d1.frameBufferSize + totalLen obus ≤ CodecAv1vp.av1MaxTemporalUnitSize
      · rw [pushFrame_ok d1 _ obus hc.1 hc.2]
        split
        · exact inv_resetFrameBuffer P d1 h1
        · exact ⟨h1.frag_eq, h1.frag_le, by simp [h1.fb_eq], by simp [h1.fb_len], hc.2, hc.1, h1.frag_ne⟩
      · rw [pushFrame_over d1 _ obus hc]
        exact inv_resetFrameBuffer P d1 h1

/-- **C08 bounded memory**: the fragment list holds at most `MaxTemporalUnitSize` + one packet, the
frame buffer at most `MaxTemporalUnitSize` (the code caps the two separately). -/
theorem c08_retained_le (P : Nat) (d : Dec) (hi : Inv P d) :
    retained d ≤ 2 * CodecAv1vp.av1MaxTemporalUnitSize + P := by
  unfold retained
  rw [← hi.frag_eq, ← hi.fb_eq]
  have := hi.frag_le
  have := hi.fb_le
  omega

/-- **C08 bounded number of retained slices**: every retained fragment is non-empty (an element of
size 0 is refused by the element loop), so there are never more fragments than fragment bytes, and
the frame buffer never holds more than `MaxOBUsPerTemporalUnit` OBUs. -/
theorem c08_fragment_count_le (P : Nat) (d : Dec) (hi : Inv P d) :
    d.fragments.length ≤ CodecAv1vp.av1MaxTemporalUnitSize + P ∧
    d.frameBuffer.length ≤ CodecAv1vp.av1MaxOBUsPerTemporalUnit := by
  have h1 := length_le_totalLen d.fragments hi.frag_ne
  have h2 := hi.frag_le
  rw [hi.frag_eq] at h2
  exact ⟨by omega, by rw [← hi.fb_len]; exact hi.fb_cnt⟩

/-- **C08 output bound**: no returned temporal unit exceeds `MaxOBUsPerTemporalUnit` OBUs or
`MaxTemporalUnitSize` bytes. -/
theorem c08_out_le (P : Nat) (d : Dec) (p : Pkt) (f : List Bytes) (hi : Inv P d) (h : (decode d p).2 = .ok f) :
    f.length ≤ CodecAv1vp.av1MaxOBUsPerTemporalUnit ∧ totalLen f ≤ CodecAv1vp.av1MaxTemporalUnitSize := by
  have hfb := decodeOBUs_fb d p
  unfold decode at h
  cases hd : decodeOBUs d p with
  | mk d1 r =>
    rw [hd] at h hfb
    cases r with
    | error fl => cases fl <;> cases h
    | ok obus =>
      dsimp only at h hfb
      by_cases hc : d1.frameBufferLen + obus.length ≤ CodecAv1vp.av1MaxOBUsPerTemporalUnit ∧
          d1.frameBufferSize + totalLen obus ≤ CodecAv1vp.av1MaxTemporalUnitSize
      · rw [pushFrame_ok d1 _ obus hc.1 hc.2] at h
        split at h
        · cases h
          rw [hfb.2.1, hi.fb_len, hfb.2.2, hi.fb_eq, ← hfb.1] at hc
          simpa using hc
        · cases h
      · rw [pushFrame_over d1 _ obus hc] at h; cases h

/-- **C08 totality**: the element loop of `decodeOBUs` never runs out of fuel — any larger amount
gives the same answer, for every payload. -/
theorem c08_parse_total (w extra : Nat) (payload : Bytes) (acc : List Bytes) :
    parseObus w (payload.length + extra) payload acc = parseObus w payload.length payload acc :=
  parseObus_fuel_ge w _ payload acc (Nat.le_add_right _ _)

/-- **C03 round trip**: for every valid configuration (limit ≥ 3), every valid temporal unit (1..10
non-empty OBUs, ≤ 3 MiB: every mix of aggregated, fragmented, length-prefixed and W-counted
elements) and every clean decoder, the decoder answers "more packets needed" on all packets but the
last, returns exactly the OBUs — same units, same bytes, same grouping — at the last one, and is
clean again afterwards.  (False for the encoder before the repair: `[1447 B, 100 B]` at limit 1450.) -/
theorem c03_roundtrip (e : Enc) (obus : List Bytes) (d : Dec) (hc : ValidCfg e.cfg) (hf : ValidFrame obus)
    (hd : Clean d) :
    ∃ d', runDec d (encode e obus).2
        = (d', List.replicate ((encode e obus).2.length - 1) .more ++ [.ok obus]) ∧ Clean d' :=
  roundtrip e obus d hc hf hd.2.2

/-- **C03, consecutive temporal units** through the same encoder / decoder pair: the exact answers to the packets
of two of them, one after the other. -/
theorem c03_roundtrip_many (e : Enc) (f g : List Bytes) (d : Dec) (hc : ValidCfg e.cfg)
    (hf : ValidFrame f) (hg : ValidFrame g) (hd : Clean d) :
    let e1 := (encode e f).1
    ∃ d', runDec d ((encode e f).2 ++ (encode e1 g).2)
        = (d', (List.replicate ((encode e f).2.length - 1) .more ++ [.ok f]) ++
               (List.replicate ((encode e1 g).2.length - 1) .more ++ [.ok g])) ∧ Clean d' := by
  intro e1
  obtain ⟨d1, hr1, hc1⟩ := roundtrip e f d hc hf hd.2.2
  obtain ⟨d2, hr2, hc2⟩ := roundtrip e1 g d1 hc hg hc1.2.2
  refine ⟨d2, ?_, hc2⟩
  rw [runs.append, hr1]
  simp only [hr2]

/-- **C03, any series of temporal units** through the same encoder / decoder pair: the decoder
returns exactly the units, in order, answers "more packets needed" everywhere else (no error of any
kind) and ends clean — for every number of units and every initial sequence number. -/
theorem c03_roundtrip_list (e : Enc) (fs : List (List Bytes)) (d : Dec) (hc : ValidCfg e.cfg)
    (hf : ∀ f ∈ fs, ValidFrame f) (hd : Clean d) :
    Clean (runDec d (encodeMany e fs).2).1 ∧ okFrames (runDec d (encodeMany e fs).2).2 = fs ∧
    OnlyMoreOk (runDec d (encodeMany e fs).2).2 := by
  induction fs generalizing e d with
  | nil => exact ⟨by simpa [encodeMany, runDec] using hd, rfl, by intro r hr; simp [encodeMany, runDec] at hr⟩
  | cons f fs ih =>
    obtain ⟨d1, hr1, hc1⟩ := roundtrip e f d hc (hf f (by simp)) hd.2.2
    obtain ⟨g1, g2, g3⟩ := ih (encode e f).1 d1 hc (fun x hx => hf x (by simp [hx])) hc1
    simp only [encodeMany, runs.append, hr1]
    refine ⟨g1, ?_, ?_⟩
    · rw [frames_frame_append okFrames, g2]
    · exact only_frame_append g3

/-- **C07 flush**: from ANY decoder state — stale fragments of a lost OBU, a frame buffer left
behind by a lost marker packet, any expected sequence number; no invariant is needed — the packets
of one intact valid temporal unit, in order, leave the decoder clean (whatever it returned
meanwhile).  (False for the decoder before the repair: stale fragments survived a Z = 0 packet.) -/
theorem c07_flush (e : Enc) (obus : List Bytes) (D : Dec) (hc : ValidCfg e.cfg) (hf : ValidFrame obus) :
    Clean (runDec D (encode e obus).2).1 := by
  obtain ⟨d', hrun, c1, c2, _⟩ := roundtrip e obus (D.withB {}) hc hf ⟨rfl, rfl, rfl⟩
  obtain ⟨b', h, hemp⟩ := runDec_withB (encode e obus).2 (D.withB {}) D
  obtain ⟨e1, e2, e3⟩ := hemp ⟨obus, by rw [hrun]; simp⟩
  rw [show D = (D.withB {}).withB D from rfl, h, hrun]
  exact ⟨c1, c2, e1, e2, e3⟩

/-- **C07 resynchronisation**: after ANY packet history `h` (arbitrary packets: every loss /
duplication / reordering pattern applied to any stream is such a history), an intact temporal unit
`f` followed by an intact temporal unit `g` ends with exactly `g`, returned at `g`'s last packet and
not before. -/
theorem c07_resync (h : List Pkt) (e : Enc) (f g : List Bytes) (hc : ValidCfg e.cfg)
    (hf : ValidFrame f) (hg : ValidFrame g) :
    let d0 := (runDec {} h).1
    let e1 := (encode e f).1
    ∃ d', runDec (runDec d0 (encode e f).2).1 (encode e1 g).2
        = (d', List.replicate ((encode e1 g).2.length - 1) .more ++ [.ok g]) ∧ Clean d' := by
  intro d0 e1
  have hclean := c07_flush e f d0 hc hf
  exact roundtrip e1 g _ hc hg hclean.2.2

/-- limit 8, sequence numbers wrapping: a 5-byte OBU (length-prefixed, aggregated), a 9-byte OBU
(does not fit the one byte left: packet closed without Y — the repaired path —, then fragmented
with length prefix and continued with Z), a 1-byte last OBU (W-counted, no length) -/
def exEnc : Enc := { cfg := { pt := 96, ssrc := 7, max := 8 }, seq := 65535 }
def exTU : List Bytes := [[0x0a, 1, 2, 3, 4], [10, 11, 12, 13, 14, 15, 16, 17, 18], [0x32]]

example : ValidCfg exEnc.cfg ∧ ValidFrame exTU ∧ Clean {} := by decide
example : (encode exEnc exTU).2.map (·.payload) =
    [[0x08, 5, 0x0a, 1, 2, 3, 4], [0x40, 6, 10, 11, 12, 13, 14, 15], [0xa0, 3, 16, 17, 18, 0x32]] := by decide
example : (encode exEnc exTU).2.map (·.seq) = [65535, 0, 1] := by decide
example : (runDec {} (encode exEnc exTU).2).2 = [.more, .more, .ok exTU] := by decide
/-- the shape on which the unrepaired encoder failed: nothing of the second OBU fits the first packet -/
example : (runDec {} (encode { exEnc with cfg := { exEnc.cfg with max := 20 } } [List.replicate 17 1, [2, 3, 4, 5]]).2).2
    = [.more, .ok [List.replicate 17 1, [2, 3, 4, 5]]] := by decide
/-- a dirty state: stale fragments, stale frame buffer, wrong expected sequence number — the unit
still leaves the decoder clean, and the next unit comes back exactly -/
def exDirty : Dec := { fragments := [[1, 2], [3]], fragmentsSize := 3, nextSeq := 77, frameBuffer := [[9]],
                       frameBufferLen := 1, frameBufferSize := 1 }
example : Clean (runDec exDirty (encode exEnc exTU).2).1 := by decide
example : (runDec (runDec exDirty (encode exEnc exTU).2).1 (encode (encode exEnc exTU).1 exTU).2).2
    = [.more, .more, .ok exTU] := by decide
example : Inv 1500 { fragments := [[1, 2], [3]], fragmentsSize := 3, nextSeq := 77, frameBuffer := [[9]],
                     frameBufferLen := 1, frameBufferSize := 1 } := ⟨by decide, by decide, by decide, by decide, by decide, by decide, by decide⟩

end Rtsp.Codec.Av1
