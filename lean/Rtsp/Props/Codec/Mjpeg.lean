import Rtsp.Model.Codec.Mjpeg
import Rtsp.Proofs.Codec.Common
import Rtsp.Proofs.Common.Runs
/-
Property theorems for pkg/format/rtpmjpeg about the model in `Model/Codec/Mjpeg.lean`.  A frame is a
parsed JPEG image (`Jpeg`; the segment walk of `Encode` is outside the model), and what comes back is
the image the decoder rebuilds from its parts (`rebuild`; `MjpegParse.lean` reads them back).  The
theorems `c03_*`, `c06_*`, `c07_*`, `c08_*` are this format's part of properties C03, C06, C07, C08:
packetisation wherever the encoder returns packets (for every valid image: `c06_total`), the decoder
on arbitrary packets, round trip from any decoder state and, with it, resynchronisation.
-/
namespace Rtsp.Codec.Mjpeg
open Rtsp.Rtp Rtsp.Facts

/-- continuation packets carry the 8-byte header and at least one byte -/
def ValidCfg (c : EncCfg) : Prop := 9 ≤ c.max

/-- RFC 2435 constraints on the image (and no DRI segment: not representable in `Jpeg`):
dimensions multiples of 8 up to 2040, one or two 64-byte quantisation tables, at least 2 bytes of
entropy-coded data and at most 2^24 (24-bit fragment offset); the first packet (main header,
quantisation table header, tables) must fit the payload limit with room for data. -/
def ValidFrame (c : EncCfg) (j : Jpeg) : Prop :=
  j.typ.toNat ≤ CodecMisc.mjpegMaxType ∧
  j.width % 8 = 0 ∧ j.width / 8 < 256 ∧ j.height % 8 = 0 ∧ j.height / 8 < 256 ∧
  (j.tables.length = 1 ∨ j.tables.length = 2) ∧ (∀ t ∈ j.tables, t.length = 64) ∧
  2 ≤ j.data.length ∧ j.data.length ≤ 2 ^ 24 ∧ 12 + 64 * j.tables.length < c.max

instance (c : EncCfg) : Decidable (ValidCfg c) := by unfold ValidCfg; infer_instance
instance (c : EncCfg) (j : Jpeg) : Decidable (ValidFrame c j) := by unfold ValidFrame; infer_instance

@[simp] theorem jhBytes_length (j : Jpeg) (off : Nat) : (jhBytes j off).length = 8 := rfl

@[simp] theorem qtBytes_length (ts : List Bytes) : (qtBytes ts).length = 4 + totalLen ts := by
  simp [qtBytes, totalLen, List.length_flatten]; omega

/-- the length of the headers of a packet -/
def hdrLen (j : Jpeg) (first : Bool) : Nat := if first then 12 + totalLen j.tables else 8

theorem hdr_length (j : Jpeg) (first : Bool) (off : Nat) :
    (jhBytes j off ++ (if first then qtBytes j.tables else [])).length = hdrLen j first := by
  cases first <;> simp [hdrLen]; omega

/-- the packet the loop emits for a chunk of the data -/
def chunkPkt (c : EncCfg) (j : Jpeg) (first : Bool) (off : Nat) (sq : UInt16) (m : Bool) (chunk : Bytes) : Pkt :=
  { pt := payloadType, seq := sq, ssrc := c.ssrc, marker := m,
    payload := jhBytes j off ++ (if first then qtBytes j.tables else []) ++ chunk }

theorem emit_step (c : EncCfg) (j : Jpeg) (fuel : Nat) (first : Bool) (off : Nat) (sq : UInt16) (data : Bytes) :
    emit c j (fuel + 1) first off sq data =
      if c.max < hdrLen j first then none
      else if data.length ≤ c.max - hdrLen j first then some [chunkPkt c j first off sq true data]
      else (emit c j fuel false (off + (c.max - hdrLen j first)) (sq + 1) (data.drop (c.max - hdrLen j first))).map
        (chunkPkt c j first off sq false (data.take (c.max - hdrLen j first)) :: ·) := by
  rw [emit]
  dsimp only
  rw [hdr_length]
  by_cases hfit : c.max < hdrLen j first
  · rw [if_pos hfit, if_pos hfit]
  rw [if_neg hfit, if_neg hfit]
  by_cases hk : data.length ≤ c.max - hdrLen j first
  · rw [if_pos hk, Nat.min_eq_right hk, List.drop_length, List.take_length]
    rfl
  · rw [if_neg hk, Nat.min_eq_left (Nat.le_of_not_le hk)]
    obtain ⟨x, xs, hd⟩ := List.exists_cons_of_length_pos
      (show 0 < (data.drop (c.max - hdrLen j first)).length by rw [List.length_drop]; omega)
    rw [hd]
    rfl

theorem emit_cases {c : EncCfg} {j : Jpeg} {fuel : Nat} {first : Bool} {off : Nat} {sq : UInt16} {data : Bytes}
    {ps : List Pkt} (h : emit c j (fuel + 1) first off sq data = some ps) :
    hdrLen j first ≤ c.max ∧
    ((data.length ≤ c.max - hdrLen j first ∧ ps = [chunkPkt c j first off sq true data]) ∨
     (c.max - hdrLen j first < data.length ∧ ∃ qs,
        emit c j fuel false (off + (c.max - hdrLen j first)) (sq + 1) (data.drop (c.max - hdrLen j first)) = some qs ∧
        ps = chunkPkt c j first off sq false (data.take (c.max - hdrLen j first)) :: qs)) := by
  rw [emit_step] at h
  by_cases hfit : c.max < hdrLen j first
  · rw [if_pos hfit] at h; cases h
  rw [if_neg hfit] at h
  refine ⟨Nat.le_of_not_lt hfit, ?_⟩
  by_cases hk : data.length ≤ c.max - hdrLen j first
  · rw [if_pos hk] at h; exact Or.inl ⟨hk, (Option.some.inj h).symm⟩
  · rw [if_neg hk] at h
    obtain ⟨qs, hq, he⟩ := Option.map_eq_some_iff.mp h
    exact Or.inr ⟨Nat.lt_of_not_le hk, qs, hq, he.symm⟩

theorem chunkPkt_length (c : EncCfg) (j : Jpeg) (first : Bool) (off : Nat) (sq : UInt16) (m : Bool) (chunk : Bytes) :
    (chunkPkt c j first off sq m chunk).payload.length = hdrLen j first + chunk.length := by
  rw [chunkPkt, List.length_append, hdr_length]

theorem emit_props {c : EncCfg} {j : Jpeg} {fuel : Nat} {first : Bool} {off : Nat} {sq : UInt16}
    {data : Bytes} {ps : List Pkt} (h : emit c j fuel first off sq data = some ps) :
    (∀ p ∈ ps, p.payload.length ≤ c.max ∧ p.pt = payloadType ∧ p.ssrc = c.ssrc) ∧
    ps.map (·.seq) = seqFrom sq ps.length ∧
    ps.map (·.marker) = List.replicate (ps.length - 1) false ++ [true] := by
  induction fuel generalizing first off sq data ps with
  | zero => cases h
  | succ fuel ih =>
    obtain ⟨hfit, ⟨hk, rfl⟩ | ⟨hk, qs, hq, rfl⟩⟩ := emit_cases h
    · refine ⟨fun p hp => ?_, rfl, rfl⟩
      rw [List.mem_singleton.mp hp, chunkPkt_length]
      exact ⟨by omega, rfl, rfl⟩
    · obtain ⟨h1, h2, h3⟩ := ih hq
      have hq1 : qs.length = qs.length - 1 + 1 := by simpa using congrArg List.length h3
      refine ⟨fun p hp => ?_, by rw [List.map_cons, h2]; rfl, ?_⟩
      · rcases List.mem_cons.mp hp with rfl | hp
        · rw [chunkPkt_length, List.length_take]
          exact ⟨by omega, rfl, rfl⟩
        · exact h1 p hp
      · rw [List.map_cons, h3, List.length_cons, Nat.add_sub_cancel, hq1, List.replicate_succ]
        rfl

theorem emit_isSome (c : EncCfg) (j : Jpeg) (hc : ValidCfg c) (fuel : Nat) (first : Bool) (off : Nat)
    (sq : UInt16) (data : Bytes) (hfuel : data.length < fuel) (hh : hdrLen j first < c.max) :
    (emit c j fuel first off sq data).isSome = true := by
  induction fuel generalizing first off sq data with
  | zero => cases hfuel
  | succ fuel ih =>
    rw [emit_step, if_neg (Nat.lt_asymm hh)]
    by_cases hk : data.length ≤ c.max - hdrLen j first
    · rw [if_pos hk]; rfl
    · rw [if_neg hk, Option.isSome_map]
      exact ih false _ _ _ (by rw [List.length_drop]; omega) (Nat.lt_of_lt_of_le (Nat.lt_succ_self 8) hc)

theorem totalLen_tables (ts : List Bytes) (h : ∀ t ∈ ts, t.length = 64) : totalLen ts = 64 * ts.length := by
  induction ts with
  | nil => simp
  | cons t ts ih =>
    have := ih (fun x hx => h x (by simp [hx]))
    simp only [totalLen, List.map_cons, List.sum_cons, List.length_cons] at this ⊢
    rw [this, h t (by simp)]; omega

/-- **C06 / C03 totality**: the encoder accepts every valid image (the loop terminates, no slice
expression is out of range). -/
theorem c06_total (e : Enc) (j : Jpeg) (hc : ValidCfg e.cfg) (hf : ValidFrame e.cfg j) :
    ∃ ps, (encode e j).2 = some ps := by
  obtain ⟨_, _, _, _, _, _, ht, _, _, hfit⟩ := hf
  have := emit_isSome e.cfg j hc (j.data.length + 2) true 0 e.seq j.data (by omega)
    (by simp only [hdrLen, if_true, totalLen_tables j.tables ht]; omega)
  unfold encode
  cases he : emit e.cfg j (j.data.length + 2) true 0 e.seq j.data with
  | none => rw [he] at this; simp at this
  | some ps => exact ⟨ps, rfl⟩

theorem encode_some (e : Enc) (j : Jpeg) (ps : List Pkt) (h : (encode e j).2 = some ps) :
    emit e.cfg j (j.data.length + 2) true 0 e.seq j.data = some ps ∧
    (encode e j).1.seq = e.seq + UInt16.ofNat ps.length := by
  unfold encode at h ⊢
  cases he : emit e.cfg j (j.data.length + 2) true 0 e.seq j.data with
  | none => simp [he] at h
  | some qs => simp [he] at h; subst h; simp

/-- **C06 size clause**: every payload is at most `PayloadMaxSize`, whenever the encoder returns
packets (any image, any limit). -/
theorem c06_payload_le (e : Enc) (j : Jpeg) (ps : List Pkt) (h : (encode e j).2 = some ps) :
    ∀ p ∈ ps, p.payload.length ≤ e.cfg.max :=
  fun p hp => ((emit_props (encode_some e j ps h).1).1 p hp).1

/-- **C06 numbering, one call** -/
theorem c06_seq_consecutive (e : Enc) (j : Jpeg) (ps : List Pkt) (h : (encode e j).2 = some ps) :
    ps.map (·.seq) = seqFrom e.seq ps.length ∧ (encode e j).1.seq = e.seq + UInt16.ofNat ps.length :=
  ⟨(emit_props (encode_some e j ps h).1).2.1, (encode_some e j ps h).2⟩

/-- **C06 payload type and SSRC**: the format-mandated payload type 26 and the configured SSRC -/
theorem c06_pt_ssrc (e : Enc) (j : Jpeg) (ps : List Pkt) (h : (encode e j).2 = some ps) :
    ∀ p ∈ ps, p.pt = payloadType ∧ p.ssrc = e.cfg.ssrc :=
  fun p hp => ((emit_props (encode_some e j ps h).1).1 p hp).2

/-- **C06 marker**: set on the packet that carries the end of the data and on no other packet. -/
theorem c06_marker_only_last (e : Enc) (j : Jpeg) (ps : List Pkt) (h : (encode e j).2 = some ps) :
    ps.map (·.marker) = List.replicate (ps.length - 1) false ++ [true] :=
  (emit_props (encode_some e j ps h).1).2.2

/-- a series of `Encode` calls through the same encoder (`none` if an image is refused) -/
def encodeMany (e : Enc) : List Jpeg → Option (Enc × List Pkt)
  | [] => some (e, [])
  | j :: js =>
    match encode e j with
    | (e1, some ps) => (encodeMany e1 js).map fun r => (r.1, ps ++ r.2)
    | (_, none) => none

theorem encode_cfg (e : Enc) (j : Jpeg) : (encode e j).1.cfg = e.cfg := by
  unfold encode
  split <;> rfl

theorem encodeMany_cons (e : Enc) (j : Jpeg) (js : List Jpeg) :
    encodeMany e (j :: js) =
      (encode e j).2.bind fun ps => (encodeMany (encode e j).1 js).map fun r => (r.1, ps ++ r.2) := by
  rw [encodeMany]; rcases encode e j with ⟨_, _ | _⟩ <;> rfl

/-- **C06 numbering, any series of calls, any initial value (incl. wrap inside the run)** -/
theorem c06_seq_many (e e' : Enc) (js : List Jpeg) (ps : List Pkt) (h : encodeMany e js = some (e', ps)) :
    ps.map (·.seq) = seqFrom e.seq ps.length ∧ e'.seq = e.seq + UInt16.ofNat ps.length := by
  induction js generalizing e ps with
  | nil => cases h; exact ⟨rfl, by simp⟩
  | cons j js ih =>
    obtain ⟨qs, rs, hq, hm, rfl⟩ := Misc.many_some encode encodeMany encodeMany_cons e e' j js ps h
    exact seqFrom_concat (c06_seq_consecutive e j qs hq).1
      (c06_seq_consecutive e j qs hq).2 (ih _ rs hm).1 (ih _ rs hm).2

/-- state invariant, relative to a bound `P` on the payload size of the packets of the history -/
structure Inv (P : Nat) (d : Dec) : Prop where
  frag_eq   : d.fragSize = totalLen d.fragments
  frag_lt   : d.fragSize < 2 ^ 24 + P
  tables_n  : d.tables.length ≤ 2
  tables_le : totalLen d.tables ≤ 128
  hdr_some  : d.fragSize ≠ 0 → d.hdr.isSome = true
  count     : d.fragments.length ≤ d.fragSize + 1   -- every fragment but the first carries data

theorem c08_inv_init (P : Nat) : Inv P {} := ⟨rfl, by simp; omega, by simp, by simp, by simp, by simp⟩

theorem inv_resetFragments (P : Nat) (d : Dec) (hi : Inv P d) : Inv P d.resetFragments :=
  ⟨rfl, by simp [Dec.resetFragments]; omega, hi.tables_n, hi.tables_le, by simp [Dec.resetFragments],
   by simp [Dec.resetFragments]⟩

theorem qtParse_cases (b : Bytes) :
    qtParse b = none ∨ qtParse b = some ([(b.drop 4).take 64], 68) ∨
      qtParse b = some ([(b.drop 4).take 64, (b.drop 68).take 64], 132) := by
  rw [qtParse]
  by_cases c1 : b.length < 4
  · rw [if_pos c1]; exact Or.inl rfl
  rw [if_neg c1]
  by_cases c2 : b.getD 1 0 ≠ 0
  · rw [if_pos c2]; exact Or.inl rfl
  rw [if_neg c2]
  generalize (b.getD 2 0).toNat * 256 + (b.getD 3 0).toNat = len
  dsimp only
  by_cases c3 : len ≠ 64 ∧ len ≠ 128
  · rw [if_pos c3]; exact Or.inl rfl
  rw [if_neg c3]
  by_cases c4 : b.length - 4 < len
  · rw [if_pos c4]; exact Or.inl rfl
  rw [if_neg c4]
  by_cases c5 : len = 64
  · rw [if_pos c5]; exact Or.inr (Or.inl rfl)
  · rw [if_neg c5]; exact Or.inr (Or.inr rfl)

theorem qtParse_tables (b : Bytes) (ts : List Bytes) (n : Nat) (h : qtParse b = some (ts, n)) :
    ts.length ≤ 2 ∧ totalLen ts ≤ 128 := by
  have h64 : ∀ x : Bytes, (x.take 64).length ≤ 64 := fun x => List.length_take_le 64 x
  rcases qtParse_cases b with h' | h' | h' <;> rw [h'] at h <;> cases h
  · exact ⟨Nat.le_succ 1, by rw [totalLen_singleton]; have := h64 (b.drop 4); omega⟩
  · refine ⟨Nat.le_refl 2, ?_⟩
    rw [show [List.take 64 (List.drop 4 b), List.take 64 (List.drop 68 b)]
        = [List.take 64 (List.drop 4 b)] ++ [List.take 64 (List.drop 68 b)] from rfl,
      totalLen_append, totalLen_singleton, totalLen_singleton]
    have := h64 (b.drop 4); have := h64 (b.drop 68); omega

theorem makeQuantizationTables_tables (q : UInt8) :
    (makeQuantizationTables q).length ≤ 2 ∧ totalLen (makeQuantizationTables q) ≤ 128 := by
  simp [makeQuantizationTables, totalLen, lumaQuantizers, chromaQuantizers]

theorem store_elim {motive : Except (Dec × DecRes Bytes) Dec → Prop} (d : Dec) (q : UInt8) (off : Nat)
    (jh : JHdr) (body : Bytes)
    (start : ∀ ts b, ts.length ≤ 2 → totalLen ts ≤ 128 → b.length ≤ body.length →
      motive (.ok { firstRecv := true, fragments := [b], fragSize := b.length, hdr := some jh, tables := ts }))
    (badqt : motive (.error ({ d.resetFragments with firstRecv := true }, .err)))
    (nonStart : motive (.error (d, .nonStart)))
    (reset : motive (.error (d.resetFragments, .err)))
    (next : off ≠ 0 → off = d.fragSize → body.length ≠ 0 →
      motive (.ok { d with fragSize := d.fragSize + body.length, fragments := d.fragments ++ [body] })) :
    motive (store d q off jh body) := by
  rw [store]
  by_cases h0 : off = 0
  · rw [if_pos h0]
    dsimp only
    by_cases hq : q.toNat ≥ 128
    · rw [if_pos hq]
      cases hp : qtParse body with
      | none => exact badqt
      | some r =>
        obtain ⟨h1, h2⟩ := qtParse_tables body r.1 r.2 hp
        exact start r.1 (body.drop r.2) h1 h2 (by rw [List.length_drop]; omega)
    · rw [if_neg hq]
      exact start _ body (makeQuantizationTables_tables q).1 (makeQuantizationTables_tables q).2 (Nat.le_refl _)
  · rw [if_neg h0]
    by_cases h1 : off ≠ d.fragSize
    · rw [if_pos h1]
      by_cases h2 : (!d.firstRecv) = true
      · rw [if_pos h2]; exact nonStart
      · rw [if_neg h2]; exact reset
    · rw [if_neg h1]
      by_cases hz : body.length = 0
      · rw [if_pos hz]; exact reset
      · rw [if_neg hz]; exact next h0 (Decidable.not_not.mp h1) hz

theorem finish_cases (d : Dec) (m : Bool) :
    finish d m = (d, .more) ∨ finish d m = (d, .err) ∨ finish d m = (d.resetFragments, .err) ∨
    ∃ h, finish d m = (d.resetFragments, .ok (buildJpeg h d.tables (joinFragments d.fragments d.fragSize))) := by
  rw [finish]
  by_cases c1 : (!m) = true
  · rw [if_pos c1]; exact Or.inl rfl
  rw [if_neg c1]
  by_cases c2 : d.fragSize < 2
  · rw [if_pos c2]; exact Or.inr (Or.inl rfl)
  rw [if_neg c2]
  dsimp only
  cases d.hdr with
  | none => exact Or.inr (Or.inr (Or.inl rfl))
  | some h => exact Or.inr (Or.inr (Or.inr ⟨h, rfl⟩))

theorem finish_inv (P : Nat) (d : Dec) (m : Bool) (hi : Inv P d) : Inv P (finish d m).1 := by
  rcases finish_cases d m with h | h | h | ⟨_, h⟩ <;> rw [h]
  · exact hi
  · exact hi
  · exact inv_resetFragments P d hi
  · exact inv_resetFragments P d hi

theorem off_lt (a b c : UInt8) : a.toNat * 65536 + b.toNat * 256 + c.toNat < 2 ^ 24 := by
  have := a.toNat_lt; have := b.toNat_lt; have := c.toNat_lt
  omega

theorem decode_elim {motive : Dec × DecRes Bytes → Prop} (P : Nat) (d : Dec) (p : Pkt) (hi : Inv P d)
    (hp : p.payload.length ≤ P)
    (refuse : ∀ d1 e, Inv P d1 → (∀ f, e ≠ .ok f) → motive (d1, e))
    (stored : ∀ d1, Inv P d1 → motive (finish d1 p.marker)) : motive (decode d p) := by
  have hr := inv_resetFragments P d hi
  have hb : (p.payload.drop 8).length ≤ P := by rw [List.length_drop]; omega
  rw [decode]
  dsimp only
  by_cases c1 : p.payload.length < 8
  · rw [if_pos c1]; exact refuse d _ hi nofun
  rw [if_neg c1]
  by_cases c2 : (p.payload.getD 4 0).toNat > CodecMisc.mjpegMaxType
  · rw [if_pos c2]; exact refuse d _ hi nofun
  rw [if_neg c2]
  by_cases c3 : p.payload.getD 5 0 = 0 ∨ (p.payload.getD 5 0).toNat > 99 ∧ (p.payload.getD 5 0).toNat < 127
  · rw [if_pos c3]; exact refuse d _ hi nofun
  rw [if_neg c3]
  have ho := off_lt (p.payload.getD 1 0) (p.payload.getD 2 0) (p.payload.getD 3 0)
  refine store_elim (motive := fun s => motive (match s with | .error r => r | .ok d' => finish d' p.marker)) d _ _ _ _
    (fun ts b h1 h2 h3 => stored _ ⟨(totalLen_singleton b).symm, by show b.length < _; omega, h1, h2, fun _ => rfl,
      Nat.le_add_left _ _⟩)
    (refuse _ _ ⟨rfl, hr.frag_lt, hi.tables_n, hi.tables_le, hr.hdr_some, hr.count⟩ nofun)
    (refuse _ _ hi nofun) (refuse _ _ hr nofun) fun h0 he hz => stored _ ⟨?_, ?_, hi.tables_n, hi.tables_le,
      fun _ => hi.hdr_some (by omega), ?_⟩
  · rw [totalLen_append, totalLen_singleton, ← hi.frag_eq]
  · show d.fragSize + _ < _; omega
  · have := hi.count
    show (d.fragments ++ [p.payload.drop 8]).length ≤ d.fragSize + (p.payload.drop 8).length + 1
    rw [List.length_append, List.length_singleton]
    omega

/-- **C08**: the invariant is preserved by `Decode` on EVERY packet. -/
theorem c08_inv_decode (P : Nat) (d : Dec) (p : Pkt) (hi : Inv P d) (hp : p.payload.length ≤ P) :
    Inv P (decode d p).1 :=
  decode_elim (motive := fun r => Inv P r.1) P d p hi hp (fun _ _ h _ => h) fun d1 h => finish_inv P d1 p.marker h

/-- (F) the decoder struct has exactly two byte-carrying fields (`fragments`, `quantizationTables`,
both `[][]byte`) — what `retained` sums (regenerated from /repo on every run) -/
theorem c08_state_fields : CodecMisc.mjpegDecoderSliceFields = 2 := by decide

/-- **C08 bounded memory**: retained bytes < 2^24 (24-bit fragment offset) + one packet + two
quantisation tables. -/
theorem c08_retained_le (P : Nat) (d : Dec) (hi : Inv P d) : retained d ≤ 2 ^ 24 + P + 128 := by
  unfold retained
  rw [← hi.frag_eq]
  have := hi.frag_lt; have := hi.tables_le
  omega

/-- the decoder never dereferences a nil `firstJpegHeader`: whenever an image is assembled
(at least 2 bytes collected) the header of its first packet is there -/
theorem c08_hdr_present (P : Nat) (d : Dec) (hi : Inv P d) (h2 : 2 ≤ d.fragSize) : d.hdr.isSome = true :=
  hi.hdr_some (by omega)

/-- **C08 fragment count**: the fragment list never holds more entries than bytes plus one (every
fragment after the first carries data: header-only packets are refused, and this bound is what
that refusal buys), so the list itself, and the packet buffers it pins, are bounded by the same
2^24 + one packet. -/
theorem c08_fragment_count_le (P : Nat) (d : Dec) (hi : Inv P d) : d.fragments.length ≤ 2 ^ 24 + P := by
  have := hi.count; have := hi.frag_lt
  omega

theorem dqt_sum (ts : List Bytes) : (ts.map fun t => 1 + t.length).sum = ts.length + totalLen ts := by
  induction ts with
  | nil => rfl
  | cons t ts ih => simp only [List.map_cons, List.sum_cons, ih, totalLen, List.length_cons]; omega

theorem dqtBody_length (id : Nat) (ts : List Bytes) : (dqtBody id ts).length = ts.length + totalLen ts := by
  induction ts generalizing id with
  | nil => simp [dqtBody]
  | cons t ts ih => simp [dqtBody, ih, totalLen]; omega

set_option maxRecDepth 8000 in
theorem dhts_length : dhts.length = 432 := by decide

theorem buildJpeg_length (h : JHdr) (ts : List Bytes) (data : Bytes) :
    (buildJpeg h ts data).length ≤ 473 + ts.length + totalLen ts + data.length := by
  have hd : dhts.length = 432 := dhts_length
  have hs : (sof h ts.length).length = 19 := by
    simp only [sof, be16]; split <;> rfl
  simp only [buildJpeg, List.length_append, hd, hs, dqt, dqtBody_length, be16, soi, eoi, sos]
  split <;> simp <;> omega

/-- **C08 output bound**: a returned image is at most 2^24 + one packet of entropy-coded data plus
the rebuilt headers (< 1 KiB). -/
theorem c08_out_le (P : Nat) (d : Dec) (p : Pkt) (f : Bytes) (hi : Inv P d) (hp : p.payload.length ≤ P)
    (h : (decode d p).2 = .ok f) : f.length ≤ 2 ^ 24 + P + 1024 := by
  revert h
  refine decode_elim (motive := fun r => r.2 = .ok f → _) P d p hi hp (fun _ _ _ hn h => absurd h (hn f)) fun d1 hs h => ?_
  rcases finish_cases d1 p.marker with h' | h' | h' | ⟨jh', h'⟩ <;> rw [h'] at h <;> cases h
  have := buildJpeg_length jh' d1.tables (joinFragments d1.fragments d1.fragSize)
  have hj : (joinFragments d1.fragments d1.fragSize).length = d1.fragSize := by
    simp only [joinFragments, List.length_append, List.length_take, List.length_replicate]; omega
  have := hs.frag_lt; have := hs.tables_n; have := hs.tables_le
  omega

theorem qtParse_qtBytes (ts : List Bytes) (rest : Bytes) (hn : ts.length = 1 ∨ ts.length = 2)
    (ht : ∀ t ∈ ts, t.length = 64) :
    qtParse (qtBytes ts ++ rest) = some (ts, 4 + 64 * ts.length) ∧
    (qtBytes ts ++ rest).drop (4 + 64 * ts.length) = rest := by
  rcases hn with hn | hn
  · match ts, hn with
    | [t], _ =>
      have h1 : t.length = 64 := ht t (by simp)
      refine ⟨?_, ?_⟩
      · simp [qtParse, qtBytes, h1, List.take_left' h1]
      · simp [qtBytes, List.drop_left' h1]
  · match ts, hn with
    | [t, u], _ =>
      have h1 : t.length = 64 := ht t (by simp)
      have h2 : u.length = 64 := ht u (by simp)
      have e1 : List.take 64 (t ++ (u ++ rest)) = t := List.take_left' h1
      have e2 : List.drop 64 (t ++ (u ++ rest)) = u ++ rest := List.drop_left' h1
      refine ⟨?_, ?_⟩
      · have e3 : List.drop 68 (0 :: 0 :: UInt8.ofNat (128 / 256) :: UInt8.ofNat 128 :: (t ++ (u ++ rest))) = u ++ rest := by
          show List.drop 64 (t ++ (u ++ rest)) = u ++ rest
          exact e2
        simp [qtParse, qtBytes, h1, h2, e1]
        omega
      · simp [qtBytes]
        rw [show (128 : Nat) = 64 + 64 from rfl, ← List.drop_drop, e2, List.drop_left' h2]

/-- what makes the 8-byte main header of `j` readable: type and dimensions in range -/
def HdrOk (j : Jpeg) : Prop :=
  j.typ.toNat ≤ CodecMisc.mjpegMaxType ∧ (j.width % 8 = 0 ∧ j.width / 8 < 256) ∧ (j.height % 8 = 0 ∧ j.height / 8 < 256)

/-- the header values of `j` as the decoder keeps them -/
def Jpeg.hdr (j : Jpeg) : JHdr := { typ := j.typ, width := j.width, height := j.height }

theorem decode_chunk (d : Dec) (c : EncCfg) (j : Jpeg) (first : Bool) (off : Nat) (sq : UInt16) (m : Bool)
    (chunk : Bytes) (hj : HdrOk j) (ho : off < 2 ^ 24) :
    decode d (chunkPkt c j first off sq m chunk) =
      match store d 255 off j.hdr ((if first then qtBytes j.tables else []) ++ chunk) with
      | .error r => r
      | .ok d' => finish d' m := by
  obtain ⟨ht, hw, hh⟩ := hj
  have h1 : (UInt8.ofNat (off / 65536)).toNat * 65536 + (UInt8.ofNat (off / 256)).toNat * 256
      + (UInt8.ofNat off).toNat = off := by simp only [UInt8.toNat_ofNat']; omega
  have h2 : (UInt8.ofNat (j.width / 8)).toNat * 8 = j.width := by simp only [UInt8.toNat_ofNat']; omega
  have h3 : (UInt8.ofNat (j.height / 8)).toNat * 8 = j.height := by simp only [UInt8.toNat_ofNat']; omega
  have hq : ¬ ((255 : UInt8) = 0 ∨ (255 : UInt8).toNat > 99 ∧ (255 : UInt8).toNat < 127) := by decide
  have hl : ¬ (jhBytes j off ++ ((if first then qtBytes j.tables else []) ++ chunk)).length < 8 := by
    rw [List.length_append, jhBytes_length]; omega
  -- `simp only`, not `rw [decode]; dsimp only`: the kernel would re-check the conversion `dsimp`
  -- leaves behind on the whole body of `decode`, which is far slower than this whole proof
  simp only [decode, chunkPkt, List.append_assoc, if_neg hl]
  simp only [jhBytes, List.cons_append, List.getD_cons_succ, List.getD_cons_zero, List.drop_succ_cons,
    List.drop_zero, List.nil_append, if_neg (Nat.not_lt.mpr ht), if_neg hq, h1, h2, h3]
  rfl

/-- the decoder after the first packet of `j`, whatever it held before -/
def Dec.first (j : Jpeg) (chunk : Bytes) : Dec :=
  { firstRecv := true, fragments := [chunk], fragSize := chunk.length, hdr := some j.hdr, tables := j.tables }

theorem store_first (d : Dec) (j : Jpeg) (chunk : Bytes)
    (hn : j.tables.length = 1 ∨ j.tables.length = 2) (ht : ∀ t ∈ j.tables, t.length = 64) :
    store d 255 0 j.hdr (qtBytes j.tables ++ chunk) = .ok (Dec.first j chunk) := by
  obtain ⟨hp, hd⟩ := qtParse_qtBytes j.tables chunk hn ht
  rw [store, if_pos rfl]
  dsimp only
  rw [if_pos (by decide), hp]
  dsimp only
  rw [hd]
  rfl

theorem store_next (d : Dec) (jh : JHdr) (chunk : Bytes) (h0 : d.fragSize ≠ 0) (hc : chunk.length ≠ 0) :
    store d 255 d.fragSize jh chunk
      = .ok { d with fragSize := d.fragSize + chunk.length, fragments := d.fragments ++ [chunk] } := by
  rw [store, if_neg h0, if_neg (fun h => h rfl), if_neg hc]

theorem finish_more (d : Dec) : finish d false = (d, .more) := rfl

theorem finish_last (d : Dec) (jh : JHdr) (hfe : d.fragSize = totalLen d.fragments) (h2 : 2 ≤ d.fragSize)
    (hh : d.hdr = some jh) :
    finish d true = (d.resetFragments, .ok (buildJpeg jh d.tables d.fragments.flatten)) := by
  rw [finish, if_neg (by decide), if_neg (Nat.not_lt.mpr h2)]
  dsimp only
  rw [hh, hfe, joinFragments, take_flatten_totalLen]

theorem runs : Runs decode runDec := ⟨fun _ => rfl, fun _ _ _ => rfl⟩

/-- the decoder `d` when the packet after the bytes `pre` of `j`'s data is due: nothing is asked of
it before the first packet (whose zero offset resets it); later it holds `pre` under `j`'s header and
tables -/
def Holds (j : Jpeg) : Bool → Dec → Bytes → Prop
  | true, _, pre => pre = []
  | false, d, pre => d.fragSize ≠ 0 ∧ d.fragSize = totalLen d.fragments ∧ d.fragments.flatten = pre ∧
      d.hdr = some j.hdr ∧ d.tables = j.tables

theorem decode_held (c : EncCfg) (j : Jpeg) (hj : HdrOk j) (hn : j.tables.length = 1 ∨ j.tables.length = 2)
    (ht : ∀ t ∈ j.tables, t.length = 64) (first : Bool) (d : Dec) (pre : Bytes) (sq : UInt16) (m : Bool)
    (chunk : Bytes) (hd : Holds j first d pre) (hc : chunk.length ≠ 0) (ho : pre.length < 2 ^ 24) :
    ∃ d1, decode d (chunkPkt c j first pre.length sq m chunk) = finish d1 m ∧ Holds j false d1 (pre ++ chunk) := by
  rw [decode_chunk d c j first _ sq m chunk hj ho]
  cases first with
  | true =>
    obtain rfl : pre = [] := hd
    rw [if_pos rfl, List.length_nil, store_first d j chunk hn ht]
    exact ⟨_, rfl, hc, (totalLen_singleton _).symm, List.flatten_singleton, rfl, rfl⟩
  | false =>
    obtain ⟨h0, hfe, rfl, hh, htb⟩ := hd
    rw [if_neg Bool.false_ne_true, List.nil_append, flatten_length, ← hfe, store_next d _ chunk h0 hc]
    exact ⟨_, rfl, by show d.fragSize + chunk.length ≠ 0; omega,
      by show _ = totalLen (d.fragments ++ [chunk]); rw [totalLen_append, totalLen_singleton, ← hfe],
      by show (d.fragments ++ [chunk]).flatten = _; rw [List.flatten_append, List.flatten_singleton], hh, htb⟩

theorem run_emit (c : EncCfg) (j : Jpeg) (hj : HdrOk j) (hn : j.tables.length = 1 ∨ j.tables.length = 2)
    (ht : ∀ t ∈ j.tables, t.length = 64) (hroom : ∀ first, hdrLen j first < c.max)
    (fuel : Nat) (first : Bool) (sq : UInt16) (pre rest : Bytes) (d : Dec) (ps : List Pkt)
    (hd : Holds j first d pre) (hne : rest.length ≠ 0) (h2 : 2 ≤ pre.length + rest.length)
    (hlim : pre.length + rest.length ≤ 2 ^ 24) (hem : emit c j fuel first pre.length sq rest = some ps) :
    ∃ d' n, ps.length = n + 1 ∧
      runDec d ps = (d', List.replicate n .more ++ [.ok (buildJpeg j.hdr j.tables (pre ++ rest))])
      ∧ d'.fragments = [] ∧ d'.fragSize = 0 := by
  induction fuel generalizing first sq pre rest d ps with
  | zero => cases hem
  | succ fuel ih =>
    obtain ⟨_, ⟨hk, rfl⟩ | ⟨hk, qs, hq, rfl⟩⟩ := emit_cases hem
    · obtain ⟨d1, h1, _, hfe, hfl, hh, htb⟩ := decode_held c j hj hn ht first d pre sq true rest hd hne (by omega)
      exact ⟨d1.resetFragments, 0, rfl, by
        rw [runs.cons, h1, finish_last d1 j.hdr hfe (by rw [hfe, ← flatten_length, hfl, List.length_append]; exact h2) hh,
          hfl, htb]; rfl, rfl, rfl⟩
    · have hr := hroom first
      have hl : (pre ++ rest.take (c.max - hdrLen j first)).length = pre.length + (c.max - hdrLen j first) := by
        rw [List.length_append, List.length_take]; omega
      obtain ⟨d1, h1, hh⟩ := decode_held c j hj hn ht first d pre sq false (rest.take (c.max - hdrLen j first))
        hd (by rw [List.length_take]; omega) (by omega)
      obtain ⟨d', n, hlen, hrun, hcl⟩ := ih false (sq + 1) _ (rest.drop (c.max - hdrLen j first)) d1 qs hh
        (by rw [List.length_drop]; omega) (by rw [hl, List.length_drop]; omega)
        (by rw [hl, List.length_drop]; omega) (hl ▸ hq)
      rw [List.append_assoc, List.take_append_drop] at hrun
      exact ⟨d', n + 1, by rw [List.length_cons, hlen], by
        rw [runs.cons, h1, finish_more, hrun, List.replicate_succ]; rfl, hcl⟩

/-- the image the decoder rebuilds for `j`: same type, dimensions, quantisation tables and
entropy-coded data (with the end-of-image marker appended if `j.data` does not end with one) -/
def rebuild (j : Jpeg) : Bytes :=
  buildJpeg { typ := j.typ, width := j.width, height := j.height } j.tables j.data

/-- **C03 round trip and C07 flush in one**: for every valid limit, every valid image and EVERY
decoder state `d` (clean or left behind by any loss / duplication / reordering): "more packets
needed" on all packets but the last, the rebuilt image at the last one, and no fragment left. -/
theorem c03_roundtrip (e : Enc) (j : Jpeg) (d : Dec) (ps : List Pkt)
    (hc : ValidCfg e.cfg) (hf : ValidFrame e.cfg j) (hps : (encode e j).2 = some ps) :
    ∃ d', runDec d ps = (d', List.replicate (ps.length - 1) .more ++ [.ok (rebuild j)])
      ∧ d'.fragments = [] ∧ d'.fragSize = 0 := by
  obtain ⟨ht, hw1, hw2, hh1, hh2, htn, htl, hd2, hdmax, hfit⟩ := hf
  obtain ⟨d', n, hn, hrun, hcl⟩ := run_emit e.cfg j ⟨ht, ⟨hw1, hw2⟩, ⟨hh1, hh2⟩⟩ htn htl
    (fun first => by
      cases first
      · exact Nat.lt_of_lt_of_le (Nat.lt_succ_self 8) hc
      · rw [hdrLen, if_pos rfl, totalLen_tables j.tables htl]; exact hfit)
    _ true e.seq [] j.data d ps rfl (by omega) (by rw [List.length_nil]; omega) (by rw [List.length_nil]; omega)
    (encode_some e j ps hps).1
  exact ⟨d', by rw [hrun, hn]; rfl, hcl⟩

/-- **C07 flush**: from ANY state one intact image leaves no fragment behind. -/
theorem c07_flush (e : Enc) (j : Jpeg) (d : Dec) (ps : List Pkt)
    (hc : ValidCfg e.cfg) (hf : ValidFrame e.cfg j) (hps : (encode e j).2 = some ps) :
    (runDec d ps).1.fragments = [] ∧ (runDec d ps).1.fragSize = 0 := by
  obtain ⟨d', h, h1, h2⟩ := c03_roundtrip e j d ps hc hf hps
  rw [h]; exact ⟨h1, h2⟩

/-- **C07 resynchronisation**: after ANY packet history `h`, an intact image is returned exactly
once, at its last packet — the damage never outlives the first packet of the next image (whose
zero fragment offset resets the decoder). -/
theorem c07_resync (h : List Pkt) (e : Enc) (j : Jpeg) (ps : List Pkt)
    (hc : ValidCfg e.cfg) (hf : ValidFrame e.cfg j) (hps : (encode e j).2 = some ps) :
    (runDec (runDec {} h).1 ps).2 = List.replicate (ps.length - 1) .more ++ [.ok (rebuild j)] := by
  obtain ⟨d', hr, _, _⟩ := c03_roundtrip e j (runDec {} h).1 ps hc hf hps
  rw [hr]

open Rtsp.Codec.Misc in
/-- **C03, consecutive images**: any series of valid images through one encoder / decoder pair —
from ANY decoder state — comes back as exactly the series of rebuilt images, with only "more
packets needed" in between. -/
theorem c03_roundtrip_many (e e' : Enc) (js : List Jpeg) (d : Dec) (ps : List Pkt)
    (hc : ValidCfg e.cfg) (hf : ∀ j ∈ js, ValidFrame e.cfg j) (h : encodeMany e js = some (e', ps)) :
    okFrames (runDec d ps).2 = js.map rebuild ∧ NoErr (runDec d ps).2 := by
  induction js generalizing e d ps with
  | nil =>
    simp [encodeMany] at h; obtain ⟨rfl, rfl⟩ := h
    exact ⟨rfl, by intro r hr; simp [runDec] at hr⟩
  | cons j js ih =>
    obtain ⟨qs, rs, hq, hm, rfl⟩ := Misc.many_some encode encodeMany encodeMany_cons e e' j js ps h
    obtain ⟨d1, hr1, _, _⟩ := c03_roundtrip e j d qs hc (hf j (by simp)) hq
    have hcfg := encode_cfg e j
    obtain ⟨i1, i2⟩ := ih (encode e j).1 d1 rs (by rw [hcfg]; exact hc)
      (fun x hx => by rw [hcfg]; exact hf x (by simp [hx])) hm
    rw [runs.append, hr1]
    refine ⟨?_, only_frame_append i2⟩
    rw [frames_frame_append okFrames, i1]; rfl

def exTable (b : UInt8) : Bytes := List.replicate 64 b
/-- 16x8 image, two tables, 30 bytes of data at limit 150: the first packet takes 10 bytes (after
140 bytes of headers), the following ones 142 → 2 packets, across a sequence-number wrap -/
def exJpeg : Jpeg := { typ := 1, width := 16, height := 8, tables := [exTable 3, exTable 5],
                       data := List.replicate 28 0x5a ++ [0xFF, 0xD9] }
def exEnc : Enc := { cfg := { pt := 26, ssrc := 7, max := 150 }, seq := 65535 }

set_option maxRecDepth 8000 in
example : ValidCfg exEnc.cfg ∧ ValidFrame exEnc.cfg exJpeg := by decide
set_option maxRecDepth 8000 in
example : ((encode exEnc exJpeg).2.map fun ps => ps.map fun p => (p.seq, p.marker, p.payload.length))
    = some [(65535, false, 150), (0, true, 28)] := by decide
/-- a dirty state satisfies the invariant -/
example : Inv 1500 { firstRecv := true, fragments := [[1, 2], [3]], fragSize := 3, hdr := some { typ := 0, width := 8, height := 8 }, tables := [exTable 1] } :=
  ⟨by decide, by decide, by decide, by decide, by decide, by decide⟩

end Rtsp.Codec.Mjpeg
