import Rtsp.Props.Codec.H264
import Rtsp.Props.Codec.H264Rt
import Rtsp.Proofs.Codec.H264Sticky
/-
Property theorems for pkg/format/rtph264, C07 continued: the sticky `annexBMode` flag cannot switch
on through packets of valid frames, whatever was dropped, duplicated or reordered.
This discharges the hypothesis `annexBMode = false` of `c07_flush_partial` / `c07_resync_partial` (Props/Codec/H264Rt) for
histories that are made of packets of an encoded stream of valid frames.  The statements also assume
`NoSeqAlias` (Proofs/Codec/H264Sticky: two different packets of the stream never carry the same sequence
number; true of every stream of at most 65536 packets, `c07_no_seq_alias`); the proof does not use it, see
`annexb_off_run`.
-/
namespace Rtsp.Codec.H264
open Rtsp.Rtp Rtsp.Codec.H26x

theorem prov_encode (e : Enc) (au : List Bytes) (ts : UInt32) (hc : ValidCfg e.cfg) (hf : ValidFrame au) :
    ∀ p ∈ stamp ts (encode e au).2, Prov p.payload := by
  intro p hp
  obtain ⟨q, hq, rfl⟩ := List.mem_map.mp hp
  obtain ⟨it, hit, hpl⟩ := mem_number_payload hq
  obtain ⟨b, hb, m, hm⟩ := mem_itemsOf (encodeItems_eq .. ▸ hit)
  exact hpl ▸ prov_batch e.cfg hc b m (goodBatches e.cfg au hf b hb) it hm

theorem prov_stream (e : Enc) (fs : List (UInt32 × List Bytes)) (hc : ValidCfg e.cfg)
    (hf : ∀ f ∈ fs, ValidFrame f.2) : ∀ p ∈ stream e fs, Prov p.payload := by
  induction fs generalizing e with
  | nil => nofun
  | cons f fs ih =>
    exact fun p hp => (List.mem_append.mp hp).elim (prov_encode e f.2 f.1 hc (hf f List.mem_cons_self) p)
      (ih (encode e f.2).1 hc (fun x hx => hf x (List.mem_cons_of_mem _ hx)) p)

/-- **C07 (sticky flag), without a condition on sequence numbers**: from ANY state with Annex-B mode
off, after ANY history made of packets of an encoded stream of valid frames — any subset, any order,
any repetition, a stream of any length — the mode is still off. -/
theorem annexb_off_run (e : Enc) (fs : List (UInt32 × List Bytes)) (d : Dec) (hist : List Pkt)
    (hc : ValidCfg e.cfg) (hf : ∀ f ∈ fs, ValidFrame f.2) (hoff : d.annexBMode = false)
    (hin : ∀ p ∈ hist, p ∈ stream e fs) : (runDec d hist).1.annexBMode = false :=
  sticky_run d hist hoff fun p hp => prov_stream e fs hc hf p (hin p hp)

/-- **C07 (sticky flag)**: after ANY history made of packets of an encoded stream of valid frames —
any subset, any order, any repetition — Annex-B mode is still off. -/
theorem c07_annexb_off (e : Enc) (fs : List (UInt32 × List Bytes)) (hist : List Pkt)
    (hc : ValidCfg e.cfg) (hf : ∀ f ∈ fs, ValidFrame f.2) (hna : NoSeqAlias (stream e fs))
    (hin : ∀ p ∈ hist, p ∈ stream e fs) : (runDec {} hist).1.annexBMode = false :=
  annexb_off_run e fs {} hist hc hf rfl hin

/-- **C07 resynchronisation after faults**: take any encoded stream of valid frames, damage it in any
way (drop, duplicate, reorder: `hist` is any list of its packets); then an intact frame `f` that
flushes, followed by an intact frame `g`, ends with exactly `g` at `g`'s last packet.  The frames
`f`, `g` may come from the same encoder or any other. -/
theorem c07_resync_faulted (e0 : Enc) (fs : List (UInt32 × List Bytes)) (hist : List Pkt)
    (e : Enc) (f g : List Bytes) (tf tg : UInt32)
    (hc0 : ValidCfg e0.cfg) (hfs : ∀ x ∈ fs, ValidFrame x.2) (hna : NoSeqAlias (stream e0 fs))
    (hin : ∀ p ∈ hist, p ∈ stream e0 fs)
    (hc : ValidCfg e.cfg) (hf : ValidFrame f) (hg : ValidFrame g)
    (hfl : Flushes tf e f (runDec {} hist).1) :
    ∃ d', runDec (runDec (runDec {} hist).1 (stamp tf (encode e f).2)).1 (stamp tg (encode (encode e f).1 g).2)
        = (d', List.replicate ((encode (encode e f).1 g).2.length - 1) .more ++ [.ok g]) ∧ Clean d' :=
  c07_resync_partial hist e f g tf tg hc hf hg (c07_annexb_off e0 fs hist hc0 hfs hna hin) hfl

theorem stream_seq (e : Enc) (fs : List (UInt32 × List Bytes)) :
    (stream e fs).map (·.seq) = seqFrom e.seq (stream e fs).length := by
  induction fs generalizing e with
  | nil => rfl
  | cons f fs ih =>
    obtain ⟨h1, h2⟩ := c06_seq_consecutive e f.2
    exact (seqFrom_concat (by rw [stamp_seq, stamp_length]; exact h1)
      (by rw [stamp_length]; exact h2) (ih _) rfl).1

/-- **`NoSeqAlias` holds for every stream of at most 65536 packets** -/
theorem c07_no_seq_alias (e : Enc) (fs : List (UInt32 × List Bytes)) (h : (stream e fs).length ≤ 65536) :
    NoSeqAlias (stream e fs) :=
  noSeqAlias_of_seq _ e.seq (stream_seq e fs) h

/-- `c07_annexb_off` with the aliasing hypothesis replaced by the length of the stream -/
theorem c07_annexb_off_short (e : Enc) (fs : List (UInt32 × List Bytes)) (hist : List Pkt)
    (hc : ValidCfg e.cfg) (hf : ∀ f ∈ fs, ValidFrame f.2) (hlen : (stream e fs).length ≤ 65536)
    (hin : ∀ p ∈ hist, p ∈ stream e fs) : (runDec {} hist).1.annexBMode = false :=
  c07_annexb_off e fs hist hc hf (c07_no_seq_alias e fs hlen) hin

/-- the 15 packets of the lag trace carry 15 different sequence numbers -/
example : NoSeqAlias lagTrace := by
  unfold NoSeqAlias
  decide

end Rtsp.Codec.H264
