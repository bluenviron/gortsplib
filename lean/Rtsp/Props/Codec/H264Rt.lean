import Rtsp.Proofs.Codec.H264Rt
/-
Property theorems for pkg/format/rtph264 about the model in `Model/Codec/H264.lean`: this format's
part of properties C03 (round trip from a clean decoder) and C07 (resynchronisation).  C07 is partial:
the full flush statement is false of the code (the comment at "C07" below; `c07_flush_false`,
`c07_lag_witness`, `c07_lag_step`, `c07_lag_forever`); what holds is stated under `Flushes`
(`c07_flush_partial`, `c07_resync_partial`, `c07_resync_keyframe`).
The RTP timestamp is set by the caller of the encoder; `stamp ts` sets it on all packets of a frame.
-/
namespace Rtsp.Codec.H264
open Rtsp.Rtp Rtsp.Codec.H26x

/-- nothing pending: no partial NALU, no buffered access unit, Annex-B mode off -/
def Clean (d : Dec) : Prop :=
  d.fragments = [] ∧ d.fragmentsSize = 0 ∧ d.frameBuffer = [] ∧ d.frameBufferLen = 0 ∧
  d.frameBufferSize = 0 ∧ d.annexBMode = false

instance (d : Dec) : Decidable (Clean d) := by unfold Clean; infer_instance

theorem goodBatches (c : EncCfg) (au : List Bytes) (hf : ValidFrame au) :
    ∀ b ∈ splitBatches 1 c.max [] au, Good c.max b :=
  splitBatches_good ValidNalu 1 c.max maxAU au hf.1 hf.2.2.2 hf.2.2.1

theorem Collect.handed {ts : UInt32} {acc : List Bytes} {d d1 : Dec} (hc : Collect ts acc d)
    (h : Handed d d1) : Collect ts acc d1 := by
  have hfb := h.2.2.1
  simp only [fbPart, Prod.mk.injEq] at hfb
  obtain ⟨h1, h2, h3, h4⟩ := hfb
  exact ⟨h1 ▸ hc.1, h2 ▸ hc.2, h3 ▸ hc.3, fun hne => h4 ▸ hc.4 hne⟩

theorem batches_run (c : EncCfg) (ts : UInt32) (hc : ValidCfg c) (bs : List (List Bytes)) (hne : bs ≠ [])
    (hb : ∀ b ∈ bs, Good c.max b) (acc : List Bytes) (d : Dec) (sq : UInt16)
    (ha : d.annexBMode = false) (hcol : Collect ts acc d)
    (hl : acc.length + bs.flatten.length ≤ maxNALUs) (hs : totalLen acc + totalLen bs.flatten ≤ maxAU) :
    ∃ d', runDec d (stamp ts (number c sq (writeBatches c.max bs))) =
        (d', List.replicate ((writeBatches c.max bs).length - 1) .more ++ [.ok (acc ++ bs.flatten)]) ∧
      Clean d' := by
  fun_induction writeBatches c.max bs generalizing acc d sq with
  | case1 => exact absurd rfl hne
  | case2 b =>
    obtain ⟨d1, hd1, hrun⟩ := batch_run c ts hc b true d sq (hb b (List.mem_singleton_self b)) ha
    rw [List.flatten_singleton] at hl hs ⊢
    obtain ⟨r1, r2⟩ := addNALUs_collect d1 b acc ts true (hcol.handed hd1) hl hs
    have hfp := addNALUs_fragPart d1 b ts true
    simp only [fragPart, Prod.mk.injEq] at hfp
    exact ⟨_, by rw [hrun, r1]; rfl, hfp.1.trans hd1.1, hfp.2.1.trans hd1.2.1, r2.1, r2.2, r2.3,
      (hfp.2.2.2.2.trans hd1.2.2.2).trans ha⟩
  | case3 b bs hbs ih =>
    obtain ⟨d1, hd1, hrun⟩ := batch_run c ts hc b false d sq (hb b List.mem_cons_self) ha
    rw [List.flatten_cons] at hl hs
    rw [List.length_append] at hl
    rw [totalLen_append] at hs
    obtain ⟨r1, r2⟩ := addNALUs_collect d1 b acc ts false (hcol.handed hd1) (by omega) (by omega)
    have hfp := addNALUs_fragPart d1 b ts false
    simp only [fragPart, Prod.mk.injEq] at hfp
    obtain ⟨d', hrun2, hclean⟩ := ih hbs (fun x hx => hb x (List.mem_cons_of_mem _ hx)) (acc ++ b)
      (addNALUs d1 b ts false).1 (sq + UInt16.ofNat (writeBatch c.max b false).length)
      ((hfp.2.2.2.2.trans hd1.2.2.2).trans ha) r2 (by rw [List.length_append]; omega)
      (by rw [totalLen_append]; omega)
    refine ⟨d', ?_, hclean⟩
    rw [number_append, stamp_append, runs.append, hrun, hrun2, r1, List.length_append, List.flatten_cons,
      List.append_assoc]
    exact congrArg _ (replicate_more_append _ _ (length_pos_of_markers (writeBatch_markers _ b false hc.1))
      (length_pos_of_markers (writeBatches_markers _ bs hc.1 hbs)))

/-- **C03 round trip**: for every valid configuration, every valid access unit, every timestamp
and every clean decoder, the decoder answers "more packets needed" on all packets but the last,
returns exactly the access unit at the last one, and is clean again afterwards. -/
theorem c03_roundtrip (e : Enc) (au : List Bytes) (ts : UInt32) (d : Dec)
    (hc : ValidCfg e.cfg) (hf : ValidFrame au) (hd : Clean d) :
    ∃ d', runDec d (stamp ts (encode e au).2)
        = (d', List.replicate ((encode e au).2.length - 1) .more ++ [.ok au]) ∧ Clean d' := by
  obtain ⟨c1, c2, c3, c4, c5, c6⟩ := hd
  have hflat := splitBatches_flatten 1 e.cfg.max [] au
  simp only [List.nil_append] at hflat
  obtain ⟨d', hrun, hclean⟩ := batches_run e.cfg ts hc (splitBatches 1 e.cfg.max [] au)
    (splitBatches_ne_nil _ _ _ _) (goodBatches e.cfg au hf) [] d e.seq c6
    ⟨c3, c4, c5, fun h => absurd rfl h⟩
    (by rw [hflat]; simpa using hf.2.1) (by rw [hflat]; simpa using hf.2.2.1)
  refine ⟨d', ?_, hclean⟩
  simp only [encode, encodeItems, number_length]
  rw [hrun, hflat]
  simp

/-- a stream: consecutive access units through the same encoder, each with its own timestamp -/
def stream (e : Enc) : List (UInt32 × List Bytes) → List Pkt
  | [] => []
  | (ts, au) :: fs => stamp ts (encode e au).2 ++ stream (encode e au).1 fs

/-- what the decoder is expected to answer on `stream e fs` -/
def expected (e : Enc) : List (UInt32 × List Bytes) → List (DecRes (List Bytes))
  | [] => []
  | (_, au) :: fs =>
    List.replicate ((encode e au).2.length - 1) .more ++ [.ok au] ++ expected (encode e au).1 fs

/-- **C03, consecutive frames** through the same encoder / decoder pair. -/
theorem c03_roundtrip_many (e : Enc) (fs : List (UInt32 × List Bytes)) (d : Dec)
    (hc : ValidCfg e.cfg) (hf : ∀ f ∈ fs, ValidFrame f.2) (hd : Clean d) :
    ∃ d', runDec d (stream e fs) = (d', expected e fs) ∧ Clean d' := by
  induction fs generalizing e d with
  | nil => exact ⟨d, rfl, hd⟩
  | cons f fs ih =>
    obtain ⟨ts, au⟩ := f
    obtain ⟨d1, h1, hc1⟩ := c03_roundtrip e au ts d hc (hf (ts, au) (by simp)) hd
    obtain ⟨d2, h2, hc2⟩ := ih (encode e au).1 d1 hc
      (fun x hx => hf x (by simp [hx])) hc1
    refine ⟨d2, ?_, hc2⟩
    simp only [stream, expected, runs.append, h1, h2]

/-! ## C07 — resynchronisation

The statement DESIGN.md asks for every stateful decoder is

    c07_flush : Inv P d → d.annexBMode = false → ValidCfg e.cfg → ValidFrame au →
                Clean (runDec d (stamp ts (encode e au).2)).1

("from ANY reachable state one intact frame leaves the decoder clean").  For H264 it is FALSE:
`Decode` flushes a buffered access unit when the timestamp changes and in that branch ignores the
marker of the current packet, so an access unit that completes on its only NALU-yielding packet
(one single NALU, one STAP-A, one fragmented NALU) stays in the buffer (known finding
`h264-resync-lag`). -/

/-- the decoder holds `[SPS]` of an earlier access unit (timestamp 0) whose marker packet was lost -/
def staleDec : Dec :=
  { firstPacketReceived := true, frameBuffer := [[0x67, 0x42]], frameBufferLen := 1, frameBufferSize := 2,
    frameBufferTimestamp := 0 }

def lagEnc : Enc := { cfg := { pt := 96, ssrc := 1, max := 12 }, seq := 10 }

example : Inv 1500 staleDec :=
  ⟨⟨by decide, by decide, by decide, by decide⟩, ⟨by decide, by decide, by decide, by decide, by decide⟩⟩

/-- **the full flush statement is false for H264** (witness: a one-NALU frame after a lost marker) -/
theorem c07_flush_false :
    ¬ (∀ (P : Nat) (e : Enc) (au : List Bytes) (ts : UInt32) (d : Dec), Inv P d → d.annexBMode = false →
        ValidCfg e.cfg → ValidFrame au → Clean (runDec d (stamp ts (encode e au).2)).1) := by
  intro h
  have := h 1500 lagEnc [[0x41, 0x9a, 0x05]] 3000 staleDec
    ⟨⟨by decide, by decide, by decide, by decide⟩, ⟨by decide, by decide, by decide, by decide, by decide⟩⟩
    (by decide) (by decide) (by decide)
  revert this
  decide

/-- 22-byte NALU with header `h` and a tag byte (three FU-A packets at limit 12) -/
def lagNalu (h tag : UInt8) : Bytes := h :: tag :: (List.range 20).map (fun i => UInt8.ofNat (i + 2))

/-- the trace of DESIGN.md §6 #9 at payload limit 12: F0 = [SPS, PPS, IDR] (STAP-A + 3 FU-A) with its
last packet lost, then F1..F4 = one fragmented NALU each -/
def lagTrace : List Pkt :=
  let e0 : Enc := lagEnc
  let f0 := encode e0 [[0x67, 0x42], [0x68, 0xce], lagNalu 0x65 0]
  let f1 := encode f0.1 [lagNalu 0x41 1]
  let f2 := encode f1.1 [lagNalu 0x41 2]
  let f3 := encode f2.1 [lagNalu 0x41 3]
  let f4 := encode f3.1 [lagNalu 0x41 4]
  (stamp 0 f0.2).dropLast ++ stamp 3000 f1.2 ++ stamp 6000 f2.2 ++ stamp 9000 f3.2 ++ stamp 12000 f4.2

/-- **the lag, from the initial state**: after the lost marker packet every frame is returned at the
last packet of its successor; F4 is never returned. -/
theorem c07_lag_witness :
    (runDec {} lagTrace).2 =
      [.more, .more, .more,
       .more, .more, .ok [[0x67, 0x42], [0x68, 0xce]],
       .more, .more, .ok [lagNalu 0x41 1],
       .more, .more, .ok [lagNalu 0x41 2],
       .more, .more, .ok [lagNalu 0x41 3]] ∧
    (runDec {} lagTrace).1.frameBuffer = [lagNalu 0x41 4] := by
  decide

/-- **the defect, for every state**: a decoder that holds a stale access unit (other timestamp)
answers the last packet of a one-batch frame with the STALE unit and keeps the frame that just
completed — so the next one-batch frame finds it in the same situation, and so on for ever. -/
theorem c07_lag_step (e : Enc) (au : List Bytes) (ts : UInt32) (d : Dec) (b : List Bytes)
    (hc : ValidCfg e.cfg) (hf : ValidFrame au) (ha : d.annexBMode = false)
    (hone : splitBatches 1 e.cfg.max [] au = [b])
    (hstale : d.frameBuffer ≠ []) (hts : d.frameBufferTimestamp ≠ ts) :
    ∃ d', runDec d (stamp ts (encode e au).2) =
        (d', List.replicate ((encode e au).2.length - 1) .more ++ [.ok d.frameBuffer]) ∧
      d'.frameBuffer = au ∧ d'.frameBufferTimestamp = ts ∧ d'.annexBMode = false := by
  have hflat := splitBatches_flatten 1 e.cfg.max [] au
  simp only [List.nil_append, hone, List.flatten_cons, List.flatten_nil, List.append_nil] at hflat
  subst hflat
  have hgb := goodBatches e.cfg b hf b (by rw [hone]; simp)
  obtain ⟨d1, ⟨f1, f2, f3, f4⟩, hrun⟩ := batch_run e.cfg ts hc b true d e.seq hgb ha
  simp only [fbPart, Prod.mk.injEq] at f3
  have hcond : d1.frameBuffer.length ≠ 0 ∧ ts ≠ d1.frameBufferTimestamp := by
    rw [f3.1, f3.2.2.2]
    exact ⟨by intro h0; exact hstale (List.length_eq_zero_iff.mp h0), fun h => hts h.symm⟩
  -- the stale unit goes out; the frame's NALUs start a new buffer, which fits since the frame is valid
  have hadd : addNALUs d1 b ts true = ((addToFrameBuffer d1.resetFrameBuffer b ts).1, .ok d1.frameBuffer) ∧
      (addToFrameBuffer d1.resetFrameBuffer b ts).1.frameBuffer = b ∧
      (addToFrameBuffer d1.resetFrameBuffer b ts).1.frameBufferTimestamp = ts ∧
      (addToFrameBuffer d1.resetFrameBuffer b ts).1.annexBMode = d1.annexBMode := by
    rw [addNALUs, if_pos hcond]
    rcases addToFrameBuffer_eq d1.resetFrameBuffer b ts with ⟨_, _, h⟩ | ⟨hno, _⟩
    · rw [h]; exact ⟨rfl, rfl, rfl, rfl⟩
    · exact absurd ⟨(Nat.zero_add _).symm ▸ hf.2.1, (Nat.zero_add _).symm ▸ hf.2.2.1⟩ hno
  refine ⟨(addToFrameBuffer d1.resetFrameBuffer b ts).1, ?_, hadd.2.1, hadd.2.2.1, hadd.2.2.2.trans (f4.trans ha)⟩
  simp only [encode, encodeItems, hone, writeBatches, number_length, hrun]
  rw [hadd.1, f3.1]

/-- the condition under which an intact frame does flush the decoder: nothing stale is pending,
or the frame yields NALUs on at least two packets (its first NALU-completing packet is not its last
packet: the stale unit goes out there, the marker packet then completes normally) -/
def Flushes (ts : UInt32) (e : Enc) (au : List Bytes) (d : Dec) : Prop :=
  Synced ts d ∨ 2 ≤ (splitBatches 1 e.cfg.max [] au).length

theorem flush_run (c : EncCfg) (ts : UInt32) (hc : ValidCfg c) (bs : List (List Bytes)) (hne : bs ≠ [])
    (hb : ∀ b ∈ bs, Good c.max b) (d : Dec) (sq : UInt16) (ha : d.annexBMode = false)
    (hs : Synced ts d ∨ 2 ≤ bs.length) :
    Clean (runDec d (stamp ts (number c sq (writeBatches c.max bs)))).1 := by
  fun_induction writeBatches c.max bs generalizing d sq with
  | case1 => exact absurd rfl hne
  | case2 b =>
    obtain ⟨d1, ⟨f1, f2, f3, f4⟩, hrun⟩ := batch_run c ts hc b true d sq (hb b (List.mem_singleton_self b)) ha
    simp only [fbPart, Prod.mk.injEq] at f3
    have hs1 : Synced ts d1 := by
      unfold Synced
      rw [f3.1, f3.2.2.2]
      exact hs.resolve_right (by simp)
    obtain ⟨m1, m2, m3⟩ := addNALUs_marker_clears d1 b ts hs1
    have hfp := addNALUs_fragPart d1 b ts true
    simp only [fragPart, Prod.mk.injEq] at hfp
    rw [hrun]
    exact ⟨hfp.1.trans f1, hfp.2.1.trans f2, m1, m2, m3, (hfp.2.2.2.2.trans f4).trans ha⟩
  | case3 b bs hbs ih =>
    obtain ⟨d1, ⟨_, _, _, f4⟩, hrun⟩ := batch_run c ts hc b false d sq (hb b List.mem_cons_self) ha
    have hfp := addNALUs_fragPart d1 b ts false
    simp only [fragPart, Prod.mk.injEq] at hfp
    rw [number_append, stamp_append, runs.append, hrun]
    exact ih hbs (fun x hx => hb x (List.mem_cons_of_mem _ hx)) _ _ ((hfp.2.2.2.2.trans f4).trans ha)
      (Or.inl (addNALUs_synced d1 b ts false))

/-- **C07 flush, in the form that is true of the code**: from ANY state with Annex-B mode off (no
invariant needed, whatever was lost, duplicated or reordered before), the packets of one intact
valid frame leave the decoder clean, provided `Flushes` holds. -/
theorem c07_flush_partial (e : Enc) (au : List Bytes) (ts : UInt32) (d : Dec)
    (hc : ValidCfg e.cfg) (hf : ValidFrame au) (ha : d.annexBMode = false) (hfl : Flushes ts e au d) :
    Clean (runDec d (stamp ts (encode e au).2)).1 := by
  simp only [encode, encodeItems]
  exact flush_run e.cfg ts hc _ (splitBatches_ne_nil _ _ _ _) (goodBatches e.cfg au hf) d e.seq ha hfl

/-- **C07 resynchronisation (partial)**: after ANY packet history `h` that left Annex-B mode off, an
intact frame `f` that flushes, followed by an intact frame `g`, ends with exactly `g`, returned at
`g`'s last packet and not before. -/
theorem c07_resync_partial (h : List Pkt) (e : Enc) (f g : List Bytes) (tf tg : UInt32)
    (hc : ValidCfg e.cfg) (hf : ValidFrame f) (hg : ValidFrame g)
    (ha : (runDec {} h).1.annexBMode = false) (hfl : Flushes tf e f (runDec {} h).1) :
    let d0 := (runDec {} h).1
    let e1 := (encode e f).1
    ∃ d', runDec (runDec d0 (stamp tf (encode e f).2)).1 (stamp tg (encode e1 g).2)
        = (d', List.replicate ((encode e1 g).2.length - 1) .more ++ [.ok g]) ∧ Clean d' := by
  intro d0 e1
  have hclean := c07_flush_partial e f tf d0 hc hf ha hfl
  exact c03_roundtrip e1 g tg _ hc hg hclean

/-- corollary: a frame that is sent in at least two NALU-yielding packets (e.g. a key frame:
parameter sets + a fragmented IDR) resynchronises the decoder after ANY history. -/
theorem c07_resync_keyframe (h : List Pkt) (e : Enc) (f g : List Bytes) (tf tg : UInt32)
    (hc : ValidCfg e.cfg) (hf : ValidFrame f) (hg : ValidFrame g)
    (ha : (runDec {} h).1.annexBMode = false) (h2 : 2 ≤ (splitBatches 1 e.cfg.max [] f).length) :
    ∃ d', runDec (runDec (runDec {} h).1 (stamp tf (encode e f).2)).1 (stamp tg (encode (encode e f).1 g).2)
        = (d', List.replicate ((encode (encode e f).1 g).2.length - 1) .more ++ [.ok g]) ∧ Clean d' :=
  c07_resync_partial h e f g tf tg hc hf hg ha (Or.inr h2)

/-- **C07, where an access unit can come out**: only at a packet that carries the marker (and
then the buffer is empty afterwards) or at a timestamp change (and then
it is exactly the unit that was buffered, which is replaced by the NALUs of the current packet). -/
theorem c07_ok_only_at_marker_or_ts_change (d : Dec) (p : Pkt) (f : List Bytes)
    (h : (decode d p).2 = .ok f) :
    (p.marker = true ∧ (decode d p).1.frameBuffer = []) ∨
    (d.frameBuffer ≠ [] ∧ p.ts ≠ d.frameBufferTimestamp ∧ f = d.frameBuffer) := by
  have hfb := decodeNALUs_fbPart d p
  unfold decode at h ⊢
  split at h
  · simp at h
  · simp at h
  · simp at h
  · rename_i d1 ns heq
    rw [heq] at hfb
    simp only [fbPart, Prod.mk.injEq] at hfb
    unfold addNALUs at h ⊢
    split at h
    · rename_i hts
      right
      split at h
      · simp at h
      · simp only [DecRes.ok.injEq] at h
        rw [hfb.1, hfb.2.2.2] at hts
        refine ⟨?_, hts.2, by rw [← h, hfb.1]⟩
        intro h0; simp [h0] at hts
    · rename_i hts
      left
      simp only [hts, if_false]
      split at h
      · simp at h
      · rename_i d2 hadd
        split at h
        · simp at h
        · rename_i hm
          simp only [hm]
          exact ⟨by simpa using hm, by simp [Dec.resetFrameBuffer]⟩

/-- what a lagging decoder answers on `stream e fs`: at the last packet of every frame the frame
BEFORE it (`prev`), never the frame itself -/
def lagExpected (e : Enc) (prev : List Bytes) : List (UInt32 × List Bytes) → List (DecRes (List Bytes))
  | [] => []
  | (_, au) :: fs =>
    List.replicate ((encode e au).2.length - 1) .more ++ [.ok prev] ++ lagExpected (encode e au).1 au fs

/-- the last access unit of a stream, `x` if there is none -/
def lastOr : List (UInt32 × List Bytes) → List Bytes → List Bytes
  | [], x => x
  | (_, au) :: fs, _ => lastOr fs au

/-- consecutive frames carry different timestamps, the first differs from `t0` -/
def DistinctTs (t0 : UInt32) : List (UInt32 × List Bytes) → Prop
  | [] => True
  | (ts, _) :: fs => t0 ≠ ts ∧ DistinctTs ts fs

/-- **the lag never ends**: a decoder holding a stale access unit, fed any number of intact valid
frames that each consist of ONE batch (one NALU, fragmented or not, or one STAP-A) under changing
timestamps, returns at every frame's last packet the PREVIOUS access unit and finishes holding the
last frame — no frame is ever returned at its own completing packet. -/
theorem c07_lag_forever (e : Enc) (fs : List (UInt32 × List Bytes)) (d : Dec)
    (hc : ValidCfg e.cfg) (hf : ∀ f ∈ fs, ValidFrame f.2)
    (hone : ∀ f ∈ fs, splitBatches 1 e.cfg.max [] f.2 = [f.2])
    (ha : d.annexBMode = false) (hstale : d.frameBuffer ≠ [])
    (hts : DistinctTs d.frameBufferTimestamp fs) :
    ∃ d', runDec d (stream e fs) = (d', lagExpected e d.frameBuffer fs) ∧
      d'.frameBuffer = lastOr fs d.frameBuffer := by
  induction fs generalizing e d with
  | nil => exact ⟨d, rfl, rfl⟩
  | cons f fs ih =>
    obtain ⟨ts, au⟩ := f
    have hfau := hf (ts, au) (by simp)
    obtain ⟨d1, h1, g1, g2, g3⟩ := c07_lag_step e au ts d au hc hfau ha (hone (ts, au) (by simp)) hstale hts.1
    obtain ⟨d2, h2, g4⟩ := ih (encode e au).1 d1 hc (fun x hx => hf x (by simp [hx]))
      (fun x hx => hone x (by simp [hx])) g3
      (by rw [g1]; exact hfau.1) (by rw [g2]; exact hts.2)
    refine ⟨d2, ?_, ?_⟩
    · simp only [stream, lagExpected, runs.append, h1, h2, g1]
    · rw [g4, g1]
      rfl

/-! `ValidNalu` is what the code needs: its restrictions on the header byte and on start codes each
have a failing frame. -/

def vEnc : Enc := { cfg := { pt := 96, ssrc := 7, max := 12 }, seq := 0 }
def body (k : Nat) : Bytes := (List.range k).map (fun i => UInt8.ofNat (i + 2))

/-- forbidden_zero_bit set + fragmentation: the FU-A indicator drops the bit, the NALU comes back
with another first byte (`e5` → `65`) -/
example : (runDec {} (stamp 0 (encode vEnc [0xe5 :: body 20]).2)).2.getLast? = some (.ok [0x65 :: body 20]) := by
  decide
/-- the same NALU below the limit (single-NALU packet) is transported unchanged -/
example : (runDec {} (stamp 0 (encode vEnc [0xe5 :: body 5]).2)).2 = [.ok [0xe5 :: body 5]] := by decide
/-- `00 00 01` inside a fragmented NALU: `splitNALUs` returns two NALUs -/
example : (runDec {} (stamp 0 (encode vEnc [0x65 :: (body 8 ++ [0, 0, 1] ++ body 9)]).2)).2.getLast?
    = some (.ok [0x65 :: body 8, body 9]) := by decide
/-- … but not inside a NALU that travels in a single-NALU packet: `ValidNalu` is sufficient, not
necessary (the exact condition depends on how the access unit is packetised) -/
example : (runDec {} (stamp 0 (encode vEnc [[0x65, 9, 0, 0, 1, 7]]).2)).2 = [.ok [[0x65, 9, 0, 0, 1, 7]]] := by
  decide
/-- `00 00 00 01` in a single-NALU packet switches Annex-B mode on — for good -/
example : (runDec {} (stamp 0 (encode vEnc [[0x65, 0, 0, 0, 1, 7]]).2)).1.annexBMode = true := by decide
/-- NALU type 28 (FU-A) as a single NALU is read as a fragment -/
example : (runDec {} (stamp 0 (encode vEnc [[0x7c, 0x05, 1, 2]]).2)).2 = [.nonStart] := by decide

def rtEnc : Enc := { cfg := { pt := 96, ssrc := 7, max := 12 }, seq := 65534 }
def rtAU : List Bytes :=
  [[0x67, 0x42, 0x00], [0x68, 0xce], 0x65 :: (List.range 29).map (fun i => UInt8.ofNat (i + 2)), [0x06, 0x05]]

example : ValidCfg rtEnc.cfg ∧ ValidFrame rtAU ∧ Clean {} := by decide
/-- STAP-A, three FU-A, one single-NALU packet: aggregated and fragmented paths in one frame -/
example : (runDec {} (stamp 5 (encode rtEnc rtAU).2)).2 = [.more, .more, .more, .more, .ok rtAU] := by decide
/-- the witness frame of the key-frame corollary has two batches; the stale state is not synced -/
example : 2 ≤ (splitBatches 1 rtEnc.cfg.max [] rtAU).length := by decide
example : ¬ Synced 3000 staleDec ∧ staleDec.annexBMode = false := by unfold Synced; decide

end Rtsp.Codec.H264
