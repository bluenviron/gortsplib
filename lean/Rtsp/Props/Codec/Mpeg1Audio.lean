import Rtsp.Proofs.Codec.Mpeg1Audio
/-
Property theorems for pkg/format/rtpmpeg1audio (RFC 2250 audio), about the model in
`Model/Codec/Mpeg1Audio.lean`.  A frame is a group of MPEG-1/2 audio frames; the encoder aggregates
frames while they fit, splits a group that does not fit into several self-contained packets and
fragments a single oversize frame by byte offset.  Every packet carries the marker (every packet or
fragment run is self-contained); the payload type is the constant 14.
The theorems `c03_*`, `c06_*`, `c07_*`, `c08_*` are this format's part of properties C03, C06, C07, C08
(C03 in the grouping form, as for rtpac3; C06 for the groups on which `Encode` returns packets, which
the valid ones are: `encode_eq`).
-/
namespace Rtsp.Codec.Mpeg1Audio
open Rtsp.Rtp Rtsp.Codec.Audio

/-- the first fragment must carry the five bytes the header parser asks for: `PayloadMaxSize - 4 ≥ 5` -/
def ValidCfg (c : EncCfg) : Prop := 9 ≤ c.max

/-- an MPEG-1/2 audio frame whose header declares its actual length -/
def ValidUnit (f : Bytes) : Prop := (parseHeader f).map (·.frameLen) = some f.length

/-- "Frames must contain at least 1 element", every element a valid frame -/
def ValidFrame (fs : List Bytes) : Prop := fs ≠ [] ∧ ∀ f ∈ fs, ValidUnit f

instance (c : EncCfg) : Decidable (ValidCfg c) := by unfold ValidCfg; infer_instance
instance (f : Bytes) : Decidable (ValidUnit f) := by unfold ValidUnit; infer_instance
instance (fs : List Bytes) : Decidable (ValidFrame fs) := by unfold ValidFrame; infer_instance

theorem validUnit_hdr (f : Bytes) (h : ValidUnit f) : ∃ hd, parseHeader f = some hd ∧ hd.frameLen = f.length := by
  unfold ValidUnit at h
  cases hp : parseHeader f with
  | none => simp [hp] at h
  | some hd => exact ⟨hd, rfl, by simpa [hp] using h⟩

theorem validUnit_len (f : Bytes) (h : ValidUnit f) : 48 ≤ f.length ∧ f.length ≤ maxFrameLen := by
  obtain ⟨hd, h1, h2⟩ := validUnit_hdr f h
  have := parseHeader_bounds f hd h1
  omega

/-- sample count of a batch (0 where a header does not parse; `Encode` fails there) -/
def inc (b : List Bytes) : UInt32 := (sampleSum b).getD 0

def parts (c : EncCfg) (fs : List Bytes) : List (List Bytes) := batches (ops c).fits fs []

/-- the packets of one `Encode` call -/
def pkts (e : Enc) (fs : List Bytes) : List Pkt := writeAllOk (writeBatch e.cfg) inc (parts e.cfg fs) 0 e.seq

theorem encode_some (e : Enc) (fs : List Bytes) (ps : List Pkt) (h : (encode e fs).2 = some ps) :
    ps = pkts e fs ∧ (encode e fs).1.seq = e.seq + UInt16.ofNat ps.length := by
  unfold encode at h ⊢
  exact batchLoop_some (ops e.cfg) _ _ 0 e.seq ps h

theorem sampleSum_valid (b : List Bytes) (hv : ∀ f ∈ b, ValidUnit f) : sampleSum b = some (inc b) := by
  have : (sampleSum b).isSome := by
    induction b with
    | nil => rfl
    | cons f rest ih =>
      obtain ⟨hd, h1, _⟩ := validUnit_hdr f (hv f (by simp))
      have := ih (fun x hx => hv x (by simp [hx]))
      simp only [sampleSum, h1]
      cases h : sampleSum rest with
      | none => simp [h] at this
      | some v => rfl
  unfold inc
  cases h : sampleSum b with
  | none => simp [h] at this
  | some v => rfl

theorem encode_eq (e : Enc) (fs : List Bytes) (hf : ValidFrame fs) :
    encode e fs = ({ e with seq := e.seq + UInt16.ofNat (pkts e fs).length }, some (pkts e fs)) := by
  have h := batchLoop_ok (ops e.cfg) inc fs [] 0 e.seq
    (fun b hb => sampleSum_valid b (batches_valid _ ValidUnit fs hf.1 hf.2 b hb).2)
  unfold encode
  rw [h]
  rfl

theorem pkts_eq (e : Enc) (fs : List Bytes) :
    pkts e fs = writeAllOk (writer e.cfg).write inc (parts e.cfg fs) 0 e.seq := by rw [pkts, writeBatch_eq]

theorem fits_iff (c : EncCfg) (b : List Bytes) (f : Bytes) :
    (ops c).fits b f = true ↔ (writer c).len (b ++ [f]) ≤ (writer c).max := by
  show decide (lenAggregated b (some f) ≤ c.max) = true ↔ lenAggregated (b ++ [f]) none ≤ c.max
  rw [decide_eq_true_eq]
  simp only [lenAggregated, totalLen_append, totalLen_singleton]
  omega

/-- **C06 size clause**: every payload is at most `PayloadMaxSize`, for every group of frames of
any sizes (below, at or above the limit) for which `Encode` returns packets. -/
theorem c06_payload_le (e : Enc) (fs : List Bytes) (hc : ValidCfg e.cfg) :
    ∀ ps, (encode e fs).2 = some ps → ∀ p ∈ ps, p.payload.length ≤ e.cfg.max := by
  intro ps h
  unfold ValidCfg at hc
  rw [(encode_some e fs ps h).1, pkts_eq]
  exact (writer e.cfg).payload_le _ inc (show 4 + 0 + 0 ≤ e.cfg.max by omega) (fits_iff e.cfg)
    (show 0 < e.cfg.max - 4 by omega)
    (fun b => by simp only [writer, lenAggregated, List.length_append, flatten_length, List.length_cons, List.length_nil]; omega)
    (fun f fi pos ch h => by simp only [writer, be16, List.length_append, List.length_cons, List.length_nil] at h ⊢; omega)
    fs 0 e.seq

/-- **C06 numbering, one call**: the packets `Encode` returns carry `seq, seq+1, …` (mod 2^16) and
the encoder continues after them. -/
theorem c06_seq_consecutive (e : Enc) (fs : List Bytes) (ps : List Pkt) (h : (encode e fs).2 = some ps) :
    ps.map (·.seq) = seqFrom e.seq ps.length ∧ (encode e fs).1.seq = e.seq + UInt16.ofNat ps.length := by
  obtain ⟨h1, h2⟩ := encode_some e fs ps h
  refine ⟨?_, h2⟩
  rw [h1, pkts_eq]
  exact (writer e.cfg).seq inc _ 0 e.seq

/-- a series of `Encode` calls through the same encoder, every one on a valid group -/
def encodeMany (e : Enc) : List (List Bytes) → Enc × List Pkt
  | [] => (e, [])
  | f :: fs =>
    let (e2, qs) := encodeMany (encode e f).1 fs
    (e2, pkts e f ++ qs)

/-- **C06 numbering, any series of calls on valid groups, any initial value (incl. wrap)**. -/
theorem c06_seq_many (e : Enc) (fs : List (List Bytes)) (hf : ∀ f ∈ fs, ValidFrame f) :
    (encodeMany e fs).2.map (·.seq) = seqFrom e.seq (encodeMany e fs).2.length ∧
    (encodeMany e fs).1.seq = e.seq + UInt16.ofNat (encodeMany e fs).2.length := by
  -- not `seq_series`: `Encode` fails on an invalid group, so `hf` is needed at every call
  induction fs generalizing e with
  | nil => exact ⟨rfl, (UInt16.add_zero _).symm⟩
  | cons f fs ih =>
    obtain ⟨h1, h2⟩ := c06_seq_consecutive e f (pkts e f) (by rw [encode_eq e f (hf f List.mem_cons_self)])
    obtain ⟨h3, h4⟩ := ih (encode e f).1 fun g hg => hf g (List.mem_cons_of_mem _ hg)
    exact seqFrom_concat h1 h2 h3 h4

/-- **C06 payload type and SSRC**: the format-mandated payload type 14 and the configured SSRC on
every packet. -/
theorem c06_pt_ssrc (e : Enc) (fs : List Bytes) :
    ∀ p ∈ pkts e fs, p.pt = 14 ∧ p.ssrc = e.cfg.ssrc := by
  rw [pkts_eq]; exact (writer e.cfg).pt_ssrc inc _ 0 e.seq

/-- **C06 marker**: every packet of this format carries the marker (each packet, or fragment of a
run addressed by byte offset, is self-contained; the decoder does not read the marker). -/
theorem c06_marker_all (e : Enc) (fs : List Bytes) : ∀ p ∈ pkts e fs, p.marker = true := by
  rw [pkts_eq]
  exact writeAllOk_forall _ _ _ _ _ _ fun b _ ts sq =>
    (writer e.cfg).write_forall _ b ts sq (fun _ => rfl) (fun _ _ _ _ _ _ _ => rfl)

/-- state invariant: while a frame is being reassembled, `size + expected` is the length its header
declared (at most the largest table entry) and some of it is still missing.  No bound on the packet
size is needed: a first fragment is only kept when it is shorter than the declared length. -/
structure Inv (d : Dec) : Prop where
  size_eq  : d.size = totalLen d.fragments
  empty    : d.size = 0 → d.fragments = []
  declared : d.size ≠ 0 → 0 < d.expected ∧ (d.size : Int) + d.expected ≤ maxFrameLen
  nonempty : ∀ f ∈ d.fragments, 0 < f.length

def Clean (d : Dec) : Prop := d.size = 0 ∧ d.fragments = []

instance (d : Dec) : Decidable (Clean d) := by unfold Clean; infer_instance

theorem c08_inv_init : Inv {} := ⟨rfl, fun _ => rfl, by simp, by simp⟩

theorem inv_of_clean (d : Dec) (h1 : d.size = 0) (h2 : d.fragments = []) : Inv d :=
  ⟨by simp [h1, h2], fun _ => h2, fun h => absurd h1 h, by simp [h2]⟩

/-- **C08**: the invariant is preserved by `Decode` on EVERY packet. -/
theorem c08_inv_decode (d : Dec) (p : Pkt) (hi : Inv d) : Inv (decode d p).1 := by
  refine decode_elim (motive := fun r => Inv r.1) d p _ rfl ?_ ?_ ?_ hi ?_ ?_
  · exact fun _ _ => inv_of_clean _ rfl rfl
  · exact fun _ _ => inv_of_clean _ rfl rfl
  · intro hd hp hlt
    have hb := parseHeader_bounds _ hd hp
    refine ⟨by simp, fun hz => ?_, fun _ => ⟨?_, ?_⟩, fun f hf => ?_⟩
    · simp only at hz; omega
    · simp only; omega
    · simp only; omega
    · simp only [List.mem_singleton] at hf; subst hf; omega
  · intro hz hb hpos
    refine ⟨by simp [hi.size_eq], fun h => ?_, fun _ => ⟨hpos, ?_⟩, fun f hf => ?_⟩
    · simp only at h; omega
    · have := (hi.declared hz).2; simp only; omega
    · simp only [List.mem_append, List.mem_singleton] at hf
      rcases hf with hf | rfl
      · exact hi.nonempty f hf
      · exact hb
  · exact fun _ _ => inv_of_clean _ rfl rfl

/-- **C08 bounded memory, number of retained slices**: every retained fragment is non-empty, so the
decoder never holds more slices than retained bytes. -/
theorem c08_fragment_count_le (d : Dec) (hi : Inv d) : d.fragments.length ≤ retained d :=
  length_le_totalLen _ hi.nonempty

/-- **C08 bounded memory**: retained bytes never exceed the largest MPEG-1/2 audio frame (1729
bytes), whatever the packet sizes. -/
theorem c08_retained_le (d : Dec) (hi : Inv d) : retained d ≤ maxFrameLen := by
  unfold retained; rw [← hi.size_eq]
  by_cases hz : d.size = 0
  · omega
  · have := hi.declared hz
    show d.size ≤ 1729
    have h2 : (d.size : Int) + d.expected ≤ ((1729 : Nat) : Int) := this.2
    omega

/-- **C08 output bound**: every returned frame is at most the largest MPEG-1/2 audio frame. -/
theorem c08_out_le (d : Dec) (p : Pkt) (fs : List Bytes) (hi : Inv d)
    (h : (decode d p).2 = .ok fs) : ∀ f ∈ fs, f.length ≤ maxFrameLen := by
  revert h
  refine decode_elim (motive := fun r => r.2 = .ok fs → ∀ f ∈ fs, f.length ≤ maxFrameLen) d p _ rfl
    ?_ ?_ ?_ ?_ ?_ ?_
  · exact fun _ _ h => nomatch h
  · intro out hout h; rw [← DecRes.ok.inj h]; exact hout
  · exact fun _ _ _ h => nomatch h
  · exact fun h => nomatch h
  · exact fun _ _ _ h => nomatch h
  · intro hz hexp h f hf
    simp only [DecRes.ok.injEq] at h
    subst h
    simp only [List.mem_singleton] at hf
    subst hf
    rw [joinFragments_length]
    have := (hi.declared hz).2
    omega

/-- **C08 totality**: the frame-splitting loop never runs out of fuel — with any fuel above the
buffer length the result is the same (every iteration consumes at least 48 bytes). -/
theorem c08_split_total (d : Dec) (f1 f2 : Nat) (buf : Bytes) (fr : List Bytes)
    (h1 : buf.length < f1) (h2 : buf.length < f2) : splitFrames d f1 buf fr = splitFrames d f2 buf fr := by
  induction f1 generalizing f2 buf fr with
  | zero => omega
  | succ f ih =>
    match f2, h2 with
    | f2 + 1, h2 =>
      simp only [splitFrames]
      cases hs : parseHeader buf with
      | none => rfl
      | some hd =>
        have hb := parseHeader_bounds buf hd hs
        simp only
        split
        · split
          · rfl
          · apply ih
            · simp only [List.length_drop]; omega
            · simp only [List.length_drop]; omega
        · rfl

theorem five_le_len (n : Nat) (h : 0 < n) : ¬ (n + 1 + 1 + 1 + 1 < 5) := by omega

theorem decode_off0 (d : Dec) (p : Pkt) (body : Bytes) (h : p.payload = 0 :: 0 :: 0 :: 0 :: body)
    (hb : 0 < body.length) :
    decode d p = splitFrames { d.reset with first := true } (body.length + 1) body [] := by
  simp [decode, h, five_le_len _ hb]

theorem decode_cont (d : Dec) (p : Pkt) (hi lo : UInt8) (body : Bytes) (h : p.payload = 0 :: 0 :: hi :: lo :: body)
    (hb : 0 < body.length) (hoff : hi.toNat * 256 + lo.toNat = d.size) (hz : d.size ≠ 0)
    (hnn : ¬ d.expected - body.length < 0) :
    decode d p =
      if d.expected - body.length > 0 then
        ({ d with fragments := d.fragments ++ [body], size := d.size + body.length,
                  expected := d.expected - body.length }, .more)
      else
        ({ d with fragments := [], size := 0, expected := d.expected - body.length },
         .ok [joinFragments (d.fragments ++ [body]) (d.size + body.length)]) := by
  simp only [gt_iff_lt, Int.sub_pos] at hnn ⊢
  simp [decode, h, five_le_len _ hb, hoff, hz, hnn, Dec.reset]

theorem splitFrames_first (d : Dec) (fuel : Nat) (buf : Bytes) (hd : Hdr) (hp : parseHeader buf = some hd)
    (hlt : buf.length < hd.frameLen) :
    splitFrames d (fuel + 1) buf [] =
      ({ d with fragments := d.fragments ++ [buf], size := buf.length,
                expected := (hd.frameLen : Int) - buf.length }, .more) := by
  have : ¬ buf.length ≥ hd.frameLen := by omega
  simp [splitFrames, hp, this]

theorem decode_whole (d : Dec) (p : Pkt) (b : List Bytes) (h : p.payload = 0 :: 0 :: 0 :: 0 :: b.flatten)
    (hne : b ≠ []) (hv : ∀ f ∈ b, ValidUnit f) : decode d p = ({ d.reset with first := true }, .ok b) := by
  have hflat : 0 < b.flatten.length := by
    cases b with
    | nil => exact absurd rfl hne
    | cons f rest =>
      have := validUnit_len f (hv f (by simp))
      simp only [List.flatten_cons, List.length_append]; omega
  rw [decode_off0 d p _ h hflat, splitFrames_valid _ b [] _ hne (fun f hf => validUnit_hdr f (hv f hf)) (by omega)]
  rfl

/-- the decoder holds the bytes `pre` of a frame and waits for the bytes `rest` at offset `|pre|`
(the sequence number and the packet count `run_unit` threads through are not used: this decoder keeps none) -/
def Holds (d : Dec) (pre : Bytes) (_ : UInt16) (_ : Nat) (rest : Bytes) : Prop :=
  d.fragments.flatten = pre ∧ d.size = pre.length ∧ 0 < pre.length ∧
  pre.length + rest.length ≤ maxFrameLen ∧ d.expected = rest.length

theorem runs : Runs decode runDec := ⟨fun _ => rfl, fun _ _ _ => rfl⟩

theorem run_batch (c : EncCfg) (hc : ValidCfg c) (b : List Bytes) (hne : b ≠ [])
    (hv : ∀ f ∈ b, ValidUnit f) (ts : UInt32) (sq : UInt16) (d : Dec) :
    ∃ d' n, runDec d ((writer c).write b ts sq) = (d', List.replicate n .more ++ [.ok b]) ∧ Clean d' := by
  unfold ValidCfg at hc
  rcases (writer c).write_cases b ts sq with ⟨h, _⟩ | ⟨f, rfl, hge, h⟩ <;> rw [h]
  · refine ⟨{ d.reset with first := true }, 0, ?_, rfl, rfl⟩
    simp only [runDec, runDecGen, decode_whole d ((writer c).agg b ts sq) b rfl hne hv]
    rfl
  · obtain ⟨hdr, hvf, hfl⟩ := validUnit_hdr f (hv f (by simp))
    have hfb := parseHeader_bounds f hdr hvf
    rw [hfl] at hfb
    have hge : ¬ 4 + f.length + 0 < c.max := by simpa [writer, lenAggregated] using hge
    refine run_packetCount _ (c.max - 4) (by omega) f (by omega) d sq [f] Clean fun k hlo _ =>
      run_unit runs _ (c.max - 4) Holds (fun w d' r => r = .ok [w] ∧ Clean d') f d sq k hlo ?_ ?_ ?_ ?_
    · -- the frame is exactly as long as one fragment: a single packet with offset 0
      exact fun _ => ⟨_, _, decode_whole d _ [f] (by simp [Writer.frag, writer, be16]) (by simp) hv, rfl, rfl, rfl⟩
    · intro _ ch rest _ hf hch hr
      have hlen := congrArg List.length hf
      rw [List.length_append] at hlen
      refine ⟨_, (decode_off0 d _ ch (by simp [Writer.frag, writer, be16]) (by omega)).trans
        (splitFrames_first _ ch.length ch hdr ?_ (by omega)), by simp [Dec.reset],
        rfl, by omega, by omega, by simp only; omega⟩
      rw [← hvf, ← hf, parseHeader_append ch rest (by omega)]
    · intro d pre sq _ ch rest ⟨h2, h3, h4, h5, h6⟩ hch hr
      rw [List.length_append] at h5 h6
      have hm : maxFrameLen = 1729 := rfl
      exact ⟨_, (decode_cont d _ _ _ ch rfl (by omega) (by rw [h3]; exact be16_read _ (by omega) []) (by omega)
        (by omega)).trans (if_pos (by omega)), by simp [h2], by simp [h3], by simp; omega,
        by simp; omega, by simp only; omega⟩
    · intro d pre sq rest ⟨h2, h3, h4, h5, h6⟩ hr
      have hm : maxFrameLen = 1729 := rfl
      exact ⟨_, _, (decode_cont d _ _ _ rest rfl hr (by rw [h3]; exact be16_read _ (by omega) []) (by omega)
        (by omega)).trans (if_neg (by omega)),
        by rw [joinFragments_snoc _ _ _ (by rw [h3, ← h2, flatten_length]), h2], rfl, rfl⟩

/-- **C03 round trip, grouping form**: for every valid configuration, every valid group and ANY
decoder state, `Encode` succeeds; the decoder answers every packet with a frame or "more packets
needed"; the returned frames are exactly the batches of the group (the pieces the encoder split it
into), so their concatenation is the group — same frames, same bytes, same order; and the decoder
is clean afterwards. -/
theorem c03_roundtrip_grouping (e : Enc) (fs : List Bytes) (d : Dec)
    (hc : ValidCfg e.cfg) (hf : ValidFrame fs) :
    (encode e fs).2 = some (pkts e fs) ∧
    ∃ d' outs, runDec d (pkts e fs) = (d', outs) ∧ Clean d' ∧ OnlyOkMore outs ∧
      okFrames outs = parts e.cfg fs ∧ (okFrames outs).flatten = fs := by
  refine ⟨by rw [encode_eq e fs hf], ?_⟩
  rw [pkts_eq]
  exact run_group runs Clean _ _ inc ValidUnit fs hf.1 hf.2 0 e.seq d (run_batch e.cfg hc)

/-- the group fits one packet: header and frames within the limit -/
def Fits (c : EncCfg) (fs : List Bytes) : Prop := lenAggregated fs none ≤ c.max

/-- a group that fits is sent as ONE packet, and that packet returns the whole group -/
theorem c03_fits_single (e : Enc) (fs : List Bytes) (d : Dec) (hc : ValidCfg e.cfg) (hf : ValidFrame fs)
    (hfit : Fits e.cfg fs) :
    ∃ p d', pkts e fs = [p] ∧ p.ts = 0 ∧ runDec d [p] = (d', [.ok fs]) ∧ Clean d' := by
  have hr := run_batch e.cfg hc fs hf.1 hf.2 0 e.seq d
  unfold ValidCfg at hc
  rw [pkts_eq]
  obtain ⟨q, d', h1, h2, _, h4, hcl⟩ := (writer e.cfg).fits_single _ inc runs Clean fs 0 e.seq d (fits_iff e.cfg)
    (fun pre au post => by
      simp only [writer, lenAggregated]; rw [totalLen_prefix, totalLen_prefix, totalLen_nil]; omega)
    hfit (fun f hfs hge => by
      -- a "fragmented" frame of exactly `max - 4` bytes
      subst hfs
      unfold Fits at hfit
      simp only [writer, lenAggregated, totalLen_singleton] at hge hfit ⊢
      omega) hr
  exact ⟨q, d', h1, h2, h4, hcl⟩

/-- **timestamps**: the packets of piece `i` (batch `i`) all carry the relative timestamp that is
the sample count (576 or 1152 per frame, from the frame headers; layer 1 is rejected) of the batches
before it. -/
theorem c03_timestamps (e : Enc) (fs : List Bytes) :
    (piecePkts (writeBatch e.cfg) inc (parts e.cfg fs) 0 e.seq).flatten = pkts e fs ∧
    AllTs (piecePkts (writeBatch e.cfg) inc (parts e.cfg fs) 0 e.seq) (pieceTs inc (parts e.cfg fs) 0) :=
  ⟨piecePkts_flatten _ _ _ _ _, by rw [writeBatch_eq]; exact (writer e.cfg).piece_ts inc _ 0 e.seq⟩

def encodeEach (e : Enc) : List (List Bytes) → List (List Pkt)
  | [] => []
  | f :: fs => pkts e f :: encodeEach (encode e f).1 fs

def runFrames (d : Dec) : List (List Pkt) → List (List (DecRes (List Bytes)))
  | [] => []
  | ps :: rest => (runDec d ps).2 :: runFrames (runDec d ps).1 rest

/-- **C03, consecutive groups** through the same encoder / decoder pair, from any decoder state. -/
theorem c03_roundtrip_many (e : Enc) (gs : List (List Bytes)) (d : Dec) (hc : ValidCfg e.cfg)
    (hf : ∀ g ∈ gs, ValidFrame g) :
    (runFrames d (encodeEach e gs)).map (fun outs => (okFrames outs).flatten) = gs ∧
    ∀ outs ∈ runFrames d (encodeEach e gs), OnlyOkMore outs := by
  induction gs generalizing e d with
  | nil => exact ⟨rfl, by simp [runFrames, encodeEach]⟩
  | cons g gs ih =>
    obtain ⟨_, d', outs, h1, _, h3, _, h5⟩ := c03_roundtrip_grouping e g d hc (hf g (by simp))
    obtain ⟨ih1, ih2⟩ := ih (encode e g).1 d' (by rw [encode_eq e g (hf g (by simp))]; exact hc)
      (fun x hx => hf x (by simp [hx]))
    simp only [encodeEach, runFrames, h1, List.map_cons]
    exact ⟨by rw [h5, ih1], List.forall_mem_cons.mpr ⟨h3, ih2⟩⟩

/-- **C07 at most once**: whenever frames are returned the fragment buffer is empty afterwards —
nothing can be returned twice. -/
theorem c07_ok_empties (d : Dec) (p : Pkt) (fs : List Bytes) (h : (decode d p).2 = .ok fs) :
    Clean (decode d p).1 := by
  revert h
  refine decode_elim (motive := fun r => r.2 = .ok fs → Clean r.1) d p _ rfl ?_ ?_ ?_ ?_ ?_ ?_
  · exact fun _ _ h => nomatch h
  · exact fun _ _ _ => ⟨rfl, rfl⟩
  · exact fun _ _ _ h => nomatch h
  · exact fun h => nomatch h
  · exact fun _ _ _ h => nomatch h
  · exact fun _ _ _ => ⟨rfl, rfl⟩

/-- **C07 flush**: from ANY state, the packets of one intact valid group, in order, leave the
decoder clean (every piece starts with an offset-0 packet, which resets the fragment state). -/
theorem c07_flush (e : Enc) (fs : List Bytes) (d : Dec) (hc : ValidCfg e.cfg) (hf : ValidFrame fs) :
    Clean (runDec d (pkts e fs)).1 := by
  obtain ⟨_, d', outs, h1, h2, _⟩ := c03_roundtrip_grouping e fs d hc hf
  rw [h1]; exact h2

/-- **C07 resynchronisation**: after ANY packet history `h`, an intact valid group `g` is returned
exactly — nothing but "more packets needed" and the frames of `g`, once, in order.  For this format
the predecessor need not even be intact. -/
theorem c07_resync (h : List Pkt) (e : Enc) (g : List Bytes) (hc : ValidCfg e.cfg) (hg : ValidFrame g) :
    ∃ d' outs, runDec (runDec {} h).1 (pkts e g) = (d', outs) ∧ Clean d' ∧ OnlyOkMore outs ∧
      (okFrames outs).flatten = g := by
  obtain ⟨_, d', outs, h1, h2, h3, _, h5⟩ := c03_roundtrip_grouping e g (runDec {} h).1 hc hg
  exact ⟨d', outs, h1, h2, h3, h5⟩

/-- the smallest frame: MPEG-2 layer 3, 8 kbit/s at 24 kHz → 144·8000/24000 = 48 bytes, 576 samples -/
def exUnit : Bytes := [0xFF, 0xF3, 0x14, 0xC0] ++ List.replicate 44 7
def exEnc (max : Nat) : Enc := { cfg := { pt := 14, ssrc := 7, max := max }, seq := 65535 }

set_option maxRecDepth 8000 in
example : ValidCfg (exEnc 30).cfg ∧ ValidFrame [exUnit, exUnit, exUnit] := by decide
-- limit 30: the frame is fragmented (26 + 22 bytes, offsets 0 and 26) across a sequence-number wrap
set_option maxRecDepth 8000 in
example : (pkts (exEnc 30) [exUnit]).map (fun p => (p.seq, p.marker, p.ts, p.payload.take 4, p.payload.length)) =
    [(65535, true, 0, [0, 0, 0, 0], 30), (0, true, 0, [0, 0, 0, 26], 26)] := by decide
-- limit 100: two frames aggregate, the third goes into a second packet 1152 samples later
set_option maxRecDepth 8000 in
example : (pkts (exEnc 100) [exUnit, exUnit, exUnit]).map (fun p => (p.seq, p.ts, p.payload.length)) =
    [(65535, 0, 100), (0, 1152, 52)] := by decide
set_option maxRecDepth 8000 in
example : (runDec {} (pkts (exEnc 30) [exUnit])).2 = [.more, .ok [exUnit]] := by decide
set_option maxRecDepth 8000 in
example : Fits (exEnc 100).cfg [exUnit, exUnit] := by unfold Fits; decide
/-- a dirty state (mid-frame) satisfies the invariant -/
example : Inv { first := true, fragments := [[1, 2], [3]], size := 3, expected := 45 } :=
  ⟨by decide, by decide, by decide, by decide⟩

end Rtsp.Codec.Mpeg1Audio
