import Rtsp.Proofs.Codec.H265Rt
/-
Property theorems for pkg/format/rtph265 about the model in `Model/Codec/H265.lean`: this format's
part of properties C03 (round trip from a clean decoder) and C07 (resynchronisation), both in full.
The H265 decoder has no timestamp flush: the marker alone ends an access unit, so the flush theorem
holds from ANY state at full strength.
-/
namespace Rtsp.Codec.H265
open Rtsp.Rtp Rtsp.Codec.H26x

/-- nothing pending: no partial NALU, no buffered access unit -/
def Clean (d : Dec) : Prop :=
  d.fragments = [] ∧ d.fragmentsSize = 0 ∧ d.frameBuffer = [] ∧ d.frameBufferLen = 0 ∧
  d.frameBufferSize = 0

instance (d : Dec) : Decidable (Clean d) := by unfold Clean; infer_instance

theorem goodBatches (c : EncCfg) (au : List Bytes) (hf : ValidFrame au) :
    ∀ b ∈ splitBatches 2 c.max [] au, Good c.max b :=
  splitBatches_good ValidNalu 2 c.max maxAU au hf.1 hf.2.2.2 hf.2.2.1

theorem Collect.handed {acc : List Bytes} {d d1 : Dec} (hc : Collect acc d) (h : Handed d d1) :
    Collect acc d1 := by
  have hfb := h.2.2
  simp only [fbPart, Prod.mk.injEq] at hfb
  exact ⟨hfb.1 ▸ hc.1, hfb.2.1 ▸ hc.2, hfb.2.2 ▸ hc.3⟩

/-- for a valid frame the encoder succeeds and its packets are the numbered items of the batches -/
theorem c03_encode_eq (e : Enc) (au : List Bytes) (hf : ValidFrame au) :
    (encode e au).2 = some (number e.cfg e.seq (auItems e.cfg.max au)) ∧
    (encode e au).1 = { e with seq := e.seq + UInt16.ofNat (auItems e.cfg.max au).length } := by
  rw [encode_eq e au (fun n hn => (hf.2.2.2 n hn).1)]
  exact ⟨rfl, rfl⟩

/-- the packets of a valid frame (`[]` cannot occur, see `c03_encode_eq`) -/
def pkts (e : Enc) (au : List Bytes) : List Pkt := ((encode e au).2).getD []

theorem pkts_eq (e : Enc) (au : List Bytes) (hf : ValidFrame au) :
    pkts e au = number e.cfg e.seq (auItems e.cfg.max au) := by
  rw [pkts, (c03_encode_eq e au hf).1]
  rfl

theorem batches_run (c : EncCfg) (ts : UInt32) (hc : ValidCfg c) (bs : List (List Bytes)) (hne : bs ≠ [])
    (hb : ∀ b ∈ bs, Good c.max b) (acc : List Bytes) (d : Dec) (sq : UInt16)
    (hcol : Collect acc d)
    (hl : acc.length + bs.flatten.length ≤ maxNALUs) (hs : totalLen acc + totalLen bs.flatten ≤ maxAU) :
    ∃ d', runDec d (stamp ts (number c sq (itemsOf (wb c.max) bs))) =
        (d', List.replicate ((itemsOf (wb c.max) bs).length - 1) .more ++ [.ok (acc ++ bs.flatten)]) ∧
      Clean d' := by
  fun_induction itemsOf (wb c.max) bs generalizing acc d sq with
  | case1 => exact absurd rfl hne
  | case2 b =>
    obtain ⟨d1, hd1, hrun⟩ := batch_run c ts hc b true d sq (hb b (List.mem_singleton_self b))
    rw [List.flatten_singleton] at hl hs ⊢
    obtain ⟨r1, r2⟩ := addNALUs_collect d1 b acc true (hcol.handed hd1) hl hs
    have hfp := (addNALUs_frag_marker d1 b true).1
    simp only [fragPart, Prod.mk.injEq] at hfp
    exact ⟨_, by rw [hrun, r1]; rfl, hfp.1.trans hd1.1, hfp.2.1.trans hd1.2.1, r2.1, r2.2, r2.3⟩
  | case3 b bs hbs ih =>
    obtain ⟨d1, hd1, hrun⟩ := batch_run c ts hc b false d sq (hb b List.mem_cons_self)
    rw [List.flatten_cons] at hl hs
    rw [List.length_append] at hl
    rw [totalLen_append] at hs
    obtain ⟨r1, r2⟩ := addNALUs_collect d1 b acc false (hcol.handed hd1) (by omega) (by omega)
    obtain ⟨d', hrun2, hclean⟩ := ih hbs (fun x hx => hb x (List.mem_cons_of_mem _ hx)) (acc ++ b)
      (addNALUs d1 b false).1 (sq + UInt16.ofNat (wb c.max b false).length) r2
      (by rw [List.length_append]; omega) (by rw [totalLen_append]; omega)
    refine ⟨d', ?_, hclean⟩
    rw [number_append, stamp_append, runs.append, hrun, hrun2, r1, List.length_append, List.flatten_cons,
      List.append_assoc]
    exact congrArg _ (replicate_more_append _ _ (length_pos_of_markers (wb_markers _ b false hc.1))
      (length_pos_of_markers (itemsOf_markers hbs fun b _ m => wb_markers _ b m hc.1)))

/-- **C03 round trip**: for every valid configuration, every valid access unit, every timestamp
and every clean decoder, the decoder answers "more packets needed" on all packets but the last,
returns exactly the access unit at the last one, and is clean again afterwards. -/
theorem c03_roundtrip (e : Enc) (au : List Bytes) (ts : UInt32) (d : Dec)
    (hc : ValidCfg e.cfg) (hf : ValidFrame au) (hd : Clean d) :
    ∃ d', runDec d (stamp ts (pkts e au))
        = (d', List.replicate ((pkts e au).length - 1) .more ++ [.ok au]) ∧ Clean d' := by
  obtain ⟨c1, c2, c3, c4, c5⟩ := hd
  have hflat := splitBatches_flatten 2 e.cfg.max [] au
  simp only [List.nil_append] at hflat
  obtain ⟨d', hrun, hclean⟩ := batches_run e.cfg ts hc (splitBatches 2 e.cfg.max [] au)
    (splitBatches_ne_nil _ _ _ _) (goodBatches e.cfg au hf) [] d e.seq
    ⟨c3, c4, c5⟩
    (by rw [hflat]; simpa using hf.2.1) (by rw [hflat]; simpa using hf.2.2.1)
  refine ⟨d', ?_, hclean⟩
  rw [pkts_eq e au hf, number_length, auItems, hrun, hflat]
  simp

/-- a stream: consecutive access units through the same encoder, each with its own timestamp -/
def stream (e : Enc) : List (UInt32 × List Bytes) → List Pkt
  | [] => []
  | (ts, au) :: fs => stamp ts (pkts e au) ++ stream (encode e au).1 fs

/-- what the decoder is expected to answer on `stream e fs` -/
def expected (e : Enc) : List (UInt32 × List Bytes) → List (DecRes (List Bytes))
  | [] => []
  | (_, au) :: fs =>
    List.replicate ((pkts e au).length - 1) .more ++ [.ok au] ++ expected (encode e au).1 fs

/-- **C03, consecutive frames** through the same encoder / decoder pair. -/
theorem c03_roundtrip_many (e : Enc) (fs : List (UInt32 × List Bytes)) (d : Dec)
    (hc : ValidCfg e.cfg) (hf : ∀ f ∈ fs, ValidFrame f.2) (hd : Clean d) :
    ∃ d', runDec d (stream e fs) = (d', expected e fs) ∧ Clean d' := by
  induction fs generalizing e d with
  | nil => exact ⟨d, rfl, hd⟩
  | cons f fs ih =>
    obtain ⟨ts, au⟩ := f
    obtain ⟨d1, h1, hc1⟩ := c03_roundtrip e au ts d hc (hf (ts, au) (by simp)) hd
    obtain ⟨d2, h2, hc2⟩ := ih (encode e au).1 d1 hc (fun x hx => hf x (by simp [hx])) hc1
    refine ⟨d2, ?_, hc2⟩
    simp only [stream, expected, runs.append, h1, h2]

theorem flush_run (c : EncCfg) (ts : UInt32) (hc : ValidCfg c) (bs : List (List Bytes)) (hne : bs ≠ [])
    (hb : ∀ b ∈ bs, Good c.max b) (d : Dec) (sq : UInt16) :
    Clean (runDec d (stamp ts (number c sq (itemsOf (wb c.max) bs)))).1 := by
  fun_induction itemsOf (wb c.max) bs generalizing d sq with
  | case1 => exact absurd rfl hne
  | case2 b =>
    obtain ⟨d1, ⟨f1, f2, _⟩, hrun⟩ := batch_run c ts hc b true d sq (hb b (List.mem_singleton_self b))
    obtain ⟨hfp, hm⟩ := addNALUs_frag_marker d1 b true
    simp only [fragPart, Prod.mk.injEq] at hfp
    rw [hrun]
    exact ⟨hfp.1.trans f1, hfp.2.1.trans f2, hm rfl⟩
  | case3 b bs hbs ih =>
    rw [number_append, stamp_append, runs.append]
    exact ih hbs (fun x hx => hb x (List.mem_cons_of_mem _ hx)) _ _

/-- **C07 flush**: from ANY state (no invariant needed — whatever was lost, duplicated or reordered
before), the packets of one intact valid frame, in order, leave the decoder clean. -/
theorem c07_flush (e : Enc) (au : List Bytes) (ts : UInt32) (d : Dec)
    (hc : ValidCfg e.cfg) (hf : ValidFrame au) :
    Clean (runDec d (stamp ts (pkts e au))).1 := by
  rw [pkts_eq e au hf]
  exact flush_run e.cfg ts hc _ (splitBatches_ne_nil _ _ _ _) (goodBatches e.cfg au hf) d e.seq

/-- **C07 resynchronisation**: after ANY packet history `h` (arbitrary packets: this subsumes every
loss / duplication / reordering pattern applied to any stream), an intact frame `f` followed by an
intact frame `g` ends with exactly `g`, returned at `g`'s last packet and not before. -/
theorem c07_resync (h : List Pkt) (e : Enc) (f g : List Bytes) (tf tg : UInt32)
    (hc : ValidCfg e.cfg) (hf : ValidFrame f) (hg : ValidFrame g) :
    let d0 := (runDec {} h).1
    let e1 := (encode e f).1
    ∃ d', runDec (runDec d0 (stamp tf (pkts e f))).1 (stamp tg (pkts e1 g))
        = (d', List.replicate ((pkts e1 g).length - 1) .more ++ [.ok g]) ∧ Clean d' := by
  intro d0 e1
  have hclean := c07_flush e f tf d0 hc hf
  exact c03_roundtrip e1 g tg _ hc hg hclean

/-- **C07, where an access unit can come out**: only at a packet that carries the marker, and the
buffer is empty afterwards. -/
theorem c07_ok_only_at_marker (d : Dec) (p : Pkt) (f : List Bytes) (h : (decode d p).2 = .ok f) :
    p.marker = true ∧ (decode d p).1.frameBuffer = [] := by
  unfold decode at h ⊢
  split at h
  · simp at h
  · simp at h
  · simp at h
  · rename_i d1 ns heq
    unfold addNALUs at h ⊢
    split at h
    · simp at h
    · rename_i h1
      dsimp only at h ⊢
      split at h
      · simp at h
      · rename_i h2
        split at h
        · simp at h
        · rename_i hm
          simp only [h1, h2, hm, if_false]
          exact ⟨by simpa using hm, by simp [Dec.resetFrameBuffer]⟩

/-! `ValidNalu` is what the code needs: each restriction has a failing frame. -/

def vEnc : Enc := { cfg := { pt := 96, ssrc := 7, max := 14 }, seq := 0 }
def body (k : Nat) : Bytes := (List.range k).map (fun i => UInt8.ofNat (i + 2))

/-- unlike H264, the forbidden_zero_bit survives fragmentation (the FU payload header keeps it) -/
example : (runDec {} (stamp 0 (pkts vEnc [0xa6 :: 0x01 :: body 24]))).2.getLast? = some (.ok [0xa6 :: 0x01 :: body 24]) := by
  decide
/-- `00 00 01` inside a fragmented NALU: `splitNALUs` returns two NALUs -/
example : (runDec {} (stamp 0 (pkts vEnc [0x26 :: 0x01 :: (body 8 ++ [0, 0, 1] ++ body 12)]))).2.getLast?
    = some (.ok [0x26 :: 0x01 :: body 8, body 12]) := by decide
/-- … but not inside a NALU that travels in a single-NALU packet -/
example : (runDec {} (stamp 0 (pkts vEnc [[0x26, 1, 0, 0, 1, 7]]))).2 = [.ok [[0x26, 1, 0, 0, 1, 7]]] := by decide
/-- NALU type 49 (FU) as a single NALU is read as a fragment; type 50 (PACI) is refused -/
example : (runDec {} (stamp 0 (pkts vEnc [[0x62, 0x01, 0x05, 1]]))).2 = [.nonStart] := by decide
example : (runDec {} (stamp 0 (pkts vEnc [[0x64, 0x01, 0x05, 1]]))).2 = [.err] := by decide
/-- a 1-byte NALU next to another one: the encoder refuses the access unit -/
example : (encode vEnc [[0x40, 0x01], [0x42]]).2 = none := by decide

def rtEnc : Enc := { cfg := { pt := 96, ssrc := 7, max := 14 }, seq := 65534 }
def rtAU : List Bytes :=
  [[0x40, 0x01, 0x0c], [0x42, 0x01, 0x01], 0x26 :: 0x01 :: (List.range 28).map (fun i => UInt8.ofNat (i + 2)),
   [0x4e, 0x01, 0x05]]

example : ValidCfg rtEnc.cfg ∧ ValidFrame rtAU ∧ Clean {} := by decide
/-- AP, three FU, one single-NALU packet: aggregated and fragmented paths in one frame -/
example : (runDec {} (stamp 5 (pkts rtEnc rtAU))).2 = [.more, .more, .more, .more, .ok rtAU] := by decide
/-- a dirty state (half a NALU, two stale NALUs) is flushed by the frame -/
example : Clean (runDec { fragments := [[0x26, 1], [1, 2, 3]], fragmentsSize := 5, fragmentNextSeqNum := 77,
                          frameBuffer := [[0x40, 1], [0x42, 1, 2]], frameBufferLen := 2, frameBufferSize := 5 }
                  (stamp 5 (pkts rtEnc rtAU))).1 := by decide

end Rtsp.Codec.H265
