import Rtsp.Props.Codec.Mpeg1Video
/-
Round trip (C03) and resynchronisation (C07) for pkg/format/rtpmpeg1video (model:
`Model/Codec/Mpeg1Video.lean`): the decoder is run over the packets the encoder loop writes, batch
by batch.
-/
namespace Rtsp.Codec.Mpeg1Video
open Rtsp.Rtp
open Rtsp.Codec.Audio (batches batches_ne_nil batches_flatten batches_mem)

theorem byte0_bits (h : Hdr) (hk : HOk h) :
    (h.tr >>> 8).toUInt8 >>> 3 = 0 ∧ ((h.tr >>> 8).toUInt8 >>> 2) &&& 1 = 0 := by
  have key : ∀ n : Fin 4, UInt8.ofNat n >>> 3 = 0 ∧ (UInt8.ofNat n >>> 2) &&& 1 = 0 := by decide
  have hlt : ((h.tr >>> 8).toUInt8).toNat < 4 := by
    have := hk.tr
    rw [UInt16.toNat_toUInt8, UInt16.toNat_shiftRight, show (8 : UInt16).toNat % 16 = 8 from rfl,
      Nat.shiftRight_eq_div_pow]
    omega
  have := key ⟨_, hlt⟩
  rwa [UInt8.ofNat_toNat] at this

theorem byte2_bits (h : Hdr) (hk : HOk h) (bos start fin : Bool) :
    let y := (b2u bos <<< 5) ||| (b2u start <<< 4) ||| (b2u fin <<< 3) ||| h.ft
    y >>> 7 = 0 ∧ (y >>> 6) &&& 1 = 0 ∧ ((y >>> 4) &&& 1 == 1) = start ∧ ((y >>> 3) &&& 1 == 1) = fin := by
  have key : ∀ (n : Fin 8) (bos start fin : Bool),
      let y := (b2u bos <<< 5) ||| (b2u start <<< 4) ||| (b2u fin <<< 3) ||| UInt8.ofNat n
      y >>> 7 = 0 ∧ (y >>> 6) &&& 1 = 0 ∧ ((y >>> 4) &&& 1 == 1) = start ∧ ((y >>> 3) &&& 1 == 1) = fin := by
    decide
  have := key ⟨_, hk.ft⟩ bos start fin
  rwa [UInt8.ofNat_toNat] at this

theorem decodeSlice_hdr (c : EncCfg) (d : Dec) (h : Hdr) (hk : HOk h) (bos start fin : Bool) (sq : UInt16)
    (m : Bool) (body : Bytes) :
    decodeSlice d (pk c sq m (hdrBytes h bos start fin ++ body)) = sliceTail d sq start fin body := by
  obtain ⟨b1, b2⟩ := byte0_bits h hk
  obtain ⟨b3, b4, b5, b6⟩ := byte2_bits h hk bos start fin
  rw [decodeSlice_eq, if_neg (by simp [pk]),
    show (pk c sq m (hdrBytes h bos start fin ++ body)).payload.getD 0 0 = (h.tr >>> 8).toUInt8 from rfl,
    show (pk c sq m (hdrBytes h bos start fin ++ body)).payload.getD 2 0
      = (b2u bos <<< 5) ||| (b2u start <<< 4) ||| (b2u fin <<< 3) ||| h.ft from rfl,
    if_neg (fun hn => hn b1), if_neg (fun hn => hn b2), if_neg (fun hn => hn b3), if_neg (fun hn => hn b4), b5, b6]
  rfl

theorem decode_pk (c : EncCfg) (d : Dec) (h : Hdr) (hk : HOk h) (bos start fin : Bool) (sq : UInt16)
    (m : Bool) (body : Bytes) :
    decode d (pk c sq m (hdrBytes h bos start fin ++ body)) =
      match sliceTail d sq start fin body with
      | (d1, .ok s) => deliver d1 s m
      | (d1, .error e) => (d1, e.toRes) := by
  rw [decode_eq, decodeSlice_hdr c d h hk]
  generalize sliceTail d sq start fin body = r
  obtain ⟨d1, e | s⟩ := r <;> rfl

theorem decode_whole (c : EncCfg) (d : Dec) (h : Hdr) (hk : HOk h) (bos : Bool) (sq : UInt16) (m : Bool)
    (body : Bytes) (hb : body.length ≠ 0) :
    decode d (pk c sq m (hdrBytes h bos true true ++ body)) = deliver d.resetFragments body m := by
  rw [decode_pk c d h hk, sliceTail, if_pos ⟨rfl, rfl⟩, if_neg hb]

theorem decode_start (c : EncCfg) (d : Dec) (h : Hdr) (hk : HOk h) (bos : Bool) (sq : UInt16) (m : Bool)
    (body : Bytes) :
    decode d (pk c sq m (hdrBytes h bos true false ++ body))
      = ({ d with fragments := [body], fragSize := body.length, nextSeq := sq + 1 }, .more) := by
  rw [decode_pk c d h hk, sliceTail, if_neg (fun h => Bool.false_ne_true h.2), if_pos rfl]
  rfl

theorem decode_cont (c : EncCfg) (d : Dec) (h : Hdr) (hk : HOk h) (sq : UInt16) (m fin : Bool) (body : Bytes)
    (h0 : d.fragSize ≠ 0) (hs : d.nextSeq = sq) (hb : body.length ≠ 0)
    (hsz : ¬ d.sliceSize + (d.fragSize + body.length) > maxFrameSize) :
    decode d (pk c sq m (hdrBytes h false false fin ++ body)) =
      if fin = true then
        deliver (Dec.resetFragments { d with fragSize := d.fragSize + body.length, fragments := d.fragments ++ [body] })
          (joinFragments (d.fragments ++ [body]) (d.fragSize + body.length)) m
      else ({ d with fragSize := d.fragSize + body.length, fragments := d.fragments ++ [body],
                     nextSeq := d.nextSeq + 1 }, .more) := by
  rw [decode_pk c d h hk, sliceTail, if_neg (fun h => Bool.false_ne_true h.1), if_neg Bool.false_ne_true,
    if_neg h0, if_neg (fun h => h hs.symm), if_neg hb, if_neg hsz]
  cases fin <;> rfl

theorem decode_cont_over (c : EncCfg) (d : Dec) (h : Hdr) (hk : HOk h) (sq : UInt16) (m fin : Bool) (body : Bytes)
    (h0 : d.fragSize ≠ 0) (hs : d.nextSeq = sq) (hb : body.length ≠ 0)
    (hsz : d.sliceSize + (d.fragSize + body.length) > maxFrameSize) :
    decode d (pk c sq m (hdrBytes h false false fin ++ body))
      = ({ d.resetFragments with sliceBuf := [], sliceSize := 0 }, .err) := by
  rw [decode_pk c d h hk, sliceTail, if_neg (fun h => Bool.false_ne_true h.1), if_neg Bool.false_ne_true,
    if_neg h0, if_neg (fun h => h hs.symm), if_neg hb, if_pos hsz]
  rfl

theorem decode_cont_idle (c : EncCfg) (d : Dec) (h : Hdr) (hk : HOk h) (sq : UInt16) (m fin : Bool) (body : Bytes)
    (h0 : d.fragSize = 0) :
    decode d (pk c sq m (hdrBytes h false false fin ++ body)) = (d, .nonStart) := by
  rw [decode_pk c d h hk, sliceTail, if_neg (fun h => Bool.false_ne_true h.1), if_neg Bool.false_ne_true,
    if_pos h0]
  rfl

theorem runs : Runs decode runDec := ⟨fun _ => rfl, fun _ _ _ => rfl⟩

theorem setLast_frags (c : EncCfg) (h : Hdr) (bos m : Bool) (n : Nat) (first : Bool) (sq : UInt16) (pos : Nat)
    (rest : Bytes) :
    setLast m (frags (fragPkt c h bos false) (c.max - 4) (n + 1) first sq pos rest)
      = frags (fragPkt c h bos m) (c.max - 4) (n + 1) first sq pos rest := by
  induction n generalizing first sq pos rest with
  | zero => rfl
  | succ n ih =>
    have hne : frags (fragPkt c h bos false) (c.max - 4) (n + 1) false (sq + 1)
        (pos + (rest.take (c.max - 4)).length) (rest.drop (c.max - 4)) ≠ [] := fun e => by
      have := congrArg List.length e; rw [frags_length] at this; cases this
    rw [frags, ← List.singleton_append, setLast_append _ _ _ hne, ih]
    rfl

/-- what a completed slice `body` does to a decoder whose slice buffer is that of `d` -/
def BatchRes (m : Bool) (d : Dec) (body : Bytes) (d' : Dec) (r : DecRes Bytes) : Prop :=
  if m = true then
    d'.sliceBuf = [] ∧ d'.sliceSize = 0 ∧
    r = (if validateFrame (joinFragments (d.sliceBuf ++ [body]) (d.sliceSize + body.length))
          then .ok (joinFragments (d.sliceBuf ++ [body]) (d.sliceSize + body.length)) else .err)
  else d'.sliceBuf = d.sliceBuf ++ [body] ∧ d'.sliceSize = d.sliceSize + body.length ∧ r = .more

theorem deliver_spec (d d0 : Dec) (body : Bytes) (m : Bool) (hs : d.sliceBuf = d0.sliceBuf)
    (hz : d.sliceSize = d0.sliceSize) (hsz : d0.sliceSize + body.length ≤ maxFrameSize) :
    BatchRes m d0 body (deliver d body m).1 (deliver d body m).2 := by
  have hno : ¬ d.sliceSize + body.length > maxFrameSize := by omega
  unfold BatchRes
  cases m
  · rw [if_neg Bool.false_ne_true, deliver_more d body hno, ← hs, ← hz]; exact ⟨rfl, rfl, rfl⟩
  · rw [if_pos rfl, deliver_last d body hno, ← hs, ← hz]; exact ⟨rfl, rfl, rfl⟩

theorem joinFragments_snoc (fs : List Bytes) (b : Bytes) (sz : Nat) (h : sz = totalLen fs) :
    joinFragments (fs ++ [b]) (sz + b.length) = fs.flatten ++ b :=
  take_flatten_snoc fs b sz h

/-- the decoder follows the fragments of a slice whose bytes `pre` it holds, with the slice buffer of
`d0`, and the slice stays within the frame limit with the bytes `rest` -/
def Holds (d0 : Dec) (d : Dec) (pre : Bytes) (sq : UInt16) (_ : Nat) (rest : Bytes) : Prop :=
  d.sliceBuf = d0.sliceBuf ∧ d.sliceSize = d0.sliceSize ∧ d.fragSize ≠ 0 ∧ d.fragSize = totalLen d.fragments ∧
  d.fragments.flatten = pre ∧ d.nextSeq = sq ∧ d0.sliceSize + (d.fragSize + rest.length) ≤ maxFrameSize

theorem run_batch (c : EncCfg) (hc : ValidCfg c) (h : Hdr) (hk : HOk h) (m : Bool) (d : Dec)
    (batch : List Bytes) (sq : UInt16) (hsz : d.sliceSize + totalLen batch ≤ maxFrameSize) (hne : batch.flatten ≠ []) :
    ∃ d' r, runDec d (setLast m (writeBatch c batch h sq))
        = (d', List.replicate ((writeBatch c batch h sq).length - 1) .more ++ [r]) ∧
      BatchRes m d batch.flatten d' r := by
  obtain ⟨n, e, hv⟩ := writeBatch_eq c batch h sq
  obtain ⟨hn, hlo, _⟩ := hv hc
  obtain ⟨k, rfl⟩ : ∃ k, n = k + 1 := ⟨n - 1, by omega⟩
  have hcv : 5 ≤ c.max := hc
  rw [← flatten_length] at hsz
  rw [e, frags_length, Nat.add_sub_cancel, setLast_frags]
  exact run_unit runs (fragPkt c h h.bos m) (c.max - 4) (Holds d) (BatchRes m d) batch.flatten d sq k (hlo hne)
    (fun _ => ⟨_, _, decode_whole c d h hk h.bos sq m _ (by have := List.length_pos_iff.mpr hne; omega),
      deliver_spec d.resetFragments d _ m rfl rfl hsz⟩)
    (fun j ch rest _ hcr hch hr => ⟨_, decode_start c d h hk h.bos sq false ch, rfl, rfl, by show ch.length ≠ 0; omega,
      (totalLen_singleton _).symm, List.flatten_singleton, rfl,
      by rw [← hcr, List.length_append] at hsz; exact hsz⟩)
    (fun d pre sq _ ch rest ⟨h1, h2, h3, h4, h5, h6, h7⟩ hch hr => by
      rw [List.length_append] at h7
      exact ⟨_, (decode_cont c d h hk sq false false ch h3 h6 (by omega) (by omega)).trans
        (if_neg Bool.false_ne_true), h1, h2, by show d.fragSize + ch.length ≠ 0; omega,
        by show _ = totalLen (d.fragments ++ [ch]); rw [totalLen_append, totalLen_singleton, ← h4],
        by show (d.fragments ++ [ch]).flatten = _; rw [List.flatten_append, List.flatten_singleton, h5],
        by show d.nextSeq + 1 = _; rw [h6], by show _ + (d.fragSize + ch.length + _) ≤ _; omega⟩)
    (fun d1 pre sq rest ⟨h1, h2, h3, h4, h5, h6, h7⟩ hr => by
      refine ⟨_, _, (decode_cont c d1 h hk sq m true rest h3 h6 (by omega) (by omega)).trans (if_pos rfl), ?_⟩
      rw [joinFragments_snoc _ _ _ h4, h5]
      exact deliver_spec _ d _ m h1 h2 (by rw [List.length_append, ← h5, flatten_length, ← h4]; omega))

theorem flatten_ne_nil (b : List Bytes) (hne : b ≠ []) (hpos : ∀ s ∈ b, 0 < s.length) : b.flatten ≠ [] := by
  cases b with
  | nil => exact absurd rfl hne
  | cons x xs =>
    intro e
    have := congrArg List.length e
    have hx := hpos x (by simp)
    simp only [List.flatten_cons, List.length_append, List.length_nil] at this
    omega

theorem splitAux_spec (fuel : Nat) (f : Bytes) (ss : List Bytes) (h : splitAux fuel f = some ss) :
    ss ≠ [] ∧ (∀ s ∈ ss, 4 ≤ s.length) ∧ ss.flatten = f := by
  induction fuel generalizing f ss with
  | zero => cases h
  | succ fuel ih =>
    rw [splitAux] at h
    by_cases hlen : f.length < 4
    · rw [if_pos hlen] at h; cases h
    rw [if_neg hlen] at h
    cases hi : index001 (f.drop 4) with
    | none =>
      rw [hi] at h; cases h
      exact ⟨by simp, fun s hs => by rw [List.mem_singleton.mp hs]; omega, by simp⟩
    | some e =>
      rw [hi] at h
      dsimp only at h
      cases hr : splitAux fuel (f.drop (e + 4)) with
      | none => rw [hr] at h; cases h
      | some r =>
        rw [hr] at h; cases h
        obtain ⟨_, h2, h3⟩ := ih _ _ hr
        refine ⟨by simp, fun s hs => ?_, by rw [List.flatten_cons, h3, List.take_append_drop]⟩
        rcases List.mem_cons.mp hs with hs | hs
        · rw [hs, List.length_take]; omega
        · exact h2 s hs

theorem written_nil {c : EncCfg} {sq : UInt16} {ps : List Pkt} (hw : Written c sq [] ps) : ps = [] := by
  cases hw; rfl

theorem Written.run {c : EncCfg} {sq : UInt16} {bs : List (List Bytes)} {ps : List Pkt} (hw : Written c sq bs ps)
    (hc : ValidCfg c) (d : Dec) (hsz : d.sliceSize = totalLen d.sliceBuf) (hne : bs ≠ [])
    (hpos : ∀ b ∈ bs, b.flatten ≠ []) (hcap : d.sliceSize + totalLen bs.flatten ≤ maxFrameSize) :
    ∃ d', runDec d (setLast true ps) = (d', List.replicate (ps.length - 1) .more ++
        [if validateFrame (d.sliceBuf.flatten ++ bs.flatten.flatten)
          then .ok (d.sliceBuf.flatten ++ bs.flatten.flatten) else .err]) ∧ Clean d' := by
  induction hw generalizing d with
  | nil sq => exact absurd rfl hne
  | @cons sq b bs ps h hk tl ih =>
    rw [List.flatten_cons, totalLen_append] at hcap
    by_cases hbs : bs = []
    · subst hbs
      obtain rfl := written_nil tl
      obtain ⟨d', r, hrun, h1, h2, rfl⟩ := run_batch c hc h hk true d b sq (by omega)
        (hpos b List.mem_cons_self)
      rw [joinFragments_snoc _ _ _ hsz] at hrun
      exact ⟨d', by rw [List.append_nil, hrun]; simp, h1, h2⟩
    · have hps : ps ≠ [] := (tl.spec.2.2 hc).1 hbs
      obtain ⟨d1, r, hrun, h1, h2, rfl⟩ := run_batch c hc h hk false d b sq (by omega)
        (hpos b List.mem_cons_self)
      rw [setLast_false _ fun p hp => ((writeBatch_spec c b h sq).2.1 p hp).2.2] at hrun
      obtain ⟨d', hrun2, hcl⟩ := ih d1 (by rw [h1, h2, hsz, totalLen_append, totalLen_singleton]) hbs
        (fun x hx => hpos x (List.mem_cons_of_mem _ hx)) (by rw [h2, flatten_length]; omega)
      have hl1 : 0 < (writeBatch c b h sq).length := List.length_pos_iff.mpr ((writeBatch_spec c b h sq).2.2 hc).1
      have hl2 : 0 < ps.length := List.length_pos_iff.mpr hps
      rw [show d1.sliceBuf.flatten ++ bs.flatten.flatten = d.sliceBuf.flatten ++ (b :: bs).flatten.flatten by
        rw [h1, List.flatten_append, List.flatten_singleton, List.append_assoc, List.flatten_cons,
          List.flatten_append]] at hrun2
      refine ⟨d', ?_, hcl⟩
      rw [setLast_append _ _ _ hps, runs.append, hrun, hrun2, ← List.replicate_succ', ← List.append_assoc,
        List.replicate_append_replicate, List.length_append]
      congr 4; omega

theorem batches_split (c : EncCfg) (hc : ValidCfg c) (f : Bytes) (ss : List Bytes) (h : split f = some ss) :
    batches (fits c) ss [] ≠ [] ∧ (∀ b ∈ batches (fits c) ss [], b.flatten ≠ []) ∧
    (batches (fits c) ss []).flatten.flatten = f := by
  obtain ⟨hne, h4, hfl⟩ := splitAux_spec _ _ _ h
  refine ⟨batches_ne_nil _ _ _, fun b hb => flatten_ne_nil b ((batches_ok c hc ss b hb).2 hne) fun s hs =>
    Nat.lt_of_lt_of_le (by decide) (h4 s (batches_mem _ ss b hb s hs)), ?_⟩
  rw [batches_flatten, List.nil_append, hfl]

/-- **C03 round trip**: for every valid limit, every valid frame and every decoder without buffered
slices (whatever its fragment state): "more packets needed" on all packets but the last, exactly
the frame at the last one, and nothing buffered afterwards. -/
theorem c03_roundtrip (e : Enc) (f : Bytes) (d : Dec) (ps : List Pkt)
    (hc : ValidCfg e.cfg) (hf : ValidFrame f) (hd : Clean d) (hps : (encode e f).2 = some ps) :
    ∃ d', runDec d ps = (d', List.replicate (ps.length - 1) .more ++ [.ok f]) ∧ Clean d' := by
  obtain ⟨ss, out, hsp, hw, rfl, _⟩ := encode_written e f ps hps
  obtain ⟨hne, hpos, hfl⟩ := batches_split e.cfg hc f ss hsp
  obtain ⟨d', hrun, hcl⟩ := hw.run hc d (by rw [hd.1, hd.2]; rfl) hne hpos
    (by rw [hd.2, Nat.zero_add, ← flatten_length, hfl]; exact hf.2)
  rw [hd.1, List.flatten_nil, List.nil_append, hfl,
    show validateFrame f = true by rw [validateFrame, hsp]; rfl, if_pos rfl] at hrun
  exact ⟨d', by rw [markLast_eq, hrun, setLast_length], hcl⟩

/-- the state of a decoder in the middle of the fragments of the frame's last slice: still
following them, or having given up with everything dropped -/
def TailState (d : Dec) (sq : UInt16) : Prop :=
  (d.fragSize ≠ 0 ∧ d.nextSeq = sq) ∨ (d.fragSize = 0 ∧ d.sliceBuf = [] ∧ d.sliceSize = 0)

theorem deliver_marker_clean (d : Dec) (s : Bytes) : Clean (deliver d s true).1 := by
  by_cases h : d.sliceSize + s.length > maxFrameSize
  · rw [deliver_over d s _ h]; exact ⟨rfl, rfl⟩
  · rw [deliver_last d s h]; exact ⟨rfl, rfl⟩

theorem tail_step (c : EncCfg) (h : Hdr) (hk : HOk h) (bos first : Bool) (sq : UInt16) (body : Bytes) (d : Dec)
    (ht : first = false → TailState d sq) (hb : body.length ≠ 0) :
    TailState (decode d (pk c sq false (hdrBytes h (first && bos) first false ++ body))).1 (sq + 1) ∧
    Clean (decode d (pk c sq true (hdrBytes h (first && bos) first true ++ body))).1 := by
  cases first with
  | true =>
    rw [decode_start c d h hk, decode_whole c d h hk _ sq true _ hb]
    exact ⟨Or.inl ⟨hb, rfl⟩, deliver_marker_clean _ _⟩
  | false =>
    rw [Bool.false_and]
    rcases ht rfl with ⟨h0, hs⟩ | ⟨h0, hcl⟩
    · by_cases hsz : d.sliceSize + (d.fragSize + body.length) > maxFrameSize
      · rw [decode_cont_over c d h hk sq _ _ body h0 hs hb hsz, decode_cont_over c d h hk sq _ _ body h0 hs hb hsz]
        exact ⟨Or.inr ⟨rfl, rfl, rfl⟩, rfl, rfl⟩
      · rw [decode_cont c d h hk sq _ _ body h0 hs hb hsz, decode_cont c d h hk sq _ _ body h0 hs hb hsz,
          if_neg Bool.false_ne_true, if_pos rfl]
        exact ⟨Or.inl ⟨by simp only; omega, by rw [← hs]⟩, deliver_marker_clean _ _⟩
    · rw [decode_cont_idle c d h hk sq _ _ body h0, decode_cont_idle c d h hk sq _ _ body h0]
      exact ⟨Or.inr ⟨h0, hcl⟩, hcl⟩

theorem tail_cleans (c : EncCfg) (hc : ValidCfg c) (h : Hdr) (hk : HOk h) (bos : Bool) (n : Nat) (first : Bool)
    (sq : UInt16) (pos : Nat) (rest : Bytes) (d : Dec) (ht : first = false → TailState d sq)
    (hlo : n * (c.max - 4) < rest.length) :
    Clean (runDec d (frags (fragPkt c h bos true) (c.max - 4) (n + 1) first sq pos rest)).1 := by
  induction n generalizing first sq pos rest d with
  | zero =>
    rw [frags, runs.cons, runs.nil]
    exact (tail_step c h hk bos first sq rest d ht (by omega)).2
  | succ n ih =>
    have hcv : 5 ≤ c.max := hc
    have hmul : (n + 1) * (c.max - 4) = n * (c.max - 4) + (c.max - 4) := Nat.succ_mul n _
    rw [frags, runs.cons]
    exact ih _ _ _ _ _ (fun _ => (tail_step c h hk bos first sq _ d ht (by rw [List.length_take]; omega)).1)
      (by rw [List.length_drop]; omega)

theorem last_batch_cleans (c : EncCfg) (hc : ValidCfg c) (h : Hdr) (hk : HOk h) (batch : List Bytes)
    (sq : UInt16) (d : Dec) (hbne : batch.flatten ≠ []) :
    Clean (runDec d (setLast true (writeBatch c batch h sq))).1 := by
  obtain ⟨n, e, hv⟩ := writeBatch_eq c batch h sq
  obtain ⟨hn, hlo, _⟩ := hv hc
  obtain ⟨k, rfl⟩ : ∃ k, n = k + 1 := ⟨n - 1, by omega⟩
  rw [e, setLast_frags]
  exact tail_cleans c hc h hk h.bos k true sq 0 _ d nofun (hlo hbne)

theorem Written.flush {c : EncCfg} {sq : UInt16} {bs : List (List Bytes)} {ps : List Pkt} (hw : Written c sq bs ps)
    (hc : ValidCfg c) (d : Dec) (hne : bs ≠ []) (hpos : ∀ b ∈ bs, b.flatten ≠ []) :
    Clean (runDec d (setLast true ps)).1 := by
  induction hw generalizing d with
  | nil sq => exact absurd rfl hne
  | @cons sq b bs ps h hk tl ih =>
    by_cases hbs : bs = []
    · subst hbs
      obtain rfl := written_nil tl
      rw [List.append_nil]
      exact last_batch_cleans c hc h hk b sq d (hpos b List.mem_cons_self)
    · rw [setLast_append _ _ _ ((tl.spec.2.2 hc).1 hbs), runs.append]
      exact ih _ hbs fun x hx => hpos x (List.mem_cons_of_mem _ hx)

/-- **C07 flush**: from ANY decoder state (whatever was lost, duplicated or reordered before, also
with megabytes of stale slices buffered), the packets of one intact frame, in order, leave nothing
buffered: its last batch alone does it (`last_batch_cleans`). -/
theorem c07_flush (e : Enc) (f : Bytes) (d : Dec) (ps : List Pkt) (hc : ValidCfg e.cfg)
    (hps : (encode e f).2 = some ps) : Clean (runDec d ps).1 := by
  obtain ⟨ss, out, hsp, hw, rfl, _⟩ := encode_written e f ps hps
  obtain ⟨hne, hpos, _⟩ := batches_split e.cfg hc f ss hsp
  rw [markLast_eq]
  exact hw.flush hc d hne hpos

theorem encode_cfg (e : Enc) (f : Bytes) : (encode e f).1.cfg = e.cfg := by
  unfold encode
  split
  · rfl
  · dsimp only; split <;> rfl

/-- **C07 resynchronisation**: after ANY packet history `h`, an intact frame `f` followed by an
intact frame `g` ends with exactly `g`, returned at `g`'s last packet and not before. -/
theorem c07_resync (h : List Pkt) (e : Enc) (f g : Bytes) (pf pg : List Pkt) (hc : ValidCfg e.cfg)
    (hg : ValidFrame g) (hpf : (encode e f).2 = some pf) (hpg : (encode (encode e f).1 g).2 = some pg) :
    ∃ d', runDec (runDec (runDec {} h).1 pf).1 pg
        = (d', List.replicate (pg.length - 1) .more ++ [.ok g]) ∧ Clean d' := by
  have hclean := c07_flush e f (runDec {} h).1 pf hc hpf
  exact c03_roundtrip (encode e f).1 g _ pg (by rw [encode_cfg]; exact hc) hg hclean hpg

/-- the frames a result list returns, in order -/
def okFrames : List (DecRes Bytes) → List Bytes
  | [] => []
  | .ok f :: rs => f :: okFrames rs
  | _ :: rs => okFrames rs

/-- every answer is "more packets needed" or a frame (no error, no "non-starting packet") -/
def NoErr (rs : List (DecRes Bytes)) : Prop := ∀ r ∈ rs, r = .more ∨ ∃ f, r = .ok f

/-- **C03, consecutive frames**: any series of valid frames through one encoder / decoder pair comes
back as exactly that series, frame by frame, with only "more packets needed" in between. -/
theorem c03_roundtrip_many (e e' : Enc) (fs : List Bytes) (d : Dec) (ps : List Pkt)
    (hc : ValidCfg e.cfg) (hf : ∀ f ∈ fs, ValidFrame f) (hd : Clean d)
    (h : encodeMany e fs = some (e', ps)) :
    okFrames (runDec d ps).2 = fs ∧ NoErr (runDec d ps).2 ∧ Clean (runDec d ps).1 := by
  induction fs generalizing e d ps with
  | nil =>
    simp [encodeMany] at h; obtain ⟨rfl, rfl⟩ := h
    exact ⟨rfl, by intro r hr; simp [runDec] at hr, hd⟩
  | cons f fs ih =>
    obtain ⟨qs, rs, hq, hm, rfl⟩ := Misc.many_some encode encodeMany encodeMany_cons e e' f fs ps h
    obtain ⟨d1, hr1, hc1⟩ := c03_roundtrip e f d qs hc (hf f (by simp)) hd hq
    obtain ⟨i1, i2, i3⟩ := ih (encode e f).1 d1 rs (by rw [encode_cfg]; exact hc)
      (fun x hx => hf x (by simp [hx])) hc1 hm
    rw [runs.append, hr1]
    refine ⟨?_, only_frame_append i2, i3⟩
    rw [frames_frame_append okFrames, i1]

/-! ## non-vacuity (frame and encoder of `Props/Codec/Mpeg1Video.lean`) -/

example : ∃ ps, (encode exEnc exFrame).2 = some ps ∧ ps.length = 4 := ⟨_, rfl, by decide⟩
/-- a decoder with stale slices and a half-received fragmented slice is cleaned by one frame -/
example : Clean (runDec { fragments := [[1, 2]], fragSize := 2, nextSeq := 3, sliceBuf := [[0, 0, 1, 9, 9]], sliceSize := 5 }
    ((encode exEnc exFrame).2.getD [])).1 := by decide

end Rtsp.Codec.Mpeg1Video
