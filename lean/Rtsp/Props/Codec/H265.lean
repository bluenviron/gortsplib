import Rtsp.Proofs.Codec.H265Enc
/-
Property theorems for the encoder of pkg/format/rtph265 about the model in `Model/Codec/H265.lean`
(where `ValidCfg` and `ValidFrame` stand): this format's part of property C06, for every access unit (a
list of NALUs) on which `Encode` returns packets; `c06_accepts` says when it does.
`Encode` of the Go code can fail ("invalid NALU": a NALU shorter than its 2-byte header inside an
aggregation packet); the model returns `none` then.  All statements quantify over every access unit,
payload limit and sequence number; there is no bound on sizes or lengths.
-/
namespace Rtsp.Codec.H265
open Rtsp.Rtp Rtsp.Codec.H26x

/-- every access unit whose NALUs have at least their 2-byte header is accepted -/
theorem c06_accepts (e : Enc) (au : List Bytes) (hc : ValidCfg e.cfg) (hn : ∀ n ∈ au, 2 ≤ n.length) :
    ∃ ps, (encode e au).2 = some ps :=
  ⟨_, congrArg Prod.snd (encode_eq e au hn)⟩

/-- **C06 size clause**: every payload is at most `PayloadMaxSize`, whatever the NALU sizes
(below, at or above the limit). -/
theorem c06_payload_le (e : Enc) (au : List Bytes) (ps : List Pkt) (hc : ValidCfg e.cfg)
    (h : (encode e au).2 = some ps) : ∀ p ∈ ps, p.payload.length ≤ e.cfg.max := by
  intro p hp
  rw [(encode_some e au ps h).1] at hp
  obtain ⟨it, hit, hpl⟩ := mem_number_payload hp
  obtain ⟨b, hb, m, hm⟩ := mem_itemsOf hit
  rw [← hpl]
  exact wb_payload_le _ b m hc.1 (splitBatches_ok 2 _ [] au (Or.inl (Nat.zero_le 1)) b hb) it hm

/-- **C06 numbering, one call**: the packets carry `seq, seq+1, …` (mod 2^16) and the encoder
continues after them. -/
theorem c06_seq_consecutive (e : Enc) (au : List Bytes) (ps : List Pkt)
    (h : (encode e au).2 = some ps) :
    ps.map (·.seq) = seqFrom e.seq ps.length ∧
    (encode e au).1.seq = e.seq + UInt16.ofNat ps.length := by
  obtain ⟨rfl, hs⟩ := encode_some e au ps h
  rw [number_length]
  exact ⟨number_seq .., hs⟩

/-- a series of successful `Encode` calls through the same encoder (`none` if any call fails) -/
def encodeMany (e : Enc) : List (List Bytes) → Enc × Option (List Pkt)
  | [] => (e, some [])
  | f :: fs =>
    match encode e f with
    | (e1, some ps) =>
      match encodeMany e1 fs with
      | (e2, some qs) => (e2, some (ps ++ qs))
      | (e2, none) => (e2, none)
    | (e1, none) => (e1, none)

/-- **C06 numbering, any series of calls, any initial value (incl. wrap inside the run)**. -/
theorem c06_seq_many (e : Enc) (fs : List (List Bytes)) (ps : List Pkt)
    (h : (encodeMany e fs).2 = some ps) :
    ps.map (·.seq) = seqFrom e.seq ps.length ∧
    (encodeMany e fs).1.seq = e.seq + UInt16.ofNat ps.length := by
  induction fs generalizing e ps with
  | nil => cases h; exact ⟨rfl, (UInt16.add_zero _).symm⟩
  | cons f fs ih =>
    rw [encodeMany] at h ⊢
    split at h
    · rename_i e1 qs heq
      obtain ⟨h1, h2⟩ := c06_seq_consecutive e f qs (by rw [heq])
      rw [heq] at h2
      split at h
      · rename_i e2 rs heq2
        obtain ⟨h3, h4⟩ := ih e1 rs (by rw [heq2])
        rw [heq2] at h4
        cases h
        exact seqFrom_concat h1 h2 h3 h4
      · cases h
    · cases h

/-- **C06 payload type and SSRC** are the configured ones on every packet. -/
theorem c06_pt_ssrc (e : Enc) (au : List Bytes) (ps : List Pkt) (h : (encode e au).2 = some ps) :
    ∀ p ∈ ps, p.pt = e.cfg.pt ∧ p.ssrc = e.cfg.ssrc :=
  (encode_some e au ps h).1 ▸ number_pt_ssrc _ _ _

/-- **C06 marker**: set on the packet that completes the access unit and on no other packet. -/
theorem c06_marker_only_last (e : Enc) (au : List Bytes) (ps : List Pkt) (hc : ValidCfg e.cfg)
    (hn : ∀ n ∈ au, 2 ≤ n.length) (h : (encode e au).2 = some ps) :
    ps.map (·.marker) = List.replicate (ps.length - 1) false ++ [true] := by
  obtain ⟨k, hk⟩ := itemsOf_markers (splitBatches_ne_nil 2 e.cfg.max [] au)
    (fun b _ m => wb_markers e.cfg.max b m hc.1)
  rw [(encode_some e au ps h).1]
  exact map_eq_replicate_length ((number_marker ..).trans hk)

/-- [VPS, SPS, 30-byte IDR, 3-byte SEI] at limit 14: AP, 3 FU, single — across a wrap -/
def exEnc : Enc := { cfg := { pt := 96, ssrc := 7, max := 14 }, seq := 65534 }
def exAU : List Bytes :=
  [[0x40, 0x01, 0x0c], [0x42, 0x01, 0x01], 0x26 :: 0x01 :: (List.range 28).map (fun i => UInt8.ofNat (i + 2)),
   [0x4e, 0x01, 0x05]]

example : ValidCfg exEnc.cfg ∧ ValidFrame exAU := by decide
example : ((encode exEnc exAU).2.map fun ps => ps.map (·.seq)) = some [65534, 65535, 0, 1, 2] := by decide
example : ((encode exEnc exAU).2.map fun ps => ps.map (·.marker)) = some [false, false, false, false, true] := by
  decide
example : ((encode exEnc exAU).2.map fun ps => ps.map (·.payload.length)) = some [12, 14, 14, 9, 3] := by decide
/-- a 1-byte NALU inside an aggregation packet is refused -/
example : (encode exEnc [[0x40, 0x01], [0x42]]).2 = none := by decide

end Rtsp.Codec.H265
