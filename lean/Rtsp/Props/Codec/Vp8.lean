import Rtsp.Model.Codec.Vp8
import Rtsp.Proofs.Codec.Av1VpCommon
/-
Property theorems for pkg/format/rtpvp8 (encoder.go + pion VP8Payloader, decoder.go + pion
VP8Packet), about the model in `Model/Codec/Vp8.lean`.
All statements quantify over every frame, payload limit, sequence number, packet and history.

`Decode` is described once: two equations for the packets it accepts (`decode_start`, `decode_cont`)
and `decode_cases`, by which every other packet is refused.  The C08 bounds are read off that
description, and the round trip is `runWith_collect` (`Av1VpCommon`) for the payloads seen as chunks behind a
descriptor byte (`tag desc`, `tag` of `Av1VpCommon`).
-/
namespace Rtsp.Codec.Vp8
open Rtsp.Rtp Rtsp.Facts Rtsp.Codec.Av1Vp

/-- The limit must leave room for the 1-byte payload descriptor and one byte of data; it is
converted to `uint16` by the encoder (65536 would become 0 and `Encode` panics). -/
def ValidCfg (c : EncCfg) : Prop := 2 ≤ c.max ∧ c.max ≤ 65535

/-- non-empty (an empty frame makes `Encode` panic) and at most `vp8.MaxFrameSize` (larger frames are
refused by the decoder) -/
def ValidFrame (f : Bytes) : Prop := 0 < f.length ∧ f.length ≤ CodecAv1vp.vp8MaxFrameSize

instance (c : EncCfg) : Decidable (ValidCfg c) := by unfold ValidCfg; infer_instance
instance (f : Bytes) : Decidable (ValidFrame f) := by unfold ValidFrame; infer_instance

/-- descriptor byte in front of a chunk: `0x10` (S = 1, PID = 0) on the first, zero on the others -/
def desc (first _last : Bool) (c : Bytes) : Bytes := (if first then (0x10 : UInt8) else 0) :: c

theorem map_zero_tag (cs : List Bytes) : (cs.map fun c => (0 : UInt8) :: c) = tag desc false cs := by
  induction cs with
  | nil => rfl
  | cons c cs ih => rw [List.map_cons, ih]; rfl

theorem payloader_valid (c : EncCfg) (f : Bytes) (hc : ValidCfg c) (hf : 0 < f.length) :
    payloader (c.max % 65536) f = some (tag desc true (chunks (c.max - 1) f.length f)) := by
  obtain ⟨h1, h2⟩ := hc
  have hm : c.max % 65536 = c.max := Nat.mod_eq_of_lt (by omega)
  have hmin : ¬ (min ((c.max : Int) - 1) (f.length : Int) ≤ 0) := by omega
  have hk : ((c.max : Int) - 1).toNat = c.max - 1 := by omega
  unfold payloader
  simp only [hm]
  have e1 : ((c.max : Int) - ((CodecAv1vp.vp8HeaderSize : Nat) : Int)) = (c.max : Int) - 1 := rfl
  rw [e1, if_neg hmin, hk]
  cases chunks (c.max - 1) f.length f with
  | nil => rfl
  | cons c cs => simp only [map_zero_tag]; rfl

theorem encode_some {e e' : Enc} {f : Bytes} {ps : List Pkt} (h : encode e f = some (e', ps)) :
    ∃ pls, e' = { e with seq := e.seq + UInt16.ofNat pls.length } ∧ ps = emit e.cfg e.seq pls := by
  unfold encode at h
  split at h
  · cases h
  · cases h; exact ⟨_, rfl, rfl⟩

theorem pkts_valid {e e' : Enc} {f : Bytes} {ps : List Pkt} (hc : ValidCfg e.cfg) (hf : 0 < f.length)
    (h : encode e f = some (e', ps)) : ps = emit e.cfg e.seq (tag desc true (chunks (e.cfg.max - 1) f.length f)) := by
  simp only [encode, payloader_valid e.cfg f hc hf] at h; cases h; rfl

/-- **C06 / C03 "encoder accepts every valid frame"**: no panic. -/
theorem c06_encode_some (e : Enc) (f : Bytes) (hc : ValidCfg e.cfg) (hf : ValidFrame f) :
    (encode e f).isSome := by
  simp [encode, payloader_valid e.cfg f hc hf.1]

theorem outs_le (k : Nat) (hk : 0 < k) (f : Bytes) :
    ∀ x ∈ tag desc true (chunks k f.length f), x.length ≤ k + 1 := by
  intro x hx
  have hm := chunks_mem k hk f.length f
  cases hch : chunks k f.length f with
  | nil => rw [hch] at hx; cases hx
  | cons c cs =>
    rw [hch] at hx hm
    rcases List.mem_cons.mp hx with hx | hx
    · rw [hx]; have := hm c (by simp); simp [desc]; omega
    · obtain ⟨l, y, hy, rfl⟩ := mem_tag_false _ _ _ hx
      have := hm y (by simp [hy]); simp [desc]; omega

/-- **C06 size clause**: every payload (descriptor byte included) is at most `PayloadMaxSize`. -/
theorem c06_payload_le (e e' : Enc) (f : Bytes) (ps : List Pkt) (hc : ValidCfg e.cfg) (hf : 0 < f.length)
    (h : encode e f = some (e', ps)) : ∀ p ∈ ps, p.payload.length ≤ e.cfg.max := by
  rw [pkts_valid hc hf h]
  have hk : 0 < e.cfg.max - 1 := by have := hc.1; omega
  apply emit_payload_le
  intro x hx
  have := outs_le (e.cfg.max - 1) hk f x hx
  have := hc.1
  omega

/-- **C06 numbering, one call** (holds for every configuration and frame, valid or not). -/
theorem c06_seq_consecutive (e e' : Enc) (f : Bytes) (ps : List Pkt) (h : encode e f = some (e', ps)) :
    ps.map (·.seq) = seqFrom e.seq ps.length ∧ e'.seq = e.seq + UInt16.ofNat ps.length ∧ e'.cfg = e.cfg := by
  obtain ⟨pls, rfl, rfl⟩ := encode_some h
  simp [emit_seq, emit_length]

/-- a series of `Encode` calls through the same encoder (`none` = one of them panicked) -/
def encodeMany (e : Enc) : List Bytes → Option (Enc × List Pkt)
  | [] => some (e, [])
  | f :: fs =>
    match encode e f with
    | none => none
    | some (e1, ps) =>
      match encodeMany e1 fs with
      | none => none
      | some (e2, qs) => some (e2, ps ++ qs)

theorem encodeMany_cons {e e' : Enc} {f : Bytes} {fs : List Bytes} {ps : List Pkt}
    (h : encodeMany e (f :: fs) = some (e', ps)) :
    ∃ e1 qs rs, encode e f = some (e1, qs) ∧ encodeMany e1 fs = some (e', rs) ∧ ps = qs ++ rs := by
  simp only [encodeMany] at h
  split at h
  · cases h
  · rename_i e1 qs he
    split at h
    · cases h
    · rename_i e2 rs hm
      cases h; exact ⟨e1, qs, rs, he, hm, rfl⟩

/-- **C06 numbering, any series of calls, any initial value (incl. wrap inside the run)**. -/
theorem c06_seq_many (e e' : Enc) (fs : List Bytes) (ps : List Pkt) (h : encodeMany e fs = some (e', ps)) :
    ps.map (·.seq) = seqFrom e.seq ps.length ∧ e'.seq = e.seq + UInt16.ofNat ps.length := by
  induction fs generalizing e ps with
  | nil => cases h; simp [seqFrom]
  | cons f fs ih =>
    obtain ⟨e1, qs, rs, he, hm, rfl⟩ := encodeMany_cons h
    obtain ⟨a1, a2, _⟩ := c06_seq_consecutive e e1 f qs he
    obtain ⟨b1, b2⟩ := ih e1 rs hm
    exact seqFrom_concat a1 a2 b1 b2

/-- **C06 payload type and SSRC**. -/
theorem c06_pt_ssrc (e e' : Enc) (f : Bytes) (ps : List Pkt) (h : encode e f = some (e', ps)) :
    ∀ p ∈ ps, p.pt = e.cfg.pt ∧ p.ssrc = e.cfg.ssrc := by
  obtain ⟨pls, _, rfl⟩ := encode_some h
  exact emit_pt_ssrc _ _ _

/-- **C06 marker**: on the last packet of the frame and on no other. -/
theorem c06_marker_only_last (e e' : Enc) (f : Bytes) (ps : List Pkt) (hc : ValidCfg e.cfg)
    (hf : 0 < f.length) (h : encode e f = some (e', ps)) :
    ps.map (·.marker) = List.replicate (ps.length - 1) false ++ [true] := by
  rw [pkts_valid hc hf h, emit_length]
  exact emit_markers _ _ _ fun h0 => chunks_ne_nil _ _ f hf hf (by rw [← List.isEmpty_iff, ← tag_isEmpty desc true, h0]; rfl)

/-- state invariant: the size field is the number of bytes held, and never above `MaxFrameSize`
(the VP8 decoder checks the cap on every chunk, the first included) -/
structure Inv (d : Dec) : Prop where
  size_eq : d.frameBufferSize = totalLen d.frameBuffer
  size_le : d.frameBufferSize ≤ CodecAv1vp.vp8MaxFrameSize
  ne      : ∀ x ∈ d.frameBuffer, 0 < x.length

def Clean (d : Dec) : Prop := d.frameBufferSize = 0 ∧ d.frameBuffer = []

instance (d : Dec) : Decidable (Clean d) := by unfold Clean; infer_instance

theorem c08_inv_init : Inv {} := ⟨rfl, by simp, by simp⟩

theorem decode_start (d : Dec) (p : Pkt) (v : Desc) (hv : unmarshal p.payload = some v)
    (hne : 0 < v.payload.length) (hs : v.s = true ∧ v.pid = 0)
    (hle : v.payload.length ≤ CodecAv1vp.vp8MaxFrameSize) :
    decode d p =
      if p.marker then ({ firstPacketReceived := true, frameBuffer := [], frameBufferSize := 0, nextSeq := 0 },
                        .ok v.payload)
      else ({ firstPacketReceived := true, frameBuffer := [v.payload], frameBufferSize := v.payload.length,
              nextSeq := p.seq + 1 }, .more) := by
  have hgt : ¬ v.payload.length > CodecAv1vp.vp8MaxFrameSize := by omega
  have hj : joinFragments [v.payload] v.payload.length = v.payload := by
    have := joinFragments_exact [v.payload]; simpa using this
  simp only [decode, decodeFrameChunk, hv, isEmpty_of_pos hne, hs, Dec.reset]
  cases p.marker <;> simp [hgt, hj]

theorem decode_cont (d : Dec) (p : Pkt) (v : Desc) (hv : unmarshal p.payload = some v)
    (hne : 0 < v.payload.length) (hs : ¬ (v.s = true ∧ v.pid = 0)) (hpos : d.frameBufferSize ≠ 0)
    (hseq : p.seq = d.nextSeq) (hle : d.frameBufferSize + v.payload.length ≤ CodecAv1vp.vp8MaxFrameSize) :
    decode d p =
      if p.marker then ({ firstPacketReceived := true, frameBuffer := [], frameBufferSize := 0, nextSeq := 0 },
                 .ok (joinFragments (d.frameBuffer ++ [v.payload]) (d.frameBufferSize + v.payload.length)))
      else ({ d with firstPacketReceived := true, frameBuffer := d.frameBuffer ++ [v.payload],
                     frameBufferSize := d.frameBufferSize + v.payload.length, nextSeq := d.nextSeq + 1 }, .more) := by
  have hgt : ¬ d.frameBufferSize + v.payload.length > CodecAv1vp.vp8MaxFrameSize := by omega
  simp only [decode, decodeFrameChunk, hv, isEmpty_of_pos hne, hs, Dec.reset]
  cases p.marker <;> simp [hgt, hpos, hseq]

theorem decode_cases (d : Dec) (p : Pkt) :
    ((Clean (decode d p).1 ∨ (decode d p).1 = d) ∧ ∀ f, (decode d p).2 ≠ .ok f) ∨
    ∃ v, unmarshal p.payload = some v ∧ 0 < v.payload.length ∧
      ((v.s = true ∧ v.pid = 0) ∧ v.payload.length ≤ CodecAv1vp.vp8MaxFrameSize ∨
       ¬ (v.s = true ∧ v.pid = 0) ∧ d.frameBufferSize ≠ 0 ∧ p.seq = d.nextSeq ∧
         d.frameBufferSize + v.payload.length ≤ CodecAv1vp.vp8MaxFrameSize) := by
  -- in a refusing branch, choose the left side first: `simp` then works on that side alone
  cases hv : unmarshal p.payload with
  | none =>
    left
    simp [decode, decodeFrameChunk, hv, Clean, Dec.reset]
  | some v =>
    cases hemp : v.payload.isEmpty with
    | true =>
      left
      simp [decode, decodeFrameChunk, hv, hemp, Clean, Dec.reset]
    | false =>
      have hne : 0 < v.payload.length := by cases hp : v.payload with | nil => simp [hp] at hemp | cons a t => simp
      by_cases hs : v.s = true ∧ v.pid = 0
      · by_cases hle : v.payload.length ≤ CodecAv1vp.vp8MaxFrameSize
        · exact Or.inr ⟨v, rfl, hne, Or.inl ⟨hs, hle⟩⟩
        · left
          simp [decode, decodeFrameChunk, hv, hemp, hs, Clean, Dec.reset, Nat.lt_of_not_le hle]
      by_cases h0 : d.frameBufferSize = 0
      · left
        simp only [decode, decodeFrameChunk, hv, hemp, hs, h0]
        cases d.firstPacketReceived <;> simp
      by_cases hq : p.seq = d.nextSeq
      · by_cases hle : d.frameBufferSize + v.payload.length ≤ CodecAv1vp.vp8MaxFrameSize
        · exact Or.inr ⟨v, rfl, hne, Or.inr ⟨hs, h0, hq, hle⟩⟩
        · left
          simp [decode, decodeFrameChunk, hv, hemp, hs, h0, hq, Nat.lt_of_not_le hle, Clean, Dec.reset]
      · left
        simp [decode, decodeFrameChunk, hv, hemp, hs, h0, hq, Clean, Dec.reset]

theorem inv_clean (d : Dec) (h : Clean d) : Inv d :=
  ⟨by rw [h.1, h.2]; rfl, by rw [h.1]; exact Nat.zero_le _, by rw [h.2]; simp⟩

/-- **C08**: the invariant is preserved by `Decode` on EVERY packet. -/
theorem c08_inv_decode (d : Dec) (p : Pkt) (hi : Inv d) : Inv (decode d p).1 := by
  rcases decode_cases d p with ⟨h | h, _⟩ | ⟨v, hv, hne, ⟨hs, hcap⟩ | ⟨hs, h0, hq, hcap⟩⟩
  · exact inv_clean _ h
  · rw [h]; exact hi
  · rw [decode_start d p v hv hne hs hcap]; split
    · exact inv_clean _ ⟨rfl, rfl⟩
    · exact ⟨by simp, hcap, by simpa using hne⟩
  · rw [decode_cont d p v hv hne hs h0 hq hcap]; split
    · exact inv_clean _ ⟨rfl, rfl⟩
    · exact ⟨by simp [hi.size_eq], hcap, pos_snoc _ _ hi.ne hne⟩

/-- **C08 bounded memory**: retained bytes ≤ `vp8.MaxFrameSize` (2 MiB). -/
theorem c08_retained_le (d : Dec) (hi : Inv d) : retained d ≤ CodecAv1vp.vp8MaxFrameSize := by
  unfold retained; rw [← hi.size_eq]; exact hi.size_le

/-- **C08 bounded number of retained slices**: every retained chunk is non-empty, so the decoder
never holds more chunks than bytes (no growth by empty fragments). -/
theorem c08_fragment_count_le (d : Dec) (hi : Inv d) :
    d.frameBuffer.length ≤ retained d ∧ d.frameBuffer.length ≤ CodecAv1vp.vp8MaxFrameSize := by
  have h1 := length_le_totalLen d.frameBuffer hi.ne
  have h2 := c08_retained_le d hi
  unfold retained at *
  omega

/-- **C08 output bound**: no returned frame exceeds `vp8.MaxFrameSize`. -/
theorem c08_out_le (d : Dec) (p : Pkt) (f : Bytes) (h : (decode d p).2 = .ok f) :
    f.length ≤ CodecAv1vp.vp8MaxFrameSize := by
  rcases decode_cases d p with ⟨_, hno⟩ | ⟨v, hv, hne, ⟨hs, hcap⟩ | ⟨hs, h0, hq, hcap⟩⟩
  · exact absurd h (hno f)
  · rw [decode_start d p v hv hne hs hcap] at h; split at h
    · cases h; exact hcap
    · cases h
  · rw [decode_cont d p v hv hne hs h0 hq hcap] at h; split at h
    · cases h; rw [joinFragments_length]; exact hcap
    · cases h

theorem tb_10_80 : tb 0x10 0x80 = false := by decide
theorem tb_10_10 : tb 0x10 0x10 = true := by decide
theorem pid_10 : ((0x10 : UInt8) &&& 0x07).toNat = 0 := by decide
theorem tb_00_80 : tb 0 0x80 = false := by decide
theorem tb_00_10 : tb 0 0x10 = false := by decide
theorem pid_00 : ((0 : UInt8) &&& 0x07).toNat = 0 := by decide

theorem unmarshal_first (c : Bytes) : unmarshal ((0x10 : UInt8) :: c) = some { s := true, pid := 0, payload := c } := by
  simp [unmarshal, tb_10_80, tb_10_10]

theorem unmarshal_next (c : Bytes) : unmarshal ((0 : UInt8) :: c) = some { s := false, pid := 0, payload := c } := by
  simp [unmarshal, tb_00_80, tb_00_10]

theorem runs : Runs decode runDec := ⟨fun _ => rfl, fun _ _ _ => rfl⟩

/-- **C03 round trip**: for every valid configuration and frame, from ANY decoder state (the first
packet carries S = 1, PID = 0 and restarts the decoder), the decoder answers "more packets needed"
on all packets but the last, returns exactly the frame at the last one and is clean afterwards. -/
theorem c03_roundtrip (e e' : Enc) (f : Bytes) (ps : List Pkt) (d : Dec)
    (hc : ValidCfg e.cfg) (hf : ValidFrame f) (h : encode e f = some (e', ps)) :
    ∃ d', runDec d ps = (d', List.replicate (ps.length - 1) .more ++ [.ok f]) ∧ Clean d' := by
  obtain ⟨hf1, hf2⟩ := hf
  have hk : 0 < e.cfg.max - 1 := by have := hc.1; omega
  have hfl := chunks_flatten (e.cfg.max - 1) hk f.length f (Nat.le_refl _)
  have htot : totalLen (chunks (e.cfg.max - 1) f.length f) = f.length := by rw [← flatten_length, hfl]
  obtain ⟨d', hrun, hclean⟩ := runWith_collect runs e.cfg desc
    (fun d fs sq => d.frameBuffer = fs ∧ d.frameBufferSize = totalLen fs ∧ d.frameBufferSize ≠ 0 ∧ d.nextSeq = sq)
    Clean CodecAv1vp.vp8MaxFrameSize
    (fun d sq last x hx hle => by
      have hd := decode_start d { pt := e.cfg.pt, seq := sq, ssrc := e.cfg.ssrc, marker := last, payload := desc true last x }
        ⟨true, 0, x⟩ (unmarshal_first x) hx ⟨rfl, rfl⟩ hle
      cases last
      · exact ⟨_, hd, rfl, by simp, by simp only; omega, rfl⟩
      · exact ⟨_, hd, rfl, rfl⟩)
    (fun d fs sq last x hh hx hle => by
      obtain ⟨h1, h2, h3, h4⟩ := hh
      have hd := decode_cont d { pt := e.cfg.pt, seq := sq, ssrc := e.cfg.ssrc, marker := last, payload := desc false last x }
        ⟨false, 0, x⟩ (unmarshal_next x) hx (by simp) h3 h4.symm (by rw [h2]; exact hle)
      rw [joinFragments_snoc _ _ _ (h1 ▸ h2), h1] at hd
      cases last
      · exact ⟨_, hd, rfl, by simp [h2], by simp only; omega, by simp [h4]⟩
      · exact ⟨_, hd, rfl, rfl⟩)
    (chunks (e.cfg.max - 1) f.length f) (chunks_ne_nil _ _ f hf1 hf1)
    (fun x hx => (chunks_mem (e.cfg.max - 1) hk f.length f x hx).1) (by omega) d e.seq
  refine ⟨d', ?_, hclean⟩
  rw [pkts_valid hc hf1 h, hrun, emit_length, tag_length, hfl]

/-- **C07 flush**: from ANY state the packets of one intact valid frame leave the decoder clean. -/
theorem c07_flush (e e' : Enc) (f : Bytes) (ps : List Pkt) (d : Dec)
    (hc : ValidCfg e.cfg) (hf : ValidFrame f) (h : encode e f = some (e', ps)) :
    Clean (runDec d ps).1 := by
  obtain ⟨d', hrun, hclean⟩ := c03_roundtrip e e' f ps d hc hf h
  rw [hrun]; exact hclean

/-- **C07 resynchronisation**: after ANY packet history `h` (arbitrary packets: every loss /
duplication / reordering pattern applied to any stream is such a history), the packets of an
intact valid frame `g` give "more" … "more", `ok g` — the predecessor does not even have to be
intact for VP8, because a start packet always resets the decoder. -/
theorem c07_resync (h : List Pkt) (e e' : Enc) (g : Bytes) (ps : List Pkt)
    (hc : ValidCfg e.cfg) (hg : ValidFrame g) (he : encode e g = some (e', ps)) :
    ∃ d', runDec (runDec {} h).1 ps = (d', List.replicate (ps.length - 1) .more ++ [.ok g]) ∧ Clean d' :=
  c03_roundtrip e e' g ps _ hc hg he

/-- **C03, consecutive frames** through the same encoder / decoder pair: the exact answers to the packets
of two of them, one after the other. -/
theorem c03_roundtrip_many (e e1 e2 : Enc) (f g : Bytes) (ps qs : List Pkt) (d : Dec)
    (hc : ValidCfg e.cfg) (hf : ValidFrame f) (hg : ValidFrame g)
    (h1 : encode e f = some (e1, ps)) (h2 : encode e1 g = some (e2, qs)) :
    ∃ d', runDec d (ps ++ qs) = (d', (List.replicate (ps.length - 1) .more ++ [.ok f]) ++
                                       (List.replicate (qs.length - 1) .more ++ [.ok g])) ∧ Clean d' := by
  obtain ⟨d1, hr1, _⟩ := c03_roundtrip e e1 f ps d hc hf h1
  have hc1 : ValidCfg e1.cfg := by rw [(c06_seq_consecutive e e1 f ps h1).2.2]; exact hc
  obtain ⟨d2, hr2, hcl⟩ := c03_roundtrip e1 e2 g qs d1 hc1 hg h2
  refine ⟨d2, ?_, hcl⟩
  rw [runs.append, hr1]
  simp only [hr2]

/-- **C03, any series of frames** through the same encoder / decoder pair, from ANY decoder state:
the decoder returns exactly the frames, in order, answers "more packets needed" everywhere else and
ends clean (for a non-empty series). -/
theorem c03_roundtrip_list (e e' : Enc) (fs : List Bytes) (ps : List Pkt) (d : Dec) (hc : ValidCfg e.cfg)
    (hf : ∀ f ∈ fs, ValidFrame f) (h : encodeMany e fs = some (e', ps)) :
    okFrames (runDec d ps).2 = fs ∧ OnlyMoreOk (runDec d ps).2 ∧ (fs ≠ [] → Clean (runDec d ps).1) := by
  induction fs generalizing e ps d with
  | nil =>
    cases h
    exact ⟨rfl, by intro r hr; simp [runDec] at hr, fun h => absurd rfl h⟩
  | cons f fs ih =>
    obtain ⟨e1, qs, rs, he, hm, rfl⟩ := encodeMany_cons h
    obtain ⟨d1, hr1, hc1⟩ := c03_roundtrip e e1 f qs d hc (hf f (by simp)) he
    have hcfg : ValidCfg e1.cfg := by rw [(c06_seq_consecutive e e1 f qs he).2.2]; exact hc
    obtain ⟨g1, g2, g3⟩ := ih e1 rs d1 hcfg (fun x hx => hf x (by simp [hx])) hm
    simp only [runs.append, hr1]
    refine ⟨?_, only_frame_append g2, ?_⟩
    · rw [frames_frame_append okFrames, g1]
    · intro _
      cases fs with
      | nil => cases hm; simpa [runDec] using hc1
      | cons a t => exact g3 (by simp)

def exEnc : Enc := { cfg := { pt := 96, ssrc := 7, max := 4 }, seq := 65535 }
def exFrame : Bytes := [1, 2, 3, 4, 5, 6, 7]

example : ValidCfg exEnc.cfg ∧ ValidFrame exFrame := by decide
example : (encode exEnc exFrame).map (·.2.map (·.payload)) = some [[0x10, 1, 2, 3], [0, 4, 5, 6], [0, 7]] := by decide
example : (encode exEnc exFrame).map (·.2.map (·.seq)) = some [65535, 0, 1] := by decide
/-- from a dirty state (mid-frame, wrong expected sequence number) the frame still comes back -/
example : ((encode exEnc exFrame).map fun r =>
    (runDec { frameBuffer := [[9, 9]], frameBufferSize := 2, nextSeq := 77 } r.2).2)
    = some [.more, .more, .ok exFrame] := by decide
example : Inv { frameBuffer := [[9, 9]], frameBufferSize := 2, nextSeq := 77 } := ⟨by decide, by decide, by decide⟩

end Rtsp.Codec.Vp8
