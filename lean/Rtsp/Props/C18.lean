import Rtsp.Proofs.Size.Paths
import Rtsp.Proofs.Size.Start
/-
C18 — outbound packets never exceed the configured maximum size.

  "No RTP or RTCP packet leaves a client, a server session or a server stream in a UDP datagram or
   interleaved frame whose payload exceeds the configured maximum packet size (1472 bytes by
   default), SRTP overhead included; a write that would exceed it returns an error to the caller and
   transmits nothing.  Configurations asking for a larger maximum, or for a write-queue size that is
   not a power of two, are rejected when the client or server is started."

The theorems are about `Rtsp.Size` (Model/SizeGuard.lean): `Path.sendRtp` / `Path.sendRtcp` are what
the operating system is handed by each public write entry point, for every maximum, every packet
shape, every MKI length, UDP and TCP.  `|mki|` is explicit everywhere: `ctx = some m` is an
outbound SRTP context whose MKI has `m` bytes.  The client subtracts `m` from its plain-size limit
(since fix 5e4f036; fact `clientRtpCountsMki`); the server paths do not, and are correct only because
server-made contexts never carry an MKI (`Path.mkiOk`, facts `sessionOutMkiSites = 0`,
`streamOutMkiSites = 0`) — `mki_ignored_overflows` shows what happens otherwise.
-/
namespace Rtsp.Size.C18
open Rtsp.Facts.Size

/-- size of what an accepted RTP write hands to the transport -/
theorem rtp_sent_size (path : Path) (max : Nat) (ctx : Option Nat) (p : RtpShape) (w : Nat)
    (hm : path.mkiOk ctx) (h : path.rtp max ctx p = .sent w) :
    wellFormed p = true ∧ w = path.wire ctx rtpGrowth (rtpMarshalSize p) ∧ w ≤ max ∧
    rtpMarshalSize p + rtpGrowth ctx ≤ max := by
  by_cases hp : path = .mcastReport
  · subst hp; cases h
  rw [Path.rtp_spec path max ctx p hp hm] at h
  split at h
  · cases h
  · split at h
    · rename_i hc
      cases h
      exact ⟨hc.1, rfl, Nat.le_trans (Path.wire_le ..) hc.2, hc.2⟩
    · cases h

/-- **Every accepted RTP write puts at most `MaxPacketSize` bytes in one UDP datagram or in one
intact interleaved frame — SRTP tag and MKI included — on every write path.** -/
theorem rtp_wire_le_max (path : Path) (proto : Proto) (max : Nat) (ctx : Option Nat) (p : RtpShape)
    (hm : path.mkiOk ctx) : WireOk max (path.sendRtp proto max ctx p) := by
  unfold Path.sendRtp
  exact onWire_ok (Path.extra_eq path) (fun w h => (rtp_sent_size path max ctx p w hm h).2.2.1)

theorem rtcp_sent_size (path : Path) (max : Nat) (ctx : Option Nat) (ver2 : Bool) (parts : List Nat) (w : Nat)
    (hm : path.mkiOk ctx) (h : path.rtcp max ctx ver2 parts = .sent w) :
    w = path.wire ctx rtcpGrowth (rtcpLen parts) ∧ w ≤ max ∧ rtcpLen parts + rtcpGrowth ctx ≤ max := by
  rw [Path.rtcp_spec path max ctx ver2 parts hm] at h
  split at h
  · rename_i hc
    cases h
    exact ⟨rfl, Nat.le_trans (Path.wire_le ..) hc.1, hc.1⟩
  · cases h

/-- **The same for RTCP, compound packets included (`parts` = the packets of the compound).** -/
theorem rtcp_wire_le_max (path : Path) (proto : Proto) (max : Nat) (ctx : Option Nat) (ver2 : Bool)
    (parts : List Nat) (hm : path.mkiOk ctx) : WireOk max (path.sendRtcp proto max ctx ver2 parts) := by
  unfold Path.sendRtcp
  exact onWire_ok (Path.extra_eq path) (fun w h => (rtcp_sent_size path max ctx ver2 parts w hm h).2.1)

/-- a compound packet is as long as its parts together -/
theorem rtcpLen_eq_sum (parts : List Nat) : rtcpLen parts = parts.sum :=
  List.sum_eq_foldl_nat.symm

/-- **A write whose encoded size would exceed the maximum returns an error (or, when the maximum is
smaller than the SRTP overhead itself, panics in `make`) and nothing is handed to the transport.** -/
theorem oversize_rejected_nothing_sent (path : Path) (proto : Proto) (max : Nat) (ctx : Option Nat)
    (p : RtpShape) (hm : path.mkiOk ctx) (hbig : max < rtpMarshalSize p + rtpGrowth ctx) :
    (path.rtp max ctx p = .err ∨ path.rtp max ctx p = .panic) ∧
    path.sendRtp proto max ctx p = .nothing := by
  have key : ∀ w, path.rtp max ctx p ≠ .sent w := fun w h => by
    have := (rtp_sent_size path max ctx p w hm h).2.2.2
    omega
  refine ⟨?_, onWire_nothing_iff.2 key⟩
  cases h : path.rtp max ctx p with
  | err => simp
  | panic => simp
  | sent w => exact absurd h (key w)

theorem oversize_rtcp_rejected_nothing_sent (path : Path) (proto : Proto) (max : Nat) (ctx : Option Nat)
    (ver2 : Bool) (parts : List Nat) (hm : path.mkiOk ctx) (hbig : max < rtcpLen parts + rtcpGrowth ctx) :
    path.rtcp max ctx ver2 parts = .err ∧ path.sendRtcp proto max ctx ver2 parts = .nothing := by
  have key : path.rtcp max ctx ver2 parts = .err := by
    rw [Path.rtcp_spec path max ctx ver2 parts hm, if_neg (fun h => by omega)]
  exact ⟨key, onWire_nothing_iff.2 fun w h => nomatch key.symm.trans h⟩

/-- whatever the reason of a refusal, a refused write transmits nothing -/
theorem error_transmits_nothing (path : Path) (proto : Proto) (max : Nat) (ctx : Option Nat) :
    (∀ p, (∀ w, path.rtp max ctx p ≠ .sent w) → path.sendRtp proto max ctx p = .nothing) ∧
    (∀ v parts, (∀ w, path.rtcp max ctx v parts ≠ .sent w) → path.sendRtcp proto max ctx v parts = .nothing) := by
  exact ⟨fun _ => onWire_nothing_iff.2, fun _ _ => onWire_nothing_iff.2⟩

theorem rtp_fitting_accepted (path : Path) (max : Nat) (ctx : Option Nat) (p : RtpShape)
    (hp : path ≠ .mcastReport) (hm : path.mkiOk ctx) (hw : wellFormed p = true)
    (hf : rtpMarshalSize p + rtpGrowth ctx ≤ max) :
    path.rtp max ctx p = .sent (path.wire ctx rtpGrowth (rtpMarshalSize p)) := by
  rw [Path.rtp_spec path max ctx p hp hm, if_neg (by omega), if_pos ⟨hw, hf⟩]

theorem rtcp_fitting_accepted (path : Path) (max : Nat) (ctx : Option Nat) (ver2 : Bool) (parts : List Nat)
    (hm : path.mkiOk ctx) (he : ctx ≠ none → rtcpEncryptable ver2 (rtcpLen parts) = true)
    (hf : rtcpLen parts + rtcpGrowth ctx ≤ max) :
    path.rtcp max ctx ver2 parts = .sent (path.wire ctx rtcpGrowth (rtcpLen parts)) := by
  rw [Path.rtcp_spec path max ctx ver2 parts hm, if_pos ⟨hf, he⟩]

/-- `make([]byte, negative)` can only happen when the maximum is below the SRTP overhead -/
theorem no_panic (path : Path) (max : Nat) (ctx : Option Nat) (p : RtpShape)
    (hm : path.mkiOk ctx) (hmax : rtpGrowth ctx ≤ max) : path.rtp max ctx p ≠ .panic := by
  by_cases hp : path = .mcastReport
  · subst hp; exact nofun
  rw [Path.rtp_spec path max ctx p hp hm, if_neg (by omega)]
  split <;> exact nofun

/-- **A path that ignores a non-empty MKI overflows**: with the server-style limit
(`MaxPacketSize - srtpOverhead`) and a context carrying the Axis MKI (`mkiLength` = 4 bytes), a packet
at the limit leaves 4 bytes too large, and over TCP its frame announces `max + 4` bytes while only
`max` are written.  This is what the client did before fix 5e4f036, and what any server path would do
if a server-made context ever carried an MKI. -/
theorem mki_ignored_overflows (max : Nat) (hmax : 22 ≤ max) :
    ∃ p : RtpShape, wellFormed p = true ∧
      writeRtp max srtpOverhead false (some mkiLength) p = .sent (max + 4) ∧
      onWire .udp max 4 (writeRtp max srtpOverhead false (some mkiLength) p) = .datagram (max + 4) ∧
      onWire .tcp max 4 (writeRtp max srtpOverhead false (some mkiLength) p) = .frame (max + 4) max := by
  refine ⟨{ payload := max - 22 }, rfl, ?_⟩
  have hsz : rtpMarshalSize { payload := max - 22 } = max - 10 := by
    rw [rtpMarshalSize_eq]; simp [extSize, paddingSize]; omega
  have hfit : ((rtpMarshalSize { payload := max - 22 } : Nat) : Int) ≤ plainLimit max srtpOverhead false (some mkiLength) := by
    rw [hsz, plainLimit_some]; simp [srtpOverhead]; omega
  have h1 : writeRtp max srtpOverhead false (some mkiLength) { payload := max - 22 } = .sent (max + 4) := by
    unfold writeRtp
    rw [encodeRtp_ok_of_fits rfl hfit, hsz]
    simp [Enc.own, srtpLen, mkiLength, authTagRtpLen]; omega
  refine ⟨h1, ?_, ?_⟩
  · rw [h1]; rfl
  · rw [h1]; simp [onWire, frameOf]

/-- the facts behind `Path.mkiOk`: no server-made outbound context is given an MKI, the client's
Axis MKI has `mkiLength` = 4 bytes, and both client write functions count it -/
theorem mki_facts :
    sessionOutMkiSites = 0 ∧ streamOutMkiSites = 0 ∧ clientOutMkiSites = 1 ∧
    clientMkiAllocLength = mkiLength ∧ mkiLength = 4 ∧
    clientRtpCountsMki = true ∧ clientRtcpCountsMki = true := by decide

/-- pion's cipher is the one the overhead constants were written for -/
theorem overhead_facts :
    contextProfileIsAes128Sha1_80 = true ∧ pionRtpDstLen = true ∧ pionRtcpDstLen = true ∧
    srtpOverhead = authTagRtpLen ∧ srtcpOverhead = authTagRtcpLen + srtcpIndexSize ∧
    clientRtpOverhead = srtpOverhead ∧ sessionRtpOverhead = srtpOverhead ∧ streamRtpOverhead = srtpOverhead ∧
    clientRtcpOverhead = srtcpOverhead ∧ sessionRtcpOverhead = srtcpOverhead ∧
    streamRtcpOverhead = srtcpOverhead ∧ mcastRtcpOverhead = srtcpOverhead := by decide

/-- the shape of the code the model mirrors (each fact is a pattern that must still match the source):
the three `writePacketRTP` functions marshal into a buffer of exactly the plain limit and return the
marshal error; the four `writePacketRTCP` functions compare `len` with the limit and return an error;
pion checks header and payload against the buffer; the frame marshaller copies into the caller's
buffer; both `Start` functions apply the bit trick; the TCP frame buffers are `MaxPacketSize + 4`. -/
theorem code_shape_facts :
    clientRtpMarshalsIntoLimit = true ∧ streamRtpMarshalsIntoLimit = true ∧ sessionRtpMarshalsIntoLimit = true ∧
    clientRtcpLenCheck = true ∧ streamRtcpLenCheck = true ∧ sessionRtcpLenCheck = true ∧ mcastRtcpLenCheck = true ∧
    rtpSizeAddsPayloadAndPadding = true ∧ rtpHeaderSizeCheck = true ∧ frameMarshalCopies = true ∧
    clientPow2Check = true ∧ serverPow2Check = true ∧
    clientTcpBufferExtra = 4 ∧ sessionTcpBufferExtra = 4 ∧
    clientDefaultWriteQueueSize = 256 ∧ serverDefaultWriteQueueSize = 256 ∧
    clientDefaultMaxPacketSize = udpMaxPayloadSize ∧ serverDefaultMaxPacketSize = udpMaxPayloadSize ∧
    clientMaxPacketSizeLimit = udpMaxPayloadSize ∧ serverMaxPacketSizeLimit = udpMaxPayloadSize ∧
    udpMaxPayloadSize = 1472 := by decide

/-- the firewall-opening datagrams are 12 / 8 bytes in the clear and 22 + |mki| bytes under SRTP;
they respect every maximum of at least 22 + |mki| bytes (they are not checked against it) -/
theorem punch_sizes (ctx : Option Nat) (max : Nat) :
    punchRtp none = 12 ∧ punchRtcp none = 8 ∧
    (∀ m, punchRtp (some m) = 22 + m ∧ punchRtcp (some m) = 22 + m) ∧
    (22 + ctxMki ctx ≤ max → punchRtp ctx ≤ max ∧ punchRtcp ctx ≤ max) := by
  have c1 : rtpFixedHeader = 12 := rfl
  have c3 : authTagRtpLen = 10 := rfl
  have c4 : authTagRtcpLen = 10 := rfl
  have c5 : srtcpIndexSize = 4 := rfl
  refine ⟨rfl, rfl, ?_, ?_⟩
  · intro m
    simp only [punchRtp, punchRtcp, srtpLen, srtcpLen, c1, c3, c4, c5]
    omega
  · intro h
    cases ctx with
    | none => simp only [punchRtp, punchRtcp, c1, ctxMki] at *; omega
    | some m => simp only [punchRtp, punchRtcp, srtpLen, srtcpLen, c1, c3, c4, c5, ctxMki] at *; omega

/-- **`Start()` refuses a maximum above 1472 and a non-zero write-queue size whose bit pattern is
not a single bit** (client and server alike). -/
theorem start_rejects_bad_config (wq : BitVec 64) (max : Int) :
    (1472 < max → clientStart wq max = none ∧ serverStart wq max = none) ∧
    (wq ≠ 0 → (¬ ∃ k, wq.toNat = 2 ^ k) → clientStart wq max = none ∧ serverStart wq max = none) := by
  rw [clientStart_eq, serverStart_eq]
  have key : ¬ ((wq = 0 ∨ ∃ k, k < 64 ∧ wq.toNat = 2 ^ k) ∧ max ≤ (1472 : Nat)) →
      start true 256 1472 1472 wq max = none :=
    fun h => (start_none_iff ..).mpr (Classical.not_not.1 fun hn => h ((not_startRejects_iff ..).1 hn))
  refine ⟨fun h => ?_, fun h0 hk => ?_⟩
  · have := key fun a => by omega
    exact ⟨this, this⟩
  · have := key fun a => a.1.elim h0 fun ⟨k, _, e⟩ => hk ⟨k, e⟩
    exact ⟨this, this⟩

/-- exactly which configurations are accepted, and what is in force afterwards -/
theorem start_accepts_iff (wq : BitVec 64) (max : Int) (r : BitVec 64 × Int) :
    clientStart wq max = some r ↔
      (wq = 0 ∨ ∃ k, k < 64 ∧ wq.toNat = 2 ^ k) ∧ max ≤ 1472 ∧
      r = (if wq = 0 then 256#64 else wq, if max = 0 then 1472 else max) := by
  rw [clientStart_eq, start_some_iff, not_startRejects_iff, and_assoc]
  rfl

theorem server_start_eq_client_start (wq : BitVec 64) (max : Int) : serverStart wq max = clientStart wq max := rfl

/-- after a successful `Start` the maximum in force is at most 1472 (1472 when none was given) and
the queue size is a single bit (256 when none was given) -/
theorem started_values (wq : BitVec 64) (max : Int) (wq' : BitVec 64) (max' : Int)
    (h : clientStart wq max = some (wq', max')) :
    max' ≤ 1472 ∧ (max = 0 → max' = 1472) ∧ (∃ k, k < 64 ∧ wq'.toNat = 2 ^ k) ∧ (wq = 0 → wq' = 256#64) := by
  obtain ⟨hw, hm, hr⟩ := (start_accepts_iff wq max (wq', max')).mp h
  obtain ⟨rfl, rfl⟩ := Prod.mk.inj hr
  refine ⟨by split <;> omega, fun hz => by simp [hz], ?_, fun hz => by simp [hz]⟩
  by_cases h0 : wq = 0
  · rw [if_pos h0]; exact ⟨8, by decide, by decide⟩
  · rw [if_neg h0]; exact hw.resolve_left h0

/-- **`n & (n-1) == 0 ∧ n ≠ 0` ⇔ `n` is a power of two** (the check of `ringbuffer.New`; `Start`
applies it to the 64-bit pattern, `pow2_iff_bv`) -/
theorem pow2_iff (n : Nat) : (n &&& (n - 1) = 0 ∧ n ≠ 0) ↔ ∃ k, n = 2 ^ k := Rtsp.Size.pow2_iff n

theorem start_single_bit (wq : BitVec 64) (max : Int) (r : BitVec 64 × Int) (h : clientStart wq max = some r)
    (hne : wq.toInt ≠ 0) : ∃ k, k < 64 ∧ wq.toNat = 2 ^ k := by
  obtain ⟨hw | hw, _, _⟩ := (start_accepts_iff wq max r).mp h
  · subst hw; exact absurd rfl hne
  · exact hw

/-- Read as a signed Go `int`: every positive accepted queue size is a power of two … -/
theorem start_positive_queue_is_pow2 (wq : BitVec 64) (max : Int) (r : BitVec 64 × Int)
    (hpos : 0 < wq.toInt) (h : clientStart wq max = some r) : ∃ k, k < 63 ∧ wq.toInt = 2 ^ k := by
  obtain ⟨k, hk64, hk⟩ := start_single_bit wq max r h (by omega)
  obtain ⟨hk63, e⟩ | e := toInt_single_bit wq k hk64 hk
  · exact ⟨k, hk63, e⟩
  · omega

/-- … but the bit pattern of `math.MinInt64` is a single bit too: a negative queue size that `Start`
accepts (known finding `start-accepts-minint64-queue`; it is the only negative one, see
`start_negative_queue`). -/
theorem start_accepts_minint64 :
    (BitVec.ofInt 64 (-9223372036854775808)).toInt = -9223372036854775808 ∧
    clientStart (BitVec.ofInt 64 (-9223372036854775808)) 0 = some (BitVec.ofInt 64 (-9223372036854775808), 1472) ∧
    serverStart (BitVec.ofInt 64 (-9223372036854775808)) 0 = some (BitVec.ofInt 64 (-9223372036854775808), 1472) := by
  decide

theorem start_negative_queue (wq : BitVec 64) (max : Int) (r : BitVec 64 × Int)
    (hneg : wq.toInt < 0) (h : clientStart wq max = some r) : wq.toInt = -9223372036854775808 := by
  obtain ⟨k, hk64, hk⟩ := start_single_bit wq max r h (by omega)
  obtain ⟨_, e⟩ | e := toInt_single_bit wq k hk64 hk
  · have : (0 : Int) < 2 ^ k := Int.pow_pos (by decide)
    omega
  · exact e

/-! ### non-vacuity: concrete instances of every hypothesis (tests, not theorems) -/

-- client, Axis MKI, MaxPacketSize 200, RTP of marshalled size 186 = 200 - 10 - 4: accepted, 200 bytes on the wire
example : Path.client.sendRtp .udp 200 (some 4) { payload := 174 } = .datagram 200 := by decide
example : Path.client.sendRtp .tcp 200 (some 4) { payload := 174 } = .frame 200 200 := by decide
-- one byte more: refused, nothing sent
example : Path.client.sendRtp .udp 200 (some 4) { payload := 175 } = .nothing := by decide
example : Path.client.rtp 200 (some 4) { payload := 175 } = .err := by decide
-- CSRC, one-byte extension, padding: 12 + 8 + 12 + 100 + 6 = 138
example : rtpMarshalSize { csrc := 2, ext := .oneByte [3, 2], payload := 100, padFlag := true, hdrPad := 6 } = 138 := by decide
example : Path.session.sendRtp .tcp 148 (some 0) { csrc := 2, ext := .oneByte [3, 2], payload := 100, padFlag := true, hdrPad := 6 } = .frame 148 148 := by decide
example : Path.session.sendRtp .tcp 147 (some 0) { csrc := 2, ext := .oneByte [3, 2], payload := 100, padFlag := true, hdrPad := 6 } = .nothing := by decide
-- stream with SRTP context: the limit applies to readers without SRTP as well
example : (Path.stream false).sendRtp .tcp 200 (some 0) { payload := 178 } = .frame 190 190 := by decide
example : (Path.stream false).sendRtp .tcp 200 (some 0) { payload := 179 } = .nothing := by decide
example : (Path.stream true).sendRtp .udp 200 (some 0) { payload := 178 } = .datagram 200 := by decide
-- compound RTCP (receiver report 32 + SDES 20 + APP 134 = 186 = 200 - 14)
example : Path.client.sendRtcp .udp 200 (some 0) true [32, 20, 134] = .datagram 200 := by decide
example : Path.client.sendRtcp .udp 200 (some 0) true [32, 20, 135] = .nothing := by decide
example : Path.mcastReport.sendRtcp .udp 1472 (some 0) true [28] = .datagram 42 := by decide
-- hypotheses of the theorems are satisfiable
example : Path.session.mkiOk (some 0) := rfl
example : Path.client.mkiOk (some 4) := trivial
example : wellFormed { payload := 174 } = true := rfl
example : (1472 : Int) < 1473 ∧ clientStart 256#64 1473 = none := by decide
example : (3#64 : BitVec 64) ≠ 0 ∧ clientStart 3#64 0 = none := by decide
example : clientStart 0#64 0 = some (256#64, 1472) := by decide
example : clientStart 64#64 1000 = some (64#64, 1000) := by decide
example : 0 < (64#64 : BitVec 64).toInt := by decide
example : (22 : Nat) ≤ 1472 := by decide
example : 22 + ctxMki (some 4) ≤ 200 := by decide

end Rtsp.Size.C18
