import Rtsp.Proofs.Sdp.SessionRoundTrip
import Rtsp.Proofs.Sdp.ValidB
import Rtsp.Proofs.Sdp.ParsedWf
import Rtsp.Proofs.Hdr.Mikey
import Rtsp.Proofs.Sdp.Accepted
import Rtsp.Proofs.Sdp.AcceptedGood
/-
# C05 — stream descriptions survive the SDP round trip

Property theorems about `Model/Sdp/{Str,Doc,Formats,Session,Valid,ValidB}.lean` (the model of
pkg/description, pkg/format's SDP side and pkg/sdpunmarshaler that the correspondence harness runs
against the real code).  The statements, with concrete sessions as non-vacuity examples; the proofs are in
`Rtsp/Proofs/Sdp/*.lean`, short derivations from them stand here.

Validity (`ValidFormat`, `Model/Sdp/Valid.lean`) = "supported formats with valid parameters".  The
exclusions — each generated by the Go driver as an `excluded` description and checked for
no-panic / model agreement / re-marshal stability, but outside the round-trip equality — are:

* all medias are back channels (documented: they are unmarked when no standard channel exists);
* title = one blank (`s= ` is the encoding of the empty title); titles / controls with CR or LF;
* media ids: partial, duplicate or not alphanumeric (rejected by the parser);
* two formats of one media with the same payload type;
* H264 with SPS but no PPS (or the reverse), or with an SPS that `h264.SPS.Unmarshal` rejects;
* parameter sets that start with an Annex-B start code 00 00 00 01 (stripped as a camera quirk);
* a `Generic` format whose rtpmap names a codec of the selection table;
* G711 / LPCM with a static payload type (0, 8, 10, 11) and parameters other than the static ones;
* a format of the dynamic table with a payload type outside 96..127 (H264 also 35);
* Opus with ChannelCount 0 (legacy zero value, read back as mono);
* MPEG-4 audio with SizeLength 0 (rejected) or ProfileLevelID 0 (legacy, written as 1) or an
  AudioSpecificConfig given by the deprecated ChannelCount field only;
* LATM with both CPresent and a StreamMuxConfig;
* FEC groups that are empty or name unknown media ids;
* media types other than video / audio / application(/x) / metadata / meta / text;
* negative `int` parameters and numeric parameters ≥ 2^31 (read back with `ParseUint(.., 10, 31)`);
* `Generic` fmtp keys / values that are not in parsed form;
* non-ASCII bytes anywhere but the title (byte-transparent in the code, outside the ASCII-modelled grammar).
-/
namespace Rtsp.Sdp

/-- `mikey.Message.Unmarshal` followed by `Marshal`, from the byte-level model of pkg/mikey (Model/Mikey.lean, the domain of
property C09): what the MIKEY component of the `Oracle` can be instantiated by (`C05.mikey_hypothesis`). -/
def mikeyOracle (b : Bytes) : Option Bytes := (Rtsp.Mikey.Message.unmarshal b).map Rtsp.Mikey.Message.marshal

end Rtsp.Sdp

namespace Rtsp.Sdp.C05

/-- **Every one of the 22 format types is an inverse pair**: for a format with valid parameters,
`format.Unmarshal` — given the payload type, the rtpmap `f.RTPMap()` and the fmtp entries `f.FMTP()` (keys
lower-cased, as `decodeFMTP` returns them) that `Media.Marshal` writes for `f` — selects the same format
type (selection table of `format.go`) and rebuilds exactly `f`: payload type, clock rate, every parameter
(hence equal `RTPMap()` and `FMTP()`).  Codec configuration blobs (SPS/PPS/VPS, AudioSpecificConfig,
StreamMuxConfig, MPEG-4 video config) are arbitrary byte strings that the dependency's parser accepts
(`Oracle`), transported through base64 / hex text. -/
theorem fmt_roundtrip (O : Oracle) (mt : Str) (f : Format) (h : ValidFormat O mt f) :
    unmarshalCtx O (ctxOf mt f) = .ok f := (goodFormat_of_valid h).2

/-- `fmt_roundtrip` at the five formats without parameters, whose validity is `True` -/
theorem fmt_roundtrip_static (O : Oracle) (mt : Str) :
    unmarshalCtx O (ctxOf mt .mpeg1video) = .ok .mpeg1video ∧ unmarshalCtx O (ctxOf mt .mjpeg) = .ok .mjpeg
    ∧ unmarshalCtx O (ctxOf mt .mpeg1audio) = .ok .mpeg1audio ∧ unmarshalCtx O (ctxOf mt .g722) = .ok .g722
    ∧ unmarshalCtx O (ctxOf mt .mpegts) = .ok .mpegts :=
  ⟨fmt_roundtrip O mt _ trivial, fmt_roundtrip O mt _ trivial, fmt_roundtrip O mt _ trivial,
    fmt_roundtrip O mt _ trivial, fmt_roundtrip O mt _ trivial⟩

/-- an oracle that accepts every blob (used by the non-vacuity examples) -/
def acceptAll : Oracle :=
  { mikey := fun b => some b, h264sps := fun _ => true, h265sps := fun _ => true, h265pps := fun _ => true,
    m4v := fun _ => true, asc := fun b => some ⟨b, 2, 48000, 0, 2, 0⟩, smc := fun b => some ⟨b, true, ⟨[], 2, 48000, 0, 2, 0⟩⟩ }

/-- non-vacuity: concrete formats with parameters and configuration blobs satisfy `ValidFormat` -/
example : ValidFormat acceptAll b!"video" (.h264 96 (some [0x67, 0x64, 0, 0x0c, 0xac]) (some [0x68, 0xee]) 1) :=
  validFormatB_sound _ _ _ (by decide)
example : ValidFormat acceptAll b!"audio" (.g711 97 true 16000 2) := validFormatB_sound _ _ _ (by decide)
example : ValidFormat acceptAll b!"audio" (.mpeg4audio 96 1 ⟨[0x11, 0x90], 2, 48000, 0, 2, 0⟩ 13 3 3) :=
  validFormatB_sound _ _ _ (by decide)
example : ValidFormat acceptAll b!"application" (.generic 98 b!"private/90000" [(b!"a", b!"1"), (b!"b", b!"x y")] 90000) :=
  validFormatB_sound _ _ _ (by decide)


/-- **SDP text round trip**: for every document that has the shape `Session.Marshal` builds (one-line
session name; attributes with non-empty colon-free ASCII keys; media lines with an accepted media type,
protocols of the accepted list and at least one format token), `sdpunmarshaler.Unmarshal` applied to the
text pion's `Marshal` writes (`v= o= s= c= t=` header, attributes, medias; CRLF line ends; unicast or
multicast connection address) returns exactly that document: session name, session attributes in order,
medias in order with media type, protocols, formats and attributes in order. -/
theorem sdp_text_roundtrip (multicast : Bool) (d : Doc) (h : WfDoc d) : parse (render multicast d) = .ok d :=
  parse_render multicast d h

/-- non-vacuity of `WfDoc`: a document with a session attribute and a media with two attributes -/
example : WfDoc ⟨b!"Stream", [⟨b!"tool", b!"x"⟩],
    [⟨b!"video", [b!"RTP", b!"AVP"], [b!"96"], [⟨b!"control", b!"trackID=0"⟩, ⟨b!"sendonly", []⟩]⟩]⟩ :=
  wfDoc_of_render (mc := false) (by decide)

/-- **Every document the tolerant parser returns is well formed** — for arbitrary input bytes (quirk
tolerance, missing `v=`/`o=`/`t=` lines, LF or CRLF line ends, empty lines, any line order the state
machine accepts). -/
theorem parsed_wellformed (t : Str) (d : Doc) (h : parse t = .ok d) : WfDoc d := wfDoc_parse h

/-- **Re-parse idempotence at the text layer, for every byte string**: whatever text
`sdpunmarshaler.Unmarshal` accepts, writing the resulting document out again (pion `Marshal` with the header
of `Session.Marshal`) and parsing that text returns the same document. -/
theorem sdp_reparse_idempotent (multicast : Bool) (t : Str) (d : Doc) (h : parse t = .ok d) :
    parse (render multicast d) = .ok d := parse_render multicast d (wfDoc_parse h)

/-- non-vacuity: a tolerated camera-style document (LF line ends, no `v=`, `o=` with the `IN IPV4` quirk, `t=now-`) -/
example : parse b!"o=- 0 0 IN IPV4 10.0.0.1\ns=cam\nt=now-\nm=video 0 RTP/AVP 96\na=control:trackID=0\n"
    = .ok ⟨b!"cam", [], [⟨b!"video", [b!"RTP", b!"AVP"], [b!"96"], [⟨b!"control", b!"trackID=0"⟩]⟩]⟩ := by decide

/-- the document a valid session marshals to has the shape `sdp_text_roundtrip` asks for -/
theorem marshal_wellformed (O : Oracle) (s : Session) (h : ValidSession O s) : WfDoc (marshalDoc s) :=
  wf_marshalDoc O s (goodSession_of_valid h)

/-- **C05, round trip.**  For every session description inside the validity predicate — any number of
medias, any number of formats per media drawn from all 22 format types with valid parameters, with or
without media ids, back channels (not all), FEC groups, MIKEY key-management data at session and media
level, either profile, any one-line title and control — the SDP text written by `Session.Marshal`
(`marshal`, unicast or multicast) is parsed by the library's own parser (`sdpunmarshaler.Unmarshal` then
`Session.Unmarshal2`) into exactly the same description: title, key-management data, FEC groups, medias in
order with equal type, id, back-channel flag, profile, key-management data, control, and formats in order,
each equal in payload type, clock rate and every parameter (hence equal `RTPMap()` and `FMTP()`). -/
theorem session_roundtrip (O : Oracle) (multicast : Bool) (s : Session) (h : ValidSession O s) :
    unmarshal O (marshal multicast s) = .ok s := unmarshal_marshal O multicast s h

/-- **Marshalling is injective on valid sessions**: two valid descriptions with the same SDP text are equal
(no two supported descriptions are confused by the text format). -/
theorem marshal_injective (O : Oracle) (multicast : Bool) (s₁ s₂ : Session) (h₁ : ValidSession O s₁) (h₂ : ValidSession O s₂)
    (h : marshal multicast s₁ = marshal multicast s₂) : s₁ = s₂ := by
  have e₁ := session_roundtrip O multicast s₁ h₁
  have e₂ := session_roundtrip O multicast s₂ h₂
  rw [h, e₂] at e₁
  exact (Res.ok.inj e₁).symm

/-- **The MIKEY hypothesis is dischargeable**: with the byte-level model of pkg/mikey (Model/Mikey.lean) as
the MIKEY component of the oracle, the encoding of every well-formed MIKEY message satisfies the validity
condition `O.mikey k = some k` (it is accepted and re-encoded to the same bytes). -/
theorem mikey_hypothesis (m : Rtsp.Mikey.Message) (wf : m.WF) : mikeyOracle m.marshal = some m.marshal := by
  simp [mikeyOracle, Rtsp.Mikey.Message.unmarshal_marshal m wf]

/-- non-vacuity: a session with a title, a FEC group, two medias with ids (H264 with parameter sets + a
static format; an Opus back channel with MIKEY data) is valid (`sample_valid`, by the executable check of
`validity_check_sound`), and `session_roundtrip` applies to it. -/
def sample : Session :=
  { title := b!"Stream", keyMgmt := none, fecGroups := [[b!"0", b!"1"]],
    medias := [
      { typ := b!"video", id := b!"0", backChannel := false, profile := .avp, keyMgmt := none, control := b!"trackID=0",
        formats := [.h264 96 (some [0x67, 0x64, 0, 0x0c, 0xac]) (some [0x68, 0xee]) 1, .mjpeg] },
      { typ := b!"audio", id := b!"1", backChannel := true, profile := .savp, keyMgmt := some [1, 0, 5], control := b!"trackID=1",
        formats := [.opus 111 2] }] }

theorem sample_valid : ValidSession acceptAll sample := validSessionB_sound _ _ (by decide)

example : unmarshal acceptAll (marshal false sample) = .ok sample := session_roundtrip _ _ _ sample_valid
example : validSessionB acceptAll sample = true := by decide

/-- **The executable validity check is sound.**  `validSessionB` is what the compiled model evaluates on
every description the Go generator emits as valid (operation `sdp valid`, expected answer 1): each of them
is therefore inside the hypothesis of `session_roundtrip`. -/
theorem validity_check_sound (O : Oracle) (s : Session) (h : validSessionB O s = true) : ValidSession O s :=
  validSessionB_sound O s h

/-- **Media round trip** (below the text layer): `Media.Unmarshal` applied to what `Media.Marshal` (plus the
`recvonly` marking of `Session.Marshal`) produced returns the media — id, back-channel flag, profile,
key-management data, control and every format. -/
theorem media_roundtrip (O : Oracle) (anyBack : Bool) (m : Media) (h : ValidMedia O m) :
    unmarshalMedia O (marshalMedia anyBack m) = .ok m := unmarshalMedia_marshal O anyBack m (goodMedia_of_valid h)

/-- **Format lookup**: in the attributes of a marshalled media with several formats (distinct payload types),
`format.Unmarshal` for the payload type of `f` finds `f`'s own rtpmap and fmtp among the others' and rebuilds `f`. -/
theorem format_lookup_roundtrip (O : Oracle) (anyBack : Bool) (m : Media) (h : ValidMedia O m) (f : Format) (hf : f ∈ m.formats) :
    unmarshalFormat O (marshalMedia anyBack m) (dec f.pt) = .ok f :=
  unmarshalFormat_marshal O anyBack m (goodMedia_of_valid h) f hf

/-- **Postconditions of the parser, for every byte string and every oracle**: whatever text the library's
parser accepts, the description has at least one media, every media at least one format and an alphanumeric
(or empty) id, ids are all absent or all present and pairwise distinct, at least one media is not a back
channel (back channels are unmarked otherwise), every FEC group is non-empty and names existing media ids, and
the title is never the single blank.  (These are structural clauses of `ValidSession`, not all of it: an accepted
description can still fall outside `ValidSession`, through its formats' parameters, through two formats of one media
with the same payload type — `m=audio 0 RTP/AVP 0 0` is accepted — or through non-ASCII text.) -/
theorem accepted_invariants (O : Oracle) (t : Str) (s : Session) (h : unmarshal O t = .ok s) : Accepted s := by
  obtain ⟨d, _, hd⟩ := Res.bind_eq_ok.mp h
  exact unmarshalDoc_post O d s hd

/-- an accepted text whose H265 VPS carries TWO Annex-B start codes (the parser strips one) -/
def doubledStartCode : Str := b!"s=x\nm=video 0 RTP/AVP 96\na=rtpmap:96 H265/90000\na=fmtp:96 sprop-vps=AAAAAQAAAAFAAQw=\n"

def doubledParsed : Session :=
  { title := b!"x", keyMgmt := none, fecGroups := [],
    medias := [{ typ := b!"video", id := [], backChannel := false, profile := .avp, keyMgmt := none, control := [],
                 formats := [.h265 96 (some [0, 0, 0, 1, 0x40, 1, 0xc]) none none 0] }] }

/-- **The re-parse clause, read literally for every accepted text, is FALSE of the unchanged code**
(known finding `reparse-differs:equal-parameters:h265:annexb-remains`, reproduced on the real code by
corpus/C05/h265-vps-doubled-start-code.json): the text above is accepted, the accepted description keeps one
start code in its VPS, and its own marshalling re-parses to a different description (the second start code is
stripped).  This is why the re-parse theorems carry a per-format hypothesis (`NoAnnexB` inside `ValidFormat`). -/
theorem reparse_clause_fails :
    unmarshal acceptAll doubledStartCode = .ok doubledParsed
    ∧ unmarshal acceptAll (marshal false doubledParsed) ≠ .ok doubledParsed := by
  constructor
  · decide
  · decide

/- Full statement of the last clause of C05 ("any description it accepts can be marshalled again and
re-parsed to the same value"):
    `unmarshal O t = .ok s → unmarshal O (marshal mc s) = .ok s`   for every text `t`.
This is not a theorem: it is FALSE of the unchanged code (`reparse_clause_fails` above).  What holds:
* the text layer for every `t` (`sdp_reparse_idempotent`);
* `reparse_idempotent_partial`: for EVERY accepted text, all structural hypotheses of the round trip are
  discharged (`accepted_invariants`, `parsed_wellformed`); what remains as hypothesis is (i) a coherent MIKEY
  oracle and (ii) per format of the accepted description: `GoodFormat` — the format writes well-formed
  attribute text and `format.Unmarshal` rebuilds it from its own rtpmap / fmtp — with distinct payload types
  per media.  (ii) is proved for every format inside `ValidFormat` (`good_of_valid_format`), so the clause
  holds for every accepted description whose formats are valid (`reparse_idempotent_valid_formats`).
Gap: formats the parser returns outside `ValidFormat` (payload types outside the dynamic range that the
selection table still maps, e.g. `PCMA` / `opus` / `L16` with any payload type; `Generic` formats with
unusual rtpmap / fmtp text; MPEG-4 audio without profile-level-id; parameter sets that keep a start code) are
not shown to be `GoodFormat` (the last kind is not); for those the clause is checked on the real code by the
Go oracle on every accepted text of the run and by the model comparison. -/
theorem reparse_idempotent_partial (O : Oracle) (multicast : Bool) (t : Str) (s : Session) (h : unmarshal O t = .ok s)
    (hmk : ∀ raw k, O.mikey raw = some k → O.mikey k = some k)
    (hfm : ∀ m ∈ s.medias, (∀ f ∈ m.formats, GoodFormat O m.typ f) ∧ m.formats.Pairwise fun a b => a.pt ≠ b.pt) :
    unmarshal O (marshal multicast s) = .ok s :=
  unmarshal_marshal_good O multicast s (goodSession_of_accepted O t s h hmk hfm)

theorem good_of_valid_format (O : Oracle) (mt : Str) (f : Format) (h : ValidFormat O mt f) : GoodFormat O mt f :=
  goodFormat_of_valid h

/-- the re-parse clause for accepted descriptions whose formats have valid parameters -/
theorem reparse_idempotent_valid_formats (O : Oracle) (multicast : Bool) (t : Str) (s : Session) (h : unmarshal O t = .ok s)
    (hmk : ∀ raw k, O.mikey raw = some k → O.mikey k = some k)
    (hfm : ∀ m ∈ s.medias, (∀ f ∈ m.formats, ValidFormat O m.typ f) ∧ m.formats.Pairwise fun a b => a.pt ≠ b.pt) :
    unmarshal O (marshal multicast s) = .ok s :=
  reparse_idempotent_partial O multicast t s h hmk (fun m hm => ⟨fun f hf => goodFormat_of_valid ((hfm m hm).1 f hf), (hfm m hm).2⟩)

def sample' : Session :=
  { title := b!"x", keyMgmt := none, fecGroups := [],
    medias := [{ typ := b!"audio", id := [], backChannel := false, profile := .avp, keyMgmt := none, control := b!"t",
                 formats := [.opus 111 2, .g722] }] }

/-- non-vacuity: the hypotheses hold for the text a valid session marshals to (the accept-all oracle is coherent) -/
example : unmarshal acceptAll (marshal true sample') = .ok sample' :=
  have hv : ValidSession acceptAll sample' := validSessionB_sound _ _ (by decide)
  reparse_idempotent_valid_formats acceptAll true (marshal true sample') sample' (by decide)
    (by intro raw k h; cases h; rfl)
    fun m hm => ⟨(hv.medias_ok m hm).formats_ok, (hv.medias_ok m hm).pts_distinct⟩

end Rtsp.Sdp.C05
