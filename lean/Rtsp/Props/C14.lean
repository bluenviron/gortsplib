import Rtsp.Proofs.Receiver.Displace
import Rtsp.Proofs.Receiver.Reports
/-
# C14 — RTP receiver: ordered, de-duplicated delivery and exact loss accounting

Property theorems about `Model/Receiver.lean` (the model of pkg/rtpreceiver/receiver.go that the
correspondence harness runs against the real `Receiver`).  What one `reorder` / `ProcessPacket2` /
`report` call does, the invariants and the lemmas over histories that other files share are in
`Rtsp/Proofs/Receiver/*.lean`; the theorems about whole histories that only this property states are
proved here.  One theorem of the property is needed by the pipeline proofs of C01 and stands in the
supporting modules, in this namespace: `delivered_subperm_arrivals` (Proofs/Receiver/Conserve).
Everything is quantified over **all** arrival histories, **all** starting sequence numbers (`UInt16`,
so every wrap position), **all** power-of-two buffer sizes `2^k`, `k ≤ 14`, and both transports — by
invariant + induction, no bound on the history.

Hypothesis `Pow2` (buffer size `2^k`, `k ≤ 14`): `Receiver.Initialize` does not validate
`BufferSize`; the property quantifies over powers of two, and above `2^14` the Go code's
`int16(len(rr.buffer))` / `uint16(len(rr.buffer))` conversions stop being exact.

The conclusion `Accounted` of `delivered_increasing_and_lost_eq_skipped`, unfolded (definitions in
`Proofs/Receiver`):
`Fwd a b`  : `b` is ahead of `a` as the receiver itself decides it, `int16(b − a − 1) ≥ 0`;
`IncFrom l seqs` : every element of `seqs` is `Fwd` of its predecessor, starting from `l`;
`skipped l seqs` : Σ of the sequence numbers skipped between consecutive elements (mod 2^16);
`Accounted unrel l outs` : per step, a detected restart delivers exactly the arriving packet with
  `lost = 0`; any other step has `lost = skipped` and (unreliable mode) `IncFrom`; the chain continues
  from the last delivered packet.
-/
namespace Rtsp.Recv.C14
open Rtsp.Facts

/-- **The state invariant holds in every reachable state**, for any interleaving of packets and
receiver reports.  (Window invariant: slot `absPos` empty; slot `absPos + r` holds, if anything, the
packet numbered `last + 1 + r` — hence no sequence number is buffered twice.) -/
theorem invariant_reachable (u : Bool) (size : Nat) (hs : u = true → Pow2 size) (ops : List Op) :
    Inv (exec (Recv.init u size) ops).1 :=
  inv_exec _ ops (inv_init u size hs)

/-- **Go's `for { … }` scan in `reorder` terminates**: under the invariant it stops within
`len(buffer) − 1` iterations (slot `absPos` is always empty). -/
theorem scan_terminates (s : State) (h : WInv s) : scanLen s < s.buf.length := (scan_spec s h).1

/-- **Ordered, de-duplicated delivery and exact loss accounting, along every history.**  From any
state satisfying the invariant that has seen its first packet, for every arrival history `ps`:
delivered sequence numbers strictly increase (unreliable mode) except across a detected restart, and
the number reported lost at each step equals the number of sequence numbers skipped between
consecutively delivered packets (both modes). -/
theorem delivered_increasing_and_lost_eq_skipped (s : State) (ps : List Pkt) (h : Inv s)
    (hf : s.first = true) : Accounted s.unreliable s.last (run s ps).2 := by
  induction ps generalizing s with
  | nil => trivial
  | cons p ps ih =>
    have hnext := ih (step s p).1 (inv_step s p h) (step_first_true s p hf)
    rw [step_last s p hf, step_unreliable s p hf] at hnext
    rw [runs.cons]
    refine ⟨?_, hnext⟩
    cases hu : s.unreliable with
    | true =>
      rw [(step_unrel_fields s p hf hu).2.2.2.2]
      cases hr : (reorder s p).2.restart with
      | true => rw [if_pos rfl]; exact (reorder_path s p).restart_shape hr
      | false =>
        rw [if_neg Bool.false_ne_true]
        have := (reorder_path s p).accounted (h.win hu) hr
        exact ⟨fun _ => this.1, this.2⟩
    | false =>
      rw [step_rel s p hf hu]
      exact ⟨fun hc => Bool.noConfusion hc, (Nat.add_zero _).symm⟩

/-- the same from power-on: the first packet is delivered as it is, then the chain starts -/
theorem from_init (u : Bool) (size : Nat) (hs : u = true → Pow2 size) (p : Pkt) (ps : List Pkt) :
    (run (Recv.init u size) (p :: ps)).2.head? = some { pkts := [p], lost := 0 } ∧
    Accounted u p.seq (run (Recv.init u size) (p :: ps)).2.tail := by
  have := delivered_increasing_and_lost_eq_skipped _ ps (inv_started u size hs p) rfl
  rw [runs.cons, step_init]
  exact ⟨rfl, this⟩

/-- **None delivered twice in a row**: consecutive delivered packets differ (`Fwd` is irreflexive). -/
theorem fwd_irrefl (a : UInt16) : ¬ Fwd a a := by
  unfold Fwd; rw [relPos_eq]
  have : (a - a - 1).toNat = 65535 := by
    simp
  rw [this]; decide

/-- **A restarted sender is followed again after at most `BufferSize + 1` packets.** -/
theorem restart_followed_within (s : State) (ps : List Pkt) (h : WInv s) (hf : s.first = true)
    (hu : s.unreliable = true) (hneg : ∀ p ∈ ps, relPos p.seq s.last < 0)
    (hlen : ps.length = s.buf.length + 1) : ∃ o ∈ (run s ps).2, o.restart = true :=
  restart_within s ps h hf hu hneg (by omega)

/-- **No duplicate is buffered**: two packets waiting in different slots have different numbers. -/
theorem buffered_distinct (s : State) (h : WInv s) (r₁ r₂ : Nat) (q₁ q₂ : Pkt)
    (h₁ : r₁ < s.buf.length) (h₂ : r₂ < s.buf.length)
    (e₁ : slot s r₁ = some q₁) (e₂ : slot s r₂ = some q₂) (hne : r₁ ≠ r₂) : q₁.seq ≠ q₂.seq := by
  rw [h.seqs r₁ q₁ h₁ e₁, h.seqs r₂ q₂ h₂ e₂]
  have hle := h.pow2.le
  intro heq
  -- offsets below 2^16 from one origin are distinct sequence numbers
  have := congrArg UInt16.toNat ((UInt16.add_right_inj _).mp heq)
  rw [UInt16.toNat_ofNat', UInt16.toNat_ofNat', Nat.mod_eq_of_lt (by omega),
    Nat.mod_eq_of_lt (by omega)] at this
  exact hne this

/-- **A packet at or ahead of the origin is not lost by the step**: unless it is a copy of a packet
already waiting in its slot, it is — like everything already waiting — delivered by the step or
still waiting after it (`arrival_conserved_exactly`, read for one packet). -/
theorem arrival_in_window_delivered (s : State) (p : Pkt) (h : WInv s)
    (hr : 0 ≤ relPos p.seq s.last)
    (hnd : relPos p.seq s.last < s.buf.length →
      s.buf.getD (slotIdx s (relPos p.seq s.last).toNat) none = none ∨ relPos p.seq s.last = 0)
    (q : Pkt) (hq : q = p ∨ q ∈ occupied s) :
    q ∈ (reorder s p).2.pkts ∨ q ∈ occupied (reorder s p).1 :=
  List.mem_append.mp (((reorder_path s p).perm h hr hnd).mem_iff.mpr (List.mem_cons.mpr hq))

/-- **A packet behind the origin** (`relPos < 0`) **below the restart threshold is dropped**, and
nothing else changes. -/
theorem dropped_only_behind (s : State) (p : Pkt) (hr : relPos p.seq s.last < 0)
    (hn : ¬ s.negCount + 1 > s.buf.length) :
    (reorder s p).2.pkts = [] ∧ (reorder s p).1.buf = s.buf ∧ (reorder s p).1.absPos = s.absPos := by
  rw [reorder_behind s p hr, if_neg hn]; exact ⟨rfl, rfl, rfl⟩

/-- a reachable mid-history state (one packet waiting two positions ahead, across the 65535 → 0
wrap) satisfies the invariant's hypotheses used above -/
def exState : State := (run (Recv.init true 4) [⟨65534, 0⟩, ⟨1, 1⟩]).1

example : exState.first = true ∧ exState.unreliable = true ∧ exState.last = 65534 ∧
    occupied exState = [⟨1, 1⟩] := by decide
example : Pow2 4 := ⟨2, by decide, by decide⟩
example : Inv exState := inv_exec _ [.pkt ⟨65534, 0⟩, .pkt ⟨1, 1⟩] (inv_init true 4 (fun _ => ⟨2, by decide, by decide⟩))
/-- the restart hypothesis is satisfiable: five packets behind the origin with N = 4 -/
example : ∃ o ∈ (run exState [⟨60000, 2⟩, ⟨60001, 3⟩, ⟨60002, 4⟩, ⟨60003, 5⟩, ⟨60004, 6⟩]).2, o.restart = true := by decide

/-! `delivered_subperm_arrivals` (delivered ++ still waiting ⊆ arrivals ++ initially waiting, as multisets,
along every history) stands in `Proofs/Receiver/Conserve.lean`, where the pipeline proofs use it too. -/

/-- hence, when the arrivals (and initially waiting packets) carry pairwise distinct identities, no
identity is delivered twice — within an epoch or across detected restarts — and none is both
delivered and still waiting -/
theorem delivered_ids_distinct (s : State) (ps : List Pkt) (h : Inv s)
    (hid : ((ps ++ occupied s).map (·.id)).Nodup) :
    ((delivered (run s ps).2 ++ occupied (run s ps).1).map (·.id)).Nodup :=
  (delivered_subperm_arrivals s ps h).ids_nodup hid

/-- from power-on -/
theorem delivered_subperm_from_init (u : Bool) (size : Nat) (hs : u = true → Pow2 size) (ps : List Pkt) :
    SubMs (delivered (run (Recv.init u size) ps).2) ps ∧
    ((ps.map (·.id)).Nodup → ((delivered (run (Recv.init u size) ps).2).map (·.id)).Nodup) := by
  have hocc := occupied_init u size
  have h := delivered_subperm_arrivals _ ps (inv_init u size hs)
  rw [hocc, List.append_nil] at h
  have h' : SubMs (delivered (run (Recv.init u size) ps).2) ps := by
    intro q; have := h q; simp only [List.count_append] at this; omega
  exact ⟨h', fun hid => h'.ids_nodup hid⟩

/-- for an arrival that is inside the window (or ahead of it) and not a copy of a waiting packet the
inclusion is an equality: `reorder` neither drops nor invents a packet -/
theorem arrival_conserved_exactly (s : State) (p : Pkt) (h : WInv s) (hr : 0 ≤ relPos p.seq s.last)
    (hnd : relPos p.seq s.last < s.buf.length →
      s.buf.getD (slotIdx s (relPos p.seq s.last).toNat) none = none ∨ relPos p.seq s.last = 0) :
    ((reorder s p).2.pkts ++ occupied (reorder s p).1).Perm (p :: occupied s) :=
  (reorder_path s p).perm h hr hnd

/-- non-vacuity for `arrival_conserved_exactly`: `exState` (packet 1 waiting, origin 65534) meets the
in-order packet 65535: it is delivered at once, packet 1 keeps waiting (0 is still missing) -/
example : 0 ≤ relPos 65535 exState.last ∧ relPos 65535 exState.last = 0 ∧
    ((reorder exState ⟨65535, 7⟩).2.pkts ++ occupied (reorder exState ⟨65535, 7⟩).1) = [⟨65535, 7⟩, ⟨1, 1⟩] := by
  decide

/-- non-vacuity (distinct ids incl. a duplicate sequence number carried by a different packet) -/
example : (([⟨10, 0⟩, ⟨12, 1⟩, ⟨12, 2⟩, ⟨11, 3⟩] : List Pkt).map (·.id)).Nodup ∧
    (delivered (run (Recv.init true 4) [⟨10, 0⟩, ⟨12, 1⟩, ⟨12, 2⟩, ⟨11, 3⟩]).2).map (·.id) = [0, 3, 1] := by
  decide

/-- **Statistics agree with the history** (`Stats().Received`, `.Lost`, `.LastSequenceNumber`). -/
theorem stats_agree (s : State) (ps : List Pkt) (hf : s.first = true) :
    (run s ps).1.received = s.received + deliveredCount (run s ps).2 ∧
    (run s ps).1.lost = s.lost + lostTotal (run s ps).2 ∧
    (run s ps).1.last = (run s ps).2.foldl (fun l o => lastSeq l o.pkts) s.last := by
  induction ps generalizing s with
  | nil => exact ⟨rfl, rfl, rfl⟩
  | cons p ps ih =>
    obtain ⟨h1, h2, h3⟩ := ih (step s p).1 (step_first_true s p hf)
    obtain ⟨c1, c2, _⟩ := step_counters s p hf
    rw [runs.cons]
    simp only [deliveredCount, lostTotal, List.map_cons, List.sum_cons, List.foldl_cons] at *
    refine ⟨by omega, by omega, ?_⟩
    rw [h3, step_last s p hf]

/-- **Receiver reports**: the fraction-lost value computed in `report()` is below 256 in every
state satisfying the invariant, so Go's `uint8(…)` conversion never wraps. -/
theorem fraction_lost_lt_256 (s : State) (h : Inv s) (r : Report) (hr : (report s).2 = some r) :
    r.fractionLost < 256 := by
  obtain ⟨_, _, f0, fle, _⟩ := report_floor s r hr
  rcases h.loss with hlt | ⟨_, h2⟩
  · -- fewer packets were lost than delivered and lost together
    have := Nat.min_le_left s.lostSince Recv.fractionClamp
    exact Nat.lt_of_mul_lt_mul_right (a := s.rlSince) (by omega)
  · rw [f0 h2]; decide

/-- cumulative loss is clamped to 24 bits -/
theorem total_lost_clamped (s : State) (r : Report) (hr : (report s).2 = some r) :
    r.totalLost ≤ Recv.lostClamp ∧ r.totalLost ≤ s.lost := by
  rw [(report_floor s r hr).1]
  exact ⟨Nat.min_le_right _ _, Nat.min_le_left _ _⟩

/-- **The loss counters agree with the history**: after any sequence of packets and reports from
power-on, `lost` is the sum of the losses reported by all steps, `lostSinceReport` the sum over the
steps since the previous report, and `receivedAndLostSinceReport` the number of packets delivered
plus lost over the same steps. -/
theorem loss_counters_history (u : Bool) (size : Nat) (hs : u = true → Pow2 size) (ops : List Op) :
    (exec (Recv.init u size) ops).1.lost = lostTotal (outsOf (exec (Recv.init u size) ops).2) ∧
    (exec (Recv.init u size) ops).1.lostSince = lostTotal (sinceReport (exec (Recv.init u size) ops).2) ∧
    (exec (Recv.init u size) ops).1.rlSince
      = deliveredCount (sinceReport (exec (Recv.init u size) ops).2)
        + lostTotal (sinceReport (exec (Recv.init u size) ops).2) := by
  have := exec_acct _ ops [] [] (inv_init u size hs) ⟨rfl, rfl, rfl⟩
  simp only [List.nil_append] at this
  exact ⟨this.lost, this.since, this.rl⟩

/-- **Report fields along a history.**  A report produced after any sequence of packets and reports
has `totalLost = min(Σ lost, 2^24−1)` and `fractionLost = ⌊256·m / rl⌋` where `m = min(lostSince,
2^24−1)`, `lostSince` / `rl` being the lost / delivered+lost totals of the steps since the previous
report (exact floor characterisation: `f·rl ≤ 256·m < (f+1)·rl`; `f = 0` when `rl = 0`). -/
theorem report_fields_history (u : Bool) (size : Nat) (hs : u = true → Pow2 size) (ops : List Op)
    (r : Report) (hr : (report (exec (Recv.init u size) ops).1).2 = some r) :
    r.totalLost = min (lostTotal (outsOf (exec (Recv.init u size) ops).2)) (2 ^ 24 - 1) ∧
    (∀ ls rl, ls = lostTotal (sinceReport (exec (Recv.init u size) ops).2) →
      rl = deliveredCount (sinceReport (exec (Recv.init u size) ops).2) + ls →
      (rl = 0 → r.fractionLost = 0) ∧
      r.fractionLost * rl ≤ 256 * min ls (2 ^ 24 - 1) ∧
      (rl ≠ 0 → 256 * min ls (2 ^ 24 - 1) < (r.fractionLost + 1) * rl) ∧
      (ls ≤ 2 ^ 24 - 1 → r.fractionLost * rl ≤ 256 * ls ∧ (rl ≠ 0 → 256 * ls < (r.fractionLost + 1) * rl))) := by
  obtain ⟨c1, c2, c3⟩ := loss_counters_history u size hs ops
  obtain ⟨f1, _, f3, f4, f5⟩ := report_floor _ r hr
  have hl : Recv.lostClamp = 2 ^ 24 - 1 := by decide
  have hc : Recv.fractionClamp = 2 ^ 24 - 1 := by decide
  rw [c1, hl] at f1
  rw [c2, c3, hc] at f4 f5
  rw [c3] at f3
  refine ⟨f1, ?_⟩
  intro ls rl hls hrl
  subst hls; subst hrl
  refine ⟨f3, f4, f5, ?_⟩
  intro hle
  rw [Nat.min_eq_left hle] at f4 f5
  exact ⟨f4, f5⟩

/-- non-vacuity: packets, a report, more packets with a loss, then the report in question:
4 lost + 2 delivered since the previous report → fraction ⌊256·4/6⌋ = 170 -/
example : (report (exec (Recv.init true 4)
      [.pkt ⟨1, 0⟩, .pkt ⟨2, 1⟩, .report, .pkt ⟨3, 2⟩, .pkt ⟨8, 3⟩]).1).2
    = some { extSeq := 8, fractionLost := 170, totalLost := 4 } := by decide

/-! ## Atomicity of `report()` and `ProcessPacket2` — the structural fact behind the step semantics

`exec` treats every `ProcessPacket2` call and every `report()` call as one indivisible step.  For
the Go code this is true because each of them is ONE exclusive critical section of the receiver's
mutex.  The facts are regenerated from /repo on every run (facts/recv.json):
`reportExclusiveSection` — `report()` starts with `rr.mutex.Lock(); defer rr.mutex.Unlock()` and,
before the closing brace of the function, contains the snapshot of both loss counters and both
interval resets; `processPacketExclusive` — the same shape for `ProcessPacket2`; and every mention
of the mutex in receiver.go belongs to such a whole-function `Lock`/`RLock` + deferred unlock pair,
so no function releases and re-acquires the lock in its body ("lock narrowing").  A report that
snapshots under one critical section and resets under another loses the losses accounted in
between from every report's fraction — `report_fields_history` would no longer describe the code. -/
theorem report_is_one_exclusive_section :
    Recv.reportExclusiveSection = true ∧ Recv.processPacketExclusive = true ∧
    Recv.mutexMentions = 2 * (Recv.exclusiveFunctionSections + Recv.sharedFunctionSections) := by
  decide

/-! ## The displacement clause in the property's own wording — false of the code as it stands

"a packet that arrives displaced by fewer positions than the reorder buffer size is delivered":
with a loss before it, the whole-buffer flush moves the origin past a packet that is merely one
position late.  Witness (N = 4, arrivals 1 2 4 5 7 6 8): `6` is never delivered and is counted lost.
This is recorded in known-findings.txt (key `recv-late-after-loss-flush`); what *is* true of the code
is `arrival_in_window_delivered` + `dropped_only_behind` above. -/

def witness : List Pkt := [1, 2, 4, 5, 7, 6, 8].map fun n => { seq := UInt16.ofNat n, id := n }

theorem displacement_clause_fails :
    ((run (Recv.init true 4) witness).2.flatMap (·.pkts)).map (·.id) = [1, 2, 4, 5, 7, 8] ∧
    lostTotal (run (Recv.init true 4) witness).2 = 2 := by decide

/-! ## The displacement clause where it IS true of the code: no loss, bounded displacement

"Displaced by fewer positions than the buffer size" is formalised on sequence numbers: the arrival
order `idx` (stream indices) is a permutation of `0 … n-1` (nothing lost, nothing duplicated) such
that an earlier arrival `a` and a later arrival `c` always satisfy `a < c + N` — no packet arrives
before a packet whose sequence number is `N` or more lower.  This implies that every packet is
preceded by fewer than `N` packets with a higher sequence number (they are among `c+1 … c+N-1`) and
arrives at most `N−1` positions late.  The weaker count-of-positions reading is NOT enough for the
code: see `early_arrival_flushes` below (one packet two positions early, everybody else ≤ 1 late,
N = 2: the early packet triggers the whole-buffer flush). -/

/-- **Displacement clause, loss-free case.**  From any state satisfying the invariant with an empty
reorder buffer, if the arrivals are a permutation of the consecutive stream `last+1 … last+n` (any
`n`, so across any number of wraps; `seqAt last i` is `last+1+i`) in which no packet arrives before a
packet `N = len(buffer)` or more positions behind it, then: every arrival falls inside the window
(`InWindow`: no flush, no drop, no restart, no duplicate branch), no step reports a loss, the
delivered packets are exactly the stream in order, they are the arrivals themselves (a permutation:
each delivered exactly once), `Lost` is unchanged and the buffer is empty again after the last
arrival. -/
theorem displacement_without_loss_delivered (s : State) (h : Inv s) (hf : s.first = true)
    (hu : s.unreliable = true) (hempty : occupied s = []) (ps : List Pkt) (idx : List Nat) (n : Nat)
    (hperm : idx.Perm (List.range n))
    (hseq : ps.map (·.seq) = idx.map (seqAt s.last))
    (hdisp : idx.Pairwise (fun a c => a < c + s.buf.length)) :
    InWindow s ps ∧
    (∀ o ∈ (run s ps).2, o.restart = false ∧ o.lost = 0) ∧
    (delivered (run s ps).2).map (·.seq) = (List.range n).map (seqAt s.last) ∧
    (delivered (run s ps).2).Perm ps ∧
    (run s ps).1.lost = s.lost ∧
    occupied (run s ps).1 = [] := by
  obtain ⟨m, hd, h3, hw, h1, h2⟩ := disp_prefix s.last n s 0 [] idx [] ps h hf hu (disp_start s hempty)
    (by rwa [List.nil_append, List.append_nil]) (by rwa [List.append_nil]) hseq
  rw [Nat.zero_add] at hd
  obtain ⟨rfl, h4⟩ := hd.done hw hperm
  have hp := inwindow_perm s ps h hf hu h1
  rw [h4, hempty] at hp
  refine ⟨h1, h2, ?_, by simpa using hp, ?_, h4⟩
  · rw [h3, List.range_eq_range']
  · rw [(stats_agree s ps hf).2.1, lostTotal_zero _ (fun o ho => (h2 o ho).2)]; rfl

/-- the same from power-on: the first packet `p0` defines the origin, the rest of the history is a
boundedly displaced permutation of the `n` packets that follow it -/
theorem displacement_without_loss_from_init (size : Nat) (hs : Pow2 size) (p0 : Pkt) (ps : List Pkt)
    (idx : List Nat) (n : Nat) (hperm : idx.Perm (List.range n))
    (hseq : ps.map (·.seq) = idx.map (seqAt p0.seq))
    (hdisp : idx.Pairwise (fun a c => a < c + size)) :
    (delivered (run (Recv.init true size) (p0 :: ps)).2).map (·.seq)
      = p0.seq :: (List.range n).map (seqAt p0.seq) ∧
    (delivered (run (Recv.init true size) (p0 :: ps)).2).Perm (p0 :: ps) ∧
    lostTotal (run (Recv.init true size) (p0 :: ps)).2 = 0 ∧
    (run (Recv.init true size) (p0 :: ps)).1.lost = 0 ∧
    (run (Recv.init true size) (p0 :: ps)).1.received = n + 1 ∧
    occupied (run (Recv.init true size) (p0 :: ps)).1 = [] := by
  have hlen : (started true size p0).buf.length = size := List.length_replicate
  obtain ⟨_, h2, h3, h4, h5, h6⟩ := displacement_without_loss_delivered (started true size p0)
    (inv_started true size (fun _ => hs) p0) rfl rfl (occupied_started true size p0) ps idx n hperm
    hseq (by rw [hlen]; exact hdisp)
  have hl0 := lostTotal_zero _ (fun o ho => (h2 o ho).2)
  have hrecv := (stats_agree (started true size p0) ps rfl).1
  have hcnt : deliveredCount (run (started true size p0) ps).2 = n := by
    have e1 := congrArg List.length h3
    rw [List.length_map, List.length_map, List.length_range] at e1
    rw [← e1]
    simp [deliveredCount, delivered, List.length_flatMap]
  rw [runs.cons, step_init]
  refine ⟨congrArg (p0.seq :: ·) h3, h4.cons p0, ?_, h5, ?_, h6⟩
  · show 0 + lostTotal _ = 0
    rw [hl0]
  · rw [hrecv, hcnt]
    exact Nat.add_comm 1 n

/-- non-vacuity: N = 4, first packet 65533, then the 8 packets 65534 … 5 (across the wrap) in the
order 2 0 1 3 6 4 5 7 (packets arrive up to 2 positions late, never 4 or more ahead) -/
def exIdx : List Nat := [2, 0, 1, 3, 6, 4, 5, 7]
def exPs : List Pkt := exIdx.map fun i => { seq := seqAt 65533 i, id := i }
example : exIdx.Perm (List.range 8) ∧ exPs.map (·.seq) = exIdx.map (seqAt 65533) ∧
    exIdx.Pairwise (fun a c => a < c + 4) := by decide
example : (delivered (run (Recv.init true 4) (⟨65533, 100⟩ :: exPs)).2).map (·.id)
    = [100, 0, 1, 2, 3, 4, 5, 6, 7] := by decide

/-- **Promptness in the loss-free case**: after every prefix `ps1` of such a history the delivered
packets are exactly the longest initial segment of the stream that has completely arrived — the
first `b` packets in order, where every index below `b` is among the arrivals so far and index `b`
itself is not.  Reordering never holds a packet back longer than necessary. -/
theorem displacement_without_loss_prompt (s : State) (h : Inv s) (hf : s.first = true)
    (hu : s.unreliable = true) (hempty : occupied s = []) (ps1 : List Pkt) (idx1 idx2 : List Nat)
    (n : Nat) (hperm : (idx1 ++ idx2).Perm (List.range n))
    (hseq : ps1.map (·.seq) = idx1.map (seqAt s.last))
    (hdisp : (idx1 ++ idx2).Pairwise (fun a c => a < c + s.buf.length)) :
    ∃ b, (delivered (run s ps1).2).map (·.seq) = (List.range b).map (seqAt s.last) ∧
      (∀ i, i < b → i ∈ idx1) ∧ (b < n → b ∉ idx1) ∧ b ≤ n := by
  obtain ⟨b, hd, hdel, hw, _⟩ := disp_prefix s.last n s 0 [] idx1 idx2 ps1 h hf hu
    (disp_start s hempty) hperm hdisp hseq
  rw [Nat.zero_add] at hd
  refine ⟨b, by rw [hdel, List.range_eq_range'], hd.pend.below, fun _ => hd.pend.next hw.view_head, ?_⟩
  -- `n` itself never arrives
  refine Nat.le_of_not_lt fun hlt => ?_
  have := hperm.mem_iff.mp (List.mem_append_left _ (hd.pend.below n hlt))
  simp at this

/-- non-vacuity: the example history above after its first five arrivals 2 0 1 3 6: packets
0 … 3 delivered, 4 not yet arrived, 6 waiting -/
example : (exIdx.take 5 ++ exIdx.drop 5).Perm (List.range 8) ∧
    (exPs.take 5).map (·.seq) = (exIdx.take 5).map (seqAt 65533) ∧
    (delivered (run (started true 4 ⟨65533, 100⟩) (exPs.take 5)).2).map (·.id) = [0, 1, 2, 3] := by decide

/-- TEST (`decide` on one sample, not a theorem over all inputs): counting positions is not enough.
N = 2, stream 1 … 4 after first packet 0, arrival order 3 1 2 4 — packet 3 is two positions early,
packets 1 and 2 are one position late and preceded by fewer than N higher-numbered packets; the
early packet is ≥ N ahead of the origin and triggers the whole-buffer flush (1 and 2 counted lost),
after which 1 and 2 are behind the origin and dropped. -/
theorem early_arrival_flushes :
    ((run (Recv.init true 2) ([0, 3, 1, 2, 4].map fun n => { seq := UInt16.ofNat n, id := n })).2.flatMap
      (·.pkts)).map (·.id) = [0, 3, 4] ∧
    lostTotal (run (Recv.init true 2) ([0, 3, 1, 2, 4].map fun n => { seq := UInt16.ofNat n, id := n })).2 = 2 := by
  decide

/-- **Extended highest sequence number**: every delivered packet `d` positions ahead
(`1 ≤ d < 65536 − 4095`; in unreliable mode `d ≤ 2^15` always) advances it by exactly `d`. -/
theorem ext_seq (s : State) (p : Pkt) (d : Nat) (hd1 : 1 ≤ d)
    (hd2 : (d : Int) < 65536 + Recv.cycleThreshold) (hp : p.seq = s.last + UInt16.ofNat d)
    (hc : s.cycles.toNat < 65535) : extSeq (advance s p) = extSeq s + d :=
  ext_seq_exact s p d hd1 hd2 (by decide) hp hc

/-- **Extended highest sequence number, lifted to histories**, both transports, under the
hypothesis the cycle counter really needs: every delivery is 1 … 61440 (= 2^16 − 4096, from the
`diff < -0x0FFF` test) positions ahead of the previous one — in reliable mode a forward jump of up
to 61440 is still followed exactly.  Then the extended highest sequence number `cycles·2^16 + last`
equals its starting value plus the sum of the forward distances of all delivered packets, as long
as that still fits the 32-bit field (i.e. the 16-bit cycle counter does not overflow). -/
theorem ext_seq_history_wide (s : State) (ps : List Pkt) (hf : s.first = true)
    (hst : Steps 61440 s.last ((delivered (run s ps).2).map (·.seq)))
    (hb : extSeq s + travel s.last ((delivered (run s ps).2).map (·.seq)) < 2 ^ 32) :
    extSeq (run s ps).1 = extSeq s + travel s.last ((delivered (run s ps).2).map (·.seq)) := by
  rw [← ext_seq_foldl s _ hst hb]
  unfold extSeq
  rw [(run_cycles_last s ps hf).1, (run_cycles_last s ps hf).2]

/-- non-vacuity: reliable mode, two jumps of 40000 (the second across the wrap) -/
example : Steps 61440 0 ((delivered (run (started false 0 ⟨0, 0⟩) [⟨40000, 1⟩, ⟨14464, 2⟩, ⟨14465, 3⟩]).2).map (·.seq)) ∧
    extSeq (run (started false 0 ⟨0, 0⟩) [⟨40000, 1⟩, ⟨14464, 2⟩, ⟨14465, 3⟩]).1 = 80001 := by decide

/-- in particular when every delivered packet is ahead of the previously delivered one in the
receiver's own sense (`Fwd`: 1 … 2^15 positions); the value is the `LastSequenceNumber` field of
the next receiver report -/
theorem ext_seq_history (s : State) (ps : List Pkt) (hf : s.first = true)
    (hinc : IncFrom s.last ((delivered (run s ps).2).map (·.seq)))
    (hb : extSeq s + travel s.last ((delivered (run s ps).2).map (·.seq)) < 2 ^ 32) :
    extSeq (run s ps).1 = extSeq s + travel s.last ((delivered (run s ps).2).map (·.seq)) ∧
    ∀ r, (report (run s ps).1).2 = some r →
      r.extSeq = extSeq s + travel s.last ((delivered (run s ps).2).map (·.seq)) := by
  have := ext_seq_history_wide s ps hf (incFrom_steps _ _ hinc) hb
  refine ⟨this, ?_⟩
  intro r hr
  rw [(report_floor _ r hr).2.1, this]

/-- in unreliable mode the hypothesis of `ext_seq_history` holds by itself for every history without
a detected restart (by `delivered_increasing_and_lost_eq_skipped`) -/
theorem ext_seq_history_no_restart (s : State) (ps : List Pkt) (h : Inv s) (hf : s.first = true)
    (hu : s.unreliable = true) (hnr : ∀ o ∈ (run s ps).2, o.restart = false)
    (hb : extSeq s + travel s.last ((delivered (run s ps).2).map (·.seq)) < 2 ^ 32) :
    extSeq (run s ps).1 = extSeq s + travel s.last ((delivered (run s ps).2).map (·.seq)) := by
  have hacc := delivered_increasing_and_lost_eq_skipped s ps h hf
  rw [hu] at hacc
  exact (ext_seq_history s ps hf (accounted_incFrom _ _ hacc hnr) hb).1

/-- from power-on: the extended highest sequence number is the first sequence number plus the sum of
the forward distances of all packets delivered after the first -/
theorem ext_seq_history_from_init (u : Bool) (size : Nat) (p : Pkt) (ps : List Pkt)
    (hinc : IncFrom p.seq ((delivered (run (Recv.init u size) (p :: ps)).2.tail).map (·.seq)))
    (hb : p.seq.toNat + travel p.seq ((delivered (run (Recv.init u size) (p :: ps)).2.tail).map (·.seq)) < 2 ^ 32) :
    extSeq (run (Recv.init u size) (p :: ps)).1
      = p.seq.toNat + travel p.seq ((delivered (run (Recv.init u size) (p :: ps)).2.tail).map (·.seq)) := by
  rw [runs.cons, step_init] at hinc hb ⊢
  simp only [List.tail_cons] at hinc hb ⊢
  have he : extSeq (started u size p) = p.seq.toNat := by simp [extSeq, started, Recv.init]
  have := (ext_seq_history (started u size p) ps rfl hinc (by rw [he]; exact hb)).1
  rw [this, he]; rfl

/-- non-vacuity: a history across the 65535 → 0 wrap with a loss and a reordering -/
example : IncFrom 65533 ((delivered (run (Recv.init true 4)
      [⟨65533, 0⟩, ⟨65535, 1⟩, ⟨65534, 2⟩, ⟨1, 3⟩, ⟨0, 4⟩, ⟨9, 5⟩]).2.tail).map (·.seq)) ∧
    extSeq (run (Recv.init true 4)
      [⟨65533, 0⟩, ⟨65535, 1⟩, ⟨65534, 2⟩, ⟨1, 3⟩, ⟨0, 4⟩, ⟨9, 5⟩]).1 = 65533 + 12 := by decide

/-- non-vacuity for `ext_seq_history_no_restart`: the same history has no detected restart -/
example : ∀ o ∈ (run (started true 4 ⟨65533, 0⟩) [⟨65535, 1⟩, ⟨65534, 2⟩, ⟨1, 3⟩, ⟨0, 4⟩, ⟨9, 5⟩]).2,
    o.restart = false := by decide

end Rtsp.Recv.C14
