import Rtsp.Proofs.Peer.ClientHist
import Rtsp.Proofs.Peer.Reject
import Rtsp.Proofs.Peer.RegInv
import Rtsp.Proofs.Peer.PinInv
/-
Property C19 — media and control are bound to the negotiated peer.

Theorems about the models in `Model/UdpDemux.lean` (server_udp_listener.go, client_udp_listener.go,
net.IP.Equal) and `Model/PeerSession.lean` (server.go findOrCreateSession, server_conn.go
handleRequestInSession, server_session.go handleRequestInner).  All statements quantify over every
address (4-byte, 16-byte, IPv4-mapped), port, datagram, registration history and datagram history;
nothing is bounded.

One theorem of the property is needed by the supporting modules and stands there, in this namespace:
`fill_injective_mod_v4mapped` (Proofs/Peer/Fill).
-/
namespace Rtsp.Peer.C19
open Rtsp.Peer Rtsp.Facts

/-- The shape of the code the models transcribe is still there: the v4 branch of `fill`, the 16-byte
key, lookup-before-callback in the server loop, store / delete in add / remove, the IP filter and the
any-port latch of the client loop, the author check of `findOrCreateSession`, the connection pin as
first statement of `handleRequestInner`, two places that set the pin and two that clear it; the zone
is part of the map key, all six registrations pass the author's zone, the client loop compares the
zone for unicast listeners and both listeners get the zone of the RTSP connection. -/
theorem facts_hold :
    Peer.fillTestsV4Len = true ∧ Peer.fillElseCopiesAll = true ∧ Peer.keyIsIPv6Array = true ∧
    Peer.serverLookupBeforeCallback = true ∧ Peer.serverAddIsMapStore = true ∧
    Peer.serverRemoveIsMapDelete = true ∧ Peer.clientIPFilterFirst = true ∧
    Peer.clientAnyPortLatch = true ∧ Peer.authorCheck = true ∧ Peer.pinCheckFirst = true ∧
    Peer.pinSetCount = 2 ∧ Peer.pinClearCount = 2 ∧ Peer.fillV4Offset = 12 ∧ Peer.fillPrefixFF = 255 ∧
    Peer.statusBadRequest = 400 ∧ Peer.statusSessionNotFound = 454 ∧
    Peer.fillStoresZone = true ∧ Peer.keyHasZone = true ∧ Peer.registrationsUseAuthorZone = 6 ∧
    Peer.clientZoneFilter = true ∧ Peer.clientReadZoneFromConn = 2 := by decide

/-- `fill_injective_mod_v4mapped` on addresses -/
example : ValidIP [127,0,0,1] ∧ ValidIP [0,0,0,0,0,0,0,0,0,0,0xff,0xff,127,0,0,1] ∧
    fill [127,0,0,1] "" 5000 = fill [0,0,0,0,0,0,0,0,0,0,0xff,0xff,127,0,0,1] "" 5000 ∧
    fill [127,0,0,1] "" 5000 ≠ fill [127,0,0,2] "" 5000 ∧ fill [127,0,0,1] "" 5000 ≠ fill [127,0,0,1] "" 5001 ∧
    fill [127,0,0,1] "" 5000 ≠ fill [0,0,0,0,0,0,0,0,0,0,0,0,127,0,0,1] "" 5000 ∧
    fill [0xfe,0x80,0,0,0,0,0,0,0,0,0,0,0,0,0,1] "eth0" 5000 ≠ fill [0xfe,0x80,0,0,0,0,0,0,0,0,0,0,0,0,0,1] "eth1" 5000 := by decide

/-- **The server listener delivers to `cb` iff `cb` is what the registration history says for that
source.**  `build ops` is the `clients` map after any sequence of `addClient` / `removeClient` calls
starting from `initialize()`; `registered` is the specification (newest matching registration wins,
matching = same port, same zone and `net.IP.Equal`) and does not mention `fill` or the map. -/
theorem server_delivers_iff_registered {α : Type} (ops : List (RegOp α)) (hv : ∀ op ∈ ops, ValidIP op.ip)
    (ip : IP) (hip : ValidIP ip) (zone : String) (port : Int) :
    dispatch (build ops) ip zone port = registered ops ip zone port := by
  have := dispatch_build_rev ops.reverse (by simpa using hv) ip hip zone port
  simpa [registered] using this

/-- the same for a particular callback, and as the lookup of the filled key in the map -/
theorem server_delivers_iff_registered_cb {α : Type} (ops : List (RegOp α)) (hv : ∀ op ∈ ops, ValidIP op.ip)
    (ip : IP) (hip : ValidIP ip) (zone : String) (port : Int) (cb : α) :
    (dispatch (build ops) ip zone port = some cb ↔ registered ops ip zone port = some cb) ∧
    (dispatch (build ops) ip zone port = some cb ↔ (build ops).get (fill ip zone port) = some cb) := by
  rw [server_delivers_iff_registered ops hv ip hip zone port]
  exact ⟨Iff.rfl, by rw [← server_delivers_iff_registered ops hv ip hip zone port]; exact Iff.rfl⟩

/-- non-vacuity: a history with an overwrite, a removal through the mapped form and a foreign port -/
example :
    let ops : List (RegOp Nat) := [.add [127,0,0,1] "" 5000 1, .add [127,0,0,1] "" 5002 2,
      .add [0,0,0,0,0,0,0,0,0,0,0xff,0xff,127,0,0,1] "" 5000 3, .remove [0,0,0,0,0,0,0,0,0,0,0xff,0xff,127,0,0,1] "" 5002,
      .add [0xfe,0x80,0,0,0,0,0,0,0,0,0,0,0,0,0,1] "eth0" 5000 4]
    (∀ op ∈ ops, ValidIP op.ip) ∧
    dispatch (build ops) [127,0,0,1] "" 5000 = some 3 ∧ dispatch (build ops) [127,0,0,1] "" 5002 = none ∧
    dispatch (build ops) [127,0,0,2] "" 5000 = none ∧ dispatch (build ops) [127,0,0,1] "" 5001 = none ∧
    dispatch (build ops) [0,0,0,0,0,0,0,0,0,0,0,0,0,0,0,1] "" 5000 = none ∧
    dispatch (build ops) [0xfe,0x80,0,0,0,0,0,0,0,0,0,0,0,0,0,1] "eth0" 5000 = some 4 ∧
    dispatch (build ops) [0xfe,0x80,0,0,0,0,0,0,0,0,0,0,0,0,0,1] "eth1" 5000 = none := by decide

/-- **A datagram from a source that is not registered changes nothing**: for every reachable state of
the listener (any interleaving of registrations and datagrams), if the specification says nobody is
registered for `(ip%zone, port)` then the whole state – the map, the log of callback invocations, every
byte / packet counter and every stored last-packet time – is returned unchanged and no callback is
invoked.  (The step function transcribes `run()`: the lookup precedes everything else; fact
`serverLookupBeforeCallback`; the correspondence runs check it against the real loop.) -/
theorem foreign_source_no_effect (evs : List SrvEv) (hv : ∀ op, SrvEv.reg op ∈ evs → ValidIP op.ip)
    (ip : IP) (hip : ValidIP ip) (zone : String) (port : Int) (len : Nat) (now : Int)
    (h : registered (regsOf evs) ip zone port = none) :
    (Srv.run evs).recv ip zone port len now = (Srv.run evs, none) := by
  apply Srv.recv_none
  rw [Srv.run_clients, server_delivers_iff_registered _ (fun op hop => hv op (mem_regsOf hop)) ip hip zone port]
  exact h

/-- **A datagram from a registered source reaches exactly the registered callback**: the log grows by
one entry for `cb`, `cb`'s counters grow by the payload length / one packet and its last-packet time
becomes `now`; the counters of every other callback and the map are untouched. -/
theorem negotiated_source_effect (evs : List SrvEv) (hv : ∀ op, SrvEv.reg op ∈ evs → ValidIP op.ip)
    (ip : IP) (hip : ValidIP ip) (zone : String) (port : Int) (len : Nat) (now : Int) (cb : Nat)
    (h : registered (regsOf evs) ip zone port = some cb) :
    let s := Srv.run evs
    let r := s.recv ip zone port len now
    r.2 = some cb ∧ r.1.clients = s.clients ∧ r.1.log = ⟨cb, len, now⟩ :: s.log ∧
    statOf r.1.stats cb = { bytes := (statOf s.stats cb).bytes + len, pkts := (statOf s.stats cb).pkts + 1, last := now } ∧
    ∀ cb', cb' ≠ cb → statOf r.1.stats cb' = statOf s.stats cb' := by
  intro s r
  have hd : dispatch s.clients ip zone port = some cb := by
    show dispatch (Srv.run evs).clients ip zone port = some cb
    rw [Srv.run_clients, server_delivers_iff_registered _ (fun op hop => hv op (mem_regsOf hop)) ip hip zone port]
    exact h
  have hr : r = _ := Srv.recv_some len now hd
  rw [hr]
  exact ⟨rfl, rfl, rfl, statOf_bump_self _ _ _ _, fun cb' hne => statOf_bump_ne _ _ _ _ _ hne⟩

/-- non-vacuity of both hypotheses on one history -/
example :
    let evs : List SrvEv := [.reg (.add [127,0,0,1] "" 5000 1), .dgram [127,0,0,1] "" 5000 100 7,
      .reg (.add [127,0,0,1] "" 5002 2), .dgram [127,0,0,2] "" 5000 50 8]
    (∀ op, SrvEv.reg op ∈ evs → ValidIP op.ip) ∧
    registered (regsOf evs) [127,0,0,2] "" 5000 = none ∧ registered (regsOf evs) [127,0,0,1] "" 5001 = none ∧
    registered (regsOf evs) [127,0,0,1] "eth0" 5000 = none ∧
    registered (regsOf evs) [0,0,0,0,0,0,0,0,0,0,0xff,0xff,127,0,0,1] "" 5000 = some 1 ∧
    statOf (Srv.run evs).stats 1 = { bytes := 100, pkts := 1, last := 7 } := by
  refine ⟨?_, by decide, by decide, by decide, by decide, by decide⟩
  intro op h
  simp only [List.mem_cons, SrvEv.reg.injEq, List.not_mem_nil, or_false, reduceCtorEq, false_or] at h
  rcases h with h | h <;> subst h <;> decide

/-- **The client listener accepts a datagram iff it comes from the negotiated address, from the zone
of the RTSP connection (unicast listeners) and – unless relaxed and not yet latched – from the
negotiated port; a rejected datagram leaves the listener (read port, last-packet time, deliveries)
unchanged; an accepted one sets the read port to its source port, stores the time and is handed to
`readFunc`.** -/
theorem client_filter (s : CL) (ip : IP) (zone : String) (port : Int) (len : Nat) (now : Int) :
    ((s.recv ip zone port len now).2 = true ↔
      (ipEqual s.readIP ip = true ∧ (s.multicast = true ∨ s.readZone = zone) ∧
        (port = s.readPort ∨ (s.anyPort = true ∧ s.readPort = 0)))) ∧
    ((s.recv ip zone port len now).2 = false → (s.recv ip zone port len now).1 = s) ∧
    ((s.recv ip zone port len now).2 = true → (s.recv ip zone port len now).1 =
      { s with readPort := port, last := now, delivered := (len, port) :: s.delivered }) := by
  rw [CL.recv_eq]
  split
  · next a => exact ⟨⟨fun _ => a, fun _ => rfl⟩, fun h => (by cases h), fun _ => rfl⟩
  · next a => exact ⟨⟨fun h => (by cases h), fun h => absurd h a⟩, fun _ => rfl, fun h => (by cases h)⟩

/-- **Strict listeners over histories** (`AnyPortEnable` off, or the port already latched): whatever
arrives, the read port never changes and every payload handed to `readFunc` came from the negotiated
address, zone and port. -/
theorem client_strict_history (s : CL) (ds : List Dgram) (h : ¬ (s.anyPort = true ∧ s.readPort = 0)) :
    (s.run ds).readPort = s.readPort ∧ (s.run ds).readIP = s.readIP ∧
    ∃ new, (s.run ds).delivered = new ++ s.delivered ∧
      ∀ e ∈ new, ∃ d ∈ ds, ipEqual s.readIP d.ip = true ∧ (s.multicast = true ∨ s.readZone = d.zone) ∧
        d.port = s.readPort ∧ e = (d.len, d.port) := by
  obtain ⟨l, new, e, hnew⟩ := CL.run_strict s ds h
  rw [e]
  exact ⟨rfl, rfl, new, rfl, hnew⟩

example : ¬ (({ anyPort := false, readIP := [127,0,0,1], readPort := 0 } : CL).anyPort = true ∧
    ({ anyPort := false, readIP := [127,0,0,1], readPort := 0 } : CL).readPort = 0) := by decide
example : ¬ (({ anyPort := true, readIP := [127,0,0,1], readPort := 8000 } : CL).anyPort = true ∧
    ({ anyPort := true, readIP := [127,0,0,1], readPort := 8000 } : CL).readPort = 0) := by decide

/-- **Datagrams from other addresses never matter**, in either mode, over any history. -/
theorem client_foreign_ip_history (s : CL) (ds : List Dgram) (h : ∀ d ∈ ds, ipEqual s.readIP d.ip = false) :
    s.run ds = s := by
  induction ds with
  | nil => rfl
  | cons d ds ih =>
    rw [CL.run_cons, CL.step_foreign_ip s d (h d List.mem_cons_self)]
    exact ih (fun d' hd' => h d' (List.mem_cons_of_mem _ hd'))

/-- **Nor does a datagram from the negotiated address on another link** (unicast listeners): the same
link-local address in another zone is another peer. -/
theorem client_foreign_zone (s : CL) (d : Dgram) (hm : s.multicast = false) (h : s.readZone ≠ d.zone) :
    s.step d = s := by
  rw [CL.step_eq, if_neg fun a => a.2.1.elim (fun m => Bool.false_ne_true (hm ▸ m)) h]

example : ({ anyPort := false, readIP := [0xfe,0x80,0,0,0,0,0,0,0,0,0,0,0,0,0,1], readPort := 8000, readZone := "eth0" } : CL).multicast = false ∧
    ({ anyPort := false, readIP := [0xfe,0x80,0,0,0,0,0,0,0,0,0,0,0,0,0,1], readPort := 8000, readZone := "eth0" } : CL).readZone ≠
      (⟨[0xfe,0x80,0,0,0,0,0,0,0,0,0,0,0,0,0,1], "eth1", 8000, 10, 1⟩ : Dgram).zone := by decide

/-- **After PAUSE / TEARDOWN (the read loop is stopped) traffic reaches nothing**: whatever arrives –
also from the negotiated source – the listener's read port, last-packet time and deliveries stay as
they are; the datagram only waits in the socket.  After the next `start()` the waiting datagrams go
through the same filter as any other (`CLQ.start` is a fold of `CL.recv`, to which `client_filter`,
`client_strict_history` … apply). -/
theorem client_stopped_no_effect (q : CLQ) (ip : IP) (zone : String) (port : Int) (len : Nat) (now : Int)
    (h : q.running = false) :
    (q.deliver ip zone port len now).1.cl = q.cl ∧ (q.deliver ip zone port len now).2 = none ∧
    (q.deliver ip zone port len now).1.running = false := by
  simp [CLQ.deliver, h]

example : (CLQ.stop { cl := { anyPort := false, readIP := [127,0,0,1], readPort := 8000 } }).running = false ∧
    ((CLQ.stop { cl := { anyPort := false, readIP := [127,0,0,1], readPort := 8000 } }).deliver [127,0,0,1] "" 8000 10 5).1.cl.delivered = [] ∧
    (((CLQ.stop { cl := { anyPort := false, readIP := [127,0,0,1], readPort := 8000 } }).deliver [127,0,0,1] "" 8000 10 5).1.start 9).cl.delivered = [(10, 8000)] := by
  decide

/-- **The any-port relaxation latches the first source port.**  With `AnyPortEnable` and no port yet,
for a history `pre ++ d :: post` in which no datagram of `pre` comes from the negotiated address and
`d` does (UDP source ports are never 0): `pre` has no effect at all, `d` is delivered and its port
becomes the read port, and from then on the listener is strict – the read port stays `d.port` and
every later delivery comes from the negotiated address and from port `d.port`. -/
theorem anyport_latches_first (s : CL) (pre post : List Dgram) (d : Dgram)
    (hany : s.anyPort = true) (h0 : s.readPort = 0)
    (hpre : ∀ x ∈ pre, ipEqual s.readIP x.ip = false)
    (hd : ipEqual s.readIP d.ip = true) (hz : s.multicast = true ∨ s.readZone = d.zone) (hnz : d.port ≠ 0) :
    s.run pre = s ∧
    s.run (pre ++ [d]) = { s with readPort := d.port, last := d.now, delivered := (d.len, d.port) :: s.delivered } ∧
    (s.run (pre ++ d :: post)).readPort = d.port ∧
    ∃ new, (s.run (pre ++ d :: post)).delivered = new ++ (d.len, d.port) :: s.delivered ∧
      ∀ e ∈ new, ∃ x ∈ post, ipEqual s.readIP x.ip = true ∧ (s.multicast = true ∨ s.readZone = x.zone) ∧
        x.port = d.port ∧ e = (x.len, x.port) := by
  have e1 : s.run pre = s := client_foreign_ip_history s pre hpre
  have e2 : s.run (pre ++ [d]) = { s with readPort := d.port, last := d.now, delivered := (d.len, d.port) :: s.delivered } := by
    rw [CL.run_append, e1]; exact CL.step_latch s d hany h0 hd hz
  have e3 : s.run (pre ++ d :: post) = (s.run (pre ++ [d])).run post := by
    rw [← CL.run_append]; simp
  -- once latched (source ports are not 0) the listener is strict
  obtain ⟨l, new, e4, hnew⟩ := CL.run_strict
    ({ s with readPort := d.port, last := d.now, delivered := (d.len, d.port) :: s.delivered } : CL) post
    (fun h => hnz h.2)
  rw [e3, e2, e4]
  exact ⟨e1, rfl, rfl, new, rfl, hnew⟩

/-- non-vacuity: a foreign address first, then the server from an unexpected port, then two more -/
example :
    let s : CL := { anyPort := true, readIP := [127,0,0,1], readPort := 0 }
    let pre : List Dgram := [⟨[127,0,0,2], "", 8000, 10, 1⟩]
    let d : Dgram := ⟨[0,0,0,0,0,0,0,0,0,0,0xff,0xff,127,0,0,1], "", 9000, 20, 2⟩
    let post : List Dgram := [⟨[127,0,0,1], "", 8000, 30, 3⟩, ⟨[127,0,0,1], "", 9000, 40, 4⟩, ⟨[127,0,0,1], "eth1", 9000, 50, 5⟩]
    (∀ x ∈ pre, ipEqual s.readIP x.ip = false) ∧ ipEqual s.readIP d.ip = true ∧
    (s.multicast = true ∨ s.readZone = d.zone) ∧ d.port ≠ 0 ∧
    (s.run (pre ++ d :: post)).delivered = [(40, 9000), (20, 9000)] ∧ (s.run (pre ++ d :: post)).last = 4 := by decide

/-- a server state used for the non-vacuity examples: connection 0 (10.0.0.5) has set up one media
over TCP and is playing (the session is pinned to it); connection 1 comes from the same address in its
IPv4-mapped form, connection 2 from 10.0.0.6 -/
def svPinned : Server :=
  let sv := ({} : Server).openConn 0 [10,0,0,5] ""
  let sv := (sv.request 0 { method := .setup, proto := .tcp, media := 0 } 1).1
  let sv := (sv.request 0 { method := .play, sid := some 0 } 2).1
  (sv.openConn 1 [0,0,0,0,0,0,0,0,0,0,0xff,0xff,10,0,0,5] "").openConn 2 [10,0,0,6] ""

/-- **A request that replays a session id from another address is refused and changes nothing.**  For
every server state, every live connection `c` that is not yet linked to a session, every session `ss`
whose author address is not `Equal` to `c`'s (or whose zone differs), every method and every other
request parameter: the answer is 400 and the server afterwards is the server before minus the
intruding connection (which the error closes) – every session record (state, transport, medias, pin,
associated connections, last-request time), every other connection and both UDP listener maps are
literally the same. -/
theorem other_ip_rejected_unchanged (sv : Server) (c : Conn) (ss : Session) (sid : Nat) (r : Req) (now : Int)
    (hc : sv.findConn c.id = some c) (hnone : c.session = none)
    (hs : sv.findSession sid = some ss) (hr : r.sid = some sid)
    (hforeign : ipEqual c.ip ss.authorIP = false ∨ c.zone ≠ ss.authorZone) :
    sv.request c.id r now = (sv.dropConn c.id, 400) ∧
    (sv.request c.id r now).1.sessions = sv.sessions ∧
    (sv.request c.id r now).1.rtp = sv.rtp ∧ (sv.request c.id r now).1.rtcp = sv.rtcp := by
  obtain ⟨create, hroute⟩ := Server.route_with_sid sv c hr now
  rw [Server.request_eq hc, hroute, Server.inSession_other_ip sv c ss sid r create now hnone hs hr hforeign,
    show sv.closeConn c.id = sv.dropConn c.id by rw [Server.closeConn_eq hc, hnone]; rfl]
  exact ⟨rfl, rfl, rfl, rfl⟩

/-- non-vacuity: connection 2 (10.0.0.6) replays TEARDOWN / PAUSE / SETUP with the id of the session
of 10.0.0.5 -/
example :
    svPinned.findConn 2 = some ⟨2, [10,0,0,6], "", none⟩ ∧
    (svPinned.findSession 0).map (·.authorIP) = some [10,0,0,5] ∧
    ipEqual [10,0,0,6] [10,0,0,5] = false ∧
    (svPinned.request 2 { method := .teardown, sid := some 0 } 3).2 = 400 ∧
    (svPinned.request 2 { method := .pause, sid := some 0 } 3).1.sessions = svPinned.sessions ∧
    -- whereas the owner is obeyed
    (svPinned.request 0 { method := .pause, sid := some 0 } 3).2 = 200 := by decide

/-- **While a session streams over an interleaved connection, a request from any other connection is
refused and leaves the session as it is** – also from the author's own address.  For every server
state, every session `ss` pinned to a connection `v` that is still attached to it, every other live
connection `c` that would pass the author check (or is already linked to the session), every method
and parameter: the answer is 400, the intruding connection is closed, and afterwards the session
record differs from before only in `lastReq` (set before the pin is tested) and in that `c` is no
longer among its associated connections; state, transport, set-up medias, the pin, the author, every
other session, every other connection and both UDP listener maps are the same. -/
theorem other_conn_rejected_unchanged (sv : Server) (c : Conn) (ss : Session) (sid v : Nat) (r : Req) (now : Int)
    (hc : sv.findConn c.id = some c)
    (hs : sv.findSession sid = some ss) (hr : r.sid = some sid)
    (hlink : c.session = some sid ∨ (c.session = none ∧ ipEqual c.ip ss.authorIP = true ∧ c.zone = ss.authorZone))
    (hpin : ss.tcpConn = some v) (hv : v ≠ c.id) (hatt : v ∈ ss.conns) :
    let res := sv.request c.id r now
    res.2 = 400 ∧
    res.1.findSession sid = some { ss with lastReq := now, conns := ss.conns.filter (· != c.id) } ∧
    (∀ sid', sid' ≠ sid → res.1.findSession sid' = sv.findSession sid') ∧
    res.1.conns = sv.conns.filter (fun x => x.id != c.id) ∧
    res.1.rtp = sv.rtp ∧ res.1.rtcp = sv.rtcp := by
  intro res
  have h : res = _ := Server.request_other_conn sv c ss sid v r now hc hs hr hlink hpin hv hatt
  have hid : ss.id = sid := Server.findSession_id hs
  rw [h]
  refine ⟨rfl, ?_, ?_, rfl, rfl, rfl⟩
  · rw [Server.findSession_dropConn]
    have := Server.findSession_setSession_self sv { ss with lastReq := now, conns := ss.conns.filter (· != c.id) } ss
      (by show sv.findSession ss.id = some ss; rw [hid]; exact hs)
    rw [← hid]; exact this
  · intro sid' hne
    rw [Server.findSession_dropConn]
    exact Server.findSession_setSession_ne sv _ sid' (by show sid' ≠ ss.id; rw [hid]; exact hne)

/-- non-vacuity: connection 1 has the author's address (IPv4-mapped form, so it passes the author
check) but is not the pinned connection -/
example :
    svPinned.findConn 1 = some ⟨1, [0,0,0,0,0,0,0,0,0,0,0xff,0xff,10,0,0,5], "", none⟩ ∧
    ipEqual [0,0,0,0,0,0,0,0,0,0,0xff,0xff,10,0,0,5] [10,0,0,5] = true ∧
    (svPinned.findSession 0).map (fun s => (s.tcpConn, s.conns, s.state)) = some (some 0, [0], .play) ∧
    (svPinned.request 1 { method := .teardown, sid := some 0 } 3).2 = 400 ∧
    ((svPinned.request 1 { method := .pause, sid := some 0 } 3).1.findSession 0).map (·.state) = some .play ∧
    -- before PLAY the same connection would have been obeyed: the pin, not the address, refuses it
    ((({} : Server).openConn 0 [10,0,0,5] "" |>.request 0 { method := .setup, proto := .tcp } 1).1
      |>.openConn 1 [0,0,0,0,0,0,0,0,0,0,0xff,0xff,10,0,0,5] "" |>.request 1 { method := .play, sid := some 0 } 2).2 = 200 := by
  decide

/-- **In every reachable state a connection is linked only to sessions of its own address.**  For every
history of accepted connections, requests (any method, any Session header, any parameters) and
connection closures, starting from `Start()`: if a live connection is linked to a session
(`sc.session`) that still exists, then the connection's address `Equal`s the author's and the zones
agree.  (The link is what lets a connection skip the author check of `findOrCreateSession`.) -/
theorem linked_only_to_own_address (udp : Bool) (evs : List Server.Ev) (cid : Nat) (c : Conn) (own : Nat) (o : Session)
    (hc : (Server.runEvs udp evs).findConn cid = some c) (hl : c.session = some own)
    (ho : (Server.runEvs udp evs).findSession own = some o) :
    ipEqual c.ip o.authorIP = true ∧ c.zone = o.authorZone :=
  ((Server.inv_runEvs udp evs).link cid c hc own hl).2 o ho

/-- **A session can be driven only from the address that created it.**  In every reachable state,
whatever a live connection `c` sends – any method, any Session header (stolen, unknown or none),
whether `c` is linked to a session or not – every session `o` whose author address is not `Equal` to
`c`'s address (or whose zone differs) has exactly the same record afterwards: state, transport, set-up
medias, pin, associated connections and last-request time. -/
theorem driven_only_from_author_address (udp : Bool) (evs : List Server.Ev) (c : Conn) (r : Req) (now : Int) (o : Session)
    (hc : (Server.runEvs udp evs).findConn c.id = some c)
    (ho : (Server.runEvs udp evs).findSession o.id = some o)
    (hfor : ipEqual c.ip o.authorIP = false ∨ c.zone ≠ o.authorZone) :
    ((Server.runEvs udp evs).request c.id r now).1.findSession o.id = some o := by
  apply Server.request_frame (Server.inv_runEvs udp evs) c r now o hc ho
  intro hs
  rcases hfor with h | h
  · rw [hs.1] at h; cases h
  · exact h hs.2

/-- non-vacuity: the history that leads to `svPinned`; connection 2 (10.0.0.6) owns nothing and replays
the id; the record of session 0 is what it was -/
example :
    let evs : List Server.Ev := [.open 0 [10,0,0,5] "", .req 0 { method := .setup, proto := .tcp, media := 0 } 1,
      .req 0 { method := .play, sid := some 0 } 2, .open 1 [0,0,0,0,0,0,0,0,0,0,0xff,0xff,10,0,0,5] "", .open 2 [10,0,0,6] ""]
    Server.runEvs true evs = svPinned ∧
    (Server.runEvs true evs).findConn 2 = some ⟨2, [10,0,0,6], "", none⟩ ∧
    ((Server.runEvs true evs).findSession 0).isSome = true ∧
    ((Server.runEvs true evs).findConn 0).map (·.session) = some (some 0) := by decide

/-- **A session is pinned to a connection exactly while it streams over an interleaved connection**, in
every reachable state; and the pinned connection, as long as it lives, is attached to the session. -/
theorem pinned_iff_streaming_interleaved (udp : Bool) (evs : List Server.Ev) (sid : Nat) (ss : Session)
    (hf : (Server.runEvs udp evs).findSession sid = some ss) :
    (ss.tcpConn.isSome = true ↔ ((ss.state = .play ∨ ss.state = .record) ∧ ss.transport = some .tcp)) ∧
    (∀ v, ss.tcpConn = some v → v ∈ ss.conns ∨ (Server.runEvs udp evs).findConn v = none) :=
  ⟨(Server.pinInv_runEvs udp evs).pin sid ss hf,
   fun v hv => ((Server.pinInv_runEvs udp evs).att sid ss v hf hv).1⟩

/-- **While a session streams over an interleaved connection only that connection can drive it** – the
reachable-state form of `other_conn_rejected_unchanged`, without any assumption about the pin: in every
reachable state, for every session `ss` in state PLAY or RECORD over TCP there is a connection `v` such
that, as long as `v` lives, every request with the session's id from any other live connection `c`
(already linked to the session, or unlinked and from the author's address) is answered 400 and leaves
state, transport, set-up medias, the pin, every other session, every other connection and both UDP
listeners as they were. -/
theorem interleaved_session_obeys_only_its_connection (udp : Bool) (evs : List Server.Ev) (sid : Nat) (ss : Session)
    (hf : (Server.runEvs udp evs).findSession sid = some ss)
    (hs : ss.state = .play ∨ ss.state = .record) (ht : ss.transport = some .tcp) :
    ∃ v, ss.tcpConn = some v ∧
      ∀ cv, (Server.runEvs udp evs).findConn v = some cv →
      ∀ (c : Conn) (r : Req) (now : Int), (Server.runEvs udp evs).findConn c.id = some c → c.id ≠ v →
        r.sid = some sid →
        (c.session = some sid ∨ (c.session = none ∧ ipEqual c.ip ss.authorIP = true ∧ c.zone = ss.authorZone)) →
        let res := (Server.runEvs udp evs).request c.id r now
        res.2 = 400 ∧
        res.1.findSession sid = some { ss with lastReq := now, conns := ss.conns.filter (· != c.id) } ∧
        (∀ sid', sid' ≠ sid → res.1.findSession sid' = (Server.runEvs udp evs).findSession sid') ∧
        res.1.conns = (Server.runEvs udp evs).conns.filter (fun x => x.id != c.id) ∧
        res.1.rtp = (Server.runEvs udp evs).rtp ∧ res.1.rtcp = (Server.runEvs udp evs).rtcp := by
  obtain ⟨hpin, hatt⟩ := pinned_iff_streaming_interleaved udp evs sid ss hf
  have hsome := hpin.2 ⟨hs, ht⟩
  obtain ⟨v, hv⟩ := Option.isSome_iff_exists.1 hsome
  refine ⟨v, hv, ?_⟩
  intro cv hcv c r now hc hne hr hlink
  have hmem : v ∈ ss.conns := by
    rcases hatt v hv with a | a
    · exact a
    · rw [hcv] at a; cases a
  exact other_conn_rejected_unchanged _ c ss sid v r now hc hf hr hlink hv (fun e => hne e.symm) hmem

/-- non-vacuity: `svPinned` is reachable, its session streams over TCP and its pinned connection lives -/
example :
    let evs : List Server.Ev := [.open 0 [10,0,0,5] "", .req 0 { method := .setup, proto := .tcp, media := 0 } 1,
      .req 0 { method := .play, sid := some 0 } 2, .open 1 [0,0,0,0,0,0,0,0,0,0,0xff,0xff,10,0,0,5] ""]
    ((Server.runEvs true evs).findSession 0).map (fun s => (s.state, s.transport, s.tcpConn)) = some (.play, some .tcp, some 0) ∧
    ((Server.runEvs true evs).findConn 0).isSome = true ∧ ((Server.runEvs true evs).findConn 1).isSome = true := by decide

/-- **A datagram is delivered to a session only if that session negotiated its source.**  For every
history of connections, requests (SETUP / PLAY / RECORD / PAUSE / TEARDOWN … from anybody, with any
Session header, on colliding ports or not) and connection closures: if the server's RTP or RTCP listener
hands a datagram from `(ip%zone, port)` to media `mi` of session `sid`, then that session is alive,
is in state PLAY or RECORD over UDP, has set up a media with index `mi`, and the datagram's map key is
the key of (author address, author zone, that media's client port); for kernel addresses this means:
the port is the negotiated client port, the zone is the author's zone and the address `Equal`s the
author's address.  In particular nothing is ever delivered to a paused or torn-down session, nor on
the strength of another session's negotiation.  (Session timeouts are not events of this model.) -/
theorem delivered_only_if_negotiated (udp : Bool) (evs : List Server.Ev) (rtcp : Bool)
    (ip : IP) (zone : String) (port : Int) (sid mi : Nat)
    (h : (Server.runEvs udp evs).datagram rtcp ip zone port = some (sid, mi)) :
    ∃ ss, (Server.runEvs udp evs).findSession sid = some ss ∧
      (ss.state = .play ∨ ss.state = .record) ∧ ss.transport = some .udp ∧
      ∃ sm ∈ ss.medias, sm.idx = mi ∧
        fill ip zone port = fill ss.authorIP ss.authorZone (if rtcp then sm.rtcpPort else sm.rtpPort) ∧
        (ValidIP ip → ValidIP ss.authorIP →
          port = (if rtcp then sm.rtcpPort else sm.rtpPort) ∧ zone = ss.authorZone ∧ ipEqual ss.authorIP ip = true) := by
  have hinv := Server.regInv_runEvs udp evs
  -- the invariant of the listener the datagram arrived on
  have hok : Server.RegOK (Server.runEvs udp evs)
      (if rtcp then (Server.runEvs udp evs).rtcp else (Server.runEvs udp evs).rtp)
      (fun sm => if rtcp then sm.rtcpPort else sm.rtpPort) := by
    cases rtcp
    · exact hinv.1
    · exact hinv.2
  obtain ⟨ss, hf, hs, hu, sm, hsm, hi, hk⟩ := hok _ sid mi h
  refine ⟨ss, hf, hs, hu, sm, hsm, hi, hk, fun v1 v2 => ?_⟩
  have := (fill_injective_mod_v4mapped v1 v2 zone ss.authorZone port _).1 hk
  exact ⟨this.1, this.2.1, by rw [ipEqual_comm]; exact this.2.2⟩

/-- non-vacuity: a reader over UDP; its RTCP reports arrive, nothing else does, and nothing after PAUSE -/
example :
    let evs : List Server.Ev := [.open 0 [10,0,0,5] "", .req 0 { method := .setup, cport := 5000 } 1,
      .req 0 { method := .play, sid := some 0 } 2]
    (Server.runEvs true evs).datagram true [0,0,0,0,0,0,0,0,0,0,0xff,0xff,10,0,0,5] "" 5001 = some (0, 0) ∧
    (Server.runEvs true evs).datagram true [10,0,0,6] "" 5001 = none ∧
    (Server.runEvs true evs).datagram true [10,0,0,5] "" 5000 = none ∧
    (Server.runEvs true evs).datagram false [10,0,0,5] "" 5000 = none ∧
    (Server.runEvs true (evs ++ [.req 0 { method := .pause, sid := some 0 } 3])).datagram true [10,0,0,5] "" 5001 = none := by
  decide

end Rtsp.Peer.C19
