import Rtsp.Proofs.Sec.Admit
import Rtsp.Proofs.Sec.Run
import Rtsp.Proofs.Sec.Mikey
import Rtsp.Proofs.Sec.Client
import Rtsp.Proofs.Sec.Stream
/-
C17 — secure sessions: media encrypted and authenticated end to end, no downgrade.

Statement (properties.jsonl): when a session uses the secure profile (RTSPS with SRTP), the key
material exchanged through MIKEY lets each side decrypt exactly what the other encrypts — for every
key, SSRC set and roll-over counter — while RTP and RTCP payload bytes never appear in clear in any
UDP datagram or interleaved frame, and packets altered in transit are rejected rather than
delivered.  The server refuses secure profiles over plain RTSP and unencrypted UDP over RTSPS, and
the client refuses a redirect from rtsps to rtsp.

What is proved here is the key-exchange / admission / ordering LOGIC of gortsplib over the model
`Rtsp/Model/Secure.lean`.  The cipher (AES-CM + HMAC-SHA1 of pion/srtp) is a parameter; its
properties, for RTP and again for RTCP (`dec_enc_c`, `auth_c`), are HYPOTHESES of the theorems
(`Laws`), never axioms:
  dec_enc : D k (E k x) = some x                 (decryption inverts encryption under the same key/index)
  auth    : D k y = some p → y = E k p           (only `E` images authenticate: y ∉ range (E k) ⇒ D k y = none)
`ideal_laws` shows the hypotheses are satisfiable (the instance the oracle executable runs).

The statements use definitions made next to their lemmas: `Policy`, `ctxOf` (Proofs/Sec/Mikey.lean);
`Fits`, `advance` (Proofs/Sec/Pipe.lean); `FitsAll`, `frameOf`, `sendAll`, `recvAll` (Proofs/Sec/Run.lean);
`two48` (Proofs/Sec/Roc.lean).
-/
namespace Rtsp.Sec.C17
open Rtsp.Facts
open Rtsp.Mikey (Bytes Message)

/-- the assumed properties of the protection profile's cipher -/
structure Laws {W WC} (ci : Cipher W WC) : Prop where
  dec_enc : ∀ k m s r q p, ci.D k m s r q (ci.E k m s r q p) = some p
  auth : ∀ k m s r q y p, ci.D k m s r q y = some p → y = ci.E k m s r q p
  dec_enc_c : ∀ k m s i p, ci.Dc k m (ci.Ec k m s i p) = some p
  auth_c : ∀ k m y p, ci.Dc k m y = some p → ∃ s i, y = ci.Ec k m s i p

/-- non-vacuity of `Laws`: the ideal cipher satisfies them -/
theorem ideal_laws : Laws ideal where
  dec_enc := by intros; simp [ideal]
  auth := by
    intro k m s r q y p h
    simp only [ideal] at h ⊢
    split at h
    · obtain ⟨k', m', s', r', q', p', i⟩ := y
      obtain ⟨rfl, rfl, rfl, rfl, rfl, rfl⟩ := ‹_ ∧ _›
      cases h
      rfl
    · cases h
  dec_enc_c := by intros; simp [ideal]
  auth_c := by
    intro k m y p h
    simp only [ideal] at h ⊢
    split at h
    · obtain ⟨k', m', s', i', p', it⟩ := y
      obtain ⟨rfl, rfl, rfl⟩ := ‹_ ∧ _›
      cases h
      exact ⟨s', i', rfl⟩
    · cases h

/-- the time-stamp window of `mikeyToContext` -/
def InWindow (now : Int) (ts : Nat) : Prop :=
  -hourNs ≤ now - Rtsp.Ntp.decode ts ∧ now - Rtsp.Ntp.decode ts ≤ hourNs

/-- **ctx_mikey_roundtrip.**  For every context with a 30-byte key (any key, salt, MKI, SSRC list —
duplicates included — and any roll-over counters), `contextToMikey` followed by `mikeyToContext`
(within the time window) yields a context with the same key (master key ‖ salt), MKI and SSRC list whose
roll-over counter for every listed SSRC is the sender's current one, not yet processed (the next
packet is taken to lie in that ROC epoch); SSRCs outside the list start from scratch. -/
theorem ctx_mikey_roundtrip (c : Ctx) (csb : Nat) (rand : Bytes) (ts : Nat) (now : Int)
    (hk : c.key.length = 30) (hw : InWindow now ts) :
    ∃ c', mikeyToContext (contextToMikey c csb rand ts) now = .ok c' ∧
      c'.key = c.key ∧ c'.mki = c.mki ∧ c'.ssrcs = c.ssrcs ∧ c'.startROCs = c.ssrcs.map c.roc ∧
      (∀ s ∈ c.ssrcs, c'.roc s = c.roc s ∧ c'.state s = { index := c.roc s * 65536, processed := false }) ∧
      (∀ s, s ∉ c.ssrcs → c'.state s = {}) := by
  refine ⟨_, mikeyToContext_complete _ _ _ (contextToMikey_policy c csb rand ts now hk hw), ?_⟩
  obtain ⟨f1, f2, f3, f4, hst⟩ := ctxOf_contextToMikey c csb rand ts
    { type := Sec.keyTypeTEK, kv := if c.mki.length ≠ 0 then Sec.kvSPI else Sec.kvNull, keyData := c.key, spi := c.mki }
  refine ⟨f1, f2, f3, f4, fun s hs => ?_, fun s hs => by rw [hst, if_neg hs]⟩
  have hs' := hst s
  rw [if_pos hs] at hs'
  refine ⟨?_, hs'⟩
  have := roc_lt c s
  rw [roc_eq_state, hs']
  simp only [SsrcState.roc, two16, two32]; omega

/-- **key_exchange_through_bytes** (C17 ∘ C09).  The key, MKI, SSRC-list and listed-SSRC clauses of
`ctx_mikey_roundtrip`, through the MIKEY wire format: the message is marshalled, parsed back by the
byte-level model of `pkg/mikey` (its round-trip theorem belongs to C09) and only then given to
`mikeyToContext`. -/
theorem key_exchange_through_bytes (c : Ctx) (csb : Nat) (rand : Bytes) (ts : Nat) (now : Int)
    (hk : c.key.length = 30) (hm : c.mki.length < 256) (hn : c.ssrcs.length < 256)
    (hs : ∀ s ∈ c.ssrcs, s < 2 ^ 32) (hc : csb < 2 ^ 32) (hr1 : 16 ≤ rand.length) (hr2 : rand.length < 256)
    (ht : ts < 2 ^ 64) (hw : InWindow now ts) :
    ∃ m c', Rtsp.Mikey.Message.unmarshal (contextToMikey c csb rand ts).marshal = some m ∧
      mikeyToContext m now = .ok c' ∧
      c'.key = c.key ∧ c'.mki = c.mki ∧ c'.ssrcs = c.ssrcs ∧
      (∀ s ∈ c.ssrcs, c'.roc s = c.roc s ∧ c'.state s = { index := c.roc s * 65536, processed := false }) := by
  have wf := contextToMikey_wf c csb rand ts hk hm hn hs hc hr1 hr2 ht
  obtain ⟨c', h1, h2, h3, h4, _, h5, _⟩ := ctx_mikey_roundtrip c csb rand ts now hk hw
  exact ⟨_, c', Rtsp.Mikey.Message.unmarshal_marshal _ wf, h1, h2, h3, h4, h5⟩

/-- **policy_rejects.**  `mikeyToContext` accepts a message only if it satisfies the whole policy:
a T payload within one hour, an SP payload whose FIRST parameter of each of the six required types
has exactly the required one-byte value, a KEMAC payload with exactly one key of 30 bytes.  Hence a
message that violates any single clause is rejected. -/
theorem policy_rejects (m : Message) (now : Int) (h : ¬ ∃ kd, Policy m now kd) :
    ∃ e, mikeyToContext m now = .error e := by
  cases hm : mikeyToContext m now with
  | error e => exact ⟨e, rfl⟩
  | ok c =>
    obtain ⟨kd, hp, _⟩ := mikeyToContext_sound m now c hm
    exact absurd ⟨kd, hp⟩ h

/-- the policy is exactly what is accepted, and the context is built from the accepted fields only -/
theorem policy_exact (m : Message) (now : Int) (c : Ctx) :
    mikeyToContext m now = .ok c ↔ ∃ kd, Policy m now kd ∧ c = ctxOf m kd := by
  constructor
  · exact mikeyToContext_sound m now c
  · rintro ⟨kd, hp, rfl⟩
    exact mikeyToContext_complete m now kd hp

/-- key, MKI, SSRCs and ROCs of an accepted message are those of its single key-data sub-payload and
its CS-ID map -/
theorem accepted_fields (m : Message) (now : Int) (c : Ctx) (h : mikeyToContext m now = .ok c) :
    ∃ kd, getKemac m.payloads = some [kd] ∧ c.key = kd.keyData ∧ c.key.length = 30 ∧ c.mki = kd.spi ∧
      c.ssrcs = m.header.csIdMapInfo.map (·.ssrc) ∧ c.startROCs = m.header.csIdMapInfo.map (·.roc) := by
  obtain ⟨kd, hp, rfl⟩ := mikeyToContext_sound m now c h
  obtain ⟨f1, f2, f3, f4⟩ := ctxOf_fields m kd
  exact ⟨kd, hp.key.1, f1, f1 ▸ hp.key.2, f2, f3, f4⟩

/-- **no_secure_over_plain.**  On a server without TLS no transport list makes
`pickFirstSupportedTransport` return a secure profile. -/
theorem no_secure_over_plain (cfg : ServerCfg) (tunnel : Bool) (ts : List Transport) (tr : Transport)
    (hplain : cfg.tls = false) (h : pickFirst cfg tunnel ts = some tr) : tr.profile = .avp := by
  cases hp : tr.profile with
  | avp => rfl
  | savp => exact absurd ((pickFirst_rules h).2 hp) (by simp [hplain])

/-- No SETUP on a server without TLS creates a session media with the secure profile or with SRTP contexts. -/
theorem no_secure_over_plain_setup (cfg : ServerCfg) (tunnel : Bool) (st : SessState) (setupped : Option (SessProto × Profile))
    (inUse : Nat → Bool) (sc : Option Ctx) (fresh : Ctx) (now : Int) (req : SetupReq) (sm : SessMedia)
    (hplain : cfg.tls = false)
    (h : serverSetup cfg tunnel st setupped inUse sc fresh now req = .ok sm) :
    sm.profile = .avp ∧ sm.srtpIn = none ∧ sm.srtpOut = none := by
  obtain ⟨ts, tr, _, hpick, _, hprof, _, havp, _⟩ := serverSetup_ok h
  have ha := hprof.trans (no_secure_over_plain cfg tunnel ts tr hplain hpick)
  exact ⟨ha, havp ha⟩

/-- **no_plain_udp_over_tls.**  On a server with TLS a UDP transport (unicast or multicast) is
picked only with the secure profile. -/
theorem no_plain_udp_over_tls (cfg : ServerCfg) (tunnel : Bool) (ts : List Transport) (tr : Transport)
    (htls : cfg.tls = true) (h : pickFirst cfg tunnel ts = some tr) (hudp : tr.protocol = .udp) : tr.profile = .savp :=
  (pickFirst_rules h).1 hudp htls

/-- On a server with TLS every session media that is not interleaved in the TLS connection has the secure profile
and both SRTP contexts (`streamCtx`: the stream owns an outgoing context because the server has TLS). -/
theorem no_plain_udp_over_tls_setup (cfg : ServerCfg) (tunnel : Bool) (st : SessState) (setupped : Option (SessProto × Profile))
    (inUse : Nat → Bool) (c0 fresh : Ctx) (now : Int) (req : SetupReq) (sm : SessMedia)
    (htls : cfg.tls = true)
    (h : serverSetup cfg tunnel st setupped inUse (streamCtx cfg c0) fresh now req = .ok sm)
    (hudp : sm.protocol ≠ .tcp) :
    sm.profile = .savp ∧ sm.srtpIn.isSome ∧ sm.srtpOut.isSome := by
  obtain ⟨ts, tr, _, hpick, hproto, hprof, _, _, hsavp⟩ := serverSetup_ok h
  have hu : tr.protocol = .udp := by
    cases hp : tr.protocol with
    | udp => rfl
    | tcp => simp [hproto, sessProto, hp] at hudp
  have hs := hprof.trans (no_plain_udp_over_tls cfg tunnel ts tr htls hpick hu)
  obtain ⟨⟨c, _, hin, _⟩, hout⟩ := hsavp hs
  refine ⟨hs, by rw [hin]; rfl, ?_⟩
  rw [hout, streamCtx_tls cfg c0 htls]
  split <;> rfl

/-- a secure session media always owns both contexts: the key of the peer came from a MIKEY message
that passed the policy, the outgoing one is the stream's (TLS server) or a fresh one -/
theorem secure_setup_has_contexts (cfg : ServerCfg) (tunnel : Bool) (st : SessState) (setupped : Option (SessProto × Profile))
    (inUse : Nat → Bool) (c0 fresh : Ctx) (now : Int) (req : SetupReq) (sm : SessMedia)
    (h : serverSetup cfg tunnel st setupped inUse (streamCtx cfg c0) fresh now req = .ok sm)
    (hsec : sm.profile = .savp) :
    cfg.tls = true ∧
    (∃ c m, sm.srtpIn = some c ∧ req.keyMgmt = .msg m ∧ mikeyToContext m now = .ok c) ∧
    (sm.srtpOut = some fresh ∨ sm.srtpOut = some c0) := by
  obtain ⟨ts, tr, _, hpick, _, hprof, _, _, hsavp⟩ := serverSetup_ok h
  have htls : cfg.tls = true := (pickFirst_rules hpick).2 (hprof.symm.trans hsec)
  obtain ⟨hin, hout⟩ := hsavp hsec
  refine ⟨htls, hin, ?_⟩
  rw [hout, streamCtx_tls cfg c0 htls]
  split
  · exact Or.inl rfl
  · exact Or.inr rfl

/-- all medias of a session share protocol and profile: a second SETUP is accepted only with the
transport of the first -/
theorem session_transport_uniform (cfg : ServerCfg) (tunnel : Bool) (st : SessState) (p0 : SessProto × Profile)
    (inUse : Nat → Bool) (sc : Option Ctx) (fresh : Ctx) (now : Int) (req : SetupReq) (sm : SessMedia)
    (h : serverSetup cfg tunnel st (some p0) inUse sc fresh now req = .ok sm) :
    (sm.protocol, sm.profile) = p0 := by
  obtain ⟨_, _, _, _, _, _, hset, _⟩ := serverSetup_ok h
  exact (Option.some.inj (hset rfl)).symm

/-- the client never asks for the secure profile on plain rtsp, never sets up UDP with a
non-secure profile on rtsps, and sends its key exactly with the secure profile -/
theorem client_request_rules (scheme : Scheme) (cfgProto : Option SessProto) (mp : Profile) (h264 tunnel : Bool)
    (p : SessProto) (pr : Profile) (km : Bool)
    (h : clientSetupRequest scheme cfgProto mp h264 tunnel = .request p pr km) :
    (scheme = .rtsp → pr = .avp) ∧ (scheme = .rtsps → p ≠ .tcp → pr = .savp) ∧ (km = true ↔ pr = .savp) := by
  obtain ⟨hpick, rfl, hudp⟩ := clientSetupRequest_request h
  have hpr := (congrArg Prod.snd hpick).trans (clientPick_snd ..)
  refine ⟨?_, ?_, isSecure_iff pr⟩
  · rintro rfl
    simpa using hpr
  · intro hs hp
    cases pr with
    | savp => rfl
    | avp => cases p <;> simp_all

/-- **client_session_profile_constant.**  Every re-SETUP the client issues for a media after a protocol
switch (no UDP packets, 461, answer with a TCP transport), in any number and order, starting from the
transport `cur` of the SETUP before: it uses TCP and requests the profile of `cur`, and none is refused.
(`clientSetupsFrom` lists the re-SETUPs only; with the first SETUP in front: `client_session_profile`.) -/
theorem client_session_profile_constant (scheme : Scheme) (cur : SessProto × Profile) (evs : List SwitchEv) :
    ∀ r ∈ clientSetupsFrom scheme cur evs, r = .request .tcp cur.2 (isSecure cur.2) := by
  induction evs generalizing cur with
  | nil => simp [clientSetupsFrom]
  | cons ev rest ih =>
    intro r hr
    simp only [clientSetupsFrom, List.mem_cons] at hr
    have hsw : clientSwitch cur ev = (.tcp, cur.2) := by
      simp [clientSwitch, Sec.switchCarriesProfile, Sec.switchPrevProfileFromTransport]
    rcases hr with rfl | hr
    · simp [hsw, clientResetup, Sec.setupReusesTransport]
    · rw [hsw] at hr
      exact ih (.tcp, cur.2) r hr

/-- every SETUP of a session, the first one and the re-SETUPs after any protocol switches, asks for
the profile `clientPick` chose at the start -/
theorem client_session_profile (scheme : Scheme) (cfgProto : Option SessProto) (mp : Profile) (h264 tunnel : Bool)
    (evs : List SwitchEv) (pr : Profile) (hpr : (clientPick scheme cfgProto mp h264 tunnel).2 = pr) :
    ∀ r ∈ clientSessionSetups scheme cfgProto mp h264 tunnel evs,
      r = .refused ∨ ∃ p, r = .request p pr (isSecure pr) := by
  intro r hr
  unfold clientSessionSetups at hr
  cases h1 : clientSetupRequest scheme cfgProto mp h264 tunnel with
  | refused =>
    simp only [h1, List.mem_singleton] at hr
    exact Or.inl hr
  | request p pr' km =>
    simp only [h1, List.mem_cons] at hr
    obtain ⟨hpick, rfl, _⟩ := clientSetupRequest_request h1
    obtain rfl : pr' = pr := (congrArg Prod.snd hpick).trans hpr
    exact Or.inr (hr.elim (fun e => ⟨p, e⟩) fun hr => ⟨.tcp, client_session_profile_constant scheme (p, pr') evs r hr⟩)

/-- **client_session_stays_secure.**  In an rtsps session on a secure media every SETUP of the session,
including the re-SETUPs after any sequence of protocol switches, asks for RTP/SAVP and carries the
client's key: the automatic fallback to TCP can not downgrade the session to RTP/AVP. -/
theorem client_session_stays_secure (cfgProto : Option SessProto) (h264 tunnel : Bool) (evs : List SwitchEv) :
    ∀ r ∈ clientSessionSetups .rtsps cfgProto .savp h264 tunnel evs,
      r = .refused ∨ ∃ p, r = .request p .savp true :=
  client_session_profile .rtsps cfgProto .savp h264 tunnel evs .savp (clientPick_snd ..)

/-- On plain rtsp no SETUP of a session ever asks for the secure profile. -/
theorem client_session_never_secure_on_plain (cfgProto : Option SessProto) (mp : Profile) (h264 tunnel : Bool) (evs : List SwitchEv) :
    ∀ r ∈ clientSessionSetups .rtsp cfgProto mp h264 tunnel evs, r = .refused ∨ ∃ p, r = .request p .avp false :=
  client_session_profile .rtsp cfgProto mp h264 tunnel evs .avp (clientPick_snd ..)

/-- the client rejects a SETUP answer whose profile differs from the requested one (a server or a
man in the middle cannot downgrade RTP/SAVP to RTP/AVP) -/
theorem client_rejects_profile_change (a b : Profile) : clientAcceptsProfile a b = true ↔ a = b := by
  cases a <;> cases b <;> simp [clientAcceptsProfile, Sec.clientProfileCheck]

/-- the client's incoming context is keyed by material that came from the server — the KeyMgmt header
of the SETUP answer first, then the media's, then the session's key-mgmt attribute — and passed the
policy; only in client-managed-key mode (the server answered 463) it is the client's own key.
Without any of them a secure SETUP fails. -/
theorem client_in_key_source (managed inR inM inS : Bool) (own : Ctx) (resp media sess : Option Message) (now : Int) (c : Ctx)
    (hR : inR = resp.isSome) (hM : inM = media.isSome) (hS : inS = sess.isSome)
    (h : clientInCtx (clientInKeySource managed inR inM inS) own resp media sess now = some c) :
    (managed = true ∧ c.key = own.key ∧ c.mki = own.mki) ∨
    (managed = false ∧ ∃ m, mikeyToContext m now = .ok c ∧
      ((resp = some m) ∨ (resp = none ∧ media = some m) ∨ (resp = none ∧ media = none ∧ sess = some m))) := by
  subst hR hM hS
  cases managed with
  | true =>
    left
    simp only [clientInKeySource, if_true, clientInCtx, initCtx] at h
    split at h; · cases h
    split at h; · cases h
    cases h
    exact ⟨rfl, rfl, rfl⟩
  | false =>
    refine Or.inr ⟨rfl, ?_⟩
    -- the first message present, in the order response, media, session, is the one used
    cases resp with
    | some m => exact ⟨m, ok_of_toOption h, Or.inl rfl⟩
    | none =>
    cases media with
    | some m => exact ⟨m, ok_of_toOption h, Or.inr (Or.inl ⟨rfl, rfl⟩)⟩
    | none =>
    cases sess with
    | some m => exact ⟨m, ok_of_toOption h, Or.inr (Or.inr ⟨rfl, rfl, rfl⟩)⟩
    | none => cases h

/-- **no_downgrade_on_redirect.**  Along ANY chain of redirects that starts on rtsps the client's
scheme stays rtsps, and the chain is followed to the end only if every Location is rtsps. -/
theorem no_downgrade_on_redirect (chain : List Scheme) :
    (followRedirects .rtsps chain).1 = .rtsps ∧
    ((followRedirects .rtsps chain).2 = none → ∀ s ∈ chain, s = .rtsps) := by
  rw [followRedirects_rtsps]
  exact ⟨rfl, fun h s hs => by simpa using List.findIdx?_eq_none_iff.1 h s hs⟩

/-- the first non-rtsps Location is where the client stops -/
theorem redirect_refused_at (pre : List Scheme) (post : List Scheme) (hpre : ∀ s ∈ pre, s = .rtsps) :
    followRedirects .rtsps (pre ++ .rtsp :: post) = (.rtsps, some pre.length) := by
  rw [followRedirects_rtsps, List.findIdx?_append, List.findIdx?_eq_none_iff.2 (by simpa using hpre)]
  simp [List.findIdx?_cons]

/-- **wire_is_ciphertext (sender).**  A sender that owns a context never emits the plain packet:
the frame body is the `E` image of the payload under the context's key and MKI, for the packet's
SSRC and sequence number. -/
theorem wire_is_ciphertext {W WC} (ci : Cipher W WC) (c : Ctx) (p : Pkt) (out : Option Ctx) (f : Frame W)
    (h : writeRTP ci (some c) p = some (out, f)) :
    ∃ roc, f = { ssrc := p.ssrc, seq := p.seq, body := .prot (ci.E c.key c.mki p.ssrc roc p.seq p.payload) } ∧
      ∃ c', out = some c' ∧ c'.key = c.key ∧ c'.mki = c.mki := by
  simp only [writeRTP, Ctx.encryptRTP] at h
  split at h
  · cases h
  · rename_i c' w hw
    split at hw
    · cases hw
    · simp only [Option.some.injEq, Prod.mk.injEq] at hw h
      obtain ⟨rfl, rfl⟩ := hw
      obtain ⟨rfl, rfl⟩ := h
      exact ⟨_, rfl, _, rfl, rfl, rfl⟩

theorem wire_is_ciphertext_rtcp {W WC} (ci : Cipher W WC) (c : Ctx) (ssrc : Nat) (p : Bytes) (out : Option Ctx) (b : BodyC WC)
    (h : writeRTCP ci (some c) ssrc p = some (out, b)) :
    ∃ idx, b = .prot (ci.Ec c.key c.mki ssrc idx p) := by
  simp only [writeRTCP, Ctx.encryptRTCP] at h
  split at h
  · cases h
  · rename_i c' w hw
    split at hw
    · cases hw
    · simp only [Option.some.injEq, Prod.mk.injEq] at hw h
      obtain ⟨rfl, rfl⟩ := hw
      obtain ⟨rfl, rfl⟩ := h
      exact ⟨_, rfl⟩

/-- what a TLS server's stream hands to each of its readers -/
theorem stream_frames {W WC} (ci : Cipher W WC) (cfg : ServerCfg) (htls : cfg.tls = true) (c0 : Ctx)
    (readers : List SessMedia) (p : Pkt) (out : Option Ctx) (fs : List (Frame W))
    (h : streamWriteRTP ci (streamCtx cfg c0) readers p = some (out, fs)) :
    ∃ roc, fs = readers.map (fun r => if r.srtpOut.isSome
        then ({ ssrc := p.ssrc, seq := p.seq, body := .prot (ci.E c0.key c0.mki p.ssrc roc p.seq p.payload) } : Frame W)
        else { ssrc := p.ssrc, seq := p.seq, body := .plain p.payload }) := by
  rw [streamCtx_tls cfg c0 htls, streamWriteRTP_eq] at h
  cases hw : writeRTP ci (some c0) p with
  | none => simp [hw] at h
  | some x =>
    obtain ⟨roc, e, _⟩ := wire_is_ciphertext ci c0 p x.1 x.2 hw
    simp only [hw, Option.map_some, Option.some.injEq, Prod.mk.injEq, e] at h
    exact ⟨roc, h.2.symm⟩

/-- **wire_is_ciphertext (server stream).**  Every reader whose session media was set up with the
secure profile on this server receives the `E` image under the STREAM's key; in particular (by
`no_plain_udp_over_tls_setup`) every UDP datagram of a TLS server: `udp_datagrams_are_ciphertext`. -/
theorem stream_wire_is_ciphertext {W WC} (ci : Cipher W WC) (cfg : ServerCfg) (c0 : Ctx) (readers : List SessMedia)
    (p : Pkt) (out : Option Ctx) (fs : List (Frame W))
    (hready : ∀ r ∈ readers, r.profile = .savp → r.srtpOut.isSome)
    (h : streamWriteRTP ci (streamCtx cfg c0) readers p = some (out, fs)) (htls : cfg.tls = true) :
    ∃ roc, fs = readers.map (fun r => if r.srtpOut.isSome
        then ({ ssrc := p.ssrc, seq := p.seq, body := .prot (ci.E c0.key c0.mki p.ssrc roc p.seq p.payload) } : Frame W)
        else { ssrc := p.ssrc, seq := p.seq, body := .plain p.payload }) ∧
      ∀ i (hi : i < readers.length), (readers[i]).profile = .savp →
        fs[i]? = some { ssrc := p.ssrc, seq := p.seq, body := .prot (ci.E c0.key c0.mki p.ssrc roc p.seq p.payload) } := by
  obtain ⟨roc, rfl⟩ := stream_frames ci cfg htls c0 readers p out fs h
  refine ⟨roc, rfl, fun i hi hs => ?_⟩
  simp [hi, hready readers[i] (List.getElem_mem hi) hs]

/-- **fanout_per_reader.**  Whatever the reader population of a TLS server's stream — any number of
readers, any mix of RTP/SAVP readers and RTP/AVP-inside-TLS readers, in any order — EACH reader is
served according to ITS OWN session media: a reader that owns an outgoing context gets the `E` image
under the stream's key, a reader without one gets the plain packet (it travels inside TLS).  The
other readers have no influence. -/
theorem fanout_per_reader {W WC} (ci : Cipher W WC) (cfg : ServerCfg) (htls : cfg.tls = true) (c0 : Ctx)
    (pre post : List SessMedia) (r : SessMedia) (p : Pkt) (out : Option Ctx) (fs : List (Frame W))
    (h : streamWriteRTP ci (streamCtx cfg c0) (pre ++ r :: post) p = some (out, fs)) :
    ∃ roc, fs[pre.length]? = some
      (if r.srtpOut.isSome
        then ({ ssrc := p.ssrc, seq := p.seq, body := .prot (ci.E c0.key c0.mki p.ssrc roc p.seq p.payload) } : Frame W)
        else { ssrc := p.ssrc, seq := p.seq, body := .plain p.payload }) := by
  obtain ⟨roc, rfl⟩ := stream_frames ci cfg htls c0 _ p out fs h
  exact ⟨roc, by simp⟩

/-- the same for the stream's RTCP sender reports -/
theorem fanout_per_reader_rtcp {W WC} (ci : Cipher W WC) (cfg : ServerCfg) (htls : cfg.tls = true) (c0 : Ctx)
    (pre post : List SessMedia) (r : SessMedia) (ssrc : Nat) (p : Bytes) (out : Option Ctx) (bs : List (BodyC WC))
    (h : streamWriteRTCP ci (streamCtx cfg c0) (pre ++ r :: post) ssrc p = some (out, bs)) :
    ∃ idx, bs[pre.length]? = some (if r.srtpOut.isSome then .prot (ci.Ec c0.key c0.mki ssrc idx p) else .plain p) := by
  rw [streamCtx_tls cfg c0 htls, streamWriteRTCP_eq] at h
  cases hw : writeRTCP ci (some c0) ssrc p with
  | none => simp [hw] at h
  | some x =>
    obtain ⟨idx, e⟩ := wire_is_ciphertext_rtcp ci c0 ssrc p x.1 x.2 hw
    simp only [hw, Option.map_some, Option.some.injEq, Prod.mk.injEq, e] at h
    exact ⟨idx, by simp [← h.2]⟩

/-- **udp_datagrams_are_ciphertext.**  TLS server, any set of readers each admitted by `serverSetup`
(the clauses "playing, not a back channel" of `hadm` are not used): every frame written for a reader
that is NOT interleaved in the TLS connection is the `E` image of the payload under the stream's key. -/
theorem udp_datagrams_are_ciphertext {W WC} (ci : Cipher W WC) (cfg : ServerCfg) (htls : cfg.tls = true) (c0 : Ctx)
    (readers : List SessMedia)
    (hadm : ∀ r ∈ readers, ∃ tunnel st setupped inUse fresh now req, st ≠ SessState.preRecord ∧ req.backChannel = false ∧
        serverSetup cfg tunnel st setupped inUse (streamCtx cfg c0) fresh now req = .ok r)
    (p : Pkt) (out : Option Ctx) (fs : List (Frame W))
    (h : streamWriteRTP ci (streamCtx cfg c0) readers p = some (out, fs)) :
    ∃ roc, ∀ i (hi : i < readers.length), (readers[i]).protocol ≠ .tcp →
      fs[i]? = some { ssrc := p.ssrc, seq := p.seq, body := .prot (ci.E c0.key c0.mki p.ssrc roc p.seq p.payload) } := by
  obtain ⟨roc, rfl⟩ := stream_frames ci cfg htls c0 readers p out fs h
  refine ⟨roc, fun i hi hudp => ?_⟩
  obtain ⟨tunnel, st, setupped, inUse, fresh, now, req, _, _, hok⟩ := hadm readers[i] (List.getElem_mem hi)
  have := (no_plain_udp_over_tls_setup cfg tunnel st setupped inUse c0 fresh now req readers[i] htls hok hudp).2.2
  simp [hi, this]

/-- **tamper_not_delivered.**  Whatever a receiver that owns a context hands to the application is
the payload of an `E` image under ITS key and MKI for the SSRC and sequence number written in the
frame; a frame that is not such an image (altered body, altered SSRC or sequence number, plain
packet, other key) yields a decode error and is not delivered. -/
theorem tamper_not_delivered {W WC} (ci : Cipher W WC) (hl : Laws ci) (r : RecvFmt) (c : Ctx) (f : Frame W)
    (hc : r.inCtx = some c) :
    (∀ r' p, readRTP ci r f = (r', .deliver p) → ∃ roc, f.body = .prot (ci.E c.key c.mki f.ssrc roc f.seq p)) ∧
    ((∀ roc p, f.body ≠ .prot (ci.E c.key c.mki f.ssrc roc f.seq p)) → (readRTP ci r f).2 = .decodeError) := by
  have key : ∀ r' p, readRTP ci r f = (r', .deliver p) → ∃ roc, f.body = .prot (ci.E c.key c.mki f.ssrc roc f.seq p) := by
    intro r' p h
    obtain e | ⟨_, _, e, hh⟩ := readRTP_cases ci r f
    · rw [e] at h; cases h
    · rw [e] at h; cases h
      obtain ⟨w, c', hb, hd, _⟩ := hh c hc
      obtain ⟨roc, rfl⟩ := decrypt_sound ci hl.auth c c' _ _ w p hd
      exact ⟨roc, hb⟩
  refine ⟨key, fun hne => ?_⟩
  cases hres : (readRTP ci r f).2 with
  | decodeError => rfl
  | deliver p =>
    obtain ⟨roc, e⟩ := key _ p (Prod.ext rfl hres)
    exact absurd e (hne roc p)

theorem tamper_not_delivered_rtcp {W WC} (ci : Cipher W WC) (hl : Laws ci) (c : Ctx) (b : BodyC WC) (p : Bytes)
    (h : readRTCP ci (some c) b = .deliver p) : ∃ s i, b = .prot (ci.Ec c.key c.mki s i p) := by
  cases b with
  | plain x => simp [readRTCP] at h
  | prot w =>
    simp only [readRTCP, Ctx.decryptRTCP] at h
    cases hd : ci.Dc c.key c.mki w with
    | none => simp [hd] at h
    | some p' =>
      simp only [hd, ReadRes.deliver.injEq] at h
      subst h
      obtain ⟨s, i, e⟩ := hl.auth_c _ _ _ _ hd
      exact ⟨s, i, by rw [e]⟩

/-- **rejected_frame_leaves_no_trace.**  A frame that is rejected (altered, forged, wrong SSRC, plain)
changes nothing in the receiver — neither the SRTP context nor the remote-SSRC latch — so whatever
an adversary injects, the genuine packets that follow are treated exactly as if it had never
arrived.  (`readRTP` stores the SSRC of a packet only after it has authenticated, commit c215d27: stored
before, one altered first packet would silence the format for the rest of the session.) -/
theorem rejected_frame_leaves_no_trace {W WC} (ci : Cipher W WC) (r : RecvFmt) (f : Frame W)
    (h : (readRTP ci r f).2 = .decodeError) : (readRTP ci r f).1 = r := by
  obtain e | ⟨r', p, e, _⟩ := readRTP_cases ci r f
  · rw [e]
  · rw [e] at h; cases h

/-- After frames that are rejected in EVERY receiver state the receiver still delivers the whole genuine
history.  `hforged` quantifies over every receiver state `r`, also over a receiver without a context, which
rejects nothing, so that only `forged = []` meets it; `forged_then_genuine` (Proofs/Sec/Run), of which this
is the instance, asks it only of the state the receiver is in — a rejected frame leaves that state as it
is — which, with the ideal cipher, a plain frame or a frame under another key meets. -/
theorem forged_frames_do_not_stop_the_stream {W WC} (ci : Cipher W WC) (hl : Laws ci) (c : Ctx) (ssrc : Nat)
    (forged : List (Frame W)) (arr : List (Nat × Bytes))
    (hforged : ∀ r, ∀ f ∈ forged, (readRTP ci r f).2 = .decodeError)
    (h : FitsAll (c.state ssrc) (arr.map (·.1))) :
    (recvAll ci { inCtx := some c } (forged ++ arr.map (frameOf ci c.key c.mki ssrc))).2 =
      forged.map (fun _ => ReadRes.decodeError) ++ arr.map (fun jp => ReadRes.deliver jp.2) :=
  forged_then_genuine ci hl.dec_enc c none ssrc (Or.inl rfl) forged arr (hforged _) h

/-- **delivered_only_authentic.**  Over ANY sequence of frames (an adversary may inject, alter,
reorder, replay at will): every payload a receiver with a context hands to the application is the
payload of an `E` image, under the receiver's key and MKI, that was in the sequence at that
position, for the SSRC and sequence number written in that frame. -/
theorem delivered_only_authentic {W WC} (ci : Cipher W WC) (hl : Laws ci) (r : RecvFmt) (c : Ctx) (hc : r.inCtx = some c)
    (fs : List (Frame W)) (i : Nat) (p : Bytes)
    (h : (recvAll ci r fs).2[i]? = some (.deliver p)) :
    ∃ f roc, fs[i]? = some f ∧ f.body = .prot (ci.E c.key c.mki f.ssrc roc f.seq p) := by
  induction fs generalizing r c i with
  | nil => simp [recvAll] at h
  | cons f rest ih =>
    simp only [recvAll] at h
    cases i with
    | zero =>
      simp only [List.getElem?_cons_zero, Option.some.injEq] at h
      obtain ⟨roc, e⟩ := (tamper_not_delivered ci hl r c f hc).1 (readRTP ci r f).1 p (by rw [← h])
      exact ⟨f, roc, rfl, e⟩
    | succ j =>
      simp only [List.getElem?_cons_succ] at h
      obtain ⟨c', hc', hk, hm⟩ := readRTP_keeps_key ci r f c hc
      obtain ⟨g, roc, hg, e⟩ := ih (readRTP ci r f).1 c' hc' j h
      exact ⟨g, roc, by simpa using hg, by rw [← hk, ← hm]; exact e⟩

/-- SRTP replay protection is not enabled (pion default, fact `noReplayProtectionByDefault`): a
protected packet delivered once is delivered again when it is received again. -/
theorem replay_not_rejected {W WC} (ci : Cipher W WC) (hl : Laws ci) (c : Ctx) (ssrc j : Nat) (p : Bytes)
    (h : Fits (c.state ssrc) j) :
    (recvAll ci { inCtx := some c } [frameOf ci c.key c.mki ssrc (j, p), frameOf ci c.key c.mki ssrc (j, p)]).2 =
      [.deliver p, .deliver p] := by
  have h2 := fits_advance _ j j h (Nat.le_refl j) (by omega) h.1
  exact receiver_delivers ci hl.dec_enc c none ssrc (Or.inl rfl) [(j, p), (j, p)] ⟨h, h2, trivial⟩

/-- RTCP: whatever the sender protects, a receiver with the same key and MKI delivers unchanged
(the SRTCP index travels in the packet; no replay window) -/
theorem rtcp_roundtrip {W WC} (ci : Cipher W WC) (hl : Laws ci) (a b : Ctx) (hk : b.key = a.key) (hm : b.mki = a.mki)
    (ssrc : Nat) (p : Bytes) (out : Option Ctx) (body : BodyC WC)
    (h : writeRTCP ci (some a) ssrc p = some (out, body)) : readRTCP ci (some b) body = .deliver p := by
  obtain ⟨idx, rfl⟩ := wire_is_ciphertext_rtcp ci a ssrc p out body h
  simp [readRTCP, Ctx.decryptRTCP, hk, hm, hl.dec_enc_c]

/-- **roc_advances.**  A sender whose state fits the true index `j0` (first packet in the signalled
ROC epoch, or next to the highest index sent) and that sends `n` consecutive packets protects the
`k`-th of them with roll-over counter `⌊(j0 + k) / 2^16⌋` and sequence number `(j0 + k) mod 2^16` —
across any number of wraps. -/
theorem roc_advances {W WC} (ci : Cipher W WC) (c : Ctx) (ssrc j0 : Nat) (payload : Nat → Bytes) (n : Nat)
    (h0 : Fits (c.state ssrc) j0) (hb : j0 + n < two48) :
    ∃ c', sendAll ci (some c) ssrc ((List.range n).map fun k => (j0 + k, payload k)) =
      some (some c', (List.range n).map fun k =>
        { ssrc := ssrc, seq := (j0 + k) % 65536,
          body := .prot (ci.E c.key c.mki ssrc ((j0 + k) / 65536) ((j0 + k) % 65536) (payload k)) }) := by
  obtain ⟨c', e, _⟩ := sender_consecutive ci c ssrc j0 payload n h0 hb
  exact ⟨c', e⟩

/-- **sender_roc_after.**  After `n + 1` consecutive packets from `j0` the sender's roll-over counter — the
value `contextToMikey` will announce to the next peer — is `⌊(j0 + n) / 2^16⌋`. -/
theorem sender_roc_after {W WC} (ci : Cipher W WC) (c : Ctx) (ssrc j0 : Nat) (payload : Nat → Bytes) (n : Nat)
    (h0 : Fits (c.state ssrc) j0) (hfw : (c.state ssrc).processed = true → (c.state ssrc).index ≤ j0)
    (hb : j0 + (n + 1) < two48) :
    ∃ c' fs, sendAll ci (some c) ssrc ((List.range (n + 1)).map fun k => (j0 + k, payload k)) = some (some c', fs) ∧
      c'.roc ssrc = (j0 + n) / 65536 ∧
      ∀ csb rand ts, ∀ e ∈ (contextToMikey c' csb rand ts).header.csIdMapInfo, e.ssrc = ssrc → e.roc = (j0 + n) / 65536 := by
  obtain ⟨c', fs, e, _, _, hroc⟩ := sender_consecutive_roc ci c ssrc j0 payload n h0 hfw hb
  refine ⟨c', fs, e, hroc, ?_⟩
  intro csb rand ts en hen hs
  simp only [contextToMikey, List.mem_map] at hen
  obtain ⟨s, _, rfl⟩ := hen
  cases hs
  exact hroc

/-- **stream_state_independent_of_readers.**  The outgoing context of a stream after ANY write
history is the same whatever reader populations were active while the packets were written — secure
readers, plain readers, nobody, joining and leaving at any point. -/
theorem stream_state_independent_of_readers {W WC} (ci : Cipher W WC) (stream : Option Ctx)
    (hist : List (List SessMedia × Pkt)) :
    streamRun ci stream hist = streamRun ci stream (hist.map fun x => ([], x.2)) := by
  induction hist generalizing stream with
  | nil => rfl
  | cons x rest ih =>
    obtain ⟨rs, p⟩ := x
    simp only [List.map_cons, streamRun_cons, ih]

/-- **stream_roc_counts_every_packet.**  After `n + 1` consecutive packets of an SSRC from true index
`j0`, written to ARBITRARY reader populations (one per packet: any mix, or nobody), the stream's
outgoing roll-over counter — what the MIKEY message of the next SETUP announces — is
`⌊(j0 + n) / 2^16⌋`: it counts every packet written, observed or not. -/
theorem stream_roc_counts_every_packet {W WC} (ci : Cipher W WC) (c : Ctx) (ssrc j0 n : Nat)
    (payload : Nat → Bytes) (readersAt : Nat → List SessMedia)
    (h0 : Fits (c.state ssrc) j0) (hfw : (c.state ssrc).processed = true → (c.state ssrc).index ≤ j0)
    (hb : j0 + (n + 1) < two48) :
    ∃ c', streamRun ci (some c) ((List.range (n + 1)).map fun k =>
        (readersAt k, ({ ssrc := ssrc, seq := (j0 + k) % 65536, payload := payload k } : Pkt))) = some (some c') ∧
      c'.roc ssrc = (j0 + n) / 65536 := by
  obtain ⟨c', fs, hs, _, _, hroc⟩ := sender_consecutive_roc ci c ssrc j0 payload n h0 hfw hb
  refine ⟨c', ?_, hroc⟩
  rw [stream_state_independent_of_readers]
  have := streamRun_eq_sendAll ci (some c) ssrc ((List.range (n + 1)).map fun k => (j0 + k, payload k))
  simp only [List.map_map, Function.comp_def] at this ⊢
  rw [this, hs]
  rfl

/-- **receiver_tracks.**  A receiver with the sender's key and MKI delivers every packet of ANY
arrival history (loss, reordering, duplicates) in which each arrival lies within 2^15 of the highest
index it has processed (and the first one lies in the ROC epoch it was told): its ROC estimate
agrees with the sender's on each of them. -/
theorem receiver_tracks {W WC} (ci : Cipher W WC) (hl : Laws ci) (c : Ctx) (remote : Option Nat) (ssrc : Nat)
    (hr : remote = none ∨ remote = some ssrc) (arr : List (Nat × Bytes))
    (h : FitsAll (c.state ssrc) (arr.map (·.1))) :
    (recvAll ci { inCtx := some c, remoteSSRC := remote } (arr.map (frameOf ci c.key c.mki ssrc))).2 =
      arr.map (fun jp => ReadRes.deliver jp.2) :=
  receiver_delivers ci hl.dec_enc c remote ssrc hr arr h

/-- **handover_stream_delivers.**  Sender context `a` (any key of 30 bytes, any MKI, any SSRC list,
any history behind it), receiver context obtained from `a`'s MIKEY message.  If the sender goes on
with consecutive packets of a listed SSRC starting at true index `j0` in the ROC epoch that the
message carried (`j0 / 2^16 = a.roc ssrc`), the receiver delivers every one of them unchanged. -/
theorem handover_stream_delivers {W WC} (ci : Cipher W WC) (hl : Laws ci)
    (a : Ctx) (csb : Nat) (rand : Bytes) (ts : Nat) (now : Int)
    (hk : a.key.length = 30) (hw : InWindow now ts)
    (ssrc j0 n : Nat) (payload : Nat → Bytes) (hs : ssrc ∈ a.ssrcs)
    (hfit : Fits (a.state ssrc) j0) (hepoch : j0 / 65536 = a.roc ssrc) (hb : j0 + n < two48) :
    ∃ b a' frames, mikeyToContext (contextToMikey a csb rand ts) now = .ok b ∧
      sendAll ci (some a) ssrc ((List.range n).map fun k => (j0 + k, payload k)) = some (some a', frames) ∧
      (recvAll ci { inCtx := some b } frames).2 = (List.range n).map fun k => ReadRes.deliver (payload k) := by
  obtain ⟨b, hb1, bk, bm, _, _, hst, _⟩ := ctx_mikey_roundtrip a csb rand ts now hk hw
  obtain ⟨a', e, _⟩ := sender_consecutive ci a ssrc j0 payload n hfit hb
  refine ⟨b, a', _, hb1, e, ?_⟩
  have hfb0 : Fits (b.state ssrc) j0 := by
    rw [(hst ssrc hs).2]
    exact ⟨by simp only [two48] at hb ⊢; omega, by simp only [Bool.false_eq_true, if_false, hepoch]⟩
  have hfb := fitsAll_consecutive (b.state ssrc) j0 n hfb0 hb
  rw [← map_fst_consecutive j0 n payload] at hfb
  have := receiver_delivers ci hl.dec_enc b none ssrc (Or.inl rfl) _ hfb
  rw [List.map_map, bk, bm] at this
  exact this.trans (List.map_map ..)

/-! ### the ROC carried by MIKEY can be stale (known finding `sec-stale-roc-after-handover`)

The hypothesis `hepoch` above cannot be dropped: if the sender's sequence number wraps between the
moment the MIKEY message is built (SETUP) and the first packet that reaches the receiver, the
receiver keeps using the signalled ROC (it never "processes" a packet, so it never estimates) and
rejects everything.  Witness with the ideal cipher: sender at index 65535 (ROC 0) hands over, then
sends index 65536 (ROC 1, sequence number 0). -/
def staleKey : Bytes := List.replicate 30 7
def staleSender : Ctx :=
  { key := staleKey, mki := [], ssrcs := [5], startROCs := [], rtp := [(5, { index := 65535, processed := true })] }

theorem stale_roc_signal_rejected :
    ∃ b a' f, mikeyToContext (contextToMikey staleSender 0 [] 0) (Rtsp.Ntp.decode 0) = .ok b ∧
      writeRTP ideal (some staleSender) { ssrc := 5, seq := 0, payload := [1, 2, 3] } = some (a', f) ∧
      (readRTP ideal { inCtx := some b } f).2 = .decodeError := by
  refine ⟨_, _, _, rfl, rfl, ?_⟩
  decide

/-- **reader_roc_from_setup_response.**  Sender context `a` when the reader DESCRIBEs (the SDP carries
`contextToMikey a`).  The sender then writes `n + 1` more packets of the SSRC — across ANY number of
sequence-number wraps — before the reader's SETUP, whose response carries the MIKEY message of the
sender's context at that moment.  Because `doSetup` prefers the response header over the SDP
attributes (`keySourceResponseFirst`), the reader's inbound context starts with the sender's ROC of
SETUP time, `⌊(j0 + n) / 2^16⌋`, however stale the SDP is. -/
theorem reader_roc_from_setup_response {W WC} (ci : Cipher W WC)
    (a own : Ctx) (ssrc j0 n : Nat) (payload : Nat → Bytes)
    (csbD csbS : Nat) (randD randS : Bytes) (tsD tsS : Nat) (now : Int) (sess : Option Message) (inS : Bool)
    (hk : a.key.length = 30) (hs : ssrc ∈ a.ssrcs) (hw : InWindow now tsS)
    (h0 : Fits (a.state ssrc) j0) (hfw : (a.state ssrc).processed = true → (a.state ssrc).index ≤ j0)
    (hb : j0 + (n + 1) < two48) :
    ∃ a' fs b, sendAll ci (some a) ssrc ((List.range (n + 1)).map fun k => (j0 + k, payload k)) = some (some a', fs) ∧
      clientInCtx (clientInKeySource false true true inS) own
        (some (contextToMikey a' csbS randS tsS))     -- KeyMgmt header of the SETUP response
        (some (contextToMikey a csbD randD tsD))      -- key-mgmt attribute of the SDP obtained at DESCRIBE
        sess now = some b ∧
      b.key = a.key ∧ b.roc ssrc = a'.roc ssrc ∧ b.roc ssrc = (j0 + n) / 65536 := by
  obtain ⟨a', fs, hsend, k2, s2, hroc⟩ := sender_consecutive_roc ci a ssrc j0 payload n h0 hfw hb
  obtain ⟨b, hb1, bk, _, _, _, hst, _⟩ := ctx_mikey_roundtrip a' csbS randS tsS now (k2 ▸ hk) hw
  refine ⟨a', fs, b, hsend, ?_, bk.trans k2, (hst ssrc (s2 ▸ hs)).1, ((hst ssrc (s2 ▸ hs)).1).trans hroc⟩
  simp [clientInKeySource, Sec.keySourceResponseFirst, clientInCtx, hb1, Except.toOption]

/-- The message found in the SDP is stale as soon as one wrap lies between DESCRIBE and
SETUP: it still says ROC 0 while the sender is at ROC 1 (witness: sender at index 65535). -/
theorem sdp_key_is_stale_after_wrap :
    ∃ a' f, writeRTP ideal (some staleSender) { ssrc := 5, seq := 0, payload := [1] } = some (some a', f) ∧
      (contextToMikey staleSender 0 [] 0).header.csIdMapInfo.map (·.roc) = [0] ∧
      (contextToMikey a' 0 [] 0).header.csIdMapInfo.map (·.roc) = [1] := by
  refine ⟨_, _, rfl, ?_, ?_⟩ <;> decide

/-- **shared_context_indexes_distinct.**  Because every mutating call into the shared pion context
holds the EXCLUSIVE lock (`encryptSerialised`, a regenerated fact), under ANY schedule of ANY number
of goroutines the counters used for the emitted packets are exactly 1, 2, …, n in emission order: no
SRTCP index (no keystream) is ever used twice and none is skipped. -/
theorem shared_context_indexes_distinct (sched : List Nat) :
    (runSched encryptSerialised sched).emitted = List.range' 1 sched.length ∧
    (runSched encryptSerialised sched).emitted.Nodup := by
  have hs : encryptSerialised = true := by decide
  have := (foldl_turn_atomic {} sched).2
  simp only [runSched, hs]
  rw [this]
  simpa using List.nodup_range' (s := 1) (n := sched.length) (step := 1)

/-- What the exclusive lock is for: with a shared (read) lock or none, two goroutines
that interleave read the same counter and protect two different packets with the same index. -/
theorem weakened_lock_reuses_index : (runSched false [0, 1, 0, 1]).emitted = [1, 1] := by decide

/-- every `writePacketRTCP` site subtracts `srtcpOverhead` -/
theorem _root_.Rtsp.Sec.rtcpOverheadAt_eq (site : RtcpSite) : rtcpOverheadAt site = Sec.srtcpOverhead := by
  cases site <;> rfl

/-- **rtcp_wire_fits.**  At every RTCP write site (stream, session, multicast writer, client) a packet
that passes the size test is at most `MaxPacketSize` bytes long once protected (index word, MKI,
tag): it fits the UDP read buffer of the peer and the interleaved frame buffer. -/
theorem rtcp_wire_fits (site : RtcpSite) (maxPacketSize mkiLen plainLen wire : Nat)
    (h : rtcpWireSize site maxPacketSize mkiLen plainLen = some wire) :
    wire ≤ maxPacketSize ∧ wire = plainLen + Sec.srtcpOverhead + (if site = .client then mkiLen else 0) := by
  simp only [rtcpWireSize, rtcpOverheadAt_eq, Sec.srtcpOverhead] at h ⊢
  generalize (if site = .client then mkiLen else 0) = mki at h ⊢
  split at h
  · cases h
  · cases h; omega

/-- the limit is tight: exactly `MaxPacketSize − 14 − MKI` plain bytes are accepted, one more is not -/
theorem rtcp_limit_tight (site : RtcpSite) (maxPacketSize mkiLen : Nat)
    (hm : Sec.srtcpOverhead + mkiLen ≤ maxPacketSize) :
    let mki := if site = .client then mkiLen else 0
    (rtcpWireSize site maxPacketSize mkiLen (maxPacketSize - Sec.srtcpOverhead - mki)).isSome ∧
    rtcpWireSize site maxPacketSize mkiLen (maxPacketSize - Sec.srtcpOverhead - mki + 1) = none := by
  have hmki : (if site = .client then mkiLen else 0) ≤ mkiLen := by split <;> omega
  simp only [rtcpWireSize, rtcpOverheadAt_eq, Sec.srtcpOverhead] at hm ⊢
  generalize (if site = .client then mkiLen else 0) = mki at hmki ⊢
  constructor
  · rw [if_neg (by omega)]; rfl
  · rw [if_pos (by omega)]

def key0 : Bytes := (List.range 30).map UInt8.ofNat
def ctx0 : Ctx := { key := key0, mki := [1, 2, 3, 4], ssrcs := [10, 20, 10], startROCs := [],
                    rtp := [(10, { index := 3 * 65536 + 65530, processed := true }), (20, { index := 7, processed := true })] }

/-- hypotheses of `ctx_mikey_roundtrip` / `handover_stream_delivers` hold for a concrete context
(duplicate SSRC, MKI, advanced ROC, 10 packets across the wrap) -/
example : ctx0.key.length = 30 ∧ InWindow (Rtsp.Ntp.decode 0) 0 ∧ 10 ∈ ctx0.ssrcs ∧
    Fits (ctx0.state 10) (3 * 65536 + 65531) ∧ (3 * 65536 + 65531) / 65536 = ctx0.roc 10 ∧
    3 * 65536 + 65531 + 10 < two48 := by
  refine ⟨by decide, ?_, by decide, ?_, by decide, by decide⟩
  · unfold InWindow; decide
  · unfold Fits; decide

/-- a policy violation that is rejected: key-length parameter 32 instead of 16 -/
example : ∃ e, mikeyToContext
    { header := {}, payloads := [.t 0 0, .sp 0 0 [⟨0, [1]⟩, ⟨1, [32]⟩, ⟨2, [1]⟩, ⟨7, [1]⟩, ⟨8, [1]⟩, ⟨10, [1]⟩],
                                 .kemac 0 [{ keyData := key0 }] 0] } (Rtsp.Ntp.decode 0) = .error e := ⟨_, rfl⟩

/-- the message of the previous example with key-length parameter 16 is accepted -/
example : ∃ c, mikeyToContext
    { header := {}, payloads := [.t 0 0, .sp 0 0 [⟨0, [1]⟩, ⟨1, [16]⟩, ⟨2, [1]⟩, ⟨7, [1]⟩, ⟨8, [1]⟩, ⟨10, [1]⟩],
                                 .kemac 0 [{ keyData := key0 }] 0] } (Rtsp.Ntp.decode 0) = .ok c := ⟨_, rfl⟩

/-- admission: a TLS server with UDP picks the second transport of [RTP/AVP over UDP, RTP/SAVP over UDP] -/
example : pickFirst { tls := true, udp := true, mcast := false } false
    [{ protocol := .udp, profile := .avp }, { protocol := .udp, profile := .savp }] =
    some { protocol := .udp, profile := .savp } := by decide

/-- a client on rtsps redirected to rtsps, rtsp, rtsps: the second Location (index 1) is refused -/
example : followRedirects .rtsps [.rtsps, .rtsp, .rtsps] = (.rtsps, some 1) := by decide

end Rtsp.Sec.C17
